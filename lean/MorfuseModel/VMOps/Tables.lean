import MorfuseModel.VMOps.Value
import MorfuseModel.Gen.OpAccept
/-!
# The tables the hand model stands on, and their regenerated counterparts

`Gen.OpAccept` is rewritten from the C++ on every run; the functions here read it.
-/
namespace Morfuse.VMOps
open Morfuse.Gen

/-- the repairs the source under check shows -/
def codeFixes : Fixes :=
  { divMin := OpAccept.fix_divMin, shiftCount := OpAccept.fix_shiftCount,
    vecDivAlias := OpAccept.fix_vecDivAlias, safeContainerBound := OpAccept.fix_safeContainerBound,
    negIndexStore := OpAccept.fix_negIndexStore, floatCast := OpAccept.fix_floatCast,
    floatStr := OpAccept.fix_floatStr }

def sameSet (a b : List (Nat × Nat)) : Bool := a.all b.contains && b.all a.contains

/-- the explicit `case` labels of a pair-dispatched member in the regenerated table -/
def genPairs (name : String) : List (Nat × Nat) :=
  match OpAccept.pairCases.lookup name with
  | some groups => groups.flatten.filter (· != (99, 99))
  | none => []

/-- groups of `case variableType_e::X:` labels of the members with a `switch (type)`, as the model
    transcribes them (99 = `default`); compared literally with the regenerated groups -/
def kindTbl : List (String × List (List Nat)) := [
  ("CastConstArrayValue", [[12], [0], [9], [8], [10], [11], [99]]),
  ("arraysize", [[0], [1, 2, 3, 4, 5, 6, 7, 13], [8], [9], [10], [11], [12], [99]]),
  ("size", [[0], [5, 1], [6], [8], [9], [10], [11], [12], [99]]),
  ("booleanNumericValue", [[1, 5], [2], [3], [6], [99]]),
  ("booleanValue", [[0], [1], [2], [3], [5], [6], [99]]),
  ("charValue", [[4], [5, 1], [99]]),
  ("evalArrayAt", [[13], [0], [5, 1], [6], [8], [9], [10], [11], [99]]),
  ("floatValue", [[3], [2], [1, 5], [99]]),
  ("intValue", [[2], [3], [1, 5], [99]]),
  ("longValue", [[2], [3], [1, 5], [99]]),
  ("listenerValue", [[5], [1], [6], [99]]),
  ("listenerAt", [[9], [10], [11], [99]]),
  ("stringValue", [[0], [5], [1], [2], [3], [4], [6], [13], [99]]),
  ("vectorValue", [[13], [5, 1], [6], [99]]),
  ("setArrayAtRef", [[13], [7], [0], [8], [1, 5], [9], [99]]),
  ("operator[]#const", [[0], [8], [9], [99]]),
  ("operator[]", [[0], [8], [9], [99]]),
  ("minus", [[2], [3], [99]]),
  ("operator++", [[0], [2], [12], [3], [99]]),
  ("operator--", [[0], [2], [12], [3], [99]]),
  ("setDataInternal", [[99], [5, 3, 4, 2], [1], [6], [8], [9], [10], [11], [12], [13]])
]

/-- `operator=` copies the payload word for these pairs and goes through `setDataInternal` otherwise;
    either way the left operand ends as a copy, the table is recorded so that a change is noticed -/
def assignPlainPairs : List (Nat × Nat) :=
  [0, 1, 2, 3, 4, 5].flatMap fun l => [0, 2, 3, 4, 5].map fun r => (l, r)

/-! ## exception classes -/

def basesOf (c : String) : List String := (OpAccept.classBases.lookup c).getD []

/-- `c` is `b` or has `b` among its ancestors (fuel bounds the depth of the hierarchy) -/
def derivesFrom : Nat → String → String → Bool
  | 0, c, b => c == b
  | n + 1, c, b => c == b || (basesOf c).any fun p => derivesFrom n p b

def isWarningClass (c : String) : Bool := derivesFrom 6 c "ScriptExceptionBase"
def isAbortClass (c : String) : Bool := derivesFrom 6 c "ScriptAbortExceptionBase"

/-- what `ScriptVM::Execute` does with an exception of class `c`: the first catch clause whose type
    is `c` or a base of `c` (`std::exception` catches everything thrown here) -/
def executeHandler (c : String) : Option String :=
  (OpAccept.executeCatches.find? fun cl => cl.1 == "std::exception" || derivesFrom 6 c cl.1).map (·.2)

end Morfuse.VMOps
