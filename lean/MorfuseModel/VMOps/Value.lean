/-!
# Value domain of `mfuse::ScriptVariable` as scripts can drive it (C04, DESIGN 7.10.1)

Transcribed from `include/morfuse/Script/ScriptVariable.h` and `src/Script/ScriptVariable.cpp`.
One `Val` is the content of one `ScriptVariable` (type tag + payload).  At the level of a single
operator call sharing of holders is not observable, so arrays carry their entries by value; the
sharing (`refCount`) is runtime truth exercised by the program-level run under ASan.
-/
namespace Morfuse.VMOps

abbrev Bytes := List UInt8

/-- `variableType_e`, in declaration order -/
inductive Kind where
  | none | string | int | float | char | cstring | listener | ref | array | carray
  | container | scontainer | pointer | vector
  deriving DecidableEq, Repr, Inhabited

def Kind.toNat : Kind → Nat
  | .none => 0 | .string => 1 | .int => 2 | .float => 3 | .char => 4 | .cstring => 5 | .listener => 6
  | .ref => 7 | .array => 8 | .carray => 9 | .container => 10 | .scontainer => 11 | .pointer => 12
  | .vector => 13

def Kind.all : List Kind :=
  [.none, .string, .int, .float, .char, .cstring, .listener, .ref, .array, .carray, .container,
   .scontainer, .pointer, .vector]

/-- `typenames[]` -/
def Kind.typeName : Kind → String
  | .none => "none" | .string => "string" | .int => "int" | .float => "float" | .char => "char"
  | .cstring => "const string" | .listener => "listener" | .ref => "ref" | .array => "array"
  | .carray => "const array" | .container => "array" | .scontainer => "array" | .pointer => "pointer"
  | .vector => "vector"

/-- identity of a listener object; `none` = the SafePtr is null (NULL literal or object removed) -/
abbrev Obj := Option Nat

inductive Val where
  | nil
  | str (s : Bytes)
  | int (v : BitVec 64)
  | flt (bits : UInt32)
  | chr (c : UInt8)
  /-- index into the string dictionary; the dictionary interns, so the content identifies the index -/
  | cstr (s : Bytes)
  | obj (o : Obj)
  /-- `refValue` pointing at a variable that currently holds `target` -/
  | ref (target : Val)
  | arr (items : List (Val × Val))
  /-- 1-based `ScriptConstArrayHolder` -/
  | carr (items : List Val)
  /-- raw `const con::Container<SafePtr<Listener>>*` (a target list) -/
  | cont (items : List Obj)
  /-- `SafePtr<ConList>*`; `none` = the list object is gone -/
  | scont (items : Option (List Obj))
  | ptr
  | vec (x y z : UInt32)
  deriving Inhabited, Repr

def Val.kind : Val → Kind
  | .nil => .none | .str _ => .string | .int _ => .int | .flt _ => .float | .chr _ => .char
  | .cstr _ => .cstring | .obj _ => .listener | .ref _ => .ref | .arr _ => .array | .carr _ => .carray
  | .cont _ => .container | .scont _ => .scontainer | .ptr => .pointer | .vec .. => .vector

/-- script errors: classes derived from `ScriptExceptionBase` that the value layer throws -/
inductive Err where
  | castError | incompatibleOperator | invalidAppliedType | divideByZero | typeIndexOutOfRange
  | badHashCodeValue | scriptException | multipleTargets
  /-- thrown by the VM itself (`ScriptVMErrors`, `ScriptVM.h`) -/
  | nilListenerCommand | nullListenerCommand | nullListenerField
  deriving DecidableEq, Repr, Inhabited

def Err.className : Err → String
  | .castError => "ScriptVariableErrors::CastError"
  | .incompatibleOperator => "ScriptVariableErrors::IncompatibleOperator"
  | .invalidAppliedType => "ScriptVariableErrors::InvalidAppliedType"
  | .divideByZero => "ScriptVariableErrors::DivideByZero"
  | .typeIndexOutOfRange => "ScriptVariableErrors::TypeIndexOutOfRange"
  | .badHashCodeValue => "ScriptVariableErrors::BadHashCodeValue"
  | .scriptException => "ScriptException"
  | .multipleTargets => "TargetListErrors::MultipleTargetsException"
  | .nilListenerCommand => "ScriptVMErrors::NilListenerCommand"
  | .nullListenerCommand => "ScriptVMErrors::NullListenerCommand"
  | .nullListenerField => "ScriptVMErrors::NullListenerField"

def Err.all : List Err :=
  [.castError, .incompatibleOperator, .invalidAppliedType, .divideByZero, .typeIndexOutOfRange,
   .badHashCodeValue, .scriptException, .multipleTargets, .nilListenerCommand, .nullListenerCommand,
   .nullListenerField]

/-- undefined behaviour the C++ as written can execute (found by reading, confirmed by sanitizer) -/
inductive Ub where
  /-- `INT64_MIN / -1`, `INT64_MIN % -1` -/
  | divMin
  /-- `<<` / `>>` by a count outside `0..63` -/
  | shiftCount
  /-- `(uint32_t)f` / `(uint64_t)f` / `(int32_t)f` of a value that does not fit -/
  | floatCast
  /-- `m_data.vectorValue = vec_zero`: payload pointer re-aimed at a static, later `delete[]`d -/
  | vecAlias
  /-- `m_data.constArrayValue->size` read while the variable holds a safe container -/
  | wrongUnion
  /-- negative index passes `> 2` / `>= length` and is used for a store -/
  | negIndexStore
  /-- `floattoStr`: terminator written past the digits, bytes in between never initialised -/
  | floatStr
  deriving DecidableEq, Repr, Inhabited

def Ub.name : Ub → String
  | .divMin => "int-min-division" | .shiftCount => "shift-count" | .floatCast => "float-cast"
  | .vecAlias => "vector-static-alias" | .wrongUnion => "wrong-union-member"
  | .negIndexStore => "negative-index-store" | .floatStr => "float-to-string"

/-- which design-time repairs the source under check shows (regenerated: `Gen.OpAccept.fix_*`) -/
structure Fixes where
  divMin : Bool
  shiftCount : Bool
  vecDivAlias : Bool
  safeContainerBound : Bool
  negIndexStore : Bool
  floatCast : Bool
  floatStr : Bool
  deriving DecidableEq, Repr

/-- the repair that removes each undefined behaviour -/
def Ub.fixedBy (fx : Fixes) : Ub → Bool
  | .divMin => fx.divMin | .shiftCount => fx.shiftCount | .floatCast => fx.floatCast
  | .vecAlias => fx.vecDivAlias | .wrongUnion => fx.safeContainerBound
  | .negIndexStore => fx.negIndexStore | .floatStr => fx.floatStr

def Ub.all : List Ub := [.divMin, .shiftCount, .floatCast, .vecAlias, .wrongUnion, .negIndexStore, .floatStr]

def Fixes.all : Fixes := ⟨true, true, true, true, true, true, true⟩
def Fixes.none : Fixes := ⟨false, false, false, false, false, false, false⟩

/-- outcome of one operator / cast / index call -/
inductive Out where
  | ok (v : Val)
  | ok2 (v w : Val)
  /-- exception class and the left operand as the call left it -/
  | err (e : Err) (lhs : Val)
  | ub (u : Ub)
  /-- not an operation (wrong arity, operand the VM can never supply) -/
  | badop
  deriving Inhabited, Repr

def Out.isUb : Out → Bool
  | .ub _ => true
  | _ => false

/-! ## byte strings and numbers -/

def ascii (s : String) : Bytes := s.toUTF8.toList

def isSpace (c : UInt8) : Bool := c == 32 || (9 ≤ c && c ≤ 13)
def isDigit (c : UInt8) : Bool := 48 ≤ c && c ≤ 57

/-- C string view: bytes up to the first NUL -/
def cstrView (s : Bytes) : Bytes := s.takeWhile (· != 0)

def digitsVal (ds : Bytes) : Nat := ds.foldl (fun acc c => acc * 10 + (c.toNat - 48)) 0

/-- `strtoll(s, &p, 10)`: white space, optional sign, digits; saturating -/
def strtoll (s : Bytes) : BitVec 64 :=
  let s := (cstrView s).dropWhile isSpace
  let (neg, s) := match s with
    | 45 :: t => (true, t)
    | 43 :: t => (false, t)
    | _ => (false, s)
  let ds := s.takeWhile isDigit
  let n := digitsVal ds
  if neg then
    if n ≥ 2 ^ 63 then BitVec.ofNat 64 (2 ^ 63) else BitVec.ofInt 64 (-(n : Int))
  else
    if n ≥ 2 ^ 63 then BitVec.ofNat 64 (2 ^ 63 - 1) else BitVec.ofNat 64 n

/-- `str(int64)` -/
def intToStr (v : BitVec 64) : Bytes := ascii (toString v.toInt)

def pow10 (n : Nat) : Nat := 10 ^ n

/-- `strtof` for the decimal forms `[ws][sign]digits[.digits][(e|E)[sign]digits]`, `inf`, `nan`;
    anything else parses as far as it goes (no digits: `0`).  Hexadecimal floats are not modelled
    (the generator never produces a string starting with `0x`). -/
def strtof (s : Bytes) : UInt32 :=
  let s := (cstrView s).dropWhile isSpace
  let (neg, s) := match s with
    | 45 :: t => (true, t)
    | 43 :: t => (false, t)
    | _ => (false, s)
  let sgn : UInt32 := if neg then 0x80000000 else 0
  let lower := s.map (fun c => if 65 ≤ c && c ≤ 90 then c + 32 else c)
  if lower.take 3 == ascii "inf" then sgn ||| 0x7f800000
  else if lower.take 3 == ascii "nan" then sgn ||| 0x7fc00000
  else
    let ip := s.takeWhile isDigit
    let r := s.drop ip.length
    let (fp, r) := match r with
      | 46 :: t => (t.takeWhile isDigit, t.drop (t.takeWhile isDigit).length)
      | _ => ([], r)
    if ip.isEmpty && fp.isEmpty then 0   -- no conversion performed: +0
    else
      let (eneg, ex) : Bool × Nat := match r with
        | c :: t =>
          if c == 101 || c == 69 then
            let (en, t) := match t with
              | 45 :: u => (true, u)
              | 43 :: u => (false, u)
              | _ => (false, t)
            let ds := t.takeWhile isDigit
            if ds.isEmpty then (false, 0) else (en, digitsVal ds)
          else (false, 0)
        | [] => (false, 0)
      let mant := digitsVal (ip ++ fp)
      -- value = mant · 10^(±ex − |fp|)
      let e10 : Int := (if eneg then -(ex : Int) else ex) - fp.length
      let f : Float32 := if e10 ≥ 0 then Float32.ofScientific (mant * pow10 e10.toNat) false 0
                         else Float32.ofScientific mant true (-e10).toNat
      sgn ||| f.toBits

/-! ## keys of script arrays (`Hash<ScriptVariable>` / `operator==`) -/

inductive Key where
  | int (v : BitVec 64)
  | str (s : Bytes)
  | obj (o : Obj)
  deriving DecidableEq, Repr

end Morfuse.VMOps
