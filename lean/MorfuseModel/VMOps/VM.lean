import MorfuseModel.Gen.OpAccept
/-!
# Error paths of `ScriptVM::Process` (C04: a script error is confined to its instruction)

`Gen.OpAccept.vmActs` is regenerated from `src/Script/ScriptVMOperation.cpp` on every run: for each
opcode the stack pushes / pops, code-pointer advances, calls that may throw, `throw`s and the
`try { } catch (...) { …; throw; }` blocks of its `case`, helpers inlined.  `run` enumerates every way
such a term can end.  `ScriptVM::Execute` catches a `ScriptExceptionBase`, writes the warning and
calls `Process` again, which decodes at `m_CodePos` with the operand stack as the error left it; so
an error is confined to its instruction exactly when every *raised* outcome leaves the same stack
height and code position as the fall-through outcome.
-/
namespace Morfuse.VMOps.VM
open Morfuse.Gen.OpAccept (Act)

/-- accumulated effect; the height is the linear form `c + k·N` in the run-time operand count `N` -/
structure Eff where
  dhc : Int := 0
  dhk : Int := 0
  dp : Nat := 0
  jumped : Bool := false
  stopped : Bool := false
  settop : Bool := false
  flags : List (Nat × Bool) := []
  /-- code positions remembered in locals (`const opval_t* p = m_CodePos`) -/
  saved : List (Nat × Nat) := []
  /-- a loop whose second iteration can end differently from its first (not covered by the exploration) -/
  unstable : Bool := false
  deriving DecidableEq, Repr, Inhabited

inductive Kind where
  | normal | raised | returned
  deriving DecidableEq, Repr, Inhabited

def flagOf (e : Eff) (i : Nat) : Bool := (e.flags.lookup i).getD false

def run : Act → Eff → List (Kind × Eff)
  | .nop, e => [(.normal, e)]
  | .pop c k, e => [(.normal, { e with dhc := e.dhc - c, dhk := e.dhk - k })]
  | .push c k, e => [(.normal, { e with dhc := e.dhc + c, dhk := e.dhk + k })]
  | .read n, e => [(.normal, { e with dp := e.dp + n })]
  | .may, e => [(.normal, e), (.raised, e)]
  | .throw, e => [(.raised, e)]
  | .jump, e => [(.normal, { e with jumped := true })]
  | .ret, e => [(.returned, e)]
  | .stop, e => [(.normal, { e with stopped := true })]
  | .settop, e => [(.normal, { e with settop := true })]
  | .seq a b, e => (run a e).flatMap fun r => if r.1 = .normal then run b r.2 else [r]
  | .branch a b, e => run a e ++ run b e
  | .try body h, e =>
    (run body e).flatMap fun r =>
      if r.1 = .raised then (run h r.2).map fun r2 => (Kind.raised, r2.2) else [r]
  | .call a, e => (run a e).map fun r => (if r.1 = .returned then Kind.normal else r.1, r.2)
  | .setf i v, e => [(.normal, { e with flags := (i, v) :: e.flags })]
  | .iff i a b, e => if flagOf e i then run a e else run b e
  | .savepos i, e => [(.normal, { e with saved := (i, e.dp) :: e.saved })]
  | .restorepos i, e => [(.normal, { e with dp := (e.saved.lookup i).getD e.dp })]
  | .loop b, e =>
    -- zero, one or two iterations; a second iteration must not add an outcome the first lacks
    let r1 := run b e
    let r2 := r1.flatMap fun r => if r.1 = .normal then run b r.2 else []
    let same (x y : Kind × Eff) : Bool := x.1 == y.1 && x.2.dhc == y.2.dhc && x.2.dhk == y.2.dhk && x.2.dp == y.2.dp
      && x.2.jumped == y.2.jumped && x.2.stopped == y.2.stopped && x.2.settop == y.2.settop
    let stable := r2.all fun x => r1.any fun y => same x y
    (.normal, e) :: (if stable then r1 else r1.map fun r => (r.1, { r.2 with unstable := true }))

def outcomes (a : Act) : List (Kind × Eff) := run a {}

/-- where execution resumes and with what stack, as a comparable summary -/
def Eff.sig (e : Eff) : Int × Int × Nat := (e.dhc, e.dhk, e.dp)

/-- outcomes that fall through to the next instruction -/
def fallThrough (rs : List (Kind × Eff)) : List Eff :=
  (rs.filter fun r => r.1 != .raised && !r.2.jumped && !r.2.stopped && !r.2.settop).map (·.2)

/-- opcodes that re-aim the stack pointer at the caller's argument cells (parameter binding); they
    have no error path and are outside the height discipline -/
def usesSetTop (rs : List (Kind × Eff)) : Bool := rs.any (·.2.settop)

def anyUnstable (rs : List (Kind × Eff)) : Bool := rs.any (·.2.unstable)

/-- **confinement of one opcode**: all fall-through outcomes agree on (height, position); every
    raised outcome agrees with them, did not jump and did not end the thread -/
def confined (variableEncoding : Bool) (a : Act) : Bool :=
  let rs := outcomes a
  if anyUnstable rs then false
  else if usesSetTop rs then rs.all (fun r => r.1 != .raised)
  else
    match fallThrough rs with
    | [] => rs.all (fun r => r.1 != .raised)          -- pure control transfer: must not raise
    | f :: fs =>
      (variableEncoding || fs.all (fun g => g.sig == f.sig))
      && rs.all (fun r => r.1 != .raised ||
            ((f :: fs).any (fun g => r.2.sig == g.sig) && !r.2.jumped && !r.2.stopped))

/-- `OP_FUNC` has two encodings (local label / label in another file), chosen by its first operand
    byte; a raised outcome must agree with the fall-through of one of them -/
def variableEncodings : List String := ["OP_FUNC"]

def confinedEntry (e : String × Act) : Bool := confined (variableEncodings.contains e.1) e.2

/-- fall-through effect of an opcode: `(height constant, height coefficient of N, bytes after the opcode byte)` -/
def effect (a : Act) : Option (Int × Int × Nat) := ((fallThrough (outcomes a)).head?).map Eff.sig

def tableOf (name : String) : Option (Nat × Int × Bool) :=
  (Morfuse.Gen.OpAccept.opcodes.lookup name)

/-- the normal path agrees with `OpcodeInfo[]` (length, stack effect), `-128` = "variable" -/
def matchesTable (name : String) (a : Act) : Bool :=
  match tableOf name, effect a with
  | some (len, st, _), some (c, k, dp) =>
    (dp + 1 == len) && (if st == -128 then true else (c == st && k == 0))
  | some _, none => true
  | none, _ => false

/-- the documented disagreements of `OpcodeInfo[]` with emitter and VM (DESIGN 7.10): the table says
    5 bytes for OP_STORE_FIELD_REF, both write / read 9; OP_FUNC is 7 or 11 bytes long (table: 11) -/
def tableExceptions : List String := ["OP_STORE_FIELD_REF", "OP_FUNC"]

def failing : List String := (Morfuse.Gen.OpAccept.vmActs.filter fun e => !confinedEntry e).map (·.1)

/-! ## reference discipline of assignment targets

`EmitRef` (Compiler.cpp) produces `value OP_STORE_FIELD_REF (value OP_STORE_ARRAY_REF)*` and the
assignment ends with `value OP_LOAD_ARRAY_VAR`.  `setArrayAt` / `setArrayRefValue` read
`m_data.refValue` without looking at the type tag, so the slot they are applied to must hold a
reference in every outcome of the instructions before. -/

inductive Slot where
  | val | ref
  deriving DecidableEq, Repr

/-- how `OP_STORE_FIELD_REF` can end -/
inductive FieldRefEnd where
  /-- plain variable of the listener: `setRefValue(listenerVar)` -/
  | variable
  /-- the field is served by a getter event: the getter's *value* is left in the slot -/
  | getter
  /-- cast error / NULL listener / getter threw: the catch block stores a self reference -/
  | raised
  deriving DecidableEq, Repr

def storeFieldRef (getterFix : Bool) : FieldRefEnd → Slot
  | .variable => .ref
  | .raised => .ref
  | .getter => if getterFix then .ref else .val

/-- `OP_STORE_ARRAY_REF` / `OP_LOAD_ARRAY_VAR` on a slot: `none` = wrong union member read -/
def useRef : Slot → Option Slot
  | .ref => some .ref          -- re-aimed at the element, or left as it was when `operator[]` threw
  | .val => none

/-- the reference chain of one assignment target: the field access and then each `[index]` -/
def chain (getterFix : Bool) (e : FieldRefEnd) : Nat → Option Slot
  | 0 => some (storeFieldRef getterFix e)
  | n + 1 => (chain getterFix e n).bind useRef

/-! ## line protocol -/

def showEff (N : Int) (r : Kind × Eff) : String :=
  let k := match r.1 with | .normal => "n" | .raised => "r" | .returned => "n"
  s!"{k}:{r.2.dhc + r.2.dhk * N}:{r.2.dp}:{if r.2.jumped then 1 else 0}{if r.2.stopped then 1 else 0}{if r.2.settop then 1 else 0}"

def dedup (l : List String) : List String := l.foldl (fun acc x => if acc.contains x then acc else acc ++ [x]) []

def runLine : List String → String
  | ["check"] => "failing " ++ " ".intercalate failing
  | ["outcomes", name, n] =>
    match Morfuse.Gen.OpAccept.vmActs.lookup name, n.toInt? with
    | some a, some N => "ok " ++ " ".intercalate (dedup ((outcomes a).map (showEff N)))
    | _, _ => "bad-op"
  | _ => "bad-op"

/-! ## from the Boolean check to the statement about outcomes -/

theorem confined_sound {ve : Bool} {a : Act} (h : confined ve a = true) :
    ∀ r ∈ outcomes a, r.1 = .raised →
      (∃ f ∈ fallThrough (outcomes a), r.2.sig = f.sig) ∧ r.2.jumped = false ∧ r.2.stopped = false := by
  intro r hr hk
  unfold confined at h
  simp only at h
  split at h
  · cases h
  split at h
  · -- parameter-binding opcodes never raise
    have := (List.all_eq_true.mp h) r hr
    simp [hk] at this
  · split at h
    · have := (List.all_eq_true.mp h) r hr
      simp [hk] at this
    · rename_i f fs hf
      have h2 := (Bool.and_eq_true _ _).mp h
      have := (List.all_eq_true.mp h2.2) r hr
      simp only [hk, bne_self_eq_false, Bool.false_or, Bool.and_eq_true, Bool.not_eq_true',
        List.any_eq_true, beq_iff_eq] at this
      obtain ⟨⟨⟨g, hg, hs⟩, hj⟩, hst⟩ := this
      exact ⟨⟨g, by rw [hf]; exact hg, hs⟩, hj, hst⟩

/-- the threads of a script context as far as this property sees them: code position and stack height -/
structure Thread where
  pos : Nat
  height : Int
  deriving DecidableEq, Repr

/-- thread `i` finishes an instruction (opcode byte + `dp` operand bytes) with effect `e`, operand count `N` -/
def finish (ts : List Thread) (i : Nat) (N : Int) (e : Eff) : List Thread :=
  ts.modify i fun t => { pos := t.pos + 1 + e.dp, height := t.height + e.dhc + e.dhk * N }

end Morfuse.VMOps.VM
