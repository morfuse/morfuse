import MorfuseModel.VMOps.Step
/-!
# Undefined behaviour of the value layer is exactly the seven listed sources — helper lemmas

`R.Fine fx r` / `Out.Fine fx o`: the call ended with a value, a typed script error, or with an
undefined behaviour `u` whose repair is *absent* in `fx` (`u.fixedBy fx = false`).  With every repair
present (`Fixes.all`) that leaves values and typed errors only.  Every lemma is by case analysis on
the operand constructors and the guards of the transcribed code; no float value is inspected (the
float primitives are opaque to the kernel).
-/
namespace Morfuse.VMOps

def R.Fine {α} (fx : Fixes) : R α → Prop
  | .ub u => u.fixedBy fx = false
  | _ => True

def Out.Fine (fx : Fixes) : Out → Prop
  | .ub u => u.fixedBy fx = false
  | _ => True

@[simp] theorem R.fine_ok {α} (fx) (a : α) : (R.ok a).Fine fx := trivial
@[simp] theorem R.fine_err {α} (fx) (e : Err) : (R.err e : R α).Fine fx := trivial
@[simp] theorem Out.fine_ok (fx) (v : Val) : (Out.ok v).Fine fx := trivial
@[simp] theorem Out.fine_ok2 (fx) (v w : Val) : (Out.ok2 v w).Fine fx := trivial
@[simp] theorem Out.fine_err (fx) (e : Err) (v : Val) : (Out.err e v).Fine fx := trivial
@[simp] theorem Out.fine_badop (fx) : Out.badop.Fine fx := trivial

theorem R.bind_fine {α β} {fx} {r : R α} {f : α → R β} (hr : r.Fine fx) (hf : ∀ a, (f a).Fine fx) :
    (r.bind f).Fine fx := by
  cases r with
  | ok a => exact hf a
  | err e => trivial
  | ub u => exact hr

theorem R.out_fine {α} {fx} {r : R α} {lhs : Val} {f : α → Out} (hr : r.Fine fx) (hf : ∀ a, (f a).Fine fx) :
    (r.out lhs f).Fine fx := by
  cases r with
  | ok a => exact hf a
  | err e => trivial
  | ub u => exact hr

theorem Out.fine_all {o : Out} (h : o.Fine Fixes.all) : o.isUb = false := by
  cases o with
  | ub u => cases u <;> simp [Out.Fine, Ub.fixedBy, Fixes.all] at h
  | _ => rfl

/-- close a goal about a nest of `if`s / `match`es whose leaves are literal outcomes -/
local macro "leaves" : tactic =>
  `(tactic| ((try dsimp only) <;> (repeat' (split <;> try dsimp only)) <;>
      (first
        | trivial
        | (simp_all [Out.Fine, R.Fine, Ub.fixedBy]; done))))

theorem floatStr_fine (fx) (b : UInt32) : (floatStr fx b).Fine fx := by
  unfold floatStr; leaves

theorem strOf_fine (fx) (v : Val) : (strOf fx v).Fine fx := by
  cases v <;> simp [strOf]
  case flt b => exact floatStr_fine fx b
  case obj o => cases o <;> simp
  case vec x y z =>
    exact R.bind_fine (floatStr_fine fx x) fun _ => R.bind_fine (floatStr_fine fx y) fun _ =>
      R.bind_fine (floatStr_fine fx z) fun _ => trivial

theorem floatToU64_fine (fx) (b : UInt32) : (floatToU64 fx b).Fine fx := by
  unfold floatToU64; leaves

theorem floatToU32_fine (fx) (b : UInt32) : (floatToU32 fx b).Fine fx := by
  unfold floatToU32
  repeat' split
  all_goals first
    | trivial
    | exact R.bind_fine (floatToU64_fine fx b) fun _ => trivial
    | (simp_all [R.Fine, Ub.fixedBy]; done)

theorem longOf_fine (fx) (v : Val) : (longOf fx v).Fine fx := by
  cases v <;> simp [longOf]
  case flt b => exact floatToU64_fine fx b

theorem intOf_fine (fx) (v : Val) : (intOf fx v).Fine fx := by
  cases v <;> simp [intOf]
  case flt b => exact floatToU32_fine fx b

theorem floatOf_fine (fx) (v : Val) : (floatOf v).Fine fx := by
  cases v <;> simp [floatOf]

theorem charOf_fine (fx) (v : Val) : (charOf v).Fine fx := by
  unfold charOf; split <;> trivial

theorem boolNumOf_fine (fx) (v : Val) : (boolNumOf v).Fine fx := by
  cases v <;> simp [boolNumOf]

theorem targetOf_fine (fx) (s : Bytes) : (targetOf s).Fine fx := by
  unfold targetOf; leaves

theorem listenerOf_fine (fx) (v : Val) : (listenerOf v).Fine fx := by
  cases v <;> simp [listenerOf, targetOf_fine]

theorem vectorOf_fine (fx) (v : Val) : (vectorOf v).Fine fx := by
  have h : ∀ s, (vectorOf.vecOfStr s).Fine fx := by
    intro s; unfold vectorOf.vecOfStr; simp only; leaves
  cases v <;> simp [vectorOf, h]

theorem int32Of_fine (fx) (v : Val) : (int32Of fx v).Fine fx :=
  R.bind_fine (intOf_fine fx v) fun _ => trivial

theorem keyOf_fine (fx) (v : Val) : (keyOf fx v).Fine fx := by
  cases v <;> simp [keyOf]
  all_goals exact R.bind_fine (strOf_fine fx _) fun _ => trivial

theorem strs_fine (fx) (a b : Val) : (strs fx a b).Fine fx :=
  R.bind_fine (strOf_fine fx a) fun _ => R.bind_fine (strOf_fine fx b) fun _ => trivial

theorem opAdd_fine (fx) (a b : Val) : (opAdd fx a b).Fine fx := by
  unfold opAdd
  split <;> first | trivial | exact R.out_fine (strs_fine fx _ _) fun _ => trivial

theorem opSub_fine (fx) (a b : Val) : (opSub a b).Fine fx := by
  unfold opSub; split <;> trivial

theorem opMul_fine (fx) (a b : Val) : (opMul a b).Fine fx := by
  unfold opMul; split <;> trivial

theorem opDiv_fine (fx) (a b : Val) : (opDiv fx a b).Fine fx := by
  unfold opDiv; leaves

theorem opMod_fine (fx) (a b : Val) : (opMod fx a b).Fine fx := by
  unfold opMod; leaves

theorem opBits_fine (fx) (f) (a b : Val) : (opBits f a b).Fine fx := by
  unfold opBits; split <;> trivial

theorem opShift_fine (fx) (l : Bool) (a b : Val) : (opShift fx l a b).Fine fx := by
  unfold opShift; leaves

theorem opCmp_fine (fx) (ci cf) (a b : Val) : (opCmp ci cf a b).Fine fx := by
  unfold opCmp; split <;> trivial

theorem opEq_fine (fx) (a b : Val) : (opEq fx a b).Fine fx := by
  unfold opEq
  split <;> first | trivial | exact R.out_fine (strs_fine fx _ _) fun _ => trivial

theorem binImpl_fine (fx) (op : BinOp) (a b : Val) : (binImpl fx op a b).Fine fx := by
  cases op <;> simp only [binImpl]
  · exact opAdd_fine fx a b
  · exact opSub_fine fx a b
  · exact opMul_fine fx a b
  · exact opDiv_fine fx a b
  · exact opMod_fine fx a b
  · exact opBits_fine fx _ a b
  · exact opBits_fine fx _ a b
  · exact opBits_fine fx _ a b
  · exact opShift_fine fx _ a b
  · exact opShift_fine fx _ a b
  · exact opCmp_fine fx _ _ a b
  · exact opCmp_fine fx _ _ a b
  · exact opCmp_fine fx _ _ a b
  · exact opCmp_fine fx _ _ a b
  · exact opEq_fine fx a b

theorem binop_fine (fx) (op : BinOp) (a b : Val) : (binop fx op a b).Fine fx := by
  unfold binop
  split
  · exact binImpl_fine fx op a b
  · split <;> trivial

theorem opMinus_fine (fx) (a : Val) : (opMinus fx a).Fine fx := by
  unfold opMinus
  split <;> first | trivial | exact R.out_fine (longOf_fine fx _) fun _ => trivial

theorem opCompl_fine (fx) (a : Val) : (opCompl fx a).Fine fx := by
  unfold opCompl
  split <;> first | trivial | exact R.out_fine (intOf_fine fx _) fun _ => trivial

theorem opIncDec_fine (fx) (i : Bool) (a : Val) : (opIncDec fx i a).Fine fx := by
  unfold opIncDec
  split <;> first | trivial | exact R.out_fine (intOf_fine fx _) fun _ => trivial

theorem opSize_fine (fx) (a : Val) : (opSize a).Fine fx := by
  unfold opSize; split <;> trivial

theorem evalAt_strAt_fine (fx) (a i : Val) (s : Bytes) : (evalAt.strAt fx a i s).Fine fx := by
  unfold evalAt.strAt
  refine R.out_fine (longOf_fine fx _) fun _ => ?_
  split <;> trivial

theorem evalAt_fine (fx) (a i : Val) : (evalAt fx a i).Fine fx := by
  unfold evalAt
  split
  all_goals first
    | trivial
    | exact evalAt_strAt_fine fx _ _ _
    | exact R.out_fine (keyOf_fine fx _) fun _ => trivial
    | (refine R.out_fine (longOf_fine fx _) fun _ => ?_
       leaves)

theorem setAtRef_strSet_fine (fx) (t i v : Val) (s : Bytes) : (setAtRef.strSet fx t i v s).Fine fx := by
  unfold setAtRef.strSet
  refine R.out_fine (int32Of_fine fx _) fun n => ?_
  split
  · trivial
  · split
    · trivial
    · refine R.out_fine (charOf_fine fx _) fun _ => ?_
      leaves

theorem setAtRef_fine (fx) (t i v : Val) : (setAtRef fx t i v).Fine fx := by
  unfold setAtRef
  split
  · refine R.out_fine (int32Of_fine fx _) fun n => ?_
    split
    · trivial
    · split
      · trivial
      · refine R.out_fine (floatOf_fine fx _) fun _ => ?_
        leaves
  · trivial
  · split
    · trivial
    · exact R.out_fine (keyOf_fine fx _) fun _ => trivial
  · refine R.out_fine (keyOf_fine fx _) fun _ => ?_
    split <;> trivial
  · exact setAtRef_strSet_fine fx _ _ _ _
  · exact setAtRef_strSet_fine fx _ _ _ _
  · refine R.out_fine (intOf_fine fx _) fun _ => ?_
    split <;> trivial
  · trivial

theorem setAt_fine (fx) (r i v : Val) : (setAt fx r i v).Fine fx := by
  unfold setAt; split
  · exact setAtRef_fine fx _ _ _
  · trivial

theorem setRef_fine (fx) (r i : Val) : (setRef fx r i).Fine fx := by
  unfold setRef
  split
  · split
    · exact R.out_fine (keyOf_fine fx _) fun _ => trivial
    · refine R.out_fine (keyOf_fine fx _) fun _ => ?_
      split <;> trivial
    · refine R.out_fine (intOf_fine fx _) fun _ => ?_
      split <;> trivial
    · trivial
  · trivial

theorem indexConst_fine (fx) (a i : Val) : (indexConst fx a i).Fine fx := by
  unfold indexConst
  split
  · trivial
  · exact R.out_fine (keyOf_fine fx _) fun _ => trivial
  · refine R.out_fine (intOf_fine fx _) fun _ => ?_
    split <;> trivial
  · trivial

theorem castConstArray_fine (fx) (a : Val) : (castConstArray a).Fine fx := by
  unfold castConstArray; split <;> trivial

theorem listenersOf_fine (fx) (l : List Val) : (listenersOf l).Fine fx := by
  induction l with
  | nil => trivial
  | cons v vs ih =>
    exact R.bind_fine (listenerOf_fine fx v) fun _ => R.bind_fine ih fun _ => trivial

theorem cmdTargets_fine (fx) (a : Val) : ∀ r, cmdTargets a = some r → r.Fine fx := by
  intro r h
  unfold cmdTargets at h
  simp only at h
  split at h
  · cases h
  · split at h
    · split at h
      · cases h; exact listenersOf_fine fx _
      · cases h; trivial
    · cases h; exact R.bind_fine (listenerOf_fine fx a) fun _ => trivial

theorem assign_fine (fx) (a b : Val) : (assign a b).Fine fx := by
  unfold assign; split <;> trivial

theorem ofR_fine {α} (fx) {r : R α} (hr : r.Fine fx) (lhs : Val) (f : α → Val) : (ofR r lhs f).Fine fx :=
  R.out_fine hr fun _ => trivial

theorem step_fine (fx : Fixes) (op : Op) (args : List Val) : (step fx op args).Fine fx := by
  -- `trivial`: an operand list that is not of the operation's arity (`badop`), and the three arms that return a literal
  cases op <;> rcases args with _ | ⟨a, _ | ⟨b, _ | ⟨c, _ | _⟩⟩⟩ <;> try trivial
  case bin => exact binop_fine fx _ a b
  case ne =>
    -- `!=` is `!(a == b)`
    have h := binop_fine fx .eq a b
    simp only [step]
    generalize binop fx .eq a b = o at h ⊢
    cases o with
    | ok v => cases v <;> trivial
    | _ => exact h
  case assign => exact assign_fine fx a b
  case evalAt => exact evalAt_fine fx a b
  case setAt => exact setAt_fine fx a b c
  case setRef => exact setRef_fine fx a b
  case index => exact indexConst_fine fx a b
  case minus => exact opMinus_fine fx a
  case compl => exact opCompl_fine fx a
  case inc => exact opIncDec_fine fx true a
  case dec => exact opIncDec_fine fx false a
  case size => exact opSize_fine fx a
  case boolNum => exact ofR_fine fx (boolNumOf_fine fx a) _ _
  case intValue => exact ofR_fine fx (intOf_fine fx a) _ _
  case longValue => exact ofR_fine fx (longOf_fine fx a) _ _
  case floatValue => exact ofR_fine fx (floatOf_fine fx a) _ _
  case charValue => exact ofR_fine fx (charOf_fine fx a) _ _
  case strValue => exact ofR_fine fx (strOf_fine fx a) _ _
  case listenerValue => exact ofR_fine fx (listenerOf_fine fx a) _ _
  case vectorValue => exact ofR_fine fx (vectorOf_fine fx a) _ _
  case castInt => exact ofR_fine fx (intOf_fine fx a) _ _
  case castFloat => exact ofR_fine fx (floatOf_fine fx a) _ _
  case castStr => exact ofR_fine fx (strOf_fine fx a) _ _
  case castConstArray => exact castConstArray_fine fx a
  case calcVector =>
    refine R.out_fine ?_ fun _ => trivial
    exact R.bind_fine (floatOf_fine fx a) fun _ => R.bind_fine (floatOf_fine fx b) fun _ =>
      R.bind_fine (floatOf_fine fx c) fun _ => trivial
  case cmdTargets =>
    simp only [step]
    split
    · trivial
    · rename_i r h; exact ofR_fine fx (cmdTargets_fine fx a r h) _ _

end Morfuse.VMOps
