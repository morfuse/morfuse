import MorfuseModel.VMOps.Ops
/-!
# Every accepted operand-kind pair has a transcribed body

`binop` first consults `acceptTbl` (which `Props/C04.lean` proves equal to the regenerated `case`
labels) and then runs `binImpl`, whose `match`es end in a `badop` filler.  Here: the filler is only
reached for pairs outside the table, for all values.
-/
namespace Morfuse.VMOps

theorem out_ne_badop {α} (r : R α) (lhs : Val) (f : α → Out) (hf : ∀ a, f a ≠ .badop) : r.out lhs f ≠ .badop := by
  cases r with
  | ok a => exact hf a
  | err e => intro h; cases h
  | ub u => intro h; cases h

theorem opAdd_total (fx) (a b : Val) : opAdd fx a b ≠ .badop := by
  unfold opAdd
  split
  all_goals first
    | (intro h; cases h; done)
    | exact out_ne_badop _ _ _ fun _ h => by cases h

theorem opEq_total (fx) (a b : Val) : opEq fx a b ≠ .badop := by
  unfold opEq
  split
  all_goals first
    | (intro h; cases h; done)
    | exact out_ne_badop _ _ _ fun _ h => by cases h

/-! Whether the `match` of an operator ends in its filler depends on the kinds of the operands only: each
    operator below has a predicate for "no pattern for this pair of kinds", the filler implies it case by
    case, and that the table accepts no such pair is one evaluation over all kinds. -/

def noNumPat : Kind → Kind → Bool
  | .int, .int | .int, .float | .float, .float | .float, .int => false
  | _, _ => true

def noSubPat (ka kb : Kind) : Bool := noNumPat ka kb && !(ka == .vector && kb == .vector)

def noMulPat (ka kb : Kind) : Bool :=
  noSubPat ka kb && !(ka == .vector && (kb == .int || kb == .float)) && !((ka == .int || ka == .float) && kb == .vector)

def noIntPat (ka kb : Kind) : Bool := !(ka == .int && kb == .int)

def noCmpPat (ka kb : Kind) : Bool := noNumPat ka kb && !(ka == .char && kb == .char)

theorem Kind.mem_all (k : Kind) : k ∈ Kind.all := by cases k <;> decide

theorem accepts_of_pat : ∀ ka ∈ Kind.all, ∀ kb ∈ Kind.all,
    (noSubPat ka kb = true → accepts .sub ka kb = false) ∧
    (noMulPat ka kb = true → accepts .mul ka kb = false ∧ accepts .div ka kb = false ∧ accepts .mod ka kb = false) ∧
    (noIntPat ka kb = true → accepts .band ka kb = false ∧ accepts .bxor ka kb = false ∧ accepts .bor ka kb = false
      ∧ accepts .shl ka kb = false ∧ accepts .shr ka kb = false) ∧
    (noCmpPat ka kb = true → accepts .gt ka kb = false ∧ accepts .ge ka kb = false
      ∧ accepts .lt ka kb = false ∧ accepts .le ka kb = false) := by decide +kernel

theorem opSub_total (a b : Val) (h : opSub a b = .badop) : noSubPat a.kind b.kind = true := by
  cases a <;> cases b <;> first | rfl | cases h

theorem opMul_total (a b : Val) (h : opMul a b = .badop) : noMulPat a.kind b.kind = true := by
  cases a <;> cases b <;> first | rfl | cases h

theorem opDiv_total (fx) (a b : Val) (h : opDiv fx a b = .badop) : noMulPat a.kind b.kind = true := by
  cases a <;> cases b <;> first | rfl | cases h | (simp only [opDiv] at h; (repeat' split at h) <;> cases h)

theorem opMod_total (fx) (a b : Val) (h : opMod fx a b = .badop) : noMulPat a.kind b.kind = true := by
  cases a <;> cases b <;> first | rfl | cases h | (simp only [opMod] at h; (repeat' split at h) <;> cases h)

theorem opBits_total (f) (a b : Val) (h : opBits f a b = .badop) : noIntPat a.kind b.kind = true := by
  cases a <;> cases b <;> first | rfl | cases h

theorem opShift_total (fx) (l) (a b : Val) (h : opShift fx l a b = .badop) : noIntPat a.kind b.kind = true := by
  cases a <;> cases b <;> first | rfl | (simp only [opShift] at h; (repeat' split at h) <;> cases h)

theorem opCmp_total (ci cf) (a b : Val) (h : opCmp ci cf a b = .badop) : noCmpPat a.kind b.kind = true := by
  cases a <;> cases b <;> first | rfl | cases h

theorem binImpl_total (fx : Fixes) (op : BinOp) (a b : Val) (h : accepts op a.kind b.kind = true) :
    binImpl fx op a b ≠ .badop := by
  intro hb
  obtain ⟨hsub, hmul, hint, hcmp⟩ := accepts_of_pat _ a.kind.mem_all _ b.kind.mem_all
  cases op <;> simp only [binImpl] at hb
  · exact opAdd_total fx a b hb
  · rw [hsub (opSub_total a b hb)] at h; cases h
  · rw [(hmul (opMul_total a b hb)).1] at h; cases h
  · rw [(hmul (opDiv_total fx a b hb)).2.1] at h; cases h
  · rw [(hmul (opMod_total fx a b hb)).2.2] at h; cases h
  · rw [(hint (opBits_total _ a b hb)).1] at h; cases h
  · rw [(hint (opBits_total _ a b hb)).2.1] at h; cases h
  · rw [(hint (opBits_total _ a b hb)).2.2.1] at h; cases h
  · rw [(hint (opShift_total fx _ a b hb)).2.2.2.1] at h; cases h
  · rw [(hint (opShift_total fx _ a b hb)).2.2.2.2] at h; cases h
  · rw [(hcmp (opCmp_total _ _ a b hb)).1] at h; cases h
  · rw [(hcmp (opCmp_total _ _ a b hb)).2.1] at h; cases h
  · rw [(hcmp (opCmp_total _ _ a b hb)).2.2.1] at h; cases h
  · rw [(hcmp (opCmp_total _ _ a b hb)).2.2.2] at h; cases h
  · exact opEq_total fx a b hb

end Morfuse.VMOps
