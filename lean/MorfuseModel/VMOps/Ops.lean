import MorfuseModel.VMOps.Value
import MorfuseModel.VMOps.Float
/-!
# Casts and binary / unary operators of `ScriptVariable` (src/Script/ScriptVariable.cpp)

Every function is a transcription of the C++ member of the same name.  `fx : Fixes` selects, for the
seven places where the C++ as first read executes undefined behaviour, between that code (`ub`) and
the repaired code.
-/
namespace Morfuse.VMOps
open F32

/-- result of a helper that can throw or hit undefined behaviour before producing a value -/
inductive R (α : Type) where
  | ok (a : α)
  | err (e : Err)
  | ub (u : Ub)

@[inline] def R.bind {α β} (r : R α) (f : α → R β) : R β :=
  match r with
  | .ok a => f a
  | .err e => .err e
  | .ub u => .ub u

/-- finish an in-place operation: an exception leaves the left operand `lhs` behind -/
@[inline] def R.out {α} (r : R α) (lhs : Val) (f : α → Out) : Out :=
  match r with
  | .ok a => f a
  | .err e => .err e lhs
  | .ub u => .ub u

/-! ## casts -/

/-- `base_str(float)` = `floattoStr(num, text, 32, 3)` -/
def floatStr (fx : Fixes) (b : UInt32) : R Bytes :=
  if fx.floatStr then
    -- repaired: snprintf("%.3f") truncated to the 31 characters the buffer holds
    .ok ((fmt3 b).take 31)
  else if !truncInRange b (-(2 ^ 31)) (2 ^ 31 - 1) then
    .ub .floatStr            -- `(int32_t)num` of a value that does not fit
  else
    let ip := truncToInt b
    -- fpart = num - (float)ipart; non-zero: the terminator lands `digits` bytes behind the text
    if F32.feq (F32.sub b (F32.ofInt64 (BitVec.ofInt 64 ip))) 0 then
      .ok (ascii (toString ip) ++ ascii ".000")
    else .ub .floatStr

/-- `ScriptVariable::stringValue` -/
def strOf (fx : Fixes) : Val → R Bytes
  | .nil => .ok (ascii "NIL")
  | .cstr s => .ok s
  | .str s => .ok s
  | .int v => .ok (intToStr v)
  | .flt b => floatStr fx b
  | .chr c => .ok [c]
  | .obj (some _) => .ok (ascii "class 'Listener'")
  | .obj none => .ok (ascii "NULL")
  | .vec x y z =>
    (floatStr fx x).bind fun sx => (floatStr fx y).bind fun sy => (floatStr fx z).bind fun sz =>
      .ok (ascii "( " ++ sx ++ ascii " " ++ sy ++ ascii " " ++ sz ++ ascii " )")
  | v => .ok (ascii ("Type: '" ++ v.kind.typeName ++ "'"))

/-- `(uint64_t)f` as the repaired code defines it for every float; `ub` when the C++ cast is
    undefined (value outside `(-1, 2^64)` after truncation, NaN, infinities) and not repaired -/
def floatToU64 (fx : Fixes) (b : UInt32) : R (BitVec 64) :=
  if truncInRange b 0 (2 ^ 64 - 1) then .ok (BitVec.ofInt 64 (truncToInt b))
  else if !fx.floatCast then .ub .floatCast
  else if isNaN b then .ok 0
  else if truncInRange b (-(2 ^ 63)) (-1) then .ok (BitVec.ofInt 64 (truncToInt b))
  else if signBit b then .ok (BitVec.ofNat 64 (2 ^ 63))
  else .ok (BitVec.ofNat 64 (2 ^ 64 - 1))

/-- `(uint32_t)f`: defined for truncated values in `[0, 2^32)`; repaired = low 32 bits of the 64-bit conversion -/
def floatToU32 (fx : Fixes) (b : UInt32) : R (BitVec 64) :=
  if truncInRange b 0 (2 ^ 32 - 1) then .ok (BitVec.ofInt 64 (truncToInt b))
  else if !fx.floatCast then .ub .floatCast
  else (floatToU64 fx b).bind fun v => .ok ((v.truncate 32).zeroExtend 64)

/-- `ScriptVariable::longValue` -/
def longOf (fx : Fixes) : Val → R (BitVec 64)
  | .int v => .ok v
  | .flt b => floatToU64 fx b
  | .str s => .ok (strtoll s)
  | .cstr s => .ok (strtoll s)
  | _ => .err .castError

/-- `ScriptVariable::intValue` (a `uint32_t`, shown zero-extended) -/
def intOf (fx : Fixes) : Val → R (BitVec 64)
  | .int v => .ok ((v.truncate 32).zeroExtend 64)
  | .flt b => floatToU32 fx b
  | .str s => .ok (((strtoll s).truncate 32).zeroExtend 64)
  | .cstr s => .ok (((strtoll s).truncate 32).zeroExtend 64)
  | _ => .err .castError

/-- `ScriptVariable::floatValue` -/
def floatOf : Val → R UInt32
  | .flt b => .ok b
  | .int v => .ok (ofInt64 v)
  | .str s => .ok (strtof s)
  | .cstr s => .ok (strtof s)
  | _ => .err .castError

/-- `ScriptVariable::booleanValue` -/
def boolOf : Val → Bool
  | .nil => false
  | .str s => !s.isEmpty
  | .int v => v != 0
  | .flt b => truthy b
  | .cstr s => !s.isEmpty
  | .obj o => o.isSome
  | _ => true

/-- `ScriptVariable::booleanNumericValue` -/
def boolNumOf : Val → R Bool
  | .str s => .ok ((strtoll s).truncate 32 != (0 : BitVec 32))
  | .cstr s => .ok ((strtoll s).truncate 32 != (0 : BitVec 32))
  | .int v => .ok (v != 0)
  | .flt b => .ok (truthy b)
  | .obj o => .ok o.isSome
  | _ => .err .castError

/-- `ScriptVariable::charValue` -/
def charOf : Val → R UInt8
  | .chr c => .ok c
  | .str [c] => .ok c
  | .cstr [c] => .ok c
  | _ => .err .castError

/-- the fixed target-name universe of the operator harness: `t1` names listener 1, `t2` names 2 and 3 -/
def targetOf (name : Bytes) : R Obj :=
  if name == ascii "t1" then .ok (some 1)
  else if name == ascii "t2" then .err .multipleTargets
  else .ok none

/-- `ScriptVariable::listenerValue` -/
def listenerOf : Val → R Obj
  | .cstr s => targetOf s
  | .str s => targetOf s
  | .obj o => .ok o
  | _ => .err .castError

/-! `sscanf` with the four formats of `vectorValue` -/

/-- one `%f`: leading white space skipped, then the longest decimal float prefix; `none` when no digits -/
def scanFloat (s : Bytes) : Option (UInt32 × Bytes) :=
  let s := s.dropWhile isSpace
  let sg : Bytes := match s with
    | 45 :: _ => [45]
    | 43 :: _ => [43]
    | _ => []
  let t := s.drop sg.length
  let ip := t.takeWhile isDigit
  let r := t.drop ip.length
  let (fpAll, r1) : Bytes × Bytes := match r with
    | 46 :: u => (46 :: u.takeWhile isDigit, u.drop (u.takeWhile isDigit).length)
    | _ => ([], r)
  if ip.isEmpty && fpAll.length ≤ 1 then none
  else
    let (ex, r2) : Bytes × Bytes := match r1 with
      | c :: u =>
        if c == 101 || c == 69 then
          let sg2 : Bytes := match u with
            | 45 :: _ => [45]
            | 43 :: _ => [43]
            | _ => []
          let ds := (u.drop sg2.length).takeWhile isDigit
          if ds.isEmpty then ([], r1) else (c :: sg2 ++ ds, (u.drop sg2.length).drop ds.length)
        else ([], r1)
      | [] => ([], r1)
    some (strtof (sg ++ ip ++ fpAll ++ ex), r2)

/-- literal directive: white space in the format matches any amount of input white space -/
def scanLit (lit : UInt8) (s : Bytes) : Option Bytes :=
  if isSpace lit then some (s.dropWhile isSpace)
  else match s with
    | c :: t => if c == lit then some t else none
    | [] => none

/-- `sscanf(s, "<open>%f<sep>%f<sep>%f")` = 3 -/
def scan3 (openParen : Bool) (comma : Bool) (s : Bytes) : Option (UInt32 × UInt32 × UInt32) :=
  let s0 : Option Bytes := if openParen then scanLit 40 s else some s
  let sep (s : Bytes) : Option Bytes :=
    if comma then (scanLit 44 s).bind (scanLit 32) else scanLit 32 s
  s0.bind fun s => (scanFloat s).bind fun (x, s) => (sep s).bind fun s =>
    (scanFloat s).bind fun (y, s) => (sep s).bind fun s => (scanFloat s).bind fun (z, _) => some (x, y, z)

/-- `ScriptVariable::vectorValue` -/
def vectorOf : Val → R (UInt32 × UInt32 × UInt32)
  | .vec x y z => .ok (x, y, z)
  | .obj _ => .err .castError     -- NULL, or a Listener that is not a SimpleEntity
  | .str s => vecOfStr s
  | .cstr s => vecOfStr s
  | _ => .err .castError
where
  vecOfStr (s : Bytes) : R (UInt32 × UInt32 × UInt32) :=
    let s := cstrView s
    if s.isEmpty then .err .castError
    else
      let par := s.head? == some 40
      match scan3 par false s with
      | some v => .ok v
      | none => match scan3 par true s with
        | some v => .ok v
        | none => .err .scriptException

/-! ## binary operators -/

inductive BinOp where
  | add | sub | mul | div | mod | band | bxor | bor | shl | shr | gt | ge | lt | le | eq
  deriving DecidableEq, Repr, Inhabited

def BinOp.all : List BinOp := [.add, .sub, .mul, .div, .mod, .band, .bxor, .bor, .shl, .shr, .gt, .ge, .lt, .le, .eq]

/-- name of the C++ member, as the translator records it -/
def BinOp.cppName : BinOp → String
  | .add => "operator+=" | .sub => "operator-=" | .mul => "operator*=" | .div => "operator/="
  | .mod => "operator%=" | .band => "operator&=" | .bxor => "operator^=" | .bor => "operator|="
  | .shl => "operator<<=" | .shr => "operator>>=" | .gt => "greaterthan" | .ge => "greaterthanorequal"
  | .lt => "lessthan" | .le => "lessthanorequal" | .eq => "operator=="

def numPairs : List (Nat × Nat) := [(2, 2), (2, 3), (3, 3), (3, 2)]
def vecNumPairs : List (Nat × Nat) := [(2, 2), (13, 2), (13, 3), (2, 3), (3, 3), (3, 2), (2, 13), (3, 13), (13, 13)]
/-- the pairs that go through `stringValue()` on both sides (`+=`), in source order -/
def strPairsAdd : List (Nat × Nat) :=
  [(1, 1), (2, 1), (3, 1), (4, 1), (5, 1), (6, 1), (13, 1), (1, 2), (5, 2), (1, 3), (5, 3), (1, 4), (5, 4),
   (1, 5), (2, 5), (3, 5), (4, 5), (5, 5), (6, 5), (13, 5), (1, 6), (5, 6), (1, 13), (5, 13)]
/-- same for `==` (`ConstString == ConstString` has its own case) -/
def strPairsEq : List (Nat × Nat) :=
  [(1, 1), (2, 1), (3, 1), (4, 1), (5, 1), (6, 1), (13, 1), (1, 5), (2, 5), (3, 5), (4, 5), (6, 5), (13, 5),
   (1, 2), (5, 2), (1, 3), (5, 3), (1, 4), (5, 4), (1, 6), (5, 6), (1, 13), (5, 13)]

/-- the `(left kind, right kind)` pairs with an explicit `case` label (everything else is `default`) -/
def acceptTbl : BinOp → List (Nat × Nat)
  | .add => numPairs ++ strPairsAdd ++ [(13, 13)]
  | .sub => numPairs ++ [(13, 13)]
  | .mul => vecNumPairs
  | .div => vecNumPairs
  | .mod => vecNumPairs
  | .band => [(2, 2)] | .bxor => [(2, 2)] | .bor => [(2, 2)] | .shl => [(2, 2)] | .shr => [(2, 2)]
  | .gt => numPairs ++ [(4, 4)] | .ge => numPairs ++ [(4, 4)] | .lt => numPairs ++ [(4, 4)] | .le => numPairs ++ [(4, 4)]
  | .eq => [(0, 0), (6, 6), (2, 2), (2, 4), (2, 3), (3, 3), (3, 2), (4, 2), (4, 4), (5, 5)] ++ strPairsEq ++ [(13, 13)]

def accepts (op : BinOp) (a b : Kind) : Bool := (acceptTbl op).contains (a.toNat, b.toNat)

def b2i (b : Bool) : Val := .int (if b then 1 else 0)

def minInt : BitVec 64 := BitVec.ofNat 64 (2 ^ 63)
def negOne : BitVec 64 := BitVec.ofInt 64 (-1)

/-- sign-extended `char` (`rawchar_t` is a signed `char`) -/
def chrInt (c : UInt8) : Int := (BitVec.ofNat 8 c.toNat).toInt

def v3 (f : UInt32 → UInt32) (x y z : UInt32) : Val := .vec (f x) (f y) (f z)

/-- string concatenation / comparison operands -/
def strs (fx : Fixes) (a b : Val) : R (Bytes × Bytes) :=
  (strOf fx a).bind fun sa => (strOf fx b).bind fun sb => .ok (sa, sb)

def opAdd (fx : Fixes) (a b : Val) : Out :=
  match a, b with
  | .int x, .int y => .ok (.int (x + y))
  | .int x, .flt y => .ok (.flt (add (ofInt64 x) y))
  | .flt x, .flt y => .ok (.flt (add x y))
  | .flt x, .int y => .ok (.flt (add x (ofInt64 y)))
  | .vec a0 a1 a2, .vec b0 b1 b2 => .ok (.vec (add a0 b0) (add a1 b1) (add a2 b2))
  | a, b => (strs fx a b).out a fun (sa, sb) => .ok (.str (sa ++ sb))

def opSub (a b : Val) : Out :=
  match a, b with
  | .int x, .int y => .ok (.int (x - y))
  | .int x, .flt y => .ok (.flt (sub (ofInt64 x) y))
  | .flt x, .flt y => .ok (.flt (sub x y))
  | .flt x, .int y => .ok (.flt (sub x (ofInt64 y)))
  | .vec a0 a1 a2, .vec b0 b1 b2 => .ok (.vec (sub a0 b0) (sub a1 b1) (sub a2 b2))
  | _, _ => .badop

def opMul (a b : Val) : Out :=
  match a, b with
  | .int x, .int y => .ok (.int (x * y))
  | .vec x y z, .int s => .ok (v3 (fun c => mul c (ofInt64 s)) x y z)
  | .vec x y z, .flt s => .ok (v3 (fun c => mul c s) x y z)
  | .int x, .flt y => .ok (.flt (mul (ofInt64 x) y))
  | .flt x, .flt y => .ok (.flt (mul x y))
  | .flt x, .int y => .ok (.flt (mul x (ofInt64 y)))
  | .int s, .vec x y z => .ok (v3 (fun c => mul c (ofInt64 s)) x y z)
  | .flt s, .vec x y z => .ok (v3 (fun c => mul c s) x y z)
  | .vec a0 a1 a2, .vec b0 b1 b2 => .ok (.vec (mul a0 b0) (mul a1 b1) (mul a2 b2))
  | _, _ => .badop

def opDiv (fx : Fixes) (a b : Val) : Out :=
  match a, b with
  | .int x, .int y =>
    if y == 0 then .err .divideByZero a
    else if x == minInt && y == negOne then
      (if fx.divMin then .ok (.int minInt) else .ub .divMin)
    else .ok (.int (x.sdiv y))
  | .vec .., .int s =>
    -- `(Vector)m_data.vectorValue = (Vector)m_data.vectorValue / (float)s` assigns to a temporary
    if s == 0 then .err .divideByZero a else .ok a
  | .vec x y z, .flt s => if isZero s then .err .divideByZero a else .ok (v3 (fun c => div c s) x y z)
  | .int x, .flt y => if isZero y then .err .divideByZero a else .ok (.flt (div (ofInt64 x) y))
  | .flt x, .flt y => if isZero y then .err .divideByZero a else .ok (.flt (div x y))
  | .flt x, .int y => if y == 0 then .err .divideByZero a else .ok (.flt (div x (ofInt64 y)))
  | .int s, .vec x y z =>
    -- `(float)s / Vector(v)` is `operator/(float, Vector)` = `v / s`
    if s == 0 then .err .divideByZero a else .ok (v3 (fun c => div c (ofInt64 s)) x y z)
  | .flt s, .vec x y z => if isZero s then .err .divideByZero a else .ok (v3 (fun c => div c s) x y z)
  | .vec a0 a1 a2, .vec b0 b1 b2 =>
    if fx.vecDivAlias then
      let q (p d : UInt32) : UInt32 := if isZero d then 0 else div p d
      .ok (.vec (q a0 b0) (q a1 b1) (q a2 b2))
    else .ub .vecAlias
  | _, _ => .badop

def opMod (fx : Fixes) (a b : Val) : Out :=
  match a, b with
  | .int x, .int y =>
    if y == 0 then .err .divideByZero a
    else if x == minInt && y == negOne then
      (if fx.divMin then .ok (.int 0) else .ub .divMin)
    else .ok (.int (x.srem y))
  | .vec x y z, .int s => if s == 0 then .err .divideByZero a else .ok (v3 (fun c => fmod c (ofInt64 s)) x y z)
  | .vec x y z, .flt s => if isZero s then .err .divideByZero a else .ok (v3 (fun c => fmod c s) x y z)
  | .int x, .flt y => if isZero y then .err .divideByZero a else .ok (.flt (fmod (ofInt64 x) y))
  | .flt x, .flt y => if isZero y then .err .divideByZero a else .ok (.flt (fmod x y))
  | .flt x, .int y => if y == 0 then .err .divideByZero a else .ok (.flt (fmod x (ofInt64 y)))
  | .int s, .vec x y z =>
    if isZero (ofInt64 s) then .err .divideByZero a else .ok (v3 (fun c => fmod c (ofInt64 s)) x y z)
  | .flt s, .vec .. =>
    -- `setVectorValue(vec_zero)` first, then `fmodf(m_data.vectorValue[i], mult)` of the zeros just stored
    if isZero s then .err .divideByZero a else .ok (v3 (fun c => fmod c s) 0 0 0)
  | .vec a0 a1 a2, .vec b0 b1 b2 =>
    if fx.vecDivAlias then
      let q (p d : UInt32) : UInt32 := if isZero d then 0 else fmod p d
      .ok (.vec (q a0 b0) (q a1 b1) (q a2 b2))
    else .ub .vecAlias
  | _, _ => .badop

def opBits (f : BitVec 64 → BitVec 64 → BitVec 64) (a b : Val) : Out :=
  match a, b with
  | .int x, .int y => .ok (.int (f x y))
  | _, _ => .badop

def opShift (fx : Fixes) (left : Bool) (a b : Val) : Out :=
  match a, b with
  | .int x, .int y =>
    let n := y.toNat
    if n < 64 then .ok (.int (if left then x <<< n else x.sshiftRight n))
    else if fx.shiftCount then
      let m := n % 64        -- `count & 63`
      .ok (.int (if left then x <<< m else x.sshiftRight m))
    else .ub .shiftCount
  | _, _ => .badop

/-- the four ordered comparisons; `cmpI` on integers / chars, `cmpF` on the float difference -/
def opCmp (cmpI : Int → Int → Bool) (cmpF : UInt32 → Bool) (a b : Val) : Out :=
  match a, b with
  | .int x, .int y => .ok (b2i (cmpI x.toInt y.toInt))
  | .int x, .flt y => .ok (b2i (cmpF (sub (ofInt64 x) y)))
  | .flt x, .flt y => .ok (b2i (cmpF (sub x y)))
  | .flt x, .int y => .ok (b2i (cmpF (sub x (ofInt64 y))))
  | .chr x, .chr y => .ok (b2i (cmpI (chrInt x) (chrInt y)))
  | _, _ => .badop

def vecCmp (a b : UInt32) : Bool := fle (sub b fEps) a && fle a (add b fEps)

def opEq (fx : Fixes) (a b : Val) : Out :=
  match a, b with
  | .nil, .nil => .ok (b2i true)
  | .obj x, .obj y => .ok (b2i (x == y))
  | .int x, .int y => .ok (b2i (x == y))
  | .int x, .chr y => .ok (b2i (x.toInt == chrInt y))
  | .int x, .flt y => .ok (b2i (absLtEps (sub (ofInt64 x) y)))
  | .flt x, .flt y => .ok (b2i (absLtEps (sub x y)))
  | .flt x, .int y => .ok (b2i (absLtEps (sub x (ofInt64 y))))
  | .chr x, .int y => .ok (b2i (chrInt x == y.toInt))
  | .chr x, .chr y => .ok (b2i (x == y))
  | .cstr x, .cstr y => .ok (b2i (x == y))
  | .vec a0 a1 a2, .vec b0 b1 b2 => .ok (b2i (vecCmp a0 b0 && vecCmp a1 b1 && vecCmp a2 b2))
  | a, b => (strs fx a b).out a fun (sa, sb) => .ok (b2i ((sa.isEmpty && sb.isEmpty) || sa == sb))

/-- body of the accepted `case` of `op` for the operands -/
def binImpl (fx : Fixes) : BinOp → Val → Val → Out
  | .add, a, b => opAdd fx a b
  | .sub, a, b => opSub a b
  | .mul, a, b => opMul a b
  | .div, a, b => opDiv fx a b
  | .mod, a, b => opMod fx a b
  | .band, a, b => opBits (· &&& ·) a b
  | .bxor, a, b => opBits (· ^^^ ·) a b
  | .bor, a, b => opBits (· ||| ·) a b
  | .shl, a, b => opShift fx true a b
  | .shr, a, b => opShift fx false a b
  | .gt, a, b => opCmp (fun x y => x > y) geEps a b
  | .ge, a, b => opCmp (fun x y => x ≥ y) gtNegEps a b
  | .lt, a, b => opCmp (fun x y => x < y) leNegEps a b
  | .le, a, b => opCmp (fun x y => x ≤ y) ltEps a b
  | .eq, a, b => opEq fx a b

/-- `switch (type + value.type * Max)`: an accepted pair runs its case, everything else `default`:
    `Clear(); throw IncompatibleOperator` — except `==`, whose default is `return false` -/
def binop (fx : Fixes) (op : BinOp) (a b : Val) : Out :=
  if accepts op a.kind b.kind then binImpl fx op a b
  else if op == .eq then .ok (b2i false)
  else .err .incompatibleOperator .nil

/-! ## unary operators -/

/-- `ScriptVariable::minus` -/
def opMinus (fx : Fixes) (a : Val) : Out :=
  match a with
  | .int v => .ok (.int (-v))
  | .flt b => .ok (.flt (neg b))
  | a => (longOf fx a).out a fun v => .ok (.int (-v))

/-- `ScriptVariable::complement` -/
def opCompl (fx : Fixes) (a : Val) : Out :=
  match a with
  | .int v => .ok (.int (~~~v))
  | a => (intOf fx a).out a fun v => .ok (.int ((~~~(v.truncate 32)).zeroExtend 64))

/-- `operator++(int)` / `operator--(int)` -/
def opIncDec (fx : Fixes) (inc : Bool) (a : Val) : Out :=
  match a with
  | .nil => .ok .nil
  | .int v => .ok (.int (if inc then v + 1 else v - 1))
  | .ptr => .ok .nil                         -- ClearPointerInternal: every sharer becomes NIL
  | .flt b => .ok (.flt (if inc then add b one else sub b one))
  | a => (intOf fx a).out a fun v =>
      let w : BitVec 32 := v.truncate 32
      .ok (.int ((if inc then w + 1 else w - 1).zeroExtend 64))

/-- `ScriptVariable::size` as `OP_UN_SIZE` uses it: `setLongValue((uintptr_t)size())` -/
def opSize (a : Val) : Out :=
  match a with
  | .nil => .ok (.int negOne)
  | .str s => .ok (.int (BitVec.ofNat 64 s.length))
  | .cstr s => .ok (.int (BitVec.ofNat 64 s.length))
  | .obj o => .ok (b2i o.isSome)
  | .arr items => .ok (.int (BitVec.ofNat 64 items.length))
  | .carr items => .ok (.int (BitVec.ofNat 64 items.length))
  | .cont items => .ok (.int (BitVec.ofNat 64 items.length))
  | .scont (some items) => .ok (.int (BitVec.ofNat 64 items.length))
  | .scont none => .ok (.int 0)
  | .ptr => .ok (.int negOne)
  | _ => .ok (.int 1)

/-- `ScriptVariable::arraysize` (a `size_t`; `-1` for NIL and pointers) -/
def arraySizeOf : Val → BitVec 64
  | .nil => negOne
  | .arr items => BitVec.ofNat 64 items.length
  | .carr items => BitVec.ofNat 64 items.length
  | .cont items => BitVec.ofNat 64 items.length
  | .scont (some items) => BitVec.ofNat 64 items.length
  | .scont none => 0
  | .ptr => negOne
  | _ => 1

end Morfuse.VMOps
