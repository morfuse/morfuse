import MorfuseModel.Archive.Model
/-! Substitutions (C11): which bytes of an honest archive the reader must notice when they are replaced (`PC.detAll`,
`bcond`), and `Dmg ok lay bs bs'`: `bs'` differs from `bs` only in such bytes. -/
namespace Morfuse.Archive

theorem set_ne_self {α : Type} (l : List α) (q : Nat) (x : α) (hq : q < l.length) (hx : x ≠ l[q]) :
    l.set q x ≠ l := by
  intro h
  have := congrArg (fun m => m[q]?) h
  simp [List.getElem?_set_self hq, List.getElem?_eq_getElem hq] at this
  exact hx this

theorem getElem_append_left' {α : Type} (a c : List α) (q : Nat) (h : q < a.length) (h2 : q < (a ++ c).length) :
    (a ++ c)[q] = a[q] := List.getElem_append_left h

/-- classes of bytes whose substitution the reader must notice -/
def PC.det (c : PC) : Prop := c = .tag ∨ c = .size ∨ c = .cls

/-- classes whose substitution must be noticed, header included -/
def PC.detAll (c : PC) : Prop := c.det ∨ c = .hdr ∨ c = .ver

/-- what counts as a different byte: the reader compares class names case-insensitively -/
def bcond (c : PC) (old b : UInt8) : Prop := if c = .cls then upc b ≠ upc old else b ≠ old

theorem bcond_ne {c : PC} {old b : UInt8} (h : bcond c old b) : b ≠ old := by
  unfold bcond at h
  split at h
  · exact fun e => h (e ▸ rfl)
  · exact h

/-- the classes no substitution theorem speaks of: payload, and what the reader trusts within bounds (`C11_never_undefined`) -/
structure Undet (ok : PC → Prop) : Prop where
  data : ¬ ok .data
  idx : ¬ ok .idx
  len : ¬ ok .len
  pcls : ¬ ok .pcls
  name : ¬ ok .name
  ncls : ¬ ok .ncls

theorem Undet.of {ok : PC → Prop} (h : ∀ c, ok c → c.detAll) : Undet ok := by
  constructor <;> exact fun h' => by simpa [PC.detAll, PC.det] using h _ h'

theorem Undet.undamaged : Undet (fun _ => False) := ⟨id, id, id, id, id, id⟩

theorem toInt64_ne (v L : Nat) (hv : v < 2 ^ 64) (hL : L < 2 ^ 63) (hne : v ≠ L) : toInt64 v ≠ (L : Int) := by
  unfold toInt64
  split <;> omega

variable {ok : PC → Prop}

inductive Dmg (ok : PC → Prop) : List PC → Bytes → Bytes → Prop
  | nil : Dmg ok [] [] []
  | same {l bs bs'} (c : PC) (x : UInt8) : Dmg ok l bs bs' → Dmg ok (c :: l) (x :: bs) (x :: bs')
  | hit {l bs bs'} {c : PC} {x y : UInt8} : ok c → bcond c x y → Dmg ok l bs bs' → Dmg ok (c :: l) (x :: bs) (y :: bs')

theorem Dmg.refl : ∀ {lay : List PC} {bs : Bytes}, lay.length = bs.length → Dmg ok lay bs bs
  | [], [], _ => .nil
  | c :: _, x :: _, h => .same c x (Dmg.refl (by simpa using h))

theorem Dmg.length {lay : List PC} {bs bs' : Bytes} (h : Dmg ok lay bs bs') : lay.length = bs.length ∧ bs'.length = bs.length := by
  induction h <;> simp_all

theorem Dmg.append_inv {lc : List PC} {c : Bytes} : ∀ {la : List PC} {a x : Bytes}, la.length = a.length →
    Dmg ok (la ++ lc) (a ++ c) x → ∃ a' c', x = a' ++ c' ∧ Dmg ok la a a' ∧ Dmg ok lc c c'
  | [], [], x, _, h => ⟨[], x, rfl, .nil, h⟩
  | cl :: la, y :: a, x, hl, h => by
    cases h with
    | same _ _ h' =>
      obtain ⟨a', c', rfl, h1, h2⟩ := Dmg.append_inv (by simpa using hl) h'
      exact ⟨y :: a', c', rfl, .same _ _ h1, h2⟩
    | hit h1 h2 h' =>
      obtain ⟨a', c', rfl, h3, h4⟩ := Dmg.append_inv (by simpa using hl) h'
      exact ⟨_ :: a', c', rfl, .hit h1 h2 h3, h4⟩

theorem Dmg.set : ∀ {lay : List PC} {bs : Bytes} {q : Nat} {c : PC} {old b : UInt8}, lay.length = bs.length →
    lay[q]? = some c → ok c → bs[q]? = some old → bcond c old b → Dmg ok lay bs (bs.set q b)
  | c' :: lay, x :: bs, 0, c, old, b, hl, h1, hc, h2, hb => by
    simp only [List.getElem?_cons_zero, Option.some.injEq] at h1 h2
    subst h1 h2
    exact .hit hc hb (Dmg.refl (by simpa using hl))
  | c' :: lay, x :: bs, q + 1, c, old, b, hl, h1, hc, h2, hb =>
    .same _ _ (Dmg.set (by simpa using hl) (by simpa using h1) hc (by simpa using h2) hb)

theorem Dmg.set_ne {bs : Bytes} {q : Nat} {c : PC} {old b : UInt8} (ho : bs[q]? = some old) (hb : bcond c old b) :
    bs.set q b ≠ bs := by
  obtain ⟨hq, rfl⟩ := List.getElem?_eq_some_iff.mp ho
  exact set_ne_self bs q b hq (bcond_ne hb)

theorem Dmg.eq_of_not_ok {lay : List PC} {bs bs' : Bytes} (h : Dmg ok lay bs bs') (hn : ∀ c ∈ lay, ¬ ok c) : bs' = bs := by
  induction h with
  | nil => rfl
  | same c x _ ih => rw [ih fun c hc => hn c (List.mem_cons_of_mem _ hc)]
  | hit hc => exact absurd hc (hn _ List.mem_cons_self)

theorem Dmg.eq_of_upc {n : Nat} {a b : Bytes} (h : Dmg ok (List.replicate n .cls) a b) (he : a.map upc = b.map upc) :
    b = a := by
  generalize hl : List.replicate n PC.cls = l at h
  induction h generalizing n with
  | nil => rfl
  | same c x _ ih =>
    cases n <;> simp only [List.replicate, List.cons.injEq, reduceCtorEq] at hl
    rw [ih (by simpa using he) hl.2]
  | @hit _ _ _ c x y _ hb _ ih =>
    cases n <;> simp only [List.replicate, List.cons.injEq, reduceCtorEq] at hl
    rw [← hl.1] at hb
    simp only [List.map_cons, List.cons.injEq] at he
    exact absurd he.1.symm (by simpa [bcond] using hb)

theorem getClass_dmg (classes : List Bytes) {n : Nat} {cls name : Bytes} (h : Dmg ok (List.replicate n .cls) cls name)
    (hne : name ≠ cls) : getClass classes name ≠ some cls := by
  intro hg
  unfold getClass at hg
  split at hg
  · simp at hg
  · have he := List.find?_some hg
    simp only [eqi, beq_iff_eq] at he
    have hlen : (cstr name).length = cls.length := by simpa using (congrArg List.length he).symm
    have hall : cstr name = name := List.IsPrefix.eq_of_length (List.takeWhile_prefix _) (by rw [hlen, h.length.2])
    rw [hall] at he
    exact hne (h.eq_of_upc he)

end Morfuse.Archive
