import MorfuseModel.Archive.Lemmas
/-! Round trip (C10), the vocabulary: what the reading calls return before `Close` (`rawItem`: archive indices in the pointer
slots), what they register and queue (`regLabels`, `newFix`), the hypotheses `WF`, and that `Close` turns the indices back
into the objects.
Two object tables occur throughout: `t`, the writer's table so far (what `encItem t` goes on from), and `T`, a table `t` is
still a prefix of when the calls in question are written, in the end the final one.  An archive index is a place in `T`
(`idxIn T`), so what is read back is stated against `T` while the bytes are those of `encItem t`. -/
namespace Morfuse.Archive

/-- `addUnique` (the object table) and `Dict.add` (the string dictionary) are this function written out for their types: each
    unfolds to it, so a lemma about `intern` proves the same about them as it stands -/
def intern {α : Type} [BEq α] [LawfulBEq α] (l : List α) (x : α) : List α × Nat :=
  if x ∈ l then (l, l.idxOf x + 1) else (l ++ [x], l.length + 1)

theorem intern_prefix {α : Type} [BEq α] [LawfulBEq α] (l : List α) (x : α) : l <+: (intern l x).1 := by
  unfold intern; split
  · exact List.prefix_refl l
  · exact List.prefix_append l [x]

theorem mem_intern {α : Type} [BEq α] [LawfulBEq α] (l : List α) (x : α) : x ∈ (intern l x).1 := by
  unfold intern; split <;> simp [*]

theorem intern_snd {α : Type} [BEq α] [LawfulBEq α] (l : List α) (x : α) :
    (intern l x).2 = (intern l x).1.idxOf x + 1 := by
  unfold intern; split
  · rfl
  · rename_i h
    simp [List.idxOf_append, h]

theorem addUnique_prefix (t : List Lbl) (o : Lbl) : t <+: (addUnique t o).1 := intern_prefix t o

theorem mem_addUnique (t : List Lbl) (o : Lbl) : o ∈ (addUnique t o).1 := mem_intern t o

theorem addUnique_snd (t : List Lbl) (o : Lbl) : (addUnique t o).2 = (addUnique t o).1.idxOf o + 1 := intern_snd t o

theorem idxOf_of_prefix {α : Type} [BEq α] [LawfulBEq α] {p T : List α} {o : α} (hp : p <+: T) (ho : o ∈ p) :
    T.idxOf o = p.idxOf o := by
  obtain ⟨q, rfl⟩ := hp
  simp [List.idxOf_append, ho]

theorem intern_idx {α : Type} [BEq α] [LawfulBEq α] {l L : List α} {x : α} (hp : (intern l x).1 <+: L) :
    (intern l x).2 = L.idxOf x + 1 := by
  rw [intern_snd, idxOf_of_prefix hp (mem_intern l x)]

mutual
theorem encItem_prefix : (it : Item) → (t : List Lbl) → t <+: (encItem t it).1
  | .prim _ _, t | .raw _, t | .str _, t => by simp [encItem]
  | .ptr _ o, t => by
    simp only [encItem]; split
    · exact List.prefix_refl t
    · exact addUnique_prefix t o
  | .position o, t => by simp only [encItem]; exact addUnique_prefix t o
  | .object _ o _ body, t => by
    simp only [encItem]
    exact (addUnique_prefix t o).trans (encItems_prefix body _)
theorem encItems_prefix : (w : List Item) → (t : List Lbl) → t <+: (encItems t w).1
  | [], t => by simp [encItems]
  | i :: is, t => by
    simp only [encItems]
    exact (encItem_prefix i t).trans (encItems_prefix is _)
end

/-- archive index of a label in the final table -/
def idxIn (T : List Lbl) (o : Lbl) : Nat := T.idxOf o + 1

/-- what a pointer slot holds until `Close` (`rawValue`, `rawEntry` and `rawSet` spell it out) -/
abbrev rawPtr (T : List Lbl) (o : Lbl) : Nat := if o = 0 then 0 else idxIn T o

mutual
/-- the sequence as the reading calls return it before `Close`: pointer slots hold archive indices -/
def rawItem (T : List Lbl) : Item → Item
  | .ptr safe o => .ptr safe (rawPtr T o)
  | .object m o cls body => .object m o cls (rawItems T body)
  | .prim p v => .prim p v
  | .raw bs => .raw bs
  | .str bs => .str bs
  | .position o => .position o
def rawItems (T : List Lbl) : List Item → List Item
  | [] => []
  | i :: is => rawItem T i :: rawItems T is
end

mutual
/-- labels registered by the reading calls (`AddObjectAt`), in order -/
def regLabelsItem : Item → List Lbl
  | .position o => [o]
  | .object _ o _ body => regLabels body ++ [o]
  | _ => []
def regLabels : List Item → List Lbl
  | [] => []
  | i :: is => regLabelsItem i ++ regLabels is
end

mutual
/-- fix-ups queued by the reading calls (latest first) -/
def newFixItem (T : List Lbl) : Item → List Nat
  | .ptr _ o => if o = 0 then [] else [idxIn T o]
  | .object _ _ _ body => newFix T body
  | _ => []
def newFix (T : List Lbl) : List Item → List Nat
  | [] => []
  | i :: is => newFix T is ++ newFixItem T i
end

/-- `AddObjectAt` with the index the writer gave `l`: its place in the final table `T` -/
def setL (T : List Lbl) (R : List Lbl) (l : Lbl) : List Lbl := R.set (T.idxOf l) l

@[simp] theorem foldl_setL_length (T : List Lbl) (ls : List Lbl) (R : List Lbl) :
    (ls.foldl (setL T) R).length = R.length := by
  induction ls generalizing R with
  | nil => rfl
  | cons l ls ih => simp [ih, setL]

mutual
/-- per-call hypotheses of the round trip: values fit their width, strings can be allocated, the class
    of an object resolves to itself in the registry -/
def WFItem (cfg : Cfg) (classes : List Bytes) : Item → Prop
  | .prim p v => v < 256 ^ p.width
  | .str bs => strAlloc bs.length < cfg.allocLimit
  | .object _ _ cls body =>
    getClass classes cls = some cls ∧ strAlloc cls.length < cfg.allocLimit ∧ WFItems cfg classes body
  | _ => True
def WFItems (cfg : Cfg) (classes : List Bytes) : List Item → Prop
  | [] => True
  | i :: is => WFItem cfg classes i ∧ WFItems cfg classes is
end

theorem toInt64_of_lt {n : Nat} (h : n < 2 ^ 63) : toInt64 n = (n : Int) := by
  simp [toInt64, h]

theorem addAt_ok (cfg : Cfg) (i : Nat) (o : Lbl) (rest : Bytes) (pos : Nat) (g : Bool) (R : List Lbl) (F : List Nat)
    (h1 : 1 ≤ i) (h2 : i ≤ R.length) (ha : R.length * 8 < cfg.allocLimit) :
    addAt cfg i o ⟨rest, pos, g, R, F⟩ = .ok () ⟨rest, pos, g, R.set (i - 1) o, F⟩ := by
  have h3 : ¬ (i = 0) := by omega
  have h4 : ¬ (i > R.length) := by omega
  have h5 : ¬ (i * 8 ≥ cfg.allocLimit) := by omega
  have h6 : i - R.length = 0 := by omega
  simp [addAt, h3, h4, h5, h6, addAt.zeros']

theorem nullIdx_lt : nullIdx < 256 ^ 4 := by decide

theorem idx_bounds {t T : List Lbl} {o : Lbl} (hp : (addUnique t o).1 <+: T) :
    (addUnique t o).2 = idxIn T o ∧ 1 ≤ idxIn T o ∧ idxIn T o ≤ T.length ∧ idxIn T o - 1 = T.idxOf o := by
  have hm := mem_addUnique t o
  have hlt : T.idxOf o < T.length := List.idxOf_lt_length_of_mem (hp.subset hm)
  refine ⟨intern_idx hp, ?_, ?_, ?_⟩ <;> simp [idxIn] <;> omega

theorem encItem_prim (t : List Lbl) (p : Prim) (v : Nat) : encItem t (.prim p v) = (t, encPrim p v) := rfl
theorem encItem_ptr_length (t : List Lbl) (safe : Bool) (o : Lbl) : (encItem t (.ptr safe o)).2.length = 8 := by
  simp only [encItem]; split <;> simp

mutual
/-- non-null pointer targets of a sequence -/
def ptrTargetsItem : Item → List Lbl
  | .ptr _ o => if o = 0 then [] else [o]
  | .object _ _ _ body => ptrTargets body
  | _ => []
def ptrTargets : List Item → List Lbl
  | [] => []
  | i :: is => ptrTargetsItem i ++ ptrTargets is
end

theorem idxOf_inj {T : List Lbl} {a b : Lbl} (ha : a ∈ T) (hb : b ∈ T) (h : T.idxOf a = T.idxOf b) : a = b := by
  have h1 := List.getElem_idxOf (List.idxOf_lt_length_of_mem ha)
  have h2 := List.getElem_idxOf (List.idxOf_lt_length_of_mem hb)
  simp only [h] at h1
  exact h1.symm.trans h2

theorem foldl_setL_get (T : List Lbl) (l : Lbl) (hl : l ∈ T) :
    ∀ (ls : List Lbl) (R : List Lbl), (∀ x ∈ ls, x ∈ T) → R.length = T.length →
      (R.getD (T.idxOf l) 0 = l ∨ l ∈ ls) → (ls.foldl (setL T) R).getD (T.idxOf l) 0 = l
  | [], R, _, _, h => h.resolve_right (by simp)
  | x :: xs, R, hx, hR, h => by
    have hxT := hx x List.mem_cons_self
    refine foldl_setL_get T l hl xs _ (fun y hy => hx y (List.mem_cons_of_mem _ hy)) (by simp [setL, hR]) ?_
    by_cases e : x = l
    · subst e
      have : T.idxOf x < R.length := hR ▸ List.idxOf_lt_length_of_mem hxT
      exact .inl (by simp [setL, List.getD_eq_getElem?_getD, List.getElem?_set_self this])
    · have hne : T.idxOf x ≠ T.idxOf l := fun h' => e (idxOf_inj hxT hl h')
      rcases h with h | h
      · left
        simpa [setL, List.getD_eq_getElem?_getD, List.getElem?_set_ne hne] using h
      · exact .inr ((List.mem_cons.mp h).resolve_left (Ne.symm e))

/-- the left side is what `fixItem` and `fixSet` spell out and what `look Rf (rawPtr T o)` (`Value.lean`) unfolds to -/
theorem look_raw {T Rf : List Lbl} {o : Lbl} (h : o ≠ 0 → Rf.getD (T.idxOf o) 0 = o) :
    (if rawPtr T o = 0 then 0 else Rf.getD (rawPtr T o - 1) 0) = o := by
  by_cases ho : o = 0
  · simp [rawPtr, ho]
  · have := h ho
    simp only [List.getD_eq_getElem?_getD] at this
    simp [rawPtr, ho, idxIn, this]

mutual
theorem fixItem_raw (T Rf : List Lbl) : (it : Item) →
    (∀ o ∈ ptrTargetsItem it, Rf.getD (T.idxOf o) 0 = o) → fixItem Rf (rawItem T it) = it
  | .prim _ _, _ | .raw _, _ | .str _, _ | .position _, _ => by simp [rawItem, fixItem]
  | .ptr safe o, h => by
    simp only [rawItem, fixItem]
    rw [look_raw fun ho => h o (by simp [ptrTargetsItem, ho])]
  | .object m o cls body, h => by
    simp only [rawItem, fixItem]
    rw [fixItems_raw T Rf body (by simpa [ptrTargetsItem] using h)]
theorem fixItems_raw (T Rf : List Lbl) : (w : List Item) →
    (∀ o ∈ ptrTargets w, Rf.getD (T.idxOf o) 0 = o) → fixItems Rf (rawItems T w) = w
  | [], _ => by simp [rawItems, fixItems]
  | i :: is, h => by
    simp only [ptrTargets, List.mem_append] at h
    simp only [rawItems, fixItems]
    rw [fixItem_raw T Rf i (fun o ho => h o (Or.inl ho)), fixItems_raw T Rf is (fun o ho => h o (Or.inr ho))]
end

mutual
theorem regLabelsItem_subset : (it : Item) → (t : List Lbl) → ∀ l ∈ regLabelsItem it, l ∈ (encItem t it).1
  | .prim _ _, _ | .raw _, _ | .str _, _ | .ptr _ _, _ => by simp [regLabelsItem]
  | .position o, t => by
    simp only [regLabelsItem, encItem, List.mem_singleton]
    rintro l rfl; exact mem_addUnique t l
  | .object _ o _ body, t => by
    simp only [regLabelsItem, encItem, List.mem_append, List.mem_singleton]
    rintro l (h | rfl)
    · exact regLabels_subset body _ l h
    · exact (encItems_prefix body _).subset (mem_addUnique t l)
theorem regLabels_subset : (w : List Item) → (t : List Lbl) → ∀ l ∈ regLabels w, l ∈ (encItems t w).1
  | [], _ => by simp [regLabels]
  | i :: is, t => List.forall_mem_append.mpr
    ⟨fun l h => (encItems_prefix is _).subset (regLabelsItem_subset i t l h), regLabels_subset is _⟩
end

mutual
theorem newFixItem_bounds (T : List Lbl) : (it : Item) → (t : List Lbl) → (encItem t it).1 <+: T →
    ∀ i ∈ newFixItem T it, 1 ≤ i ∧ i ≤ T.length
  | .prim _ _, _, _ | .raw _, _, _ | .str _, _, _ | .position _, _, _ => by simp [newFixItem]
  | .ptr _ o, t, hp => by
    by_cases ho : o = 0
    · simp [newFixItem, ho]
    · simp only [encItem, ho, ↓reduceIte] at hp
      obtain ⟨_, e2, e3, _⟩ := idx_bounds hp
      simp only [newFixItem, ho, ↓reduceIte, List.mem_singleton]
      rintro i rfl; exact ⟨e2, e3⟩
  | .object _ o _ body, t, hp => by
    simp only [encItem] at hp
    simp only [newFixItem]
    exact newFix_bounds T body _ hp
theorem newFix_bounds (T : List Lbl) : (w : List Item) → (t : List Lbl) → (encItems t w).1 <+: T →
    ∀ i ∈ newFix T w, 1 ≤ i ∧ i ≤ T.length
  | [], _, _ => by simp [newFix]
  | i :: is, t, hp => List.forall_mem_append.mpr
    ⟨newFix_bounds T is _ hp, newFixItem_bounds T i t ((encItems_prefix is _).trans hp)⟩
end

theorem addUnique_length_le (t : List Lbl) (o : Lbl) : (addUnique t o).1.length ≤ t.length + 1 := by
  unfold addUnique; split <;> simp

mutual
/-- every entry of the object table costs at least one 8-byte record -/
theorem encItem_table_le : (it : Item) → (t : List Lbl) →
    (encItem t it).1.length * 8 ≤ t.length * 8 + (encItem t it).2.length
  | .prim _ _, _ | .raw _, _ | .str _, _ => by simp [encItem]
  | .ptr _ o, t => by
    have := addUnique_length_le t o
    simp only [encItem]; split <;> simp <;> omega
  | .position o, t => by
    have := addUnique_length_le t o
    simp [encItem, Prim.width]; omega
  | .object _ o _ body, t => by
    have h1 := addUnique_length_le t o
    have h2 := encItems_table_le body (addUnique t o).1
    simp only [encItem, List.length_append, tagB_length, le_length]
    omega
theorem encItems_table_le : (w : List Item) → (t : List Lbl) →
    (encItems t w).1.length * 8 ≤ t.length * 8 + (encItems t w).2.length
  | [], _ => by simp [encItems]
  | i :: is, t => by
    have h1 := encItem_table_le i t
    have h2 := encItems_table_le is (encItem t i).1
    simp only [encItems, List.length_append]
    omega
end

theorem encode_table_le (info : Info) (w : List Item) : (encItems [] w).1.length * 8 ≤ (encode info w).length := by
  have := encItems_table_le w []
  simp only [encode, List.length_append, List.length_nil] at this ⊢
  omega

theorem layStr_length (c : PC) (bs : Bytes) : (layStr c bs).length = (encStr bs).length := by
  simp only [layStr, layPrim, encStr, encPrim, encRaw]
  split <;> simp <;> omega

mutual
theorem layItem_length : (it : Item) → (t : List Lbl) → (layItem it).length = (encItem t it).2.length
  | .prim p v, t => by simp [layItem, layPrim, encItem]; omega
  | .raw bs, t => by simp [layItem, encItem]; omega
  | .str bs, t => by simp [layItem, encItem, layStr_length]
  | .ptr safe o, t => by simp only [layItem, encItem]; split <;> simp
  | .position o, t => by simp [layItem, layPrim, encItem]; omega
  | .object _ o cls body, t => by
    simp only [layItem, encItem, List.length_append, layStr_length, layItems_length body (addUnique t o).1]
    simp [layPrim]; omega
theorem layItems_length : (w : List Item) → (t : List Lbl) → (layItems w).length = (encItems t w).2.length
  | [], t => by simp [layItems, encItems]
  | i :: is, t => by
    simp only [layItems, encItems, List.length_append, layItem_length i t, layItems_length is (encItem t i).1]
end

theorem archiveVersion_lt : archiveVersion < 256 ^ 2 := by decide

theorem encHeader_length (info : Info) (N : Nat) :
    (encHeader info N).length = info.header.length + 6 + 6 + (encStr info.name).length + 8 := by
  simp [encHeader, Prim.width]; omega

/-- hypotheses of the round trip -/
structure WF (cfg : Cfg) (classes : List Bytes) (info : Info) (w : List Item) : Prop where
  /-- values fit their width, strings can be allocated, classes resolve -/
  items : WFItems cfg classes w
  /-- every non-null pointer target is registered somewhere in the sequence -/
  targets : ∀ o ∈ ptrTargets w, o ∈ regLabels w
  /-- holds of every `w` (`ptrTargets_ne_zero`): `ptrTargets` lists the non-null targets only -/
  nonnull : ∀ o ∈ ptrTargets w, o ≠ 0
  count : (encItems [] w).1.length < nullIdx
  table : (encItems [] w).1.length * 8 < cfg.allocLimit
  size : (encode info w).length < 2 ^ 63
  version : info.version < 65536
  name : strAlloc info.name.length < cfg.allocLimit
mutual
theorem ptrTargetsItem_ne_zero : (it : Item) → ∀ o ∈ ptrTargetsItem it, o ≠ 0
  | .prim _ _ | .raw _ | .str _ | .position _ => by simp [ptrTargetsItem]
  | .ptr _ o => by
    by_cases ho : o = 0 <;> simp [ptrTargetsItem, ho]
  | .object _ _ _ body => by simpa [ptrTargetsItem] using ptrTargets_ne_zero body
theorem ptrTargets_ne_zero : (w : List Item) → ∀ o ∈ ptrTargets w, o ≠ 0
  | [] => by simp [ptrTargets]
  | i :: is => List.forall_mem_append.mpr ⟨ptrTargetsItem_ne_zero i, ptrTargets_ne_zero is⟩
end

end Morfuse.Archive
