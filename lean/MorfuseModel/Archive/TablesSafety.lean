import MorfuseModel.Archive.Safety
import MorfuseModel.Archive.SetHeader
/-! Safety (C11) of the count-directed readers of `Container_archive.h` / `set_archive.h` / `ScriptVariableList` as they
are after fixes 1137e36 and 00f4e12: on **arbitrary** bytes they end in a value or a reported archive error — no count
taken from the archive is allocated or iterated beyond what the stream still holds, no table length of 0 is divided by —
and every queued fix-up stays inside the object table. -/
namespace Morfuse.Archive

/-- the invariant of `Safety.lean`, with the unread rest small enough that a count bounded by it can be allocated
    (32 = the largest element the readers allocate per count: `sizeof(SafePtr<Listener>)`) -/
def InvW (cfg : Cfg) (s : RS) : Prop := Inv cfg s ∧ s.rest.length * 32 + 25 < cfg.allocLimit

abbrev SafeW {α : Type} (cfg : Cfg) (r : Res α) : Prop := SafeI (InvW cfg) r

theorem InvW.frame (cfg : Cfg) : Frame cfg (InvW cfg) where
  mono := by
    intro s s' ht hfx hr ⟨h, h4⟩
    exact ⟨(Inv.frame cfg).mono s s' ht hfx hr h, by omega⟩
  small := fun s h => h.1.2.2

theorem readKey_safeW (cfg : Cfg) (hf : cfg.allFixed) : SafeR (InvW cfg) (readKey cfg) :=
  let L := safeLogic cfg (InvW.frame cfg) hf.1
  L.bind (L.readData _ _ _) fun _ => L.ite (fun _ => L.pure none) fun _ =>
    L.bind (readStr_safe cfg (InvW.frame cfg) hf []) fun bs => L.pure (some bs)

theorem readPtrs_safeW (cfg : Cfg) (hf : cfg.allFixed) (n : Nat) : SafeR (InvW cfg) (readPtrs cfg n) :=
  let L := safeLogic cfg (InvW.frame cfg) hf.1
  match n with
  | 0 => L.pure []
  | n + 1 =>
    L.bind (readPtr_safe cfg hf (InvW.frame cfg) (fun _ _ h h1 h2 => ⟨h.1.push h1 h2, h.2⟩) true) fun i =>
      L.bind (readPtrs_safeW cfg hf n) fun is => L.pure (i :: is)

/-- **`con::Archive(arc, Container&, func)`**: `num` is bounded by the stream before `SetNumObjects(num)` -/
theorem readConList_safeW (cfg : Cfg) (hf : cfg.allFixed) : SafeR (InvW cfg) (readConList cfg) :=
  let L := safeLogic cfg (InvW.frame cfg) hf.1
  L.bind (L.readData _ _ _) fun nb s hs => by
    split
    · exact ⟨rfl, hs⟩
    · rename_i hg
      simp only [Bool.or_eq_true, Bool.not_eq_eq_eq_not, Bool.not_true, not_or, Bool.not_eq_false] at hg
      have hle := (lenGe_iff _ _).mp hg.2
      have hsm := hs.2
      have : ¬ (unle nb * safePtrSize ≥ cfg.allocLimit) := by simp only [safePtrSize]; omega
      simp only [this, ↓reduceIte]
      exact readPtrs_safeW cfg hf _ s hs

theorem readEntries_safeW (cfg : Cfg) (hf : cfg.allFixed) (tl : Nat) (htl : tl ≠ 0) (n : Nat) :
    SafeR (InvW cfg) (readEntries cfg tl n) :=
  let L := safeLogic cfg (InvW.frame cfg) hf.1
  match n with
  | 0 => L.pure []
  | n + 1 =>
    L.bind (readKey_safeW cfg hf) fun k => L.bind (readConList_safeW cfg hf) fun ls =>
      L.ite (fun h => absurd h htl) fun _ => L.bind (readEntries_safeW cfg hf tl htl n) fun es => L.pure ((k, ls) :: es)

/-- the table length `con::set::Archive` settles on is at least 1 and can be allocated -/
theorem setLength_ok {cfg : Cfg} {rest : Bytes} {tl cnt : Nat} (h0 : tl ≠ 0) (hcnt : cnt ≤ rest.length)
    (hsm : rest.length * 32 + 25 < cfg.allocLimit) :
    (if (!lenGe rest tl) = true then (if cnt > 1 then cnt else 1) else tl) ≠ 0 ∧
      (if (!lenGe rest tl) = true then (if cnt > 1 then cnt else 1) else tl) * 8 < cfg.allocLimit := by
  by_cases hc : lenGe rest tl = true
  · have := (lenGe_iff _ _).mp hc
    simp only [hc, Bool.not_true, Bool.false_eq_true, ↓reduceIte]; omega
  · simp only [hc, Bool.not_false, ↓reduceIte]; split <;> omega

theorem readSetHeader_safeW {α : Type} (cfg : Cfg) (hf : cfg.allFixed) {k : Nat → Nat → Nat → Nat → RS → Res α}
    (hk : ∀ tl th cnt tli, tl ≠ 0 → SafeR (InvW cfg) (k tl th cnt tli)) : SafeR (InvW cfg) (readSetHeader cfg k) :=
  let L := safeLogic cfg (InvW.frame cfg) hf.1
  L.bind (L.readData _ _ _) fun tl => L.bind (L.readData _ _ _) fun th => L.bind (L.readData _ _ _) fun cnt s hs => by
    dsimp only
    split
    · exact ⟨rfl, hs⟩
    split
    · exact ⟨rfl, hs⟩
    rename_i hchk
    simp only [Bool.or_eq_true, decide_eq_true_eq, Bool.not_eq_eq_eq_not, Bool.not_true, not_or, Bool.not_eq_false] at hchk
    obtain ⟨h0, hal⟩ := setLength_ok hchk.1 ((lenGe_iff _ _).mp hchk.2) hs.2
    exact L.bind (L.readData _ _ _) (fun tli => L.ite (fun h => absurd h.2 (by omega)) fun _ => hk _ _ _ _ h0) s hs

theorem readVarEntries_safeW (cfg : Cfg) (hf : cfg.allFixed) (rv : Lbl → Supply → RS → Res (Value × Supply))
    (hrv : ∀ l sup, SafeR (InvW cfg) (rv l sup)) (n : Nat) (specs : List (Lbl × Supply)) :
    SafeR (InvW cfg) (readVarEntries cfg rv n specs) :=
  let L := safeLogic cfg (InvW.frame cfg) hf.1
  match n with
  | 0 => L.pure []
  | n + 1 =>
    L.bind (readKey_safeW cfg hf) fun _ => L.bind (hrv _ _) fun _ =>
      L.bind (readVarEntries_safeW cfg hf rv hrv n specs.tail) fun _ => L.pure _

end Morfuse.Archive
