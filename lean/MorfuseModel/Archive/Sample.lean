import MorfuseModel.Archive.RoundTrip
/-! a concrete well-formed write sequence used by the non-vacuity examples of Props/C10 and Props/C11 -/
namespace Morfuse.Archive

/-- a graph with a forward reference (1 before its object), a backward one, a self reference inside the
    body of object 2, a null pointer and a position-only object -/
def sample : List Item :=
  [.prim .u8 255, .str [104, 105], .str [], .ptr true 1, .object .poly 1 [76] [.prim .u8 0], .ptr false 1,
   .object .into 2 [86] [.ptr false 2, .ptr true 3], .ptr false 0, .position 3, .raw [0, 1, 2]]

def sampleInfo : Info := { header := [77, 70, 85, 83], name := [97], version := 1 }

theorem sample_length : (encode sampleInfo sample).length = 210 := by
  decide +kernel

theorem sample_wf (cfg : Cfg) (h : 1000 < cfg.allocLimit) : WF cfg [[76], [86]] sampleInfo sample where
  items := by
    simp [sample, WFItems, WFItem, Prim.width, strAlloc, getClass, cstr, eqi, upc]
    omega
  targets := by decide
  nonnull := by decide
  count := by
    have h := encode_table_le sampleInfo sample
    have hn : 100 < nullIdx := by decide
    rw [sample_length] at h; omega
  table := by
    have h := encode_table_le sampleInfo sample
    rw [sample_length] at h; omega
  size := by rw [sample_length]; decide
  version := by decide
  name := by simp [sampleInfo, strAlloc]; omega

end Morfuse.Archive
