import MorfuseModel.Archive.RoundTrip
/-!
# `Listener::Archive`'s own tables: `con::Container<T>` and `con::set<K, V>` archives

Transcription of `include/morfuse/Container/Container_archive.h` (`con::Archive(arc, container, func)`),
`include/morfuse/Container/set_archive.h` (`con::set::Archive`), `con::Archive(arc, Entry<const_str, ConList>&)`,
`ConList::Archive` (`src/Script/Listener.cpp`) and of the part of `Listener::Archive` that concerns the three
`con::set<const_str, ConList>` tables (`m_NotifyList`, `m_WaitForList`, `m_EndList`).

* the **writer** is a function into the calls of `Model.lean` (`listenerCalls`): the bytes of a Listener record
  with tables are `encItem t (.object m o "Listener" (listenerCalls st))`, nothing new at the byte level;
* the **reader** (`readListener`) is **data-directed** like the code: the flag byte says which tables follow,
  `count` how many entries, `hasString` whether a key text follows, `num` how many pointers.

A set is described by what its archive depends on: the three header numbers it stores besides `count`
(`tableLength`, `threshold`, `tableLengthIndex`) and its entries in the order the writer's table walk visits
them.  Keys are `const_str`, archived by text through `StringDictionary::ArchiveString` (`Dict.lean` is about
which id the text receives).
-/
namespace Morfuse.Archive

/-- one entry of a `con::set<const_str, ConList>`: key text (`none`: `const_str` 0) and the listeners of the
    `ConList` (`Container<SafePtr<Listener>>`), `0` = a null `SafePtr` -/
abbrev ConEntry := Option Bytes × List Lbl

structure ConSet where
  tableLength : Nat
  threshold : Nat
  tableLengthIndex : Nat
  entries : List ConEntry
  deriving Repr

/-- the three event tables of a Listener (`none`: the pointer is null, the flag bit clear) -/
structure LTables where
  notify : Option ConSet
  waitFor : Option ConSet
  endl : Option ConSet
  deriving Repr

/-! ## writer: the calls -/


/-- `con::Archive(arc, container, ArchiveListenerPtr)`: `num`, then every element -/
def conListCalls (ls : List Lbl) : List Item := .prim .u32 ls.length :: ls.map (.ptr true ·)

def entryCalls (e : ConEntry) : List Item := keyCalls e.1 ++ conListCalls e.2

def entriesCalls : List ConEntry → List Item
  | [] => []
  | e :: es => entryCalls e ++ entriesCalls es

/-- `con::set::Archive`, write side: `tableLength`, `threshold`, `count`, `tableLengthIndex`, the entries -/
def setCalls (s : ConSet) : List Item :=
  [.prim .u32 s.tableLength, .prim .u32 s.threshold, .prim .u32 s.entries.length, .prim .u16 s.tableLengthIndex]
    ++ entriesCalls s.entries

def optSetCalls : Option ConSet → List Item
  | none => []
  | some s => setCalls s

def flagOf (st : LTables) : Nat :=
  (if st.notify.isSome then 1 else 0) + (if st.waitFor.isSome then 2 else 0) + (if st.endl.isSome then 8 else 0)

/-- `Listener::Archive`, write side (`vars == nullptr`) -/
def listenerCalls (st : LTables) : List Item :=
  .prim .u8 (flagOf st) :: (optSetCalls st.notify ++ optSetCalls st.waitFor ++ optSetCalls st.endl)

/-! ## reader -/

/-- `sizeof(SafePtr<Listener>)` (vtable pointer, object, prev, next) -/
def safePtrSize : Nat := 32


/-- the loop `for (i = 1; i <= num; i++) ArchiveFunc(arc, container.ObjectAt(i))` with `ArchiveSafePointer` -/
def readPtrs (cfg : Cfg) : Nat → RS → Res (List Nat)
  | 0, s => .ok [] s
  | n + 1, s => (readPtr cfg true s).bind fun i s => (readPtrs cfg n s).bind fun is s => .ok (i :: is) s

/-- `con::Archive(arc, container, func)`, load side: `uint32_t num;` uninitialised; `num` is bounded by the stream,
    then `SetNumObjects(num)` allocates `num` elements -/
def readConList (cfg : Cfg) (s : RS) : Res (List Nat) :=
  (readData cfg (Prim.u32).tag 4 none s).bind fun nb s =>
    -- `if (num > arc.GetRemainingSize()) throw ReadStreamFail` (`GetRemainingSize` starts with `CheckRead()`)
    if !s.good || !lenGe s.rest (unle nb) then .err .streamFail s
    else if unle nb * safePtrSize ≥ cfg.allocLimit then .err .alloc s else readPtrs cfg (unle nb) s

/-- the entry loop of `con::set::Archive`: `NewEntry()`, `con::Archive(arc, *e)`, then
    `HashT()(e->Key()) % tableLength` (`tableLength = 0` is rejected before the loop since fix 1137e36; the test is
    kept here so that the loop is safe on its own) -/
def readEntries (cfg : Cfg) (tableLength : Nat) : Nat → RS → Res (List (Option Bytes × List Nat))
  | 0, s => .ok [] s
  | n + 1, s =>
    (readKey cfg s).bind fun k s =>
      (readConList cfg s).bind fun ls s =>
        if tableLength = 0 then .err .oob s else
        (readEntries cfg tableLength n s).bind fun es s => .ok ((k, ls) :: es) s

/-- a set as the reading calls return it: pointer slots hold archive indices until `Close` -/
structure RawSet where
  tableLength : Nat
  threshold : Nat
  tableLengthIndex : Nat
  entries : List (Option Bytes × List Nat)
  deriving Repr

/-- `con::set::Archive`, load side (`tableLength32`, `threshold32`, `count32` are uninitialised locals; the table
    of `tableLength` pointers is allocated unless `tableLength == 1`) -/
def readSet (cfg : Cfg) (s : RS) : Res RawSet :=
  (readData cfg (Prim.u32).tag 4 none s).bind fun tl s =>
  (readData cfg (Prim.u32).tag 4 none s).bind fun th s =>
  (readData cfg (Prim.u32).tag 4 none s).bind fun cnt s =>
    -- `remaining = GetRemainingSize()`; no bucket to hash into / more entries than bytes left: `ReadStreamFail`;
    -- a table longer than the rest of the stream is sized by its entries instead
    if !s.good then .err .streamFail s
    else if unle tl = 0 || !lenGe s.rest (unle cnt) then .err .streamFail s
    else
      let clamp := !lenGe s.rest (unle tl)
      let tl' := if clamp then (if unle cnt > 1 then unle cnt else 1) else unle tl
      let th' := if clamp then tl' else unle th
      (readData cfg (Prim.u16).tag 2 (some (zeros 2)) s).bind fun tli s =>
        if tl' ≠ 1 ∧ tl' * 8 ≥ cfg.allocLimit then .err .alloc s else
        (readEntries cfg tl' (unle cnt) s).bind fun es s =>
          .ok { tableLength := tl', threshold := th', tableLengthIndex := unle tli, entries := es } s

def readOptSet (cfg : Cfg) (present : Bool) (s : RS) : Res (Option RawSet) :=
  if present then (readSet cfg s).bind fun r s => .ok (some r) s else .ok none s

structure RawTables where
  notify : Option RawSet
  waitFor : Option RawSet
  endl : Option RawSet
  deriving Repr

/-- `Listener::Archive`, load side, for a flag byte whose `LF_VarList` bit is clear -/
def readListener (cfg : Cfg) (s : RS) : Res RawTables :=
  (readData cfg (Prim.u8).tag 1 (some (zeros 1)) s).bind fun fb s =>
    let flag := unle fb
    (readOptSet cfg (flag % 2 = 1) s).bind fun a s =>
    (readOptSet cfg (flag / 2 % 2 = 1) s).bind fun b s =>
    (readOptSet cfg (flag / 8 % 2 = 1) s).bind fun c s =>
      .ok { notify := a, waitFor := b, endl := c } s

/-! ## `Close`: indices back to objects -/

def fixSet (table : List Lbl) (r : RawSet) : ConSet :=
  { tableLength := r.tableLength, threshold := r.threshold, tableLengthIndex := r.tableLengthIndex,
    entries := r.entries.map fun e => (e.1, e.2.map fun i => if i = 0 then 0 else table.getD (i - 1) 0) }

def fixTables (table : List Lbl) (r : RawTables) : LTables :=
  { notify := r.notify.map (fixSet table), waitFor := r.waitFor.map (fixSet table), endl := r.endl.map (fixSet table) }

def rawSet (T : List Lbl) (s : ConSet) : RawSet :=
  { tableLength := s.tableLength, threshold := s.threshold, tableLengthIndex := s.tableLengthIndex,
    entries := s.entries.map fun e => (e.1, e.2.map fun o => if o = 0 then 0 else idxIn T o) }

def rawTables (T : List Lbl) (st : LTables) : RawTables :=
  { notify := st.notify.map (rawSet T), waitFor := st.waitFor.map (rawSet T), endl := st.endl.map (rawSet T) }

end Morfuse.Archive
