import MorfuseModel.Archive.Value
import MorfuseModel.Archive.RoundTrip
import MorfuseModel.Archive.Honest
/-! Round trip of script values: the data-directed reader `readValue`, run on what `valCalls` wrote,
returns the value (archive indices in the pointer slots) and leaves the state the schema-directed reader of
the same calls would leave. -/
namespace Morfuse.Archive

theorem addUnique_of_mem {t : List Lbl} {o : Lbl} (h : o ∈ t) : (addUnique t o).1 = t := by
  unfold addUnique; simp [h]

theorem sharedCalls_table {t : List Lbl} {self h : Lbl} (c : Nat) (hm : h ∈ (addUnique t self).1) :
    (encItems t [.position self, .prim .byte c, .prim .bool 0, .ptr false h]).1 = (addUnique t self).1 := by
  simp only [encItems, encItem]
  split <;> simp [addUnique_of_mem hm]

mutual
theorem valCalls_table : (v : Value) → (t : List Lbl) → (self : Lbl) →
    (encItems t (valCalls t self v).2).1 = (valCalls t self v).1
  | .none, _, _ | .int _, _, _ | .float _, _, _ | .char _, _, _ | .string _, _, _ | .vector _, _, _ => by
    simp [valCalls, encItems, encItem]
  | .constString o, _, _ => by cases o <;> simp [valCalls, encItems, encItem]
  | .link c safe o, t, self => by
    simp only [valCalls, encItems, encItem]
    split <;> simp_all
  | .holderRef c h, t, self => by
    simp only [valCalls]
    split
    · exact sharedCalls_table c ‹_›
    · simp [encItems, encItem]
  | .pointer p vars, t, self => by
    simp only [valCalls]
    split
    · exact sharedCalls_table 12 ‹_›
    · simp only [List.cons_append, List.nil_append, encItems, encItem]
  | .array h rc tl th tli kvs, t, self => by
    simp only [valCalls]
    split
    · exact sharedCalls_table 8 ‹_›
    · simp only [List.cons_append, List.nil_append, encItems, encItem]
      exact elemCalls_table kvs _
  | .constArray h rc elems, t, self => by
    simp only [valCalls]
    split
    · exact sharedCalls_table 9 ‹_›
    · simp only [List.cons_append, List.nil_append, encItems, encItem]
      exact elemCalls_table elems _
theorem elemCalls_table : (es : List (Lbl × Value)) → (t : List Lbl) →
    (encItems t (elemCalls t es).2).1 = (elemCalls t es).1
  | [], t => by simp [elemCalls, encItems]
  | (s, v) :: es, t => by
    simp only [elemCalls]
    rw [encItems_append]
    simp only [valCalls_table v t s]
    exact elemCalls_table es _
end

theorem position_head_len (self : Lbl) (rest : List Item) (t' : List Lbl) :
    8 ≤ (encItems t' (Item.position self :: rest)).2.length := by
  simp [encItems, encItem, Prim.width]

/-- every `ArchiveInternal` starts with the position record of the variable: at least 8 bytes -/
theorem valCalls_enc_pos (v : Value) (t : List Lbl) (self : Lbl) : 8 ≤ (encItems t (valCalls t self v).2).2.length := by
  cases v with
  | constString o => cases o <;> exact position_head_len _ _ _
  | holderRef | pointer | array | constArray => simp only [valCalls]; split <;> exact position_head_len _ _ _
  | _ => exact position_head_len _ _ _

theorem elemCalls_enc_len : (es : List (Lbl × Value)) → (t : List Lbl) →
    es.length ≤ (encItems t (elemCalls t es).2).2.length
  | [], _ => by simp
  | (s, v) :: es, t => by
    have h1 := valCalls_enc_pos v t s
    have h2 := elemCalls_enc_len es (valCalls t s v).1
    simp only [elemCalls, encItems_append, valCalls_table, List.length_append, List.length_cons]
    omega

mutual
/-- as `rawItem`, for a value -/
def rawValue (T : List Lbl) : Value → Value
  | .link c s o => .link c s (if o = 0 then 0 else idxIn T o)
  | .holderRef c h => .holderRef c (if h = 0 then 0 else idxIn T h)
  | .constArray h rc es => .constArray h rc (rawElems T es)
  | .array h rc tl th tli kvs => .array h rc tl th tli (rawElems T kvs)
  | .pointer p vars => .pointer p (vars.map fun o => if o = 0 then 0 else idxIn T o)
  | .none => .none
  | .int v => .int v
  | .float v => .float v
  | .char v => .char v
  | .string bs => .string bs
  | .constString s => .constString s
  | .vector bs => .vector bs
def rawElems (T : List Lbl) : List (Lbl × Value) → List (Lbl × Value)
  | [] => []
  | (l, v) :: es => (l, rawValue T v) :: rawElems T es
end

mutual
def depth : Value → Nat
  | .constArray _ _ es => 1 + depthE es
  | .array _ _ _ _ _ kvs => 1 + depthE kvs
  | _ => 0
def depthE : List (Lbl × Value) → Nat
  | [] => 0
  | (_, v) :: es => max (depth v) (depthE es)
end

/-- a flattened entry list: an even number of variables, every key of a kind `Hash<ScriptVariable>` accepts -/
def pairsOk : List (Lbl × Value) → Bool
  | [] => true
  | [_] => false
  | (_, k) :: _ :: es => k.hashable && pairsOk es

mutual
/-- hypotheses of the value round trip (`t`: the writer's object table when the value is archived) -/
def WFValue (cfg : Cfg) (t : List Lbl) (self : Lbl) : Value → Prop
  | .int v => v < 2 ^ 64
  | .float v => v < 2 ^ 32
  | .char v => v < 256
  | .string bs => strAlloc bs.length < cfg.allocLimit ∧ (cfg.valueStrFresh = true ∨ bs ≠ [])
  | .constString (some bs) => strAlloc bs.length < cfg.allocLimit
  | .vector bs => bs.length = 12
  | .link c s _ => (c = 6 ∧ s = true) ∨ (c = 7 ∧ s = false) ∨ (c = 10 ∧ s = false) ∨ (c = 11 ∧ s = true)
  | .holderRef c h => (c = 8 ∨ c = 9 ∨ c = 12) ∧ h ≠ 0 ∧ h ∈ (addUnique t self).1
  | .pointer p vars => p ∉ (addUnique t self).1 ∧ vars.length < 2 ^ 32 ∧ vars.length * 8 < cfg.allocLimit
  | .array h rc tl th tli kvs =>
    h ∉ (addUnique t self).1 ∧ rc < 2 ^ 32 ∧ tl ≠ 0 ∧ tl < 2 ^ 32 ∧ th < 2 ^ 32 ∧ tli < 2 ^ 16 ∧ kvs.length / 2 < 2 ^ 32 ∧
      tl * 8 < cfg.allocLimit ∧ pairsOk kvs = true ∧
      -- as `WFSet.bounds`
      (let L := (encItems (addUnique (addUnique t self).1 h).1 (elemCalls (addUnique (addUnique t self).1 h).1 kvs).2).2.length
       kvs.length / 2 ≤ 6 + L ∧ tl ≤ 6 + L) ∧
      WFElems cfg (addUnique (addUnique t self).1 h).1 kvs
  | .constArray h rc es =>
    h ∉ (addUnique t self).1 ∧ rc < 2 ^ 32 ∧ es.length < 2 ^ 32 ∧ (es.length + 1) * svSize < cfg.allocLimit ∧
      WFElems cfg (addUnique (addUnique t self).1 h).1 es
  | _ => True
def WFElems (cfg : Cfg) (t : List Lbl) : List (Lbl × Value) → Prop
  | [] => True
  | (s, v) :: es => WFValue cfg t s v ∧ WFElems cfg (valCalls t s v).1 es
end

/-- position of the variable itself, then the kind byte: what every `ArchiveInternal` starts with -/
theorem Honest.kind {T t : List Lbl} (cfg : Cfg) (hT : T.length < nullIdx) (hA : T.length * 8 < cfg.allocLimit)
    {self : Lbl} {c : Nat} {k : Bytes → RS → Res (Value × Supply)} {calls : List Item} {a : Value × Supply}
    (h : Honest T (k (le (Prim.byte).width c)) (addUnique t self).1 calls a) :
    Honest T (fun s => (readData cfg (Prim.pos).tag 4 (some (zeros 4)) s).bind fun pb s =>
        (addAt cfg (unle pb) self s).bind fun _ s => (readData cfg (Prim.byte).tag 1 none s).bind k)
      t (.position self :: .prim .byte c :: calls) a :=
  Honest.position cfg hT hA _ (Honest.cons (Honest.data cfg .byte c none) h)

theorem Honest.guard {T t : List Lbl} {α : Type} (cfg : Cfg) {r : RS → Res α} {c : List Item} {a : α}
    (h : Honest T r t c a) : Honest T (fun s => guardKind cfg (r s)) t c a := by
  intro tail pos R F hp hR
  show guardKind cfg (r _) = _
  rw [h tail pos R F hp hR]; rfl

theorem readPlainPtrs_honest {T : List Lbl} (hT : T.length < nullIdx) (cfg : Cfg) (ls : List Lbl) (t : List Lbl) :
    Honest T (readPlainPtrs cfg ls.length) t (ls.map (.ptr false ·)) (ls.map (rawPtr T)) :=
  Honest.ptrs hT cfg false (readPlainPtrs cfg) (fun _ => rfl) (fun _ _ => rfl) ls t

theorem rawValue_hashable (T : List Lbl) (v : Value) : (rawValue T v).hashable = v.hashable := by
  cases v <;> simp [rawValue, Value.hashable]

/-- the statement of the value round trip for one value and one amount of fuel -/
def RVE (cfg : Cfg) (T : List Lbl) (v : Value) (fuel : Nat) : Prop :=
  ∀ (self : Lbl) (t : List Lbl) (sup' : Supply), depth v < fuel → WFValue cfg t self v →
    (encItems t (valCalls t self v).2).2.length < 2 ^ 63 →
    Honest T (readValue cfg fuel self (supplyOf v ++ sup')) t (valCalls t self v).2 (rawValue T v, sup')

end Morfuse.Archive
