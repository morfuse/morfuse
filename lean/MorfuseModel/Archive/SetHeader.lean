import MorfuseModel.Archive.Value
import MorfuseModel.Archive.Lemmas
/-! `readSet` and `readVars` are `readSetHeader` word for word (the third transcription of the header, the Array branch of
`readValue`, is met inside `rve_array`). -/
namespace Morfuse.Archive

theorem readSet_eq (cfg : Cfg) : readSet cfg = readSetHeader cfg fun tl th cnt tli s =>
    (readEntries cfg tl cnt s).bind fun es s => .ok ⟨tl, th, tli, es⟩ s := rfl

theorem readVars_eq (cfg : Cfg) (fuel : Nat) (specs : List (Lbl × Supply)) :
    readVars cfg fuel specs = readSetHeader cfg fun tl th cnt tli s =>
      (readVarEntries cfg (readValue cfg fuel) cnt specs s).bind fun es s =>
        .ok ([.item (.prim .u32 tl), .item (.prim .u32 th), .item (.prim .u32 cnt), .item (.prim .u16 tli)] ++ es) s :=
  rfl

end Morfuse.Archive
