import MorfuseModel.Archive.Value
/-!
# The string dictionary on the reading side (`src/Common/StringDictionary.cpp`)

A ConstString script value (and every other `const_str` archived through
`StringDictionary::ArchiveString`) is stored in the archive by its **text**; on the load side the text read
from the stream becomes a `const_str` of the dictionary of the *reading* script context:

```
str value;  ::Archive(arc, value);  constStringValue = Add(value);
```

The dictionary never touches the stream and `Add` never fails, so the load side is modelled as a pass over
the texts the stream reader (`readValue`, `Value.constString (some text)`) delivered, in load order, threaded
through the reading dictionary `D` — a **parameter**: the archive may be loaded in a session whose dictionary
has never seen the strings, or already holds some of them, or holds other strings at the ids the writer used.
Which call the load side makes (`Add` / `Get`) is read from the source on every run
(`Gen.Archive.dictLoadAdds`); `Dict.load_eq_add` is where a change shows.
-/
namespace Morfuse.Archive

/-- `StringDictionary` (`con::arrayset<str, str>`): the text of id `i ≥ 1` is `d[i - 1]`;
    id `0` is `const_str::None()` -/
abbrev Dict := List Bytes

/-- `Add(text)` (`addKeyIndex`): the id of the text, interned at the next free id when it is new -/
def Dict.add (d : Dict) (bs : Bytes) : Dict × Nat :=
  if bs ∈ d then (d, d.idxOf bs + 1) else (d ++ [bs], d.length + 1)

/-- `Get(text)` (`findKeyIndex`): `const_str::None()` when the dictionary does not hold the text -/
def Dict.find (d : Dict) (bs : Bytes) : Nat := if bs ∈ d then d.idxOf bs + 1 else 0

/-- `Get(id)`: the text an id denotes -/
def Dict.text (d : Dict) (id : Nat) : Option Bytes := if id = 0 then none else d[id - 1]?

/-- load side of `StringDictionary::ArchiveString` for a text read from the archive -/
def Dict.load (d : Dict) (bs : Bytes) : Dict × Nat :=
  if Gen.Archive.dictLoadAdds then d.add bs else (d, d.find bs)

/-- the texts of a whole load, in load order -/
def Dict.loadAll (d : Dict) : List Bytes → Dict × List Nat
  | [] => (d, [])
  | bs :: r =>
    let a := d.load bs
    let b := Dict.loadAll a.1 r
    (b.1, a.2 :: b.2)

mutual
/-- texts handed to the dictionary while one value is loaded (`hasString ≠ 0` only), in call order -/
def constTexts : Value → List Bytes
  | .constString (some bs) => [bs]
  | .constArray _ _ elems => constTextsElems elems
  | .array _ _ _ _ _ kvs => constTextsElems kvs
  | _ => []
def constTextsElems : List (Lbl × Value) → List Bytes
  | [] => []
  | (_, v) :: es => constTexts v ++ constTextsElems es
end

def constTextsW : List WItem → List Bytes
  | [] => []
  | .item _ :: ws => constTextsW ws
  | .value _ v :: ws => constTexts v ++ constTextsW ws
  | .named _ none v :: ws => constTexts v ++ constTextsW ws
  | .named _ (some k) v :: ws => k :: (constTexts v ++ constTextsW ws)

/-- what a load leaves behind: the values (const strings by the text the archive held), the reading
    dictionary afterwards, and the `const_str` each ConstString variable received, in load order -/
structure Loaded where
  items : List WItem
  dict : Dict
  ids : List Nat
  deriving Repr

/-- `decodeW` in a script context whose dictionary is `D` -/
def decodeWD (cfg : Cfg) (classes : List Bytes) (info : Info) (sch : List WSch) (D : Dict) (bytes : Bytes) :
    Except Err Loaded :=
  match decodeW cfg classes info sch bytes with
  | .ok ws => .ok { items := ws, dict := (D.loadAll (constTextsW ws)).1, ids := (D.loadAll (constTextsW ws)).2 }
  | .error e => .error e

theorem Dict.load_eq_add (d : Dict) (bs : Bytes) : d.load bs = d.add bs := by
  simp [Dict.load, Gen.Archive.dictLoadAdds]

theorem Dict.add_prefix (d : Dict) (bs : Bytes) : d <+: (d.add bs).1 := intern_prefix d bs

theorem Dict.add_text (d : Dict) (bs : Bytes) : (d.add bs).1.text (d.add bs).2 = some bs := by
  unfold Dict.add; split
  · rename_i h
    have hl := List.idxOf_lt_length_of_mem h
    simp [Dict.text, List.getElem?_eq_getElem hl]
  · simp [Dict.text]

theorem Dict.text_mono {d d' : Dict} (hp : d <+: d') {i : Nat} {bs : Bytes} (h : d.text i = some bs) :
    d'.text i = some bs := by
  obtain ⟨q, rfl⟩ := hp
  unfold Dict.text at h ⊢
  split at h
  · simp at h
  · rename_i h0
    simp only [h0, ↓reduceIte]
    have hl : i - 1 < d.length := by
      rcases Nat.lt_or_ge (i - 1) d.length with h1 | h1
      · exact h1
      · rw [List.getElem?_eq_none h1] at h; simp at h
    rw [List.getElem?_append_left hl]; exact h

theorem Dict.add_mem (d : Dict) (bs : Bytes) : bs ∈ (d.add bs).1 := mem_intern d bs

theorem Dict.add_snd (d : Dict) (bs : Bytes) : (d.add bs).2 = (d.add bs).1.idxOf bs + 1 := intern_snd d bs

/-- once a text is interned its id never changes, however the dictionary grows -/
theorem Dict.add_stable {d d' : Dict} (bs : Bytes) (hp : (d.add bs).1 <+: d') : (d'.add bs).2 = (d.add bs).2 := by
  have e1 : (d'.add bs).2 = d'.idxOf bs + 1 := by simp [Dict.add, hp.subset (Dict.add_mem d bs)]
  rw [e1]; exact (intern_idx hp).symm

theorem Dict.loadAll_prefix : (ts : List Bytes) → (d : Dict) → d <+: (d.loadAll ts).1
  | [], d => List.prefix_refl d
  | bs :: r, d => by
    simp only [Dict.loadAll, Dict.load_eq_add]
    exact (Dict.add_prefix d bs).trans (Dict.loadAll_prefix r _)

theorem Dict.loadAll_ids : (ts : List Bytes) → (d : Dict) →
    (d.loadAll ts).2 = ts.map fun bs => (d.loadAll ts).1.idxOf bs + 1
  | [], _ => rfl
  | bs :: r, d => by
    simp only [Dict.loadAll, Dict.load_eq_add, List.map_cons, List.cons.injEq]
    exact ⟨intern_idx (Dict.loadAll_prefix r _), Dict.loadAll_ids r _⟩

theorem Dict.loadAll_length (ts : List Bytes) (d : Dict) : (d.loadAll ts).2.length = ts.length := by
  rw [Dict.loadAll_ids, List.length_map]

/-- every id handed out denotes, in the final dictionary, the text that was loaded -/
theorem Dict.loadAll_text : (ts : List Bytes) → (d : Dict) →
    (d.loadAll ts).2.map ((d.loadAll ts).1.text) = ts.map some
  | [], _ => rfl
  | bs :: r, d => by
    simp only [Dict.loadAll, Dict.load_eq_add, List.map_cons, List.cons.injEq]
    exact ⟨Dict.text_mono (Dict.loadAll_prefix r _) (Dict.add_text d bs), Dict.loadAll_text r _⟩

theorem Dict.loadAll_keeps (ts : List Bytes) (d : Dict) {i : Nat} {bs : Bytes} (h : d.text i = some bs) :
    (d.loadAll ts).1.text i = some bs :=
  Dict.text_mono (Dict.loadAll_prefix ts d) h

theorem Dict.loadAll_known (ts : List Bytes) (d : Dict) (k : Nat) (bs : Bytes) (hm : bs ∈ d)
    (h : ts[k]? = some bs) : (d.loadAll ts).2[k]? = some (d.idxOf bs + 1) := by
  rw [Dict.loadAll_ids, List.getElem?_map, h, Option.map_some, idxOf_of_prefix (Dict.loadAll_prefix ts d) hm]

/-- two loads of the same text yield the same `const_str`, two loads of different texts different ones -/
theorem Dict.loadAll_ids_eq_iff (ts : List Bytes) (d : Dict) (i j : Nat) :
    (d.loadAll ts).2[i]? = (d.loadAll ts).2[j]? ↔ ts[i]? = ts[j]? := by
  constructor
  · intro h
    have ht : ∀ k, ((d.loadAll ts).2[k]?).map ((d.loadAll ts).1.text) = (ts[k]?).map some := fun k => by
      rw [← List.getElem?_map, Dict.loadAll_text, List.getElem?_map]
    have := ht i
    rw [h, ht j] at this
    cases hi : ts[i]? <;> cases hj : ts[j]? <;> simp_all
  · intro h
    rw [Dict.loadAll_ids, List.getElem?_map, List.getElem?_map, h]

end Morfuse.Archive
