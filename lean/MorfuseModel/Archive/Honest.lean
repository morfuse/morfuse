import MorfuseModel.Archive.Robust
/-! `Honest T r t c a`: the reader `r`, run where the stream holds what the writer (table `t` before, still a prefix of `T`
after) produced for the calls `c`, returns `a`, consumes exactly those bytes, registers the labels of `c` and queues its
fix-ups: what `Rob` says of the undamaged stream (`Honest.ofRob`).  The data-directed readers (`Tables.lean`, `Value.lean`)
are built from it and not from `Rob`: no substitution theorem speaks of their records, so they have no layout. -/
namespace Morfuse.Archive

theorem encItems_append (t : List Lbl) (a b : List Item) :
    encItems t (a ++ b) = ((encItems (encItems t a).1 b).1, (encItems t a).2 ++ (encItems (encItems t a).1 b).2) := by
  induction a generalizing t with
  | nil => simp [encItems]
  | cons i is ih => simp [encItems, ih, List.append_assoc]

theorem newFix_append (T : List Lbl) (a b : List Item) : newFix T (a ++ b) = newFix T b ++ newFix T a := by
  induction a with
  | nil => simp [newFix]
  | cons i is ih => simp [newFix, ih, List.append_assoc]

theorem regLabels_append (a b : List Item) : regLabels (a ++ b) = regLabels a ++ regLabels b := by
  induction a with
  | nil => simp [regLabels]
  | cons i is ih => simp [regLabels, ih, List.append_assoc]

def Honest (T : List Lbl) {α : Type} (r : RS → Res α) (t : List Lbl) (c : List Item) (a : α) : Prop :=
  ∀ (tail : Bytes) (pos : Nat) (R : List Lbl) (F : List Nat),
    (encItems t c).1 <+: T → R.length = T.length →
    r ⟨(encItems t c).2 ++ tail, pos, true, R, F⟩ =
      .ok a ⟨tail, pos + (encItems t c).2.length, true, (regLabels c).foldl (setL T) R, newFix T c ++ F⟩

theorem Honest.bind {T t : List Lbl} {α β : Type} {r1 : RS → Res α} {c1 : List Item} {a1 : α}
    {r2 : α → RS → Res β} {c2 : List Item} {a2 : β}
    (h1 : Honest T r1 t c1 a1) (h2 : Honest T (r2 a1) (encItems t c1).1 c2 a2) :
    Honest T (fun s => (r1 s).bind r2) t (c1 ++ c2) a2 := by
  intro tail pos R F hp hR
  rw [encItems_append] at hp ⊢
  simp only at hp ⊢
  rw [List.append_assoc, h1 _ pos R F ((encItems_prefix c2 _).trans hp) hR]
  simp only [Res.bind]
  rw [h2 tail _ _ _ hp (by simp [hR])]
  simp [newFix_append, regLabels_append, List.foldl_append, Nat.add_assoc]

theorem Honest.cons {T t : List Lbl} {α β : Type} {r1 : RS → Res α} {i : Item} {a1 : α}
    {r2 : α → RS → Res β} {c : List Item} {a2 : β}
    (h1 : Honest T r1 t [i] a1) (h2 : Honest T (r2 a1) (encItem t i).1 c a2) :
    Honest T (fun s => (r1 s).bind r2) t (i :: c) a2 :=
  Honest.bind h1 h2

theorem Honest.congrOn {T t : List Lbl} {α : Type} {r r' : RS → Res α} {c : List Item} {a : α}
    (h : ∀ (tail : Bytes) (pos : Nat) (R : List Lbl) (F : List Nat),
      r ⟨(encItems t c).2 ++ tail, pos, true, R, F⟩ = r' ⟨(encItems t c).2 ++ tail, pos, true, R, F⟩)
    (h' : Honest T r' t c a) : Honest T r t c a := by
  intro tail pos R F hp hR
  rw [h]; exact h' tail pos R F hp hR

theorem Honest.congr {T t : List Lbl} {α : Type} {r r' : RS → Res α} {c : List Item} {a : α}
    (h : ∀ s, r s = r' s) (h' : Honest T r' t c a) : Honest T r t c a :=
  Honest.congrOn (fun _ _ _ _ => h _) h'

theorem Honest.pure {T t : List Lbl} {α : Type} (a : α) : Honest T (fun s => Res.ok a s) t [] a := by
  intro tail pos R F _ _
  simp [encItems, newFix, regLabels]

theorem Honest.map {T t : List Lbl} {α β : Type} {r : RS → Res α} {c : List Item} {a : α} (f : α → β)
    (h : Honest T r t c a) : Honest T (fun s => (r s).bind fun x s => .ok (f x) s) t c (f a) := by
  have := Honest.bind h (Honest.pure (f a)) (r2 := fun x s => .ok (f x) s)
  rwa [List.append_nil] at this

theorem Honest.ofRob {T t : List Lbl} {α : Type} {r : RS → Res α} {lay : List PC} {c : List Item} {a : α}
    (h : (encItems t c).1 <+: T → Rob (fun _ => False) T True r lay (encItems t c).2 a (regLabels c) (newFix T c)) :
    Honest T r t c a :=
  fun tail pos R F hp hR => (h hp).reads tail pos R F hR

theorem Honest.single {T t : List Lbl} {α : Type} {r : RS → Res α} {lay : List PC} {i : Item} {a : α}
    (h : (encItem t i).1 <+: T → Rob (fun _ => False) T True r lay (encItem t i).2 a (regLabelsItem i) (newFixItem T i)) :
    Honest T r t [i] a :=
  Honest.ofRob (lay := lay) (by simpa [encItems, regLabels, newFix] using h)

theorem Honest.data {T t : List Lbl} (cfg : Cfg) (p : Prim) (v : Nat) (old : Option Bytes) :
    Honest T (readData cfg p.tag p.width old) t [.prim p v] (le p.width v) :=
  Honest.single fun _ => Rob.data cfg (Prim.tag_lt p) old (le_length _ _) (cx := .data) id

theorem Honest.prim {T t : List Lbl} (cfg : Cfg) {p : Prim} {v : Nat} (hv : v < 256 ^ p.width) :
    Honest T (readPrim cfg p) t [.prim p v] v :=
  Honest.single fun _ => Rob.prim cfg hv (cx := .data) id

theorem Honest.raw {T t : List Lbl} (cfg : Cfg) {bs : Bytes} {n : Nat} (hn : bs.length = n) (old : Option Bytes) :
    Honest T (readData cfg rawTag n old) t [.raw bs] bs :=
  Honest.single fun _ => Rob.data cfg (tagOf_lt _) old hn (cx := .data) id

theorem Honest.str {T t : List Lbl} (cfg : Cfg) {bs : Bytes} (init : Bytes) (hl : bs.length < 2 ^ 64)
    (ha : strAlloc bs.length < cfg.allocLimit) (he : bs.length = 0 → init = []) :
    Honest T (readStr cfg init) t [.str bs] bs :=
  Honest.single fun _ => Rob.str cfg init id (x := .data) id hl ha he

theorem Honest.ptr {T t : List Lbl} (hT : T.length < nullIdx) (cfg : Cfg) (safe : Bool) (o : Lbl) :
    Honest T (readPtr cfg safe) t [.ptr safe o] (rawPtr T o) :=
  Honest.single fun hp => Rob.ptr cfg .undamaged hT hp

theorem Honest.position {T t : List Lbl} {β : Type} (cfg : Cfg) (hT : T.length < nullIdx)
    (hA : T.length * 8 < cfg.allocLimit) (old : Option Bytes) {o : Lbl} {r2 : Unit → RS → Res β} {c : List Item} {a : β}
    (h2 : Honest T (r2 ()) (addUnique t o).1 c a) :
    Honest T (fun s => (readData cfg (Prim.pos).tag 4 old s).bind fun pb s => (addAt cfg (unle pb) o s).bind r2)
      t (.position o :: c) a :=
  Honest.congr (fun _ => (Res.bind_assoc _ _ _).symm)
    (Honest.cons (Honest.single fun hp => Rob.position cfg .undamaged hT hA old hp) h2)

theorem Honest.item {T : List Lbl} (cfg : Cfg) (classes : List Bytes) (hT : T.length < nullIdx)
    (hA : T.length * 8 < cfg.allocLimit) (it : Item) (t : List Lbl) (hw : WFItem cfg classes it)
    (hl : (encItem t it).2.length < 2 ^ 63) : Honest T (readItem cfg classes (schemaOfItem it)) t [it] (rawItem T it) :=
  Honest.single fun hp => Rob.item cfg classes .undamaged hT hA it t hw hl hp

theorem Honest.items {T : List Lbl} (cfg : Cfg) (classes : List Bytes) (hT : T.length < nullIdx)
    (hA : T.length * 8 < cfg.allocLimit) (w : List Item) (t : List Lbl) (hw : WFItems cfg classes w)
    (hl : (encItems t w).2.length < 2 ^ 63) : Honest T (readItems cfg classes (schemaOf w)) t w (rawItems T w) :=
  Honest.ofRob fun hp => Rob.items cfg classes .undamaged hT hA w t hw hl hp

theorem Honest.whole {α : Type} {cfg : Cfg} {info : Info} {c : List Item} {r : RS → Res α} {a : α}
    (hr : Honest (encItems [] c).1 r [] c a) (count : (encItems [] c).1.length < nullIdx)
    (table : (encItems [] c).1.length * 8 < cfg.allocLimit) (size : (encode info c).length < 2 ^ 63)
    (version : info.version < 65536) (name : strAlloc info.name.length < cfg.allocLimit) :
    ((readHeader cfg info (RS.init (encode info c))).bind fun _ s => r s) =
      .ok a ⟨[], (encode info c).length, true,
        (regLabels c).foldl (setL (encItems [] c).1) (List.replicate (encItems [] c).1.length 0),
        newFix (encItems [] c).1 c⟩ := by
  have hnull := nullIdx_lt
  have htl := encItems_table_le c []
  simp only [encode, List.length_append, encHeader_length] at size
  have hnl : info.name.length < 2 ^ 64 := str_len_of_enc (Nat.le_refl _) (by omega)
  simp only [encode]
  rw [(readHeader_dmg cfg info .undamaged (fun h => h.elim) version (by omega) table name hnl
    (Dmg.refl (by simp [encHeader, layPrim, layStr_length]; omega)) _ (by simp at htl; omega)).1 rfl]
  have := hr [] (encHeader info (encItems [] c).1.length).length (List.replicate (encItems [] c).1.length 0) []
    (List.prefix_refl _) (by simp)
  simp only [List.append_nil] at this
  simp [Res.bind, this]

theorem closeOk_whole (c : List Item) (rest : Bytes) (pos : Nat) (g : Bool) :
    closeOk ⟨rest, pos, g, (regLabels c).foldl (setL (encItems [] c).1) (List.replicate (encItems [] c).1.length 0),
      newFix (encItems [] c).1 c⟩ = true := by
  simp only [closeOk, List.all_eq_true, decide_eq_true_eq, foldl_setL_length, List.length_replicate]
  exact newFix_bounds _ c [] (List.prefix_refl _)

theorem table_whole (c : List Item) {o : Lbl} (ho : o ∈ regLabels c) :
    ((regLabels c).foldl (setL (encItems [] c).1) (List.replicate (encItems [] c).1.length 0)).getD
      ((encItems [] c).1.idxOf o) 0 = o :=
  foldl_setL_get _ o (regLabels_subset c [] o ho) _ _ (regLabels_subset c []) (by simp) (.inr ho)

theorem readAll_encode (cfg : Cfg) (classes : List Bytes) (info : Info) (w : List Item)
    (hw : WF cfg classes info w) :
    readAll cfg classes info (schemaOf w) (encode info w) =
      .ok (rawItems (encItems [] w).1 w)
        ⟨[], (encode info w).length, true,
          (regLabels w).foldl (setL (encItems [] w).1) (List.replicate (encItems [] w).1.length 0),
          newFix (encItems [] w).1 w⟩ :=
  Honest.whole (Honest.items cfg classes hw.count hw.table w [] hw.items (by
    have := hw.size; simp only [encode, List.length_append] at this; omega)) hw.count hw.table hw.size hw.version hw.name

/-- the count in front of `n` elements, tested against what the stream still holds (`con::Archive(arc, container, func)`,
    `ScriptConstArrayHolder::Archive`) -/
theorem Honest.counted {T t : List Lbl} {α : Type} (cfg : Cfg) {n : Nat} (hn : n < 2 ^ 32) {k : Bytes → RS → Res α}
    {r : RS → Res α} {c : List Item} {a : α} (hlen : n ≤ (encItems t c).2.length)
    (hk : ∀ nb s, unle nb = n → s.good = true → lenGe s.rest n = true → k nb s = r s) (h : Honest T r t c a) :
    Honest T (fun s => (readData cfg (Prim.u32).tag 4 none s).bind k) t (.prim .u32 n :: c) a :=
  Honest.cons (Honest.data cfg .u32 n none) (Honest.congrOn (fun tail _ _ _ =>
    hk _ _ (unle_le_of_lt (by simpa [Prim.width] using hn)) rfl ((lenGe_iff _ _).mpr (by
      simp only [encItem_prim, List.length_append]; omega))) h)

theorem Honest.setHeader {T t : List Lbl} {α : Type} (cfg : Cfg) {k : Nat → Nat → Nat → Nat → RS → Res α}
    {tl th cnt tli : Nat} {c : List Item} {a : α} (htl : tl ≠ 0 ∧ tl < 2 ^ 32 ∧ tl * 8 < cfg.allocLimit)
    (hth : th < 2 ^ 32) (hcnt : cnt < 2 ^ 32) (htli : tli < 2 ^ 16)
    (hlen : cnt ≤ (encItems t (.prim .u16 tli :: c)).2.length ∧ tl ≤ (encItems t (.prim .u16 tli :: c)).2.length)
    (h : Honest T (k tl th cnt tli) t c a) :
    Honest T (readSetHeader cfg k) t (.prim .u32 tl :: .prim .u32 th :: .prim .u32 cnt :: .prim .u16 tli :: c) a := by
  have u1 : unle (le (Prim.u32).width tl) = tl := unle_le_of_lt (by simpa [Prim.width] using htl.2.1)
  have u2 : unle (le (Prim.u32).width th) = th := unle_le_of_lt (by simpa [Prim.width] using hth)
  have u3 : unle (le (Prim.u32).width cnt) = cnt := unle_le_of_lt (by simpa [Prim.width] using hcnt)
  have u4 : unle (le (Prim.u16).width tli) = tli := unle_le_of_lt (by simpa [Prim.width] using htli)
  have hna : ¬ (tl ≠ 1 ∧ tl * 8 ≥ cfg.allocLimit) := by omega
  have htl0 : decide (tl = 0) = false := by simpa using htl.1
  -- once the counts are known to fit the stream, the reader is `r'`
  refine Honest.cons (Honest.data cfg .u32 tl none) (Honest.cons (Honest.data cfg .u32 th none)
    (Honest.cons (Honest.data cfg .u32 cnt none) (Honest.congrOn
      (r' := fun s => (readData cfg (Prim.u16).tag 2 (some (zeros 2)) s).bind fun tlib s => k tl th cnt (unle tlib) s)
      (fun tail pos R F => ?_)
      (Honest.cons (Honest.data cfg .u16 tli _) (Honest.congr (fun s => ?_) h)))))
  · obtain ⟨b1, b2⟩ := hlen
    have g1 : lenGe ((encItems t (.prim .u16 tli :: c)).2 ++ tail) cnt = true := by
      rw [lenGe_iff, List.length_append]; omega
    have g2 : lenGe ((encItems t (.prim .u16 tli :: c)).2 ++ tail) tl = true := by
      rw [lenGe_iff, List.length_append]; omega
    simp only [encItem_prim, u1, u2, u3, g1, g2, htl0, hna, Bool.not_true, Bool.or_self, Bool.false_eq_true, ↓reduceIte]
  · simp only [u4]

theorem ptrs_enc_length (safe : Bool) : (ls : List Lbl) → (t : List Lbl) →
    (encItems t (ls.map (.ptr safe ·))).2.length = 8 * ls.length
  | [], t => by simp [encItems]
  | o :: ls, t => by
    simp only [List.map_cons, encItems, List.length_append, ptrs_enc_length safe ls, List.length_cons,
      encItem_ptr_length]
    omega

/-- `rd`: `readPtrs` or `readPlainPtrs` -/
theorem Honest.ptrs {T : List Lbl} (hT : T.length < nullIdx) (cfg : Cfg) (safe : Bool) (rd : Nat → RS → Res (List Nat))
    (h0 : ∀ s, rd 0 s = .ok [] s)
    (hs : ∀ n s, rd (n + 1) s = (readPtr cfg safe s).bind fun i s => (rd n s).bind fun is s => .ok (i :: is) s) :
    (ls : List Lbl) → (t : List Lbl) →
    Honest T (rd ls.length) t (ls.map (.ptr safe ·)) (ls.map (rawPtr T))
  | [], _ => Honest.congr h0 (Honest.pure _)
  | o :: ls, _ =>
    Honest.congr (hs ls.length) (Honest.cons (Honest.ptr hT cfg safe o)
      (Honest.map _ (Honest.ptrs hT cfg safe rd h0 hs ls _)))

end Morfuse.Archive
