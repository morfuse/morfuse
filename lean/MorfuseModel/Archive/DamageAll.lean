import MorfuseModel.Archive.Robust
import MorfuseModel.Archive.Safety
import MorfuseModel.Archive.Honest
import MorfuseModel.Archive.Trunc
/-! `Rob.item` and `readAll_dmg` for a single replaced byte, and that the repaired reader's error is a reported one (`Safety`); `readAll_truncated`: the same for a cut archive. -/
namespace Morfuse.Archive

theorem readItem_damaged (cfg : Cfg) (classes : List Bytes) (T : List Lbl)
    (hT : T.length < nullIdx) (hA : T.length * 8 < cfg.allocLimit) :
    (it : Item) → (t : List Lbl) → (tail : Bytes) → (pos : Nat) → (R : List Lbl) → (F : List Nat) →
    (q : Nat) → (b old : UInt8) → (c : PC) →
    (encItem t it).1 <+: T → WFItem cfg classes it → R.length = T.length → (encItem t it).2.length < 2 ^ 63 →
    (layItem it)[q]? = some c → c.det → (encItem t it).2[q]? = some old → bcond c old b →
    ∃ e s', readItem cfg classes (schemaOfItem it) ⟨(encItem t it).2.set q b ++ tail, pos, true, R, F⟩ = .err e s' :=
  fun it t tail pos R F _ _ _ c hp hw hR hl hlay hc ho hb =>
    (Rob.item (ok := (· = c)) cfg classes (.of fun _ h => h ▸ Or.inl hc) hT hA it t hw hl hp).detects
      (Dmg.set (layItem_length it t) hlay rfl ho hb) (Dmg.set_ne ho hb) tail pos R F hR

theorem layout_length (info : Info) (w : List Item) : (layout info w).length = (encode info w).length := by
  simp [layout, encode, encHeader, layPrim, layStr_length, layItems_length w []]
  omega

theorem readAll_damaged (cfg : Cfg) (classes : List Bytes) (info : Info) (w : List Item)
    (hw : WF cfg classes info w) (q : Nat) (b old : UInt8) (c : PC)
    (hlay : (layout info w)[q]? = some c) (hc : c.detAll) (hv : cfg.versionOr = true ∨ c ≠ .ver)
    (ho : (encode info w)[q]? = some old) (hb : bcond c old b) :
    ∃ e s', readAll cfg classes info (schemaOf w) ((encode info w).set q b) = .err e s' :=
  readAll_dmg (ok := (· = c)) cfg classes info w hw (.of fun _ h => h ▸ hc) (fun h => hv.resolve_right fun h' => h' h.symm)
    (Dmg.set (layout_length info w) hlay rfl ho hb) (Dmg.set_ne ho hb)

theorem damage_detected (cfg : Cfg) (hf : cfg.allFixed) (classes : List Bytes) (info : Info) (w : List Item)
    (hw : WF cfg classes info w) (hlim : (encode info w).length + 25 < cfg.allocLimit) {ok : PC → Prop} (hu : Undet ok)
    {bs' : Bytes} (hD : Dmg ok (layout info w) (encode info w) bs') (hne : bs' ≠ encode info w) :
    ∃ e, decode cfg classes info (schemaOf w) bs' = .error e ∧ e.reported = true := by
  obtain ⟨e, s', h⟩ := readAll_dmg cfg classes info w hw hu (fun _ => hf.2.1) hD hne
  exact ⟨e, decode_of_err cfg hf classes info (schemaOf w) _ (by rw [hD.length.2]; exact hlim) e s' h⟩

theorem substitution_detected (cfg : Cfg) (hf : cfg.allFixed) (classes : List Bytes) (info : Info) (w : List Item)
    (hw : WF cfg classes info w) (hlim : (encode info w).length + 25 < cfg.allocLimit)
    (q : Nat) (b old : UInt8) (c : PC)
    (hlay : (layout info w)[q]? = some c) (hc : c.detAll) (ho : (encode info w)[q]? = some old)
    (hb : bcond c old b) :
    ∃ e, decode cfg classes info (schemaOf w) ((encode info w).set q b) = .error e ∧ e.reported = true :=
  damage_detected cfg hf classes info w hw hlim (ok := (· = c)) (.of fun _ h => h ▸ hc)
    (Dmg.set (layout_length info w) hlay rfl ho hb) (Dmg.set_ne ho hb)

/-- A cut archive stops the run of the reading calls, for every reader that checks the stream after the read (the
    other three switches are not needed): a run that completed on the prefix would have consumed at most `k` bytes of
    the whole archive (`readAll_TO`), and the run on the whole archive consumes all of it (`readAll_encode`). -/
theorem readAll_truncated (cfg : Cfg) (hc : cfg.checkAfterRead = true) (classes : List Bytes) (info : Info)
    (w : List Item) (hw : WF cfg classes info w) (k : Nat) (hk : k < (encode info w).length) :
    ∃ e s', readAll cfg classes info (schemaOf w) ((encode info w).take k) = .err e s' := by
  cases hr : readAll cfg classes info (schemaOf w) ((encode info w).take k) with
  | err e s2 => exact ⟨e, s2, rfl⟩
  | ok a s2 =>
    obtain ⟨s', h1, _, h3, _⟩ := readAll_TO cfg hc classes info (schemaOf w) (encode info w) k a s2 hr
    rw [readAll_encode cfg classes info w hw] at h1
    simp only [Res.ok.injEq] at h1
    rw [← h1.2] at h3
    simp [RS.init] at h3
    omega

end Morfuse.Archive
