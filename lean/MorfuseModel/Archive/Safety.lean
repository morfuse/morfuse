import MorfuseModel.Archive.Walk
/-! Safety of the repaired reader on **arbitrary** bytes (C11): with the four switches of `Cfg.allFixed` on, no run of the
reader model reaches an undefined-behaviour outcome, and the pending fix-ups always point inside the
object table (so `Close`, which also runs while an exception unwinds, stays inside it). -/
namespace Morfuse.Archive

/-- the four reader defects outside `readValue` repaired -/
def Cfg.allFixed (cfg : Cfg) : Prop :=
  cfg.checkAfterRead = true ∧ cfg.versionOr = true ∧ cfg.indexChecked = true ∧ cfg.lengthChecked = true

/-- what stays true of the reader state: fix-ups inside the table; table and the unread rest of the stream
    small enough to be allocated -/
def Inv (cfg : Cfg) (s : RS) : Prop :=
  (∀ i ∈ s.fixups, 1 ≤ i ∧ i ≤ s.table.length) ∧ s.table.length * 8 < cfg.allocLimit ∧
    s.rest.length + 25 < cfg.allocLimit

/-- a result that is either a value or an `ArchiveErrors` exception, in a state satisfying `I` -/
def SafeI {α : Type} (I : RS → Prop) (r : Res α) : Prop :=
  match r with
  | .ok _ s => I s
  | .err e s => e.reported = true ∧ I s

abbrev Safe {α : Type} (cfg : Cfg) (r : Res α) : Prop := SafeI (Inv cfg) r

theorem SafeI.bind {α β : Type} {I : RS → Prop} {r : Res α} {f : α → RS → Res β}
    (h : SafeI I r) (hf : ∀ a s, I s → SafeI I (f a s)) : SafeI I (r.bind f) := by
  cases r with
  | ok a s => exact hf a s h
  | err e s => exact h

theorem SafeI.mono {α : Type} {I J : RS → Prop} {r : Res α} (hIJ : ∀ s, I s → J s) (h : SafeI I r) : SafeI J r := by
  cases r with
  | ok a s => exact hIJ s h
  | err e s => exact ⟨h.1, hIJ s h.2⟩

/-- an invariant that only looks at the table, the fix-ups and (monotonically) the unread length, and
    that bounds the unread length by what can be allocated -/
structure Frame (cfg : Cfg) (I : RS → Prop) : Prop where
  mono : ∀ s s' : RS, s'.table = s.table → s'.fixups = s.fixups → s'.rest.length ≤ s.rest.length → I s → I s'
  small : ∀ s, I s → s.rest.length + 25 < cfg.allocLimit

theorem Inv.frame (cfg : Cfg) : Frame cfg (Inv cfg) where
  mono := by
    intro s s' ht hfx hr ⟨h1, h2, h3⟩
    refine ⟨?_, ?_, ?_⟩
    · rw [hfx, ht]; exact h1
    · rw [ht]; exact h2
    · omega
  small := fun s h => h.2.2

/-- the invariant of the header phase: additionally nothing is queued yet -/
def InvH (cfg : Cfg) (s : RS) : Prop := Inv cfg s ∧ s.fixups = []

theorem InvH.frame (cfg : Cfg) : Frame cfg (InvH cfg) where
  mono := by
    intro s s' ht hfx hr ⟨h, h0⟩
    exact ⟨(Inv.frame cfg).mono s s' ht hfx hr h, by rw [hfx, h0]⟩
  small := fun s h => h.1.2.2

def SafeR {α : Type} (I : RS → Prop) (f : RS → Res α) : Prop := ∀ s, I s → SafeI I (f s)

theorem readN_safe (cfg : Cfg) {I : RS → Prop} (hI : Frame cfg I) (hc : cfg.checkAfterRead = true) (n : Nat)
    (old : Option Bytes) : SafeR I (readN cfg n old) := by
  intro s hs
  unfold readN
  split
  · exact ⟨rfl, hs⟩
  · split
    · exact hI.mono s _ rfl rfl (by simp) hs
    · simp only
      exact ⟨rfl, hI.mono s _ rfl rfl (by simp) hs⟩

/-- A test of the unread rest, or one whose outcome the reads behind it rely on (a length, an index), is no rule: there a
    proof takes the state (`fun s hs => …`). -/
def safeLogic (cfg : Cfg) {I : RS → Prop} (hI : Frame cfg I) (hc : cfg.checkAfterRead = true) : ReaderLogic cfg where
  J := SafeR I
  around _ hf hg s hs := (hf s hs).bind fun a s' hs' => hg _ a s' hs'
  pure _ _ hs := hs
  fail he _ hs := ⟨he, hs⟩
  readN := readN_safe cfg hI hc

theorem readStr_safe (cfg : Cfg) {I : RS → Prop} (hI : Frame cfg I) (hf : cfg.allFixed) (init : Bytes) :
    SafeR I (readStr cfg init) :=
  let L := safeLogic cfg hI hf.1
  L.bind (L.readData _ _ _) fun lb => L.ite (fun _ => L.pure init) fun _ s hs => by
    simp only [hf.2.2.2, Bool.true_and]
    split
    · exact ⟨rfl, hs⟩
    · rename_i hlen
      have hge := (lenGe_iff _ _).mp (by simpa using hlen)
      have : ¬ (strAlloc (unle lb) ≥ cfg.allocLimit) := by
        have := hI.small s hs; simp only [strAlloc]; omega
      simp only [this, ↓reduceIte]
      exact L.readData _ _ _ s hs

theorem addAt_safe (cfg : Cfg) (hf : cfg.allFixed) (i : Nat) (o : Lbl) : SafeR (Inv cfg) (addAt cfg i o) := by
  intro s hs
  obtain ⟨_, _, hi, _⟩ := hf
  obtain ⟨h1, h2, h3⟩ := hs
  unfold addAt
  simp only [hi, Bool.true_and]
  split
  · exact ⟨rfl, h1, h2, h3⟩
  · rename_i hchk
    simp only [Bool.or_eq_true, beq_iff_eq, decide_eq_true_eq, not_or, Nat.not_lt] at hchk
    have h0 : ¬ (i = 0) := hchk.1
    have hna : ¬ (i * 8 ≥ cfg.allocLimit) := by omega
    have hz : i - s.table.length = 0 := by omega
    simp only [h0, ↓reduceIte, hna, hz]
    refine ⟨?_, ?_, h3⟩
    · simpa [addAt.zeros'] using h1
    · simpa [addAt.zeros'] using h2

theorem Inv.push {cfg : Cfg} {s : RS} {i : Nat} (h : Inv cfg s) (h1 : 1 ≤ i) (h2 : i ≤ s.table.length) :
    Inv cfg { s with fixups := i :: s.fixups } :=
  ⟨fun j hj => (List.mem_cons.mp hj).elim (fun e => e.symm ▸ ⟨h1, h2⟩) (h.1 j), h.2⟩

theorem readPtr_safe (cfg : Cfg) (hf : cfg.allFixed) {I : RS → Prop} (hI : Frame cfg I)
    (hpush : ∀ s i, I s → 1 ≤ i → i ≤ s.table.length → I { s with fixups := i :: s.fixups })
    (safe : Bool) : SafeR I (readPtr cfg safe) :=
  let L := safeLogic cfg hI hf.1
  L.bind (L.readData _ _ _) fun bs => L.ite (fun _ => L.pure 0) fun _ s hs => by
    simp only [hf.2.2.1, Bool.true_and]
    split
    · exact ⟨rfl, hs⟩
    · rename_i hchk
      simp only [Bool.or_eq_true, beq_iff_eq, decide_eq_true_eq, not_or, Nat.not_lt] at hchk
      exact hpush s _ hs (by omega) hchk.2

theorem readItem_safe (cfg : Cfg) (hf : cfg.allFixed) (classes : List Bytes) :
    (c : Sch) → (s : RS) → Inv cfg s → Safe cfg (readItem cfg classes c s) :=
  readItem_J (safeLogic cfg (Inv.frame cfg) hf.1) (readStr_safe cfg (Inv.frame cfg) hf)
    (readPtr_safe cfg hf (Inv.frame cfg) fun _ _ h => h.push) (addAt_safe cfg hf) classes

theorem readItems_safe (cfg : Cfg) (hf : cfg.allFixed) (classes : List Bytes) :
    (cs : List Sch) → (s : RS) → Inv cfg s → Safe cfg (readItems cfg classes cs s) :=
  readItems_J (safeLogic cfg (Inv.frame cfg) hf.1) (readStr_safe cfg (Inv.frame cfg) hf)
    (readPtr_safe cfg hf (Inv.frame cfg) fun _ _ h => h.push) (addAt_safe cfg hf) classes

theorem readHeader_safe (cfg : Cfg) (hf : cfg.allFixed) (info : Info) : SafeR (InvH cfg) (readHeader cfg info) := by
  let L := safeLogic cfg (InvH.frame cfg) hf.1
  rw [funext (readHeader_eq cfg info)]
  refine L.bind (readHeaderCore_J L (readStr_safe cfg (InvH.frame cfg) hf) info) fun n s hs => ?_
  simp only [hf.2.2.2, Bool.true_and]
  split
  · exact ⟨rfl, hs⟩
  · rename_i hlen
    have hge := (lenGe_iff _ _).mp (by simpa using hlen)
    have hsm := hs.1.2.2
    have : ¬ (n * 8 ≥ cfg.allocLimit) := by omega
    simp only [this, ↓reduceIte]
    refine ⟨⟨?_, ?_, hsm⟩, hs.2⟩
    · simp [hs.2]
    · simp; omega

theorem closeOk_of_inv {cfg : Cfg} {s : RS} (h : Inv cfg s) : closeOk s = true := by
  simp only [closeOk, List.all_eq_true, decide_eq_true_eq]
  exact h.1

theorem init_inv (cfg : Cfg) (bytes : Bytes) (h : bytes.length + 25 < cfg.allocLimit) : InvH cfg (RS.init bytes) := by
  refine ⟨⟨?_, ?_, ?_⟩, rfl⟩ <;> simp [RS.init] <;> omega

theorem readAll_safe (cfg : Cfg) (hf : cfg.allFixed) (classes : List Bytes) (info : Info) (sch : List Sch)
    (bytes : Bytes) (h : bytes.length + 25 < cfg.allocLimit) : Safe cfg (readAll cfg classes info sch bytes) := by
  unfold readAll
  exact ((readHeader_safe cfg hf info _ (init_inv cfg bytes h)).mono fun _ h => h.1).bind fun _ =>
    readItems_safe cfg hf classes sch

/-- when the run of the reader ends in an error, that error is what `decode` reports -/
theorem decode_of_err (cfg : Cfg) (hf : cfg.allFixed) (classes : List Bytes) (info : Info) (sch : List Sch)
    (bytes : Bytes) (h : bytes.length + 25 < cfg.allocLimit) (e : Err) (s : RS)
    (hr : readAll cfg classes info sch bytes = .err e s) :
    decode cfg classes info sch bytes = .error e ∧ e.reported = true := by
  have hs := readAll_safe cfg hf classes info sch bytes h
  rw [hr] at hs
  unfold decode
  simp [hr, closeOk_of_inv hs.2, hs.1]

end Morfuse.Archive
