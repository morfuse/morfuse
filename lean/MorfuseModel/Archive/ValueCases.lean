import MorfuseModel.Archive.ValueDefs
/-! the value round trip, one kind at a time (the kinds that hold no nested values): position and kind byte
(`Honest.kind`), then what the kind's branch of `readValue` reads -/
namespace Morfuse.Archive

variable (cfg : Cfg) (T : List Lbl) (hT : T.length < nullIdx) (hA : T.length * 8 < cfg.allocLimit) (fuel : Nat)
include hT hA

theorem rve_none : RVE cfg T .none (fuel + 1) := fun _ _ _ _ _ _ =>
  Honest.kind cfg hT hA (Honest.pure _)

theorem rve_int (v : Nat) : RVE cfg T (.int v) (fuel + 1) := fun _ _ sup' _ hw _ =>
  Honest.kind cfg hT hA (Honest.map (fun v => (Value.int v, sup')) (Honest.prim cfg hw))

theorem rve_float (v : Nat) : RVE cfg T (.float v) (fuel + 1) := fun _ _ sup' _ hw _ =>
  Honest.kind cfg hT hA (Honest.map (fun v => (Value.float v, sup')) (Honest.prim cfg hw))

theorem rve_char (v : Nat) : RVE cfg T (.char v) (fuel + 1) := fun _ _ sup' _ hw _ =>
  Honest.kind cfg hT hA (Honest.map (fun v => (Value.char v, sup')) (Honest.prim cfg hw))

theorem rve_string (bs : Bytes) : RVE cfg T (.string bs) (fuel + 1) := by
  intro self t sup' _ hw hl
  simp only [WFValue] at hw
  refine Honest.kind cfg hT hA (Honest.map (fun bs => (Value.string bs, sup')) (Honest.str cfg _
    (str_len_of_enc (by simp [valCalls, encItems, encItem]; omega) hl) hw.1 fun h0 => ?_))
  rcases hw.2 with hf | hne
  · simp [strInit, hf]
  · exact absurd (List.eq_nil_of_length_eq_zero h0) hne

theorem rve_constString (o : Option Bytes) : RVE cfg T (.constString o) (fuel + 1) := by
  intro self t sup' _ hw hl
  cases o with
  | none => exact Honest.kind cfg hT hA (Honest.cons (Honest.data cfg .byte 0 none) (Honest.pure _))
  | some bs =>
    exact Honest.kind cfg hT hA (Honest.cons (Honest.data cfg .byte 1 none)
      (Honest.map (fun bs => (Value.constString (some bs), sup')) (Honest.str cfg _
        (str_len_of_enc (by simp [valCalls, encItems, encItem]; omega) hl) hw fun _ => rfl)))

theorem rve_vector (bs : Bytes) : RVE cfg T (.vector bs) (fuel + 1) := fun _ _ sup' _ hw _ =>
  Honest.kind cfg hT hA (Honest.cons (Honest.raw cfg hw none) (Honest.cons (Honest.raw cfg hw _)
    (Honest.map (fun b => (Value.vector b, sup')) (Honest.raw cfg hw _))))

theorem rve_link (c : Nat) (safe : Bool) (o : Lbl) : RVE cfg T (.link c safe o) (fuel + 1) := by
  intro self t sup' _ hw _
  rcases hw with ⟨rfl, rfl⟩ | ⟨rfl, rfl⟩ | ⟨rfl, rfl⟩ | ⟨rfl, rfl⟩ <;>
    exact Honest.kind cfg hT hA (Honest.map (fun i => (Value.link _ _ i, sup')) (Honest.ptr hT cfg _ o))

theorem rve_holderRef (c : Nat) (h : Lbl) : RVE cfg T (.holderRef c h) (fuel + 1) := by
  intro self t sup' _ hw _
  obtain ⟨hc, _, hm⟩ := hw
  simp only [valCalls, hm, ↓reduceIte]
  rcases hc with rfl | rfl | rfl <;>
    exact Honest.kind cfg hT hA (Honest.cons (Honest.guard cfg (Honest.data cfg .bool 0 none))
      (Honest.map (fun i => (Value.holderRef _ i, sup')) (Honest.guard cfg (Honest.ptr hT cfg false h))))

theorem rve_pointer (p : Lbl) (vars : List Lbl) : RVE cfg T (.pointer p vars) (fuel + 1) := by
  intro self t sup' _ hw _
  obtain ⟨hm, hn32, hal⟩ := hw
  simp only [valCalls, hm, ↓reduceIte, List.cons_append, List.nil_append]
  exact Honest.kind cfg hT hA (Honest.cons (Honest.guard cfg (Honest.data cfg .bool 1 none))
    (Honest.position cfg hT hA _ (Honest.counted cfg hn32 (by simp [ptrs_enc_length]; omega)
      (fun nb s e hg hl => by simp [e, hg, hl, Nat.not_le.mpr hal, Supply.next, supplyOf])
      (Honest.map (fun is => (Value.pointer p is, sup')) (readPlainPtrs_honest hT cfg vars _)))))

end Morfuse.Archive
