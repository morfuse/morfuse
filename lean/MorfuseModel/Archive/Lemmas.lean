import MorfuseModel.Archive.Model
/-! Lemmas about the Archive model (C10 / C11): byte codecs, the size bracket, `readN`, record lengths, `readSetHeader` -/
namespace Morfuse.Archive

@[simp] theorem le_length (w n : Nat) : (le w n).length = w := by
  induction w generalizing n with
  | zero => rfl
  | succ w ih => simp [le, ih]

theorem unle_le (w n : Nat) : unle (le w n) = n % 256 ^ w := by
  induction w generalizing n with
  | zero => simp [le, unle, Nat.mod_one]
  | succ w ih =>
    simp only [le, unle, ih, UInt8.toNat_ofNat']
    have h1 : n % 256 % (2 ^ 7 * 2) = n % 256 := by omega
    rw [h1, Nat.pow_succ, Nat.mul_comm (256 ^ w) 256, Nat.mod_mul]

theorem unle_le_of_lt {w n : Nat} (h : n < 256 ^ w) : unle (le w n) = n := by
  rw [unle_le, Nat.mod_eq_of_lt h]

theorem unle_lt (bs : Bytes) : unle bs < 256 ^ bs.length := by
  induction bs with
  | nil => simp [unle]
  | cons b bs ih =>
    simp only [unle, List.length_cons, Nat.pow_succ]
    have := b.toNat_lt
    omega

theorem le_unle (bs : Bytes) : le bs.length (unle bs) = bs := by
  induction bs with
  | nil => rfl
  | cons b bs ih =>
    simp only [List.length_cons, le, unle]
    have hb := b.toNat_lt
    have h1 : (b.toNat + 256 * unle bs) % 256 = b.toNat := by omega
    have h2 : (b.toNat + 256 * unle bs) / 256 = unle bs := by omega
    rw [h1, h2, ih]
    simp

theorem unle_inj {a b : Bytes} (hl : a.length = b.length) (h : unle a = unle b) : a = b := by
  rw [← le_unle a, ← le_unle b, hl, h]

theorem lenGe_iff {α : Type} (l : List α) (n : Nat) : lenGe l n = true ↔ n ≤ l.length := by
  induction l generalizing n with
  | nil => cases n <;> simp [lenGe]
  | cons a l ih => cases n <;> simp [lenGe, ih]

theorem lenGe_false_iff {α : Type} (l : List α) (n : Nat) : lenGe l n = false ↔ l.length < n := by
  rw [← Bool.not_eq_true, lenGe_iff]; omega

theorem tagOf_le (n : String) : tagOf n ≤ 18 := by
  have h : Gen.Archive.tagNames.length = 18 := by decide
  unfold tagOf
  rw [← h]
  exact List.idxOf_le_length

theorem tagOf_lt (n : String) : tagOf n < 256 ^ 4 := by
  have := tagOf_le n
  omega

theorem Prim.tag_lt (p : Prim) : p.tag < 256 ^ 4 := tagOf_lt _

theorem ptrTag_lt (safe : Bool) : ptrTag safe < 256 ^ 4 := by
  unfold ptrTag; split <;> exact tagOf_lt _

theorem unle_tagB {t : Nat} (h : t < 256 ^ 4) : unle (tagB t) = t := unle_le_of_lt h

@[simp] theorem tagB_length (t : Nat) : (tagB t).length = 4 := le_length 4 t

/-! ### the two copies of the size bracket (as found in the source) do the same thing

This is where a divergence between `ArchiveObject` and the non-template `ReadObject()` shows: the lists are
regenerated from `Archiver.cpp` on every run, and every proof about the bracket goes through `bracketOf_eq`. -/

theorem bracketOf_eq (m : RMode) (d size : Int) :
    bracketOf m d size =
      if d > size then some .readPastEnd else if d < size then some .notReadEntire else none := by
  unfold bracketOf
  cases m <;>
    simp [bracket, Gen.Archive.bracketInto, Gen.Archive.bracketPoly, errOfName]

theorem bracket_ite {α : Type} (m : RMode) (d size : Int) (s : RS) (k : Res α) :
    brk (bracketOf m d size) s k =
      if d > size then .err .readPastEnd s else if d < size then .err .notReadEntire s else k := by
  rw [bracketOf_eq]
  by_cases h1 : d > size
  · simp [h1, brk]
  · by_cases h2 : d < size
    · simp [h1, h2, brk]
    · simp [h1, h2, brk]

theorem readN_ok (cfg : Cfg) (bs tail : Bytes) (old : Option Bytes) (pos : Nat) (R : List Lbl) (F : List Nat)
    (n : Nat) (hn : bs.length = n) :
    readN cfg n old ⟨bs ++ tail, pos, true, R, F⟩ = .ok bs ⟨tail, pos + n, true, R, F⟩ := by
  subst hn
  have h : lenGe (bs ++ tail) bs.length = true := by rw [lenGe_iff]; simp
  simp [readN, h]

theorem width_pos_bound (p : Prim) : p.width ≤ 8 := by cases p <;> simp [Prim.width]

@[simp] theorem encPrim_length (p : Prim) (v : Nat) : (encPrim p v).length = 4 + p.width := by
  simp [encPrim]

@[simp] theorem encRaw_length (bs : Bytes) : (encRaw bs).length = 4 + bs.length := by
  simp [encRaw]

theorem encStr_length (bs : Bytes) :
    (encStr bs).length = 12 + (if bs.length = 0 then 0 else 4 + bs.length) := by
  unfold encStr
  split <;> simp [Prim.width]

theorem str_len_of_enc {bs : Bytes} {n : Nat} (h : (encStr bs).length ≤ n) (hn : n < 2 ^ 63) : bs.length < 2 ^ 64 := by
  rw [encStr_length] at h; split at h <;> omega

theorem Res.bind_assoc {α β γ : Type} (r : Res α) (f : α → RS → Res β) (g : β → RS → Res γ) :
    (r.bind f).bind g = r.bind fun a s => (f a s).bind g := by
  cases r <;> rfl

theorem Res.bind_ite {α β : Type} {c : Prop} [Decidable c] (x y : Res α) (f : α → RS → Res β) :
    (if c then x else y).bind f = if c then x.bind f else y.bind f := by
  split <;> rfl

theorem Res.bind_ok {α : Type} (r : Res α) : (r.bind fun a s => .ok a s) = r := by
  cases r <;> rfl

theorem readTag_bind {α : Type} (cfg : Cfg) (t : Nat) (k : RS → Res α) (s : RS) :
    ((readN cfg 4 none s).bind fun tb s => if unle tb ≠ t then .err .typeError s else k s) =
      (readTag cfg t s).bind fun _ s => k s := by
  rw [readTag, Res.bind_assoc]
  congr; funext tb s
  by_cases h : unle tb = t <;> simp [h, Res.bind]

def readHeaderCore (cfg : Cfg) (info : Info) (s : RS) : Res Nat :=
  (readN cfg info.header.length none s).bind fun hb s =>
    if hb ≠ info.header then .err .invalidHeader s else
    (readPrim cfg .u16 s).bind fun mv s =>
      (readPrim cfg .u16 s).bind fun v s =>
        if (if cfg.versionOr then (mv != archiveVersion || v != info.version)
            else (mv != archiveVersion && v != info.version)) then .err .wrongVersion s else
        (readStr cfg info.name s).bind fun _ s => readPrim cfg .u32 s

theorem readHeader_eq (cfg : Cfg) (info : Info) (s : RS) :
    readHeader cfg info s = (readHeaderCore cfg info s).bind fun n s =>
      if cfg.lengthChecked && !lenGe s.rest (8 * n) then .err .invalidHeader s
      else if n * 8 ≥ cfg.allocLimit then .err .alloc s else .ok () { s with table := List.replicate n 0 } := by
  simp only [readHeader, readHeaderCore, Res.bind_assoc, Res.bind_ite]
  rfl

/-- the header of `con::set::Archive`, which `readSet` (`Tables.lean`), `readVars` and the Array branch of `readValue`
    (`Value.lean`) each transcribe on their own; `k` gets the table length settled on, the threshold, the count and the
    length index -/
def readSetHeader {α : Type} (cfg : Cfg) (k : Nat → Nat → Nat → Nat → RS → Res α) (s : RS) : Res α :=
  (readData cfg (Prim.u32).tag 4 none s).bind fun tlb s =>
  (readData cfg (Prim.u32).tag 4 none s).bind fun thb s =>
  (readData cfg (Prim.u32).tag 4 none s).bind fun cb s =>
    if !s.good then .err .streamFail s
    else if unle tlb = 0 || !lenGe s.rest (unle cb) then .err .streamFail s
    else
      let clamp := !lenGe s.rest (unle tlb)
      let tl := if clamp then (if unle cb > 1 then unle cb else 1) else unle tlb
      let th := if clamp then tl else unle thb
      (readData cfg (Prim.u16).tag 2 (some (zeros 2)) s).bind fun tlib s =>
        if tl ≠ 1 ∧ tl * 8 ≥ cfg.allocLimit then .err .alloc s else k tl th (unle cb) (unle tlib) s

end Morfuse.Archive
