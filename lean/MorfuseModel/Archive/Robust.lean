import MorfuseModel.Archive.Damage
import MorfuseModel.Archive.RoundTrip
/-! `Rob ok T good r lay bs a ls fx`: one specification of a reader `r` for the round trip (C10) and for substitutions (C11).
The stream holds a `Dmg ok lay` copy `bs'` of the writer's bytes `bs`: if `good` and `bs' = bs` the reader returns `a`,
consumes exactly these bytes, registers `ls` and queues `fx`; if not, it stops with an error.  It is indexed by bytes, not by
calls, so a record is the `Res.bind` chain of its fields (`Rob.bind`) and no offset is computed anywhere.  A field the reader
only stores and tests later (an object's size, a version, a class name) is `Rob.take` (`…K`: the same for a tagged record):
what follows is specified with `good` false for every other content of the field, so it must fail whatever else the stream
holds. -/
namespace Morfuse.Archive

variable {ok : PC → Prop}

variable {α β : Type} {T : List Lbl}

def Rob (ok : PC → Prop) (T : List Lbl) (good : Prop) (r : RS → Res α) (lay : List PC) (bs : Bytes) (a : α)
    (ls : List Lbl) (fx : List Nat) : Prop :=
  lay.length = bs.length ∧
  ∀ bs', Dmg ok lay bs bs' → ∀ (tail : Bytes) (pos : Nat) (R : List Lbl) (F : List Nat), R.length = T.length →
    (good → bs' = bs →
      r ⟨bs' ++ tail, pos, true, R, F⟩ = .ok a ⟨tail, pos + bs.length, true, ls.foldl (setL T) R, fx ++ F⟩) ∧
    (¬ (good ∧ bs' = bs) → ∃ e s', r ⟨bs' ++ tail, pos, true, R, F⟩ = .err e s')

section rules
variable {good : Prop} {r : RS → Res α} {lay : List PC} {bs : Bytes} {a : α} {ls : List Lbl} {fx : List Nat}

theorem Rob.reads (h : Rob ok T True r lay bs a ls fx) (tail : Bytes) (pos : Nat) (R : List Lbl) (F : List Nat)
    (hR : R.length = T.length) :
    r ⟨bs ++ tail, pos, true, R, F⟩ = .ok a ⟨tail, pos + bs.length, true, ls.foldl (setL T) R, fx ++ F⟩ :=
  ((h.2 bs (Dmg.refl h.1) tail pos R F hR).1 trivial rfl)

theorem Rob.detects (h : Rob ok T True r lay bs a ls fx) {bs' : Bytes} (hD : Dmg ok lay bs bs') (hne : bs' ≠ bs)
    (tail : Bytes) (pos : Nat) (R : List Lbl) (F : List Nat) (hR : R.length = T.length) :
    ∃ e s', r ⟨bs' ++ tail, pos, true, R, F⟩ = .err e s' :=
  (h.2 bs' hD tail pos R F hR).2 fun h' => hne h'.2

theorem Rob.bind {r1 : RS → Res α} {lay1 : List PC} {bs1 : Bytes} {a1 : α} {ls1 : List Lbl} {fx1 : List Nat}
    {r2 : α → RS → Res β} {lay2 : List PC} {bs2 : Bytes} {a2 : β} {ls2 : List Lbl} {fx2 : List Nat}
    (h1 : Rob ok T True r1 lay1 bs1 a1 ls1 fx1) (h2 : Rob ok T good (r2 a1) lay2 bs2 a2 ls2 fx2) :
    Rob ok T good (fun s => (r1 s).bind r2) (lay1 ++ lay2) (bs1 ++ bs2) a2 (ls1 ++ ls2) (fx2 ++ fx1) := by
  refine ⟨by simp [h1.1, h2.1], fun bs' hD tail pos R F hR => ?_⟩
  obtain ⟨x, y, rfl, hx, hy⟩ := Dmg.append_inv h1.1 hD
  have hxy : x ++ y = bs1 ++ bs2 ↔ x = bs1 ∧ y = bs2 :=
    ⟨fun e => List.append_inj e hx.length.2, fun e => by rw [e.1, e.2]⟩
  rw [List.append_assoc]
  by_cases e1 : x = bs1
  · subst e1
    have := h2.2 y hy tail (pos + x.length) (ls1.foldl (setL T) R) (fx1 ++ F) (by simp [hR])
    simp only [h1.reads _ pos R F hR, Res.bind, hxy, true_and]
    simpa [List.foldl_append, Nat.add_assoc] using this
  · obtain ⟨e, s', he⟩ := h1.detects hx e1 (y ++ tail) pos R F hR
    exact ⟨fun _ h => absurd (hxy.mp h).1 e1, fun _ => ⟨e, s', by simp [he, Res.bind]⟩⟩

theorem Rob.seq {r1 : RS → Res α} {lay1 : List PC} {bs1 : Bytes} {a1 : α}
    {r2 : α → RS → Res β} {lay2 : List PC} {bs2 : Bytes} {a2 : β} {ls2 : List Lbl} {fx2 : List Nat}
    (h1 : Rob ok T True r1 lay1 bs1 a1 [] []) (h2 : Rob ok T good (r2 a1) lay2 bs2 a2 ls2 fx2) :
    Rob ok T good (fun s => (r1 s).bind r2) (lay1 ++ lay2) (bs1 ++ bs2) a2 ls2 fx2 := by
  have := Rob.bind h1 h2
  rwa [List.nil_append, List.append_nil] at this

/-- a reader that runs `r1` and then tests, consuming nothing more, against the state it started in (`fin s`: the size
    bracket of an object record compares the positions before and after the body) -/
theorem Rob.around {r : RS → Res β} {r1 : RS → Res α} {a1 : α} {ls1 : List Lbl} {fx1 : List Nat}
    (fin : RS → α → RS → Res β) {a2 : β} {ls2 : List Lbl} {fx2 : List Nat} (h1 : Rob ok T True r1 lay bs a1 ls1 fx1)
    (hr : ∀ s : RS, s.table.length = T.length → r s = (r1 s).bind (fin s))
    (h2 : ∀ (s : RS) (tail : Bytes), s.good = true → s.table.length = T.length →
      (good → fin s a1 ⟨tail, s.pos + bs.length, true, ls1.foldl (setL T) s.table, fx1 ++ s.fixups⟩ =
        .ok a2 ⟨tail, s.pos + bs.length, true, (ls1 ++ ls2).foldl (setL T) s.table, fx2 ++ fx1 ++ s.fixups⟩) ∧
      (¬ good → ∃ e s', fin s a1 ⟨tail, s.pos + bs.length, true, ls1.foldl (setL T) s.table, fx1 ++ s.fixups⟩ = .err e s')) :
    Rob ok T good r lay bs a2 (ls1 ++ ls2) (fx2 ++ fx1) := by
  refine ⟨h1.1, fun bs' hD tail pos R F hR => ?_⟩
  rw [hr _ hR]
  by_cases eb : bs' = bs
  · rw [(h1.2 bs' hD tail pos R F hR).1 trivial eb]
    simpa [Res.bind, eb] using h2 ⟨bs' ++ tail, pos, true, R, F⟩ tail rfl hR
  · obtain ⟨e, s', he⟩ := h1.detects hD eb tail pos R F hR
    exact ⟨fun _ h => absurd h eb, fun _ => ⟨e, s', by rw [he]; rfl⟩⟩

theorem Rob.final
    (h : ∀ (tail : Bytes) (pos : Nat) (R : List Lbl) (F : List Nat), R.length = T.length →
      (good → r ⟨tail, pos, true, R, F⟩ = .ok a ⟨tail, pos, true, ls.foldl (setL T) R, fx ++ F⟩) ∧
      (¬ good → ∃ e s', r ⟨tail, pos, true, R, F⟩ = .err e s')) :
    Rob ok T good r [] [] a ls fx := by
  refine ⟨rfl, fun bs' hD tail pos R F hR => ?_⟩
  cases hD
  simpa using h tail pos R F hR

theorem Rob.pure (a : α) : Rob ok T True (fun s => .ok a s) [] [] a [] [] :=
  Rob.final fun _ _ _ _ _ => ⟨fun _ => rfl, fun h => absurd trivial h⟩

theorem Rob.andThen {r1 : RS → Res α} {a1 : α} {r2 : α → RS → Res β} {a2 : β} (h1 : Rob ok T True r1 lay bs a1 [] [])
    (h2 : ∀ (tail : Bytes) (pos : Nat) (R : List Lbl) (F : List Nat), R.length = T.length →
      r2 a1 ⟨tail, pos, true, R, F⟩ = .ok a2 ⟨tail, pos, true, ls.foldl (setL T) R, fx ++ F⟩) :
    Rob ok T True (fun s => (r1 s).bind r2) lay bs a2 ls fx := by
  have := Rob.seq h1 (Rob.final (ok := ok) fun tail pos R F hR => ⟨fun _ => h2 tail pos R F hR, fun h => absurd trivial h⟩)
  rwa [List.append_nil, List.append_nil] at this

theorem Rob.map (f : α → β) (h : Rob ok T good r lay bs a ls fx) :
    Rob ok T good (fun s => (r s).bind fun x s => .ok (f x) s) lay bs (f a) ls fx := by
  refine ⟨h.1, fun bs' hD tail pos R F hR => ?_⟩
  obtain ⟨h1, h2⟩ := h.2 bs' hD tail pos R F hR
  exact ⟨fun hg e => by simp [h1 hg e, Res.bind], fun hn => by obtain ⟨e, s', he⟩ := h2 hn; exact ⟨e, s', by simp [he, Res.bind]⟩⟩

theorem Rob.congr {r' : RS → Res α} (h : ∀ s, r s = r' s) (h' : Rob ok T good r' lay bs a ls fx) :
    Rob ok T good r lay bs a ls fx := by
  rwa [show r = r' from funext h]

theorem Rob.iff {good' : Prop} (h : good ↔ good') (h' : Rob ok T good r lay bs a ls fx) :
    Rob ok T good' r lay bs a ls fx := by
  rwa [← propext h]

theorem Rob.fail (hl : lay.length = bs.length) (h : ∀ s, ∃ e s', r s = .err e s') : Rob ok T False r lay bs a ls fx :=
  ⟨hl, fun _ _ _ _ _ _ _ => ⟨fun hf => hf.elim, fun _ => h _⟩⟩

theorem Rob.take (cfg : Cfg) {n : Nat} (old : Option Bytes) {x : Bytes} (hx : x.length = n) {lx : List PC}
    (hlx : lx.length = n) {k : Bytes → RS → Res α}
    (h : ∀ x', Dmg ok lx x x' → Rob ok T (good ∧ x' = x) (k x') lay bs a ls fx) :
    Rob ok T good (fun s => (readN cfg n old s).bind k) (lx ++ lay) (x ++ bs) a ls fx := by
  refine ⟨by simp [hx, hlx, (h x (Dmg.refl (hlx.trans hx.symm))).1], fun bs' hD tail pos R F hR => ?_⟩
  obtain ⟨x', y, rfl, hx', hy⟩ := Dmg.append_inv (hlx.trans hx.symm) hD
  have hxy : x' ++ y = x ++ bs ↔ x' = x ∧ y = bs :=
    ⟨fun e => List.append_inj e hx'.length.2, fun e => by rw [e.1, e.2]⟩
  have := (h x' hx').2 y hy tail (pos + n) R F hR
  dsimp only
  rw [List.append_assoc, readN_ok cfg x' _ old pos R F n (hx'.length.2.trans hx)]
  simp only [Res.bind, hxy, List.length_append, hx]
  simpa [and_imp, and_assoc, Nat.add_assoc] using this

theorem Rob.congrOn {r' : RS → Res α}
    (h : ∀ bs', Dmg ok lay bs bs' → ∀ (tail : Bytes) (pos : Nat) (R : List Lbl) (F : List Nat), R.length = T.length →
      r ⟨bs' ++ tail, pos, true, R, F⟩ = r' ⟨bs' ++ tail, pos, true, R, F⟩)
    (h' : Rob ok T good r' lay bs a ls fx) : Rob ok T good r lay bs a ls fx :=
  ⟨h'.1, fun bs' hD tail pos R F hR => by rw [h bs' hD tail pos R F hR]; exact h'.2 bs' hD tail pos R F hR⟩

theorem Rob.ofReads (hn : ∀ c ∈ lay, ¬ ok c) (hl : lay.length = bs.length)
    (h : ∀ (tail : Bytes) (pos : Nat) (R : List Lbl) (F : List Nat), R.length = T.length →
      r ⟨bs ++ tail, pos, true, R, F⟩ = .ok a ⟨tail, pos + bs.length, true, ls.foldl (setL T) R, fx ++ F⟩) :
    Rob ok T True r lay bs a ls fx :=
  ⟨hl, fun bs' hD tail pos R F hR => by
    rw [hD.eq_of_not_ok hn]
    exact ⟨fun _ _ => h tail pos R F hR, fun hh => absurd ⟨trivial, rfl⟩ hh⟩⟩

end rules

section pieces
variable (cfg : Cfg) {good : Prop} {lay : List PC} {bs : Bytes} {a : α} {ls : List Lbl} {fx : List Nat}

theorem Rob.tag {t : Nat} (ht : t < 256 ^ 4) : Rob ok T True (readTag cfg t) (List.replicate 4 .tag) (tagB t) () [] [] := by
  have := Rob.take (ok := ok) (T := T) (good := True) cfg none (tagB_length t) (lx := List.replicate 4 .tag) (by simp)
    (k := fun bs s => if unle bs = t then .ok () s else .err .typeError s) (lay := []) (bs := []) (a := ()) (ls := [])
    (fx := []) fun x' hx' => by
      by_cases e : x' = tagB t
      · exact (Rob.congr (fun s => by rw [e, unle_tagB ht, if_pos rfl]) (Rob.pure ())).iff (by simp [e])
      · exact (Rob.fail rfl fun s => ⟨_, _, if_neg fun h => e (unle_inj hx'.length.2 (h.trans (unle_tagB ht).symm))⟩).iff
          (by simp [e])
  rwa [List.append_nil, List.append_nil] at this

theorem Rob.dataK {t w : Nat} (ht : t < 256 ^ 4) (old : Option Bytes) {payload : Bytes} (hp : payload.length = w) (cx : PC)
    {k : Bytes → RS → Res α}
    (h : ∀ p', Dmg ok (List.replicate w cx) payload p' → Rob ok T (good ∧ p' = payload) (k p') lay bs a ls fx) :
    Rob ok T good (fun s => (readData cfg t w old s).bind k) (List.replicate 4 .tag ++ (List.replicate w cx ++ lay))
      (tagB t ++ (payload ++ bs)) a ls fx := by
  exact Rob.congr (fun s => Res.bind_assoc _ _ _) (Rob.seq (Rob.tag cfg ht) (Rob.take cfg old hp (by simp) h))

theorem Rob.data {t w : Nat} (ht : t < 256 ^ 4) (old : Option Bytes) {payload : Bytes} (hp : payload.length = w) {cx : PC}
    (hcx : ¬ ok cx) :
    Rob ok T True (readData cfg t w old) (List.replicate 4 .tag ++ List.replicate w cx) (tagB t ++ payload) payload [] [] :=
  Rob.bind (Rob.tag cfg ht) (r2 := fun _ s => readN cfg w old s)
    (Rob.ofReads (ls := []) (fx := []) (by simp only [List.mem_replicate]; rintro c ⟨_, rfl⟩; exact hcx) (by simp [hp])
      fun tail pos R F _ => by rw [readN_ok cfg payload tail old pos R F w hp, hp]; rfl)

theorem Rob.prim {p : Prim} {v : Nat} (hv : v < 256 ^ p.width) {cx : PC} (hcx : ¬ ok cx) :
    Rob ok T True (readPrim cfg p) (layPrim cx p) (encPrim p v) v [] [] := by
  have := Rob.map unle (Rob.data (ok := ok) (T := T) cfg (Prim.tag_lt p) (some (zeros p.width)) (le_length p.width v) hcx)
  rwa [unle_le_of_lt hv] at this

theorem Rob.primK {p : Prim} {v : Nat} (hv : v < 256 ^ p.width) (cx : PC) {k : Nat → RS → Res α}
    (h : ∀ v', ok cx ∨ v' = v → Rob ok T (good ∧ v' = v) (k v') lay bs a ls fx) :
    Rob ok T good (fun s => (readPrim cfg p s).bind k) (layPrim cx p ++ lay) (encPrim p v ++ bs) a ls fx := by
  have := Rob.dataK cfg (Prim.tag_lt p) (some (zeros p.width)) (le_length p.width v) cx (k := fun p' s => k (unle p') s)
    fun p' hp' => (h (unle p') (Classical.or_iff_not_imp_left.mpr fun hcx => by
      rw [hp'.eq_of_not_ok (by simp only [List.mem_replicate]; rintro c ⟨_, rfl⟩; exact hcx), unle_le_of_lt hv])).iff
        (and_congr_right fun _ =>
      ⟨fun e => unle_inj hp'.length.2 (by rw [e, unle_le_of_lt hv]), fun e => by rw [e, unle_le_of_lt hv]⟩)
  rw [← List.append_assoc, ← List.append_assoc] at this
  exact Rob.congr (fun s => by rw [readPrim, Res.bind_assoc]; rfl) this

theorem Rob.strK {x : PC} {txt : Bytes} (init : Bytes) (hlen : ¬ ok .len) (hl : txt.length < 2 ^ 64)
    (ha : strAlloc txt.length < cfg.allocLimit) (he : txt.length = 0 → init = []) {k : Bytes → RS → Res α}
    (h : ∀ txt', Dmg ok (List.replicate txt.length x) txt txt' → Rob ok T (good ∧ txt' = txt) (k txt') lay bs a ls fx) :
    Rob ok T good (fun s => (readStr cfg init s).bind k) (layStr x txt ++ lay) (encStr txt ++ bs) a ls fx := by
  have hw : unle (le 8 txt.length) = txt.length := unle_le_of_lt (show txt.length < 256 ^ 8 from hl)
  rw [layStr, encStr, List.append_assoc, List.append_assoc]
  refine Rob.congr (fun s => by rw [readStr, Res.bind_assoc])
    (Rob.seq (Rob.data cfg (Prim.tag_lt .size) none (le_length 8 txt.length) hlen) ?_)
  simp only [hw]
  by_cases h0 : txt.length = 0
  · have e : txt = [] := List.eq_nil_of_length_eq_zero h0
    simp only [h0, ↓reduceIte, List.nil_append]
    exact Rob.congr (fun s => by rw [he h0, ← e]; rfl) ((h txt (Dmg.refl (by simp))).iff (by simp))
  · simp only [h0, ↓reduceIte, encRaw, List.append_assoc]
    refine Rob.congrOn (fun bs' hD tail pos R F _ => ?_) (Rob.dataK cfg (t := rawTag) (tagOf_lt _) (some (resized init txt.length)) rfl x h)
    have : lenGe (bs' ++ tail) txt.length = true := by
      rw [lenGe_iff]; have := hD.length.2; simp at this ⊢; omega
    simp [this, Nat.not_le.mpr ha]

theorem Rob.str {x : PC} {txt : Bytes} (init : Bytes) (hlen : ¬ ok .len) (hx : ¬ ok x) (hl : txt.length < 2 ^ 64)
    (ha : strAlloc txt.length < cfg.allocLimit) (he : txt.length = 0 → init = []) :
    Rob ok T True (readStr cfg init) (layStr x txt) (encStr txt) txt [] [] := by
  have := Rob.strK (ok := ok) (T := T) (good := True) cfg init hlen hl ha he (x := x) (k := fun b s => .ok b s) (lay := []) (bs := [])
    (a := txt) (ls := []) (fx := []) fun txt' hD => by
      rw [hD.eq_of_not_ok (by simp only [List.mem_replicate]; rintro c ⟨_, rfl⟩; exact hx)]
      exact (Rob.pure txt).iff (by simp)
  rw [List.append_nil, List.append_nil] at this
  exact Rob.congr (fun s => (Res.bind_ok _).symm) this

end pieces

section items
variable (cfg : Cfg) (hu : Undet ok) (hT : T.length < nullIdx) (hA : T.length * 8 < cfg.allocLimit)
include hu hT

theorem Rob.ptr {t : List Lbl} {safe : Bool} {o : Lbl} (hp : (encItem t (.ptr safe o)).1 <+: T) :
    Rob ok T True (readPtr cfg safe) (layItem (.ptr safe o)) (encItem t (.ptr safe o)).2
      (rawPtr T o) [] (newFixItem T (.ptr safe o)) := by
  have hn := nullIdx_lt
  by_cases ho : o = 0
  · simp only [encItem, rawPtr, ho, ↓reduceIte, newFixItem]
    refine Rob.congr (fun s => by rw [readPtr])
      (Rob.andThen (Rob.data cfg (ptrTag_lt safe) _ (le_length 4 nullIdx) hu.idx) fun tail pos R F _ => ?_)
    simp [unle_le_of_lt hn]
  · simp only [encItem, ho, ↓reduceIte] at hp
    obtain ⟨e1, e2, e3, _⟩ := idx_bounds hp
    simp only [encItem, rawPtr, ho, ↓reduceIte, newFixItem, e1]
    refine Rob.congr (fun s => by rw [readPtr])
      (Rob.andThen (Rob.data cfg (ptrTag_lt safe) _ (le_length 4 (idxIn T o)) hu.idx) fun tail pos R F hR => ?_)
    have h4 : ¬ (idxIn T o = nullIdx) := by omega
    have h5 : ¬ (idxIn T o = 0) := by omega
    have h6 : ¬ (idxIn T o > R.length) := by omega
    simp [unle_le_of_lt (show idxIn T o < 256 ^ 4 by omega), h4, h5, h6]

include hA

theorem Rob.position (old : Option Bytes) {t : List Lbl} {o : Lbl} (hp : (addUnique t o).1 <+: T) :
    Rob ok T True (fun s => (readData cfg (Prim.pos).tag 4 old s).bind fun pb s => addAt cfg (unle pb) o s)
      (layItem (.position o)) (encItem t (.position o)).2 () [o] [] := by
  have hn := nullIdx_lt
  obtain ⟨e1, e2, e3, e4⟩ := idx_bounds hp
  simp only [encItem, e1]
  refine Rob.andThen (Rob.data cfg (Prim.tag_lt .pos) _ (le_length 4 (idxIn T o)) hu.idx) fun tail pos R F hR => ?_
  rw [unle_le_of_lt (show idxIn T o < 256 ^ 4 by omega), addAt_ok cfg (idxIn T o) o tail _ true R F e2 (by omega) (by omega)]
  simp [setL, e4]

end items

section calls
variable (cfg : Cfg) (classes : List Bytes)

mutual
theorem Rob.item (hu : Undet ok) (hT : T.length < nullIdx) (hA : T.length * 8 < cfg.allocLimit) :
    (it : Item) → (t : List Lbl) → WFItem cfg classes it → (encItem t it).2.length < 2 ^ 63 → (encItem t it).1 <+: T →
    Rob ok T True (readItem cfg classes (schemaOfItem it)) (layItem it) (encItem t it).2 (rawItem T it) (regLabelsItem it)
      (newFixItem T it)
  | .prim p v, _, hw, _, _ => by
    refine Rob.congr (fun s => by rw [schemaOfItem, readItem]) (Rob.map (Item.prim p) (Rob.prim cfg hw ?_))
    split
    · exact hu.idx
    · exact hu.data
  | .raw bs, _, _, _, _ =>
    Rob.congr (fun s => by rw [schemaOfItem, readItem])
      (Rob.map Item.raw (Rob.data cfg (t := rawTag) (tagOf_lt _) (some (zeros bs.length)) rfl hu.data))
  | .str bs, _, hw, hl, _ =>
    Rob.congr (fun s => by rw [schemaOfItem, readItem])
      (Rob.map Item.str (Rob.str cfg [] hu.len hu.data (str_len_of_enc (Nat.le_refl _) hl) hw fun _ => rfl))
  | .ptr safe o, _, _, _, hp =>
    Rob.congr (fun s => by rw [schemaOfItem, readItem]) (Rob.map (Item.ptr safe) (Rob.ptr cfg hu hT hp))
  | .position o, _, _, _, hp =>
    Rob.congr (fun s => by rw [schemaOfItem, readItem, ← Res.bind_assoc])
      (Rob.map (fun _ => Item.position o) (Rob.position cfg hu hT hA _ hp))
  | .object m o cls body, t, hw, hl, hp => by
    obtain ⟨hc, hca, hwb⟩ := hw
    simp only [encItem, List.length_append] at hp hl
    obtain ⟨e1, e2, e3, e4⟩ := idx_bounds ((encItems_prefix body _).trans hp)
    have hn := nullIdx_lt
    have hbl : (encItems (addUnique t o).1 body).2.length < 2 ^ 63 := by omega
    have ih := Rob.items hu hT hA body (addUnique t o).1 hwb hbl hp
    simp only [schemaOfItem, encItem, layItem, rawItem, regLabelsItem, newFixItem, e1, List.append_assoc]
    refine Rob.congr (fun s => by rw [readItem, readTag_bind]) (Rob.seq (Rob.tag cfg (tagOf_lt _)) ?_)
    refine Rob.take cfg none (le_length 8 _) (by simp) fun sb' hsb => ?_
    refine Rob.strK cfg [] hu.len (str_len_of_enc (Nat.le_refl _) (by omega)) hca
      (fun _ => rfl) fun name' hname => ?_
    by_cases en : name' = cls
    · -- the record is read to its end; whether the size field was the honest one shows at the bracket
      subst en
      simp only [hc, ne_eq, not_true_eq_false, and_false, ↓reduceIte, and_true, true_and]
      have hi : unle (le 4 (idxIn T o)) = idxIn T o := unle_le_of_lt (by omega)
      have h6 : (idxIn T o == 0) = false := by simp; omega
      refine Rob.seq (Rob.data cfg (Prim.tag_lt .u32) none (le_length 4 (idxIn T o)) hu.idx)
        (Rob.around (fun s items s' => brk (bracketOf m (tell s' - tell s) (toInt64 (unle sb'))) s'
          ((addAt cfg (idxIn T o) o s').bind fun _ s => .ok (Item.object m o name' items) s)) (ls2 := [o]) (fx2 := []) ih
          (fun s hR => by simp [hi, h6, hR, Nat.not_lt.mpr e3]) fun s tail hg hR => ?_)
      have hd : ((s.pos + (encItems (addUnique t o).1 body).2.length : Nat) : Int) - (s.pos : Int) =
          ((encItems (addUnique t o).1 body).2.length : Int) := by omega
      simp only [tell, hg, ↓reduceIte, bracket_ite, hd]
      refine ⟨fun es => ?_, fun es => ?_⟩
      · rw [es, unle_le_of_lt (by omega), toInt64_of_lt hbl,
          addAt_ok cfg (idxIn T o) o tail _ true _ _ e2 (by simp; omega) (by simp; omega)]
        simp [setL, e4, List.foldl_append, Res.bind]
      · have hv : unle sb' ≠ (encItems (addUnique t o).1 body).2.length := fun h =>
          es (unle_inj hsb.length.2 (h.trans (unle_le_of_lt (by omega)).symm))
        have hne := toInt64_ne _ _ (by simpa [hsb.length.2] using unle_lt sb') hbl hv
        split
        · exact ⟨_, _, rfl⟩
        · split
          · exact ⟨_, _, rfl⟩
          · omega
    · refine (Rob.fail (by simp [layPrim, ih.1, Prim.width]; omega) fun s => ?_).iff (by simp [en])
      have hm : m ≠ .poly := fun hm => en (hname.eq_of_not_ok (by
        simp only [hm, ↓reduceIte, List.mem_replicate]; rintro c ⟨_, rfl⟩; exact hu.pcls))
      have hg := getClass_dmg classes (by simpa [hm] using hname) en
      cases hgc : getClass classes name' with
      | none => exact ⟨_, _, rfl⟩
      | some c' =>
        have : c' ≠ cls := fun h => hg (h ▸ hgc)
        simp only [hm, this, ne_eq, not_false_eq_true, and_self, ↓reduceIte]
        exact ⟨_, _, rfl⟩
theorem Rob.items (hu : Undet ok) (hT : T.length < nullIdx) (hA : T.length * 8 < cfg.allocLimit) :
    (w : List Item) → (t : List Lbl) → WFItems cfg classes w → (encItems t w).2.length < 2 ^ 63 → (encItems t w).1 <+: T →
    Rob ok T True (readItems cfg classes (schemaOf w)) (layItems w) (encItems t w).2 (rawItems T w) (regLabels w)
      (newFix T w)
  | [], _, _, _, _ => Rob.pure []
  | i :: is, t, hw, hl, hp => by
    simp only [encItems, List.length_append] at hl hp
    exact Rob.congr (fun s => by rw [schemaOf, readItems])
      (Rob.bind (Rob.item hu hT hA i t hw.1 (by omega) ((encItems_prefix is _).trans hp))
        (Rob.map (rawItem T i :: ·) (Rob.items hu hT hA is _ hw.2 (by omega) hp)))
end

end calls

theorem Rob.header (cfg : Cfg) (info : Info) (hu : Undet ok) (hver : ok .ver → cfg.versionOr = true) {N : Nat}
    (hv : info.version < 65536) (hN : N < 2 ^ 32) (hna : strAlloc info.name.length < cfg.allocLimit)
    (hnl : info.name.length < 2 ^ 64) :
    Rob ok [] True (readHeaderCore cfg info)
      (List.replicate info.header.length .hdr ++ layPrim .ver .u16 ++ layPrim .ver .u16 ++ layStr .name info.name ++
        layPrim .ncls .u32) (encHeader info N) N [] [] := by
  -- `layout` and `encHeader` nest to the left, the rules to the right
  simp only [encHeader, List.append_assoc]
  have hl : (layPrim .ver .u16 ++ (layPrim .ver .u16 ++ (layStr .name info.name ++ layPrim .ncls .u32))).length =
      (encPrim .u16 archiveVersion ++ (encPrim .u16 info.version ++ (encStr info.name ++ encPrim .u32 N))).length := by
    simp [layPrim, layStr_length]; omega
  refine Rob.take cfg none rfl (by simp) fun hb' _ => ?_
  by_cases e : hb' = info.header
  · refine Rob.congr (fun s => by rw [e, if_neg (fun h => h rfl)]) (Rob.primK cfg archiveVersion_lt .ver fun mv' h1 =>
      Rob.primK cfg (p := .u16) hv .ver fun v' h2 => ?_)
    by_cases e2 : mv' = archiveVersion ∧ v' = info.version
    · rw [e2.1, e2.2]
      refine Rob.congr (fun s => ?_) ((Rob.seq (good := True) (r2 := fun _ s => readPrim cfg .u32 s) (Rob.str cfg info.name hu.len hu.name hnl hna
        fun h => List.eq_nil_of_length_eq_zero h) (Rob.prim cfg (p := .u32) hN hu.ncls)).iff (by simp [e]))
      simp
    · refine (Rob.fail (by simp [layPrim, layStr_length]; omega) fun s => ⟨_, _, if_pos ?_⟩).iff
        (by simp only [false_iff, and_assoc]; exact fun h => e2 ⟨h.2.2.1, h.2.2.2⟩)
      have hvo : cfg.versionOr = true := by
        rcases h1 with h | h
        · exact hver h
        · rcases h2 with h' | h'
          · exact hver h'
          · exact absurd ⟨h, h'⟩ e2
      simp only [hvo, ↓reduceIte, Bool.or_eq_true, bne_iff_ne, ne_eq]
      exact Classical.or_iff_not_imp_left.mpr fun h => fun h' => e2 ⟨Classical.not_not.mp h, h'⟩
  · exact (Rob.fail hl fun s => ⟨_, _, if_pos e⟩).iff (by simp [e])

theorem readHeader_dmg (cfg : Cfg) (info : Info) (hu : Undet ok) (hver : ok .ver → cfg.versionOr = true) {N : Nat}
    (hv : info.version < 65536) (hN : N < 2 ^ 32) (hNa : N * 8 < cfg.allocLimit)
    (hna : strAlloc info.name.length < cfg.allocLimit) (hnl : info.name.length < 2 ^ 64) {hd' : Bytes}
    (hD : Dmg ok (List.replicate info.header.length .hdr ++ layPrim .ver .u16 ++ layPrim .ver .u16 ++ layStr .name info.name ++
      layPrim .ncls .u32) (encHeader info N) hd') (body : Bytes) (hb : 8 * N ≤ body.length) :
    (hd' = encHeader info N → readHeader cfg info (RS.init (hd' ++ body)) =
      .ok () ⟨body, (encHeader info N).length, true, List.replicate N 0, []⟩) ∧
    (hd' ≠ encHeader info N → ∃ e s', readHeader cfg info (RS.init (hd' ++ body)) = .err e s') := by
  obtain ⟨h1, h2⟩ := (Rob.header cfg info hu hver hv hN hna hnl).2 hd' hD body 0 [] [] rfl
  rw [readHeader_eq, RS.init]
  refine ⟨fun e => ?_, fun e => ?_⟩
  · have hlg : lenGe body (8 * N) = true := (lenGe_iff _ _).mpr hb
    simp [h1 trivial e, Res.bind, hlg, Nat.not_le.mpr hNa]
  · obtain ⟨e', s', he⟩ := h2 (by simp [e])
    exact ⟨e', s', by rw [he]; rfl⟩

theorem readAll_dmg (cfg : Cfg) (classes : List Bytes) (info : Info) (w : List Item) (hw : WF cfg classes info w)
    (hu : Undet ok) (hver : ok .ver → cfg.versionOr = true) {bs' : Bytes}
    (hD : Dmg ok (layout info w) (encode info w) bs') (hne : bs' ≠ encode info w) :
    ∃ e s', readAll cfg classes info (schemaOf w) bs' = .err e s' := by
  have hsz := hw.size
  have hnull := nullIdx_lt
  have hc := hw.count
  have htl := encItems_table_le w []
  simp only [encode, List.length_append, encHeader_length] at hsz
  have hi := Rob.items cfg classes hu hw.count hw.table w [] hw.items (by omega) (List.prefix_refl _)
  obtain ⟨hd', it', rfl, h1, h2⟩ := Dmg.append_inv (by simp [encHeader, layPrim, layStr_length]; omega) hD
  obtain ⟨g1, g2⟩ := readHeader_dmg cfg info hu hver hw.version (by omega) hw.table hw.name
    (str_len_of_enc (Nat.le_refl _) (by omega)) h1 it' (by rw [h2.length.2]; simp at htl; omega)
  rw [readAll]
  by_cases e : hd' = encHeader info (encItems [] w).1.length
  · have := hi.detects h2 (fun h => hne (by rw [e, h, encode])) [] (encHeader info (encItems [] w).1.length).length
      (List.replicate (encItems [] w).1.length 0) [] (by simp)
    rw [List.append_nil] at this
    rw [g1 e]
    exact this
  · obtain ⟨e', s', he⟩ := g2 e
    exact ⟨e', s', by rw [he]; rfl⟩

end Morfuse.Archive
