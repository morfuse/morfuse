import MorfuseModel.Archive.ValueArrays
import MorfuseModel.Archive.ValueCases
/-! The value round trip for every value: induction over the value and the fuel (with the element lists of the two array
kinds), and the statements written out on reader states. -/
namespace Morfuse.Archive

mutual
theorem rve_all (cfg : Cfg) (T : List Lbl) (hT : T.length < nullIdx) (hA : T.length * 8 < cfg.allocLimit) :
    (v : Value) → (fuel : Nat) → RVE cfg T v fuel
  | _, 0 => fun _ _ _ hd => absurd hd (Nat.not_lt_zero _)
  | .none, fuel + 1 => rve_none cfg T hT hA fuel
  | .int v, fuel + 1 => rve_int cfg T hT hA fuel v
  | .float v, fuel + 1 => rve_float cfg T hT hA fuel v
  | .char v, fuel + 1 => rve_char cfg T hT hA fuel v
  | .string bs, fuel + 1 => rve_string cfg T hT hA fuel bs
  | .constString o, fuel + 1 => rve_constString cfg T hT hA fuel o
  | .vector bs, fuel + 1 => rve_vector cfg T hT hA fuel bs
  | .link c safe o, fuel + 1 => rve_link cfg T hT hA fuel c safe o
  | .holderRef c h, fuel + 1 => rve_holderRef cfg T hT hA fuel c h
  | .pointer p vars, fuel + 1 => rve_pointer cfg T hT hA fuel p vars
  | .constArray h rc es, fuel + 1 => rve_constArray cfg T hT hA h rc es fuel (ree_all cfg T hT hA es fuel)
  | .array h rc tl th tli kvs, fuel + 1 => rve_array cfg T hT hA h rc tl th tli kvs fuel (rpe_all cfg T hT hA kvs fuel)
theorem rpe_all (cfg : Cfg) (T : List Lbl) (hT : T.length < nullIdx) (hA : T.length * 8 < cfg.allocLimit) :
    (es : List (Lbl × Value)) → (fuel : Nat) → RPE cfg T es fuel
  | [], _ => fun _ _ _ _ _ _ => Honest.pure _
  | [_], _ => fun _ _ hpo => by simp [pairsOk] at hpo
  | (l, k) :: (l2, v) :: es, fuel => by
    intro t sup' hpo hd hw hl
    simp only [WFElems] at hw
    simp only [depthE] at hd
    simp only [pairsOk, Bool.and_eq_true] at hpo
    simp only [elemCalls, encItems_append, valCalls_table, List.length_append] at hl
    have hlen : ((l, k) :: (l2, v) :: es).length / 2 = es.length / 2 + 1 := by simp; omega
    simp only [elemCalls, supplyOfElems, List.cons_append, List.append_assoc, rawElems, hlen]
    refine Honest.bind (rve_all cfg T hT hA k fuel l t _ (by omega) hw.1 (by omega)) ?_
    rw [valCalls_table]
    refine Honest.bind (rve_all cfg T hT hA v fuel l2 _ _ (by omega) hw.2.1 (by omega)) ?_
    rw [valCalls_table]
    simp only [rawValue_hashable, hpo.1, Bool.not_true, Bool.false_eq_true, ↓reduceIte]
    exact Honest.map (fun r => ((l, rawValue T k) :: (l2, rawValue T v) :: r.1, r.2))
      (rpe_all cfg T hT hA es fuel _ sup' hpo.2 (by omega) hw.2.2 (by omega))
theorem ree_all (cfg : Cfg) (T : List Lbl) (hT : T.length < nullIdx) (hA : T.length * 8 < cfg.allocLimit) :
    (es : List (Lbl × Value)) → (fuel : Nat) → REE cfg T es fuel
  | [], _ => fun _ _ _ _ _ => Honest.pure _
  | (l, v) :: es, fuel => by
    intro t sup' hd hw hl
    simp only [WFElems] at hw
    simp only [depthE] at hd
    simp only [elemCalls, encItems_append, valCalls_table, List.length_append] at hl
    simp only [elemCalls, supplyOfElems, List.cons_append, List.append_assoc, rawElems, List.length_cons]
    refine Honest.bind (rve_all cfg T hT hA v fuel l t _ (by omega) hw.1 (by omega)) ?_
    rw [valCalls_table]
    exact Honest.map (fun r => ((l, rawValue T v) :: r.1, r.2))
      (ree_all cfg T hT hA es fuel _ sup' (by omega) hw.2 (by omega))
end

theorem readPairs_enc (cfg : Cfg) (T : List Lbl) (hT : T.length < nullIdx) (hA : T.length * 8 < cfg.allocLimit) :
    (es : List (Lbl × Value)) → (fuel : Nat) → (t : List Lbl) → (tail : Bytes) → (pos : Nat) → (R : List Lbl) →
    (F : List Nat) → (sup' : Supply) → pairsOk es = true → depthE es < fuel → (encItems t (elemCalls t es).2).1 <+: T →
    WFElems cfg t es → R.length = T.length → (encItems t (elemCalls t es).2).2.length < 2 ^ 63 →
    readPairsWith (readValue cfg fuel) (es.length / 2) (supplyOfElems es ++ sup') ⟨(encItems t (elemCalls t es).2).2 ++ tail, pos, true, R, F⟩ =
      .ok (rawElems T es, sup') ⟨tail, pos + (encItems t (elemCalls t es).2).2.length, true,
        (regLabels (elemCalls t es).2).foldl (setL T) R, newFix T (elemCalls t es).2 ++ F⟩ :=
  fun es fuel t tail pos R F sup' hpo hd hp hw hR hl => rpe_all cfg T hT hA es fuel t sup' hpo hd hw hl tail pos R F hp hR

theorem readElems_enc (cfg : Cfg) (T : List Lbl) (hT : T.length < nullIdx) (hA : T.length * 8 < cfg.allocLimit) :
    (es : List (Lbl × Value)) → (fuel : Nat) → (t : List Lbl) → (tail : Bytes) → (pos : Nat) → (R : List Lbl) →
    (F : List Nat) → (sup' : Supply) → depthE es < fuel → (encItems t (elemCalls t es).2).1 <+: T → WFElems cfg t es →
    R.length = T.length → (encItems t (elemCalls t es).2).2.length < 2 ^ 63 →
    readElemsWith (readValue cfg fuel) es.length (supplyOfElems es ++ sup') ⟨(encItems t (elemCalls t es).2).2 ++ tail, pos, true, R, F⟩ =
      .ok (rawElems T es, sup') ⟨tail, pos + (encItems t (elemCalls t es).2).2.length, true,
        (regLabels (elemCalls t es).2).foldl (setL T) R, newFix T (elemCalls t es).2 ++ F⟩ :=
  fun es fuel t tail pos R F sup' hd hp hw hR hl => ree_all cfg T hT hA es fuel t sup' hd hw hl tail pos R F hp hR

end Morfuse.Archive
