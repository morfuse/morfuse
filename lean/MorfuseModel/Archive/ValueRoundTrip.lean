import MorfuseModel.Archive.ValueLemmas
import MorfuseModel.Archive.TablesLemmas
/-! Round trip of mixed write sequences (calls of the Archiver and script values). -/
namespace Morfuse.Archive

theorem keyCalls_table (t : List Lbl) (k : Option Bytes) : (encItems t (keyCalls k)).1 = t := by
  cases k <;> simp [keyCalls, encItems, encItem]

theorem expand_table : (ws : List WItem) → (t : List Lbl) → (encItems t (expand t ws).2).1 = (expand t ws).1
  | [], t => by simp [expand, encItems]
  | .item i :: ws, t => by
    simp only [expand, encItems]
    exact expand_table ws _
  | .value s v :: ws, t => by
    simp only [expand]
    rw [encItems_append]
    simp only [valCalls_table]
    exact expand_table ws _
  | .named s k v :: ws, t => by
    simp only [expand]
    rw [encItems_append, keyCalls_table, encItems_append]
    simp only [valCalls_table]
    exact expand_table ws _

theorem encodeW_table_le (info : Info) (ws : List WItem) : (expand [] ws).1.length * 8 ≤ (encodeW info ws).length := by
  have h := encode_table_le info (expand [] ws).2
  rwa [expand_table] at h

def rawW (T : List Lbl) : WItem → WItem
  | .item i => .item (rawItem T i)
  | .value s v => .value s (rawValue T v)
  | .named s k v => .named s k (rawValue T v)

/-- per-call hypotheses along the sequence (the object table is threaded as the writer does) -/
def WFWs (cfg : Cfg) (classes : List Bytes) : List Lbl → List WItem → Prop
  | _, [] => True
  | t, .item i :: ws => WFItem cfg classes i ∧ WFWs cfg classes (encItem t i).1 ws
  | t, .value s v :: ws => WFValue cfg t s v ∧ WFWs cfg classes (valCalls t s v).1 ws
  | t, .named s k v :: ws => WFKey cfg k ∧ WFValue cfg t s v ∧ WFWs cfg classes (valCalls t s v).1 ws

def depthW : List WItem → Nat
  | [] => 0
  | .item _ :: ws => depthW ws
  | .value _ v :: ws => max (depth v) (depthW ws)
  | .named _ _ v :: ws => max (depth v) (depthW ws)

theorem readW_honest (cfg : Cfg) (classes : List Bytes) (T : List Lbl) (hT : T.length < nullIdx)
    (hA : T.length * 8 < cfg.allocLimit) (fuel : Nat) :
    (ws : List WItem) → (t : List Lbl) → depthW ws < fuel → WFWs cfg classes t ws →
    (encItems t (expand t ws).2).2.length < 2 ^ 63 →
    Honest T (readW cfg classes fuel (schemaW ws)) t (expand t ws).2 (ws.map (rawW T))
  | [], _, _, _, _ => Honest.pure _
  | .item i :: ws, t, hd, hw, hl => by
    simp only [WFWs] at hw
    simp only [depthW] at hd
    simp only [expand, encItems, List.length_append] at hl
    exact Honest.cons (Honest.item cfg classes hT hA i t hw.1 (by omega))
      (Honest.map (fun is => .item (rawItem T i) :: is) (readW_honest cfg classes T hT hA fuel ws _ hd hw.2 (by omega)))
  | .value s v :: ws, t, hd, hw, hl => by
    simp only [WFWs] at hw
    simp only [depthW] at hd
    simp only [expand, encItems_append, valCalls_table, List.length_append] at hl
    have hv := rve_all cfg T hT hA v fuel s t [] (by omega) hw.1 (by omega)
    rw [List.append_nil] at hv
    refine Honest.bind hv ?_
    rw [valCalls_table]
    exact Honest.map (fun is => .value s (rawValue T v) :: is)
      (readW_honest cfg classes T hT hA fuel ws _ (by omega) hw.2 (by omega))
  | .named s k v :: ws, t, hd, hw, hl => by
    simp only [WFWs] at hw
    simp only [depthW] at hd
    simp only [expand, encItems_append, keyCalls_table, valCalls_table, List.length_append] at hl
    have hv := rve_all cfg T hT hA v fuel s t [] (by omega) hw.2.1 (by omega)
    rw [List.append_nil] at hv
    refine Honest.bind (readKey_honest cfg k hw.1) ?_
    rw [keyCalls_table]
    refine Honest.bind hv ?_
    rw [valCalls_table]
    exact Honest.map (fun is => .named s k (rawValue T v) :: is)
      (readW_honest cfg classes T hT hA fuel ws _ (by omega) hw.2.2 (by omega))

mutual
/-- non-null object references inside a value -/
def vTargets : Value → List Lbl
  | .link _ _ o => if o = 0 then [] else [o]
  | .holderRef _ h => if h = 0 then [] else [h]
  | .constArray _ _ es => vTargetsE es
  | .array _ _ _ _ _ kvs => vTargetsE kvs
  | .pointer _ vars => vars.filter (· ≠ 0)
  | _ => []
def vTargetsE : List (Lbl × Value) → List Lbl
  | [] => []
  | (_, v) :: es => vTargets v ++ vTargetsE es
end

def wTargets : List WItem → List Lbl
  | [] => []
  | .item i :: ws => ptrTargetsItem i ++ wTargets ws
  | .value _ v :: ws => vTargets v ++ wTargets ws
  | .named _ _ v :: ws => vTargets v ++ wTargets ws

mutual
theorem fixValue_raw (T Rf : List Lbl) : (v : Value) →
    (∀ o ∈ vTargets v, Rf.getD (T.idxOf o) 0 = o) → fixValue Rf (rawValue T v) = v
  | .none, _ | .int _, _ | .float _, _ | .char _, _ | .string _, _ | .constString _, _ | .vector _, _ => by
    simp [rawValue, fixValue]
  | .link c s o, h => by
    simp only [rawValue, fixValue]
    exact congrArg _ (look_raw fun ho => h o (by simp [vTargets, ho]))
  | .holderRef c o, h => by
    simp only [rawValue, fixValue]
    exact congrArg _ (look_raw fun ho => h o (by simp [vTargets, ho]))
  | .pointer p vars, h => by
    simp only [rawValue, fixValue, List.map_map, Value.pointer.injEq, true_and]
    exact (List.map_congr_left fun o hov => look_raw fun ho => h o (by simp [vTargets, hov, ho])).trans (List.map_id' _)
  | .array hh rc tl th tli kvs, h => by
    simp only [rawValue, fixValue]
    rw [fixElems_raw T Rf kvs (by simpa [vTargets] using h)]
  | .constArray hh rc es, h => by
    simp only [rawValue, fixValue]
    rw [fixElems_raw T Rf es (by simpa [vTargets] using h)]
theorem fixElems_raw (T Rf : List Lbl) : (es : List (Lbl × Value)) →
    (∀ o ∈ vTargetsE es, Rf.getD (T.idxOf o) 0 = o) → fixElems Rf (rawElems T es) = es
  | [], _ => by simp [rawElems, fixElems]
  | (l, v) :: es, h => by
    simp only [vTargetsE, List.mem_append] at h
    simp only [rawElems, fixElems]
    rw [fixValue_raw T Rf v (fun o ho => h o (Or.inl ho)), fixElems_raw T Rf es (fun o ho => h o (Or.inr ho))]
end

theorem fixW_raw (T Rf : List Lbl) : (ws : List WItem) →
    (∀ o ∈ wTargets ws, Rf.getD (T.idxOf o) 0 = o) → (ws.map (rawW T)).map (fixW Rf) = ws
  | [], _ => rfl
  | .item i :: ws, h => by
    simp only [wTargets, List.mem_append] at h
    simp only [List.map_cons, rawW, fixW]
    rw [fixItem_raw T Rf i (fun o ho => h o (Or.inl ho)), fixW_raw T Rf ws (fun o ho => h o (Or.inr ho))]
  | .value s v :: ws, h => by
    simp only [wTargets, List.mem_append] at h
    simp only [List.map_cons, rawW, fixW]
    rw [fixValue_raw T Rf v (fun o ho => h o (Or.inl ho)), fixW_raw T Rf ws (fun o ho => h o (Or.inr ho))]
  | .named s k v :: ws, h => by
    simp only [wTargets, List.mem_append] at h
    simp only [List.map_cons, rawW, fixW]
    rw [fixValue_raw T Rf v (fun o ho => h o (Or.inl ho)), fixW_raw T Rf ws (fun o ho => h o (Or.inr ho))]

mutual
theorem vTargets_ne_zero : (v : Value) → ∀ o ∈ vTargets v, o ≠ 0
  | .none | .int _ | .float _ | .char _ | .string _ | .constString _ | .vector _ => by simp [vTargets]
  | .link _ _ o => by by_cases ho : o = 0 <;> simp [vTargets, ho]
  | .holderRef _ o => by by_cases ho : o = 0 <;> simp [vTargets, ho]
  | .constArray _ _ es => by simpa [vTargets] using vTargetsE_ne_zero es
  | .array _ _ _ _ _ kvs => by simpa [vTargets] using vTargetsE_ne_zero kvs
  | .pointer _ vars => by simp [vTargets]
theorem vTargetsE_ne_zero : (es : List (Lbl × Value)) → ∀ o ∈ vTargetsE es, o ≠ 0
  | [] => by simp [vTargetsE]
  | (_, v) :: es => List.forall_mem_append.mpr ⟨vTargets_ne_zero v, vTargetsE_ne_zero es⟩
end

/-- hypotheses of the round trip of a mixed sequence -/
structure WFW (cfg : Cfg) (classes : List Bytes) (info : Info) (ws : List WItem) : Prop where
  items : WFWs cfg classes [] ws
  /-- every object referred to (by a pointer call, a Listener value, a shared const array) is registered -/
  targets : ∀ o ∈ wTargets ws, o ∈ regLabels (expand [] ws).2
  count : (expand [] ws).1.length < nullIdx
  table : (expand [] ws).1.length * 8 < cfg.allocLimit
  size : (encodeW info ws).length < 2 ^ 63
  /-- nesting depth of the values (always far below the archive length; the reader's fuel) -/
  depth : depthW ws ≤ (encodeW info ws).length
  version : info.version < 65536
  name : strAlloc info.name.length < cfg.allocLimit

theorem decodeW_encodeW (cfg : Cfg) (classes : List Bytes) (info : Info) (ws : List WItem)
    (hw : WFW cfg classes info ws) :
    decodeW cfg classes info (schemaW ws) (encodeW info ws) = .ok ws := by
  have htab := expand_table ws []
  have hsz := hw.size
  have hd := hw.depth
  simp only [encodeW, encode, List.length_append] at hsz hd
  have hr := readW_honest cfg classes (expand [] ws).1 hw.count hw.table ((encode info (expand [] ws).2).length + 1) ws []
    (by simp only [encode, List.length_append]; omega) hw.items (by omega)
  unfold decodeW
  rw [← htab] at hr
  rw [show encodeW info ws = encode info (expand [] ws).2 from rfl]
  rw [Honest.whole hr (htab ▸ hw.count) (htab ▸ hw.table) hw.size hw.version hw.name]
  simp only [closeOk_whole, ↓reduceIte]
  congr 1
  exact fixW_raw _ _ ws fun o ho => table_whole _ (hw.targets o ho)

end Morfuse.Archive
