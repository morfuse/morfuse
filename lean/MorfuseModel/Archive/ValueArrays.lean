import MorfuseModel.Archive.ValueDefs
/-! the value round trip of the two array kinds, given the round trip of their elements -/
namespace Morfuse.Archive

/-- the statement of the round trip of a list of element variables (const array) -/
def REE (cfg : Cfg) (T : List Lbl) (es : List (Lbl × Value)) (fuel : Nat) : Prop :=
  ∀ (t : List Lbl) (sup' : Supply), depthE es < fuel → WFElems cfg t es →
    (encItems t (elemCalls t es).2).2.length < 2 ^ 63 →
    Honest T (readElemsWith (readValue cfg fuel) es.length (supplyOfElems es ++ sup')) t (elemCalls t es).2
      (rawElems T es, sup')

/-- … of the flattened entries of a hash array -/
def RPE (cfg : Cfg) (T : List Lbl) (es : List (Lbl × Value)) (fuel : Nat) : Prop :=
  ∀ (t : List Lbl) (sup' : Supply), pairsOk es = true → depthE es < fuel → WFElems cfg t es →
    (encItems t (elemCalls t es).2).2.length < 2 ^ 63 →
    Honest T (readPairsWith (readValue cfg fuel) (es.length / 2) (supplyOfElems es ++ sup')) t (elemCalls t es).2
      (rawElems T es, sup')

variable (cfg : Cfg) (T : List Lbl) (hT : T.length < nullIdx) (hA : T.length * 8 < cfg.allocLimit)
include hT hA

theorem rve_array (h rc tl th tli : Nat) (kvs : List (Lbl × Value)) (fuel : Nat) (ih : RPE cfg T kvs fuel) :
    RVE cfg T (.array h rc tl th tli kvs) (fuel + 1) := by
  intro self t sup' hd hw hl
  simp only [WFValue] at hw
  obtain ⟨hm, hrc, htl0, htl, hth, htli, hn32, hal, hpo, hlen, hwe⟩ := hw
  simp only [depth] at hd
  simp only [valCalls, hm, ↓reduceIte, List.cons_append, List.nil_append] at hl ⊢
  simp only [encItems, encItem, List.length_append] at hl
  exact Honest.kind cfg hT hA (Honest.cons (Honest.guard cfg (Honest.data cfg .bool 1 none)) <|
    Honest.position cfg hT hA _ (Honest.cons (Honest.prim cfg (p := .u32) hrc)
      (Honest.setHeader cfg
        (k := fun tl th cnt tli s => (readPairsWith (readValue cfg fuel) cnt (supplyOfElems kvs ++ sup') s).bind fun r s =>
          .ok (Value.array h rc tl th tli r.1, r.2) s)
        ⟨htl0, htl, hal⟩ hth hn32 htli
        (by simpa [encItems, encItem, Prim.width, Nat.add_comm, supplyOf, Supply.next] using hlen)
        (Honest.map (fun r => (Value.array h rc tl th tli r.1, r.2)) (ih _ sup' hpo (by omega) hwe (by omega))))))

theorem rve_constArray (h rc : Nat) (es : List (Lbl × Value)) (fuel : Nat) (ih : REE cfg T es fuel) :
    RVE cfg T (.constArray h rc es) (fuel + 1) := by
  intro self t sup' hd hw hl
  simp only [WFValue] at hw
  obtain ⟨hm, hrc, hn32, hal, hwe⟩ := hw
  simp only [depth] at hd
  simp only [valCalls, hm, ↓reduceIte, supplyOf, rawValue, List.cons_append, List.nil_append] at hl ⊢
  simp only [encItems, encItem, List.length_append] at hl
  exact Honest.kind cfg hT hA (Honest.cons (Honest.guard cfg (Honest.data cfg .bool 1 none)) <|
    Honest.position cfg hT hA _ (Honest.cons (Honest.prim cfg (p := .u32) (by simpa [Prim.width] using hrc))
    (Honest.counted cfg hn32 (elemCalls_enc_len es _)
      (fun nb s e hg hl => by simp [e, hg, hl, Nat.not_le.mpr hal, Supply.next])
      (Honest.map (fun r => (Value.constArray h rc r.1, r.2)) (ih _ sup' (by omega) hwe (by omega))))))

end Morfuse.Archive
