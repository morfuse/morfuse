import MorfuseModel.Gen.ArchiveTable
/-!
# Archive model (properties C10, C11)

Executable transcription of `src/Script/Archiver.cpp` / `include/morfuse/Script/Archiver.h` and of
`mfuse::Archive(Archiver&, str&)` (`src/Common/str.cpp`).

* the **writer** (`encItem`, `encode`): every `Archive*` call in write mode, the object table
  `classpointerList` with `AddUniqueObject` (index by first occurrence), the object bracket with the
  back-patched stream size, the header with the back-patched `numClasses`;
* the **reader** (`readItem`, `decode`): the same calls in read mode over an `std::istream` state
  (`rest`, `pos`, `good`), in the order of checks of the code: `CheckRead` (stream still good?) *before*
  `read`; after it only when `cfg.checkAfterRead`; tag compare; class lookup; size bracket after the
  body; `AddObjectAt`; fix-ups resolved at `Close`, which also runs when an exception unwinds.

Undefined behaviour the code can reach is an explicit outcome: `Err.uninit` (a short read left part of
an uninitialised local unwritten and the code then uses it), `Err.oob` (object table indexed outside
`1..numobjects`), `Err.alloc` (an allocation request taken from the archive that exceeds `allocLimit`:
`malloc` fails and the code writes through the null result).

The switches of `Cfg` are regenerated from the source text (`Gen/ArchiveTable.lean`).
-/
namespace Morfuse.Archive

abbrev Bytes := List UInt8
/-- object identity (an address on the C++ side); `0` is the null pointer -/
abbrev Lbl := Nat

/-- `w` bytes little-endian (what `write(&x, sizeof x)` stores on the target) -/
def le : Nat → Nat → Bytes
  | 0, _ => []
  | w + 1, n => UInt8.ofNat (n % 256) :: le w (n / 256)

def unle : Bytes → Nat
  | [] => 0
  | b :: bs => b.toNat + 256 * unle bs

def zeros (n : Nat) : Bytes := List.replicate n 0

/-- `n ≤ l.length` without walking the whole list (`lenGe_iff` in Lemmas) -/
def lenGe {α : Type} : List α → Nat → Bool
  | _, 0 => true
  | [], _ + 1 => false
  | _ :: l, n + 1 => lenGe l n

structure Cfg where
  checkAfterRead : Bool
  versionOr : Bool
  indexChecked : Bool
  lengthChecked : Bool
  /-- `ScriptVariable::ArchiveInternal` creates the string of a loaded String value empty (not `new str(4)`) -/
  valueStrFresh : Bool
  /-- `ScriptVariable::ArchiveInternal` gives a loaded variable its kind only once the payload is complete -/
  valueTypeLate : Bool
  /-- `ScriptConstArrayHolder::Archive` bounds the archived element count by what the stream still holds before
      `new ScriptVariable[size + 1]` -/
  arraySizeChecked : Bool
  /-- requests of this many bytes or more are refused by the allocator (`malloc` returns null and the
      code writes through it: `Err.alloc`).  The harness installs an allocator with exactly this limit. -/
  allocLimit : Nat
  deriving Repr, DecidableEq

/-- the reader as it is in the source tree the check runs on -/
def Cfg.current : Cfg :=
  { checkAfterRead := Gen.Archive.checkAfterRead, versionOr := Gen.Archive.versionOr,
    indexChecked := Gen.Archive.indexChecked, lengthChecked := Gen.Archive.lengthChecked,
    valueStrFresh := Gen.Archive.valueStrFresh, valueTypeLate := Gen.Archive.valueTypeLate,
    arraySizeChecked := Gen.Archive.arraySizeChecked,
    allocLimit := 2 ^ 20 }

/-- every defect of the reader repaired -/
def Cfg.fixed : Cfg :=
  { checkAfterRead := true, versionOr := true, indexChecked := true, lengthChecked := true, valueStrFresh := true, valueTypeLate := true,
    arraySizeChecked := true,
    allocLimit := 2 ^ 20 }
/-- the reader of the unrepaired tree (used by the counter-example theorems) -/
def Cfg.legacy : Cfg :=
  { checkAfterRead := false, versionOr := false, indexChecked := false, lengthChecked := false,
    valueStrFresh := false, valueTypeLate := false, arraySizeChecked := false, allocLimit := 2 ^ 20 }

/-- `version_info_t` -/
structure Info where
  header : Bytes
  name : Bytes
  version : Nat
  deriving Repr

/-- tag value of a `dataType_e` enumerator -/
def tagOf (name : String) : Nat := Gen.Archive.tagNames.idxOf name
def nullIdx : Nat := Gen.Archive.nullPointer
def archiveVersion : Nat := Gen.Archive.archiveVersion

/-- `str::resize(n)` asks for `sizeof(strdata) + n + 1` bytes -/
def strAlloc (n : Nat) : Nat := n + 25

inductive Prim
  | i8 | i16 | i32 | i64 | u8 | u16 | u32 | u64 | chr | size | byte | f32 | f64 | bool | pos
  deriving DecidableEq, Repr

def Prim.tagName : Prim → String
  | .i8 => "Char" | .i16 => "Short" | .i32 => "Integer" | .i64 => "Long"
  | .u8 => "Byte" | .u16 => "UShort" | .u32 => "UInteger" | .u64 => "ULong"
  | .chr => "Char" | .size => "Size" | .byte => "Byte" | .f32 => "Float" | .f64 => "Double"
  | .bool => "Boolean" | .pos => "Position"

def Prim.tag (p : Prim) : Nat := tagOf p.tagName

def Prim.width : Prim → Nat
  | .i8 => 1 | .i16 => 2 | .i32 => 4 | .i64 => 8
  | .u8 => 1 | .u16 => 2 | .u32 => 4 | .u64 => 8
  | .chr => 1 | .size => 8 | .byte => 1 | .f32 => 4 | .f64 => 8
  | .bool => 1 | .pos => 4

def rawTag : Nat := tagOf "Raw"
def objTag : Nat := tagOf "Object"
def ptrTag (safe : Bool) : Nat := if safe then tagOf "SafePointer" else tagOf "ObjectPointer"

/-- how the reading host obtains the object of an `Object` record (the writer has one way only) -/
inductive RMode
  | into    -- `ArchiveObject(obj)` on an object the host already has
  | typed   -- `ReadObject<T>()`: `T::staticclass().createInstance()`, then `ArchiveObject(*instance)`
  | poly    -- `Class* ReadObject()`: the instance is created from the class name stored in the record
  deriving DecidableEq, Repr

/-- one `Archive*` call together with the value it is given (write mode) / returns (read mode).
    Integers, floats, booleans are their bit patterns (`v < 256 ^ width`). -/
inductive Item where
  | prim (p : Prim) (v : Nat)
  | raw (bs : Bytes)                                   -- ArchiveRaw(data, bs.length)
  | str (bs : Bytes)                                   -- Archive(arc, str)
  | ptr (safe : Bool) (target : Lbl)                   -- ArchiveObjectPointer / ArchiveSafePointer
  | position (o : Lbl)                                 -- ArchiveObjectPosition(o)
  /-- `ArchiveObject(o)`; body = what `o.Archive(arc)` does; `m` = how the record is read back -/
  | object (m : RMode) (o : Lbl) (cls : Bytes) (body : List Item)
  deriving Repr

/-! ## writer -/

/-- `Container::AddUniqueObject`: 1-based index of the first occurrence, appended when absent -/
def addUnique (t : List Lbl) (o : Lbl) : List Lbl × Nat :=
  if o ∈ t then (t, t.idxOf o + 1) else (t ++ [o], t.length + 1)

def tagB (t : Nat) : Bytes := le 4 t
def encPrim (p : Prim) (v : Nat) : Bytes := tagB p.tag ++ le p.width v
def encRaw (bs : Bytes) : Bytes := tagB rawTag ++ bs
def encStr (bs : Bytes) : Bytes :=
  encPrim .size bs.length ++ (if bs.length = 0 then [] else encRaw bs)

mutual
/-- one call in write mode: object table before → (object table after, bytes appended) -/
def encItem (t : List Lbl) : Item → List Lbl × Bytes
  | .prim p v => (t, encPrim p v)
  | .raw bs => (t, encRaw bs)
  | .str bs => (t, encStr bs)
  | .ptr safe o =>
    if o = 0 then (t, tagB (ptrTag safe) ++ le 4 nullIdx)
    else ((addUnique t o).1, tagB (ptrTag safe) ++ le 4 (addUnique t o).2)
  | .position o => ((addUnique t o).1, encPrim .pos (addUnique t o).2)
  | .object _ o cls body =>
    let t1 := (addUnique t o).1
    let r := encItems t1 body
    (r.1, tagB objTag ++ le 8 r.2.length ++ encStr cls ++ encPrim .u32 (addUnique t o).2 ++ r.2)
def encItems (t : List Lbl) : List Item → List Lbl × Bytes
  | [] => (t, [])
  | i :: is =>
    let r1 := encItem t i
    let r2 := encItems r1.1 is
    (r2.1, r1.2 ++ r2.2)
end

def encHeader (info : Info) (numClasses : Nat) : Bytes :=
  info.header ++ encPrim .u16 archiveVersion ++ encPrim .u16 info.version ++ encStr info.name
    ++ encPrim .u32 numClasses

/-- `CreateWrite`, the calls of `w`, `Close` (which patches `numClasses`) -/
def encode (info : Info) (w : List Item) : Bytes :=
  encHeader info (encItems [] w).1.length ++ (encItems [] w).2

/-! ## reader -/

inductive Err
  | invalidHeader | wrongVersion | typeError | invalidClass | objectClassError
  | readPastEnd | notReadEntire | streamFail | invalidIndex
  | uninit | oob | alloc
  /-- `ScriptVariableErrors::BadHashCodeValue` out of `con::set::Archive` (a script exception, not an archive error) -/
  | badHash
  deriving DecidableEq, Repr

/-- an `ArchiveErrors::*` exception handed to the caller (as opposed to undefined behaviour) -/
def Err.reported : Err → Bool
  | .uninit | .oob | .alloc => false
  | _ => true

/-- what the reading calls expect, in order -/
inductive Sch where
  | prim (p : Prim)
  | raw (n : Nat)
  | str
  | ptr (safe : Bool)
  | position (o : Lbl)
  | object (m : RMode) (o : Lbl) (cls : Bytes) (body : List Sch)
  deriving Repr

mutual
def schemaOfItem : Item → Sch
  | .prim p _ => .prim p
  | .raw bs => .raw bs.length
  | .str _ => .str
  | .ptr safe _ => .ptr safe
  | .position o => .position o
  | .object m o cls body => .object m o cls (schemaOf body)
def schemaOf : List Item → List Sch
  | [] => []
  | i :: is => schemaOfItem i :: schemaOf is
end

/-- read stream + the reading `Archiver`'s members -/
structure RS where
  rest : Bytes            -- bytes not yet consumed
  pos : Nat               -- stream position
  good : Bool             -- `readStream->good()`
  table : List Lbl        -- `classpointerList` (entry `0` = nullptr)
  fixups : List Nat       -- indices of `fixupList`
  deriving Repr

inductive Res (α : Type) where
  | ok (a : α) (s : RS)
  | err (e : Err) (s : RS)

@[inline] def Res.bind {α β : Type} (r : Res α) (f : α → RS → Res β) : Res β :=
  match r with
  | .ok a s => f a s
  | .err e s => .err e s

/-- `ReadDataInternal(data, n)`; `old` is the content of the destination before the call
    (`none`: an uninitialised local) -/
def readN (cfg : Cfg) (n : Nat) (old : Option Bytes) (s : RS) : Res Bytes :=
  if !s.good then .err .streamFail s
  else if lenGe s.rest n then
    .ok (s.rest.take n) { s with rest := s.rest.drop n, pos := s.pos + n }
  else
    let s' := { s with rest := [], pos := s.pos + s.rest.length, good := false }
    if cfg.checkAfterRead then .err .streamFail s'
    else match old with
      | none => .err .uninit s'
      | some o => .ok (s.rest ++ (o.drop s.rest.length).take (n - s.rest.length)) s'

/-- `tellg()`: `-1` once the stream has failed -/
def tell (s : RS) : Int := if s.good then (s.pos : Int) else -1

/-- `CheckType` -/
def readTag (cfg : Cfg) (t : Nat) (s : RS) : Res Unit :=
  (readN cfg 4 none s).bind fun bs s => if unle bs = t then .ok () s else .err .typeError s

/-- `ArchiveData(t, &x, w)` in read mode, `x` holding `old` -/
def readData (cfg : Cfg) (t w : Nat) (old : Option Bytes) (s : RS) : Res Bytes :=
  (readTag cfg t s).bind fun _ s => readN cfg w old s

/-- a typed primitive read into a zero-initialised host variable -/
def readPrim (cfg : Cfg) (p : Prim) (s : RS) : Res Nat :=
  (readData cfg p.tag p.width (some (zeros p.width)) s).bind fun bs s => .ok (unle bs) s

/-- `str::resize(n)` on a string holding `init` -/
def resized (init : Bytes) (n : Nat) : Bytes := (init ++ zeros n).take n

/-- `Archive(arc, s)` in read mode, `s` holding `init` -/
def readStr (cfg : Cfg) (init : Bytes) (s : RS) : Res Bytes :=
  (readData cfg (Prim.size).tag 8 none s).bind fun lb s =>
    let n := unle lb
    if n = 0 then .ok init s
    else if cfg.lengthChecked && !lenGe s.rest n then .err .streamFail s
    else if strAlloc n ≥ cfg.allocLimit then .err .alloc s
    else readData cfg rawTag n (some (resized init n)) s

/-- `classpointerList.AddObjectAt(i, o)` (preceded by the range check when the reader has one) -/
def addAt (cfg : Cfg) (i : Nat) (o : Lbl) (s : RS) : Res Unit :=
  if cfg.indexChecked && (i == 0 || i > s.table.length) then .err .invalidIndex s
  else if i = 0 then .err .oob s
  else if i * 8 ≥ cfg.allocLimit then .err .alloc s
  else .ok () { s with table := (s.table ++ zeros' (i - s.table.length)).set (i - 1) o }
where zeros' (n : Nat) : List Lbl := List.replicate n 0

/-- `ArchiveObjectPointer` / `ArchiveSafePointer` in read mode; the result is the archive index
    (`0` for the null marker), resolved by `Close` -/
def readPtr (cfg : Cfg) (safe : Bool) (s : RS) : Res Nat :=
  (readData cfg (ptrTag safe) 4 (some (zeros 4)) s).bind fun bs s =>
    let i := unle bs
    if i = nullIdx then .ok 0 s
    else if cfg.indexChecked && (i == 0 || i > s.table.length) then .err .invalidIndex s
    else .ok i { s with fixups := i :: s.fixups }

def upc (b : UInt8) : UInt8 := if 97 ≤ b.toNat ∧ b.toNat ≤ 122 then b - 32 else b
/-- `str::icmp(a, b) == 0` on NUL-free strings -/
def eqi (a b : Bytes) : Bool := a.map upc == b.map upc
/-- what `c_str()` shows of a string with embedded NULs -/
def cstr (bs : Bytes) : Bytes := bs.takeWhile (· ≠ 0)

/-- `ClassDef::GetClass(name)`: first registered class whose name matches case-insensitively -/
def getClass (classes : List Bytes) (name : Bytes) : Option Bytes :=
  if cstr name = [] then none else classes.find? fun c => eqi c (cstr name)

def toInt64 (n : Nat) : Int := if n < 2 ^ 63 then (n : Int) else (n : Int) - 2 ^ 64

def errOfName : String → Err
  | "ReadPastEndObject" => .readPastEnd
  | "NotReadEntireDataObject" => .notReadEntire
  | _ => .streamFail

/-- the chain `if ((endpos - objstart) OP size) throw ArchiveErrors::E(); else if …` behind the body of an
    object record, as the translator found it in the source (`d = endpos - objstart`) -/
def bracket : List (String × String) → Int → Int → Option Err
  | [], _, _ => none
  | (op, e) :: r, d, size =>
    if (op = ">" ∧ d > size) ∨ (op = "<" ∧ d < size) ∨ (op = "!=" ∧ d ≠ size) then some (errOfName e)
    else bracket r d size

/-- `Archiver.cpp` has two copies of the bracket: in `ArchiveObject` (also reached by `ReadObject<T>()`) and in
    the non-template `ReadObject()`; each is its own transcription (`Gen/ArchiveTable.lean`) -/
def bracketOf (m : RMode) (d size : Int) : Option Err :=
  bracket (if m = .poly then Gen.Archive.bracketPoly else Gen.Archive.bracketInto) d size

/-- throw what the bracket says, or go on with `k` -/
def brk {α : Type} (o : Option Err) (s : RS) (k : Res α) : Res α :=
  match o with
  | some e => .err e s
  | none => k

mutual
def readItem (cfg : Cfg) (classes : List Bytes) : Sch → RS → Res Item
  | .prim p, s => (readPrim cfg p s).bind fun v s => .ok (.prim p v) s
  | .raw n, s => (readData cfg rawTag n (some (zeros n)) s).bind fun bs s => .ok (.raw bs) s
  | .str, s => (readStr cfg [] s).bind fun bs s => .ok (.str bs) s
  | .ptr safe, s => (readPtr cfg safe s).bind fun i s => .ok (.ptr safe i) s
  | .position o, s =>
    (readData cfg (Prim.pos).tag 4 (some (zeros 4)) s).bind fun bs s =>
      (addAt cfg (unle bs) o s).bind fun _ s => .ok (.position o) s
  | .object m o cls body, s =>
    -- `ArchiveObject` (read mode) and `Class* ReadObject()`: the same text up to the class test and the
    -- creation of the instance; each has its own copy of the size bracket (`bracketOf`)
    (readN cfg 4 none s).bind fun tb s =>
      if unle tb ≠ objTag then .err .typeError s else
      (readN cfg 8 none s).bind fun sb s =>
        let size := toInt64 (unle sb)
        (readStr cfg [] s).bind fun name s =>
          match getClass classes name with
          | none => .err .invalidClass s
          | some c =>
            -- `if (&obj.classinfo() != cls) throw ObjectClassError` — `ReadObject()` has no object to compare with
            if m ≠ .poly ∧ c ≠ cls then .err .objectClassError s else
            (readData cfg (Prim.u32).tag 4 none s).bind fun ib s =>
              if cfg.indexChecked && (unle ib == 0 || unle ib > s.table.length) then .err .invalidIndex s else
              let objstart := tell s
              -- `ReadObject()`: `cls->createInstance()` here (the harness's classes always yield an instance)
              (readItems cfg classes body s).bind fun items s =>
                brk (bracketOf m (tell s - objstart) size) s
                  ((addAt cfg (unle ib) o s).bind fun _ s => .ok (.object m o c items) s)
def readItems (cfg : Cfg) (classes : List Bytes) : List Sch → RS → Res (List Item)
  | [], s => .ok [] s
  | c :: cs, s =>
    (readItem cfg classes c s).bind fun i s =>
      (readItems cfg classes cs s).bind fun is s => .ok (i :: is) s
end

/-- `CreateRead` -/
def readHeader (cfg : Cfg) (info : Info) (s : RS) : Res Unit :=
  (readN cfg info.header.length none s).bind fun hb s =>
    if hb ≠ info.header then .err .invalidHeader s else
    (readPrim cfg .u16 s).bind fun mv s =>
      (readPrim cfg .u16 s).bind fun v s =>
        let bad := if cfg.versionOr then (mv != archiveVersion || v != info.version)
                   else (mv != archiveVersion && v != info.version)
        if bad then .err .wrongVersion s else
        (readStr cfg info.name s).bind fun _ s =>
          (readPrim cfg .u32 s).bind fun n s =>
            if cfg.lengthChecked && !lenGe s.rest (8 * n) then .err .invalidHeader s
            else if n * 8 ≥ cfg.allocLimit then .err .alloc s
            else .ok () { s with table := List.replicate n 0 }

mutual
/-- `Close` in read mode: every fix-up slot receives `classpointerList.ObjectAt(index)` -/
def fixItem (table : List Lbl) : Item → Item
  | .ptr safe i => .ptr safe (if i = 0 then 0 else table.getD (i - 1) 0)
  | .object m o cls body => .object m o cls (fixItems table body)
  | it => it
def fixItems (table : List Lbl) : List Item → List Item
  | [] => []
  | i :: is => fixItem table i :: fixItems table is
end

/-- every pending fix-up index is inside the table (`ObjectAt` has no range check under `NDEBUG`) -/
def closeOk (s : RS) : Bool := s.fixups.all fun i => decide (1 ≤ i ∧ i ≤ s.table.length)

def RS.init (bytes : Bytes) : RS := { rest := bytes, pos := 0, good := true, table := [], fixups := [] }

def readAll (cfg : Cfg) (classes : List Bytes) (info : Info) (sch : List Sch) (bytes : Bytes) : Res (List Item) :=
  (readHeader cfg info (RS.init bytes)).bind fun _ s => readItems cfg classes sch s

/-- `CreateRead`, the calls of the schema, and the destructor (`Close` runs also when an exception
    unwinds; an out-of-range fix-up there is undefined behaviour whatever was thrown) -/
def decode (cfg : Cfg) (classes : List Bytes) (info : Info) (sch : List Sch) (bytes : Bytes) :
    Except Err (List Item) :=
  match readAll cfg classes info sch bytes with
  | .ok items s => if closeOk s then .ok (fixItems s.table items) else .error .oob
  | .err e s => if !e.reported then .error e else if closeOk s then .error e else .error .oob

/-! ## a `const_str` through `StringDictionary::ArchiveString` (stream part; the dictionary part is `Dict.lean`) -/

/-- `StringDictionary::ArchiveString`, write side: `hasString`, then the text -/
def keyCalls : Option Bytes → List Item
  | none => [.prim .byte 0]
  | some bs => [.prim .byte 1, .str bs]

/-- `StringDictionary::ArchiveString`, load side up to the text (`uint8_t hasString;` is uninitialised) -/
def readKey (cfg : Cfg) (s : RS) : Res (Option Bytes) :=
  (readData cfg (Prim.byte).tag 1 none s).bind fun hb s =>
    if unle hb = 0 then .ok none s else (readStr cfg [] s).bind fun bs s => .ok (some bs) s

/-! ## byte classes of an archive (which positions the substitution theorems speak about) -/

inductive PC
  | hdr | tag | ver | size | cls | len | name | ncls | idx | data
  /-- class-name characters of a record read by `ReadObject()`: the reader has no expected class to compare with -/
  | pcls
  deriving DecidableEq, Repr

def layPrim (c : PC) (p : Prim) : List PC := List.replicate 4 .tag ++ List.replicate p.width c
def layStr (c : PC) (bs : Bytes) : List PC :=
  layPrim .len .size ++ (if bs.length = 0 then [] else List.replicate 4 .tag ++ List.replicate bs.length c)

mutual
def layItem : Item → List PC
  | .prim p _ => layPrim (if p = .pos then .idx else .data) p
  | .raw bs => List.replicate 4 .tag ++ List.replicate bs.length .data
  | .str bs => layStr .data bs
  | .ptr _ _ => List.replicate 4 .tag ++ List.replicate 4 .idx
  | .position _ => layPrim .idx .pos
  | .object m _ cls body =>
    List.replicate 4 .tag ++ List.replicate 8 .size ++ layStr (if m = .poly then .pcls else .cls) cls
      ++ layPrim .idx .u32 ++ layItems body
def layItems : List Item → List PC
  | [] => []
  | i :: is => layItem i ++ layItems is
end

/-- class of every byte of `encode info w` -/
def layout (info : Info) (w : List Item) : List PC :=
  List.replicate info.header.length .hdr ++ layPrim .ver .u16 ++ layPrim .ver .u16 ++ layStr .name info.name
    ++ layPrim .ncls .u32 ++ layItems w

end Morfuse.Archive
