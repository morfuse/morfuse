import MorfuseModel.Archive.Walk
/-! Truncation (C11): a reader that reports short reads at once cannot complete on a strict prefix of
an archive it completes on only by consuming all of it. -/
namespace Morfuse.Archive

def RS.cut (s : RS) (k : Nat) : RS := { s with rest := s.rest.take k }

@[simp] theorem RS.cut_table (s : RS) (k : Nat) : (s.cut k).table = s.table := rfl
@[simp] theorem RS.cut_fixups (s : RS) (k : Nat) : (s.cut k).fixups = s.fixups := rfl
@[simp] theorem RS.cut_pos (s : RS) (k : Nat) : (s.cut k).pos = s.pos := rfl
@[simp] theorem RS.cut_good (s : RS) (k : Nat) : (s.cut k).good = s.good := rfl
@[simp] theorem RS.cut_rest (s : RS) (k : Nat) : (s.cut k).rest = s.rest.take k := rfl
@[simp] theorem tell_cut (s : RS) (k : Nat) : tell (s.cut k) = tell s := rfl

/-- whatever a run on the cut stream returns successfully, the run on the whole stream returns too, within the cut -/
def TO {α : Type} (s : RS) (k : Nat) (r2 r : Res α) : Prop :=
  ∀ a s2, r2 = .ok a s2 →
    ∃ s', r = .ok a s' ∧ s.pos ≤ s'.pos ∧ s'.pos - s.pos ≤ k ∧ s2 = s'.cut (k - (s'.pos - s.pos))

theorem TO.bind {α β : Type} {s : RS} {k : Nat} {r2 r : Res α} {f : α → RS → Res β}
    (h : TO s k r2 r) (hf : ∀ a s' k', TO s' k' (f a (s'.cut k')) (f a s')) :
    TO s k (r2.bind f) (r.bind f) := by
  intro b s3 hb
  cases r2 with
  | err e s2 => simp [Res.bind] at hb
  | ok a s2 =>
    obtain ⟨s', hr, hp1, hp2, hs2⟩ := h a s2 rfl
    subst hs2
    simp only [Res.bind] at hb
    obtain ⟨s'', hr2, hq1, hq2, hs3⟩ := hf a s' _ b s3 hb
    refine ⟨s'', by simp [hr, Res.bind, hr2], by omega, by omega, ?_⟩
    rw [hs3]
    congr 1
    omega

theorem readN_TO (cfg : Cfg) (hc : cfg.checkAfterRead = true) (n : Nat) (old : Option Bytes) (s : RS) (k : Nat) :
    TO s k (readN cfg n old (s.cut k)) (readN cfg n old s) := by
  intro a s2 h
  unfold readN at h ⊢
  simp only [RS.cut_good, RS.cut_rest, RS.cut_pos, hc, ↓reduceIte] at h ⊢
  by_cases hg : s.good = true
  · simp only [hg, Bool.not_true, Bool.false_eq_true, ↓reduceIte] at h ⊢
    by_cases hl : lenGe (s.rest.take k) n = true
    · simp only [hl, ↓reduceIte, Res.ok.injEq] at h
      rw [lenGe_iff, List.length_take] at hl
      have hl' : lenGe s.rest n = true := by rw [lenGe_iff]; omega
      simp only [hl', ↓reduceIte]
      obtain ⟨h1, h2⟩ := h
      subst h2
      have e1 : (s.rest.take k).take n = s.rest.take n := by
        rw [List.take_take]; congr 1; omega
      refine ⟨⟨s.rest.drop n, s.pos + n, true, s.table, s.fixups⟩, ?_, by simp, by simp; omega, ?_⟩
      · rw [← h1, e1]
      · simp only [RS.cut, RS.mk.injEq, and_true, Nat.add_sub_cancel_left]
        rw [List.drop_take]
    · simp [hl] at h
  · simp [hg] at h

theorem ok_TO {α : Type} (a : α) (s : RS) (k : Nat) : TO s k (Res.ok a (s.cut k)) (Res.ok a s) := by
  intro b s2 h
  simp only [Res.ok.injEq] at h
  exact ⟨s, by simp [h.1], by omega, by omega, by simp [h.2]⟩

theorem err_TO {α : Type} (e : Err) (s s0 : RS) (k : Nat) (r : Res α) : TO s k (Res.err e s0) r := by
  intro b s2 h; simp at h

theorem TO.ite {α : Type} {c : Prop} [Decidable c] {s : RS} {k : Nat} {a2 b2 a b : Res α}
    (ht : c → TO s k a2 a) (hf : ¬ c → TO s k b2 b) : TO s k (if c then a2 else b2) (if c then a else b) := by
  by_cases h : c
  · simp only [h, ↓reduceIte]; exact ht h
  · simp only [h, ↓reduceIte]; exact hf h

def toLogic (cfg : Cfg) (hc : cfg.checkAfterRead = true) : ReaderLogic cfg where
  J f := ∀ s k, TO s k (f (s.cut k)) (f s)
  around {_ _ _ o f g} ho hf hg s k := by
    show TO s k ((f (s.cut k)).bind (g (o (s.cut k)))) _
    rw [show o (s.cut k) = o s from ho s _]
    exact (hf s k).bind fun a s' k' => hg _ a s' k'
  pure a s k := ok_TO a s k
  fail _ _ _ := err_TO _ _ _ _ _
  readN := readN_TO cfg hc

theorem TO.lenCheck {α : Type} {s : RS} {k : Nat} {c : Bool} {n j : Nat} {rest : Bytes} {e : Err} {s2 : RS}
    {x a2 a : Res α} (h : TO s k a2 a) :
    TO s k (if (c && !lenGe (rest.take j) n) = true then .err e s2 else a2)
      (if (c && !lenGe rest n) = true then x else a) := by
  by_cases h1 : (c && !lenGe (rest.take j) n) = true
  · simp only [h1, ↓reduceIte]; exact err_TO _ _ _ _ _
  · have h2 : ¬ ((c && !lenGe rest n) = true) := by
      simp only [Bool.and_eq_true, Bool.not_eq_eq_eq_not, Bool.not_true, not_and, Bool.not_eq_false] at h1 ⊢
      intro hl
      have := h1 hl
      rw [lenGe_iff, List.length_take] at this
      rw [lenGe_iff]; omega
    simp only [h1, h2]; exact h

theorem readStr_TO (cfg : Cfg) (hc : cfg.checkAfterRead = true) (init : Bytes) :
    ∀ s k, TO s k (readStr cfg init (s.cut k)) (readStr cfg init s) :=
  let L := toLogic cfg hc
  L.bind (L.readData _ _ _) fun _ => L.ite (fun _ => L.pure init) fun _ s k =>
    TO.lenCheck (TO.ite (fun _ => err_TO _ _ _ _ _) fun _ => L.readData _ _ _ s k)

theorem addAt_TO (cfg : Cfg) (i : Nat) (o : Lbl) (s : RS) (k : Nat) :
    TO s k (addAt cfg i o (s.cut k)) (addAt cfg i o s) := by
  unfold addAt
  simp only [RS.cut_table]
  refine TO.ite (fun _ => err_TO _ _ _ _ _) (fun _ => ?_)
  refine TO.ite (fun _ => err_TO _ _ _ _ _) (fun _ => ?_)
  refine TO.ite (fun _ => err_TO _ _ _ _ _) (fun _ => ?_)
  exact ok_TO () { s with table := (s.table ++ addAt.zeros' (i - s.table.length)).set (i - 1) o } k

theorem readPtr_TO (cfg : Cfg) (hc : cfg.checkAfterRead = true) (safe : Bool) :
    ∀ s k, TO s k (readPtr cfg safe (s.cut k)) (readPtr cfg safe s) :=
  let L := toLogic cfg hc
  L.bind (L.readData _ _ _) fun bs => L.ite (fun _ => L.pure 0) fun _ s k =>
    TO.ite (fun _ => err_TO _ _ _ _ _) fun _ => ok_TO (unle bs) { s with fixups := unle bs :: s.fixups } k

theorem readItem_TO (cfg : Cfg) (hc : cfg.checkAfterRead = true) (classes : List Bytes) :
    (c : Sch) → (s : RS) → (k : Nat) → TO s k (readItem cfg classes c (s.cut k)) (readItem cfg classes c s) :=
  readItem_J (toLogic cfg hc) (readStr_TO cfg hc) (readPtr_TO cfg hc) (addAt_TO cfg) classes

theorem readItems_TO (cfg : Cfg) (hc : cfg.checkAfterRead = true) (classes : List Bytes) :
    (cs : List Sch) → (s : RS) → (k : Nat) → TO s k (readItems cfg classes cs (s.cut k)) (readItems cfg classes cs s) :=
  readItems_J (toLogic cfg hc) (readStr_TO cfg hc) (readPtr_TO cfg hc) (addAt_TO cfg) classes

theorem readHeader_TO (cfg : Cfg) (hc : cfg.checkAfterRead = true) (info : Info) (s : RS) (k : Nat) :
    TO s k (readHeader cfg info (s.cut k)) (readHeader cfg info s) := by
  rw [readHeader_eq, readHeader_eq]
  exact (readHeaderCore_J (toLogic cfg hc) (readStr_TO cfg hc) info s k).bind fun n s5 k5 =>
    TO.lenCheck (TO.ite (fun _ => err_TO _ _ _ _ _) fun _ => ok_TO () { s5 with table := List.replicate n 0 } k5)

theorem readAll_TO (cfg : Cfg) (hc : cfg.checkAfterRead = true) (classes : List Bytes) (info : Info)
    (sch : List Sch) (bytes : Bytes) (k : Nat) :
    TO (RS.init bytes) k (readAll cfg classes info sch (bytes.take k)) (readAll cfg classes info sch bytes) := by
  unfold readAll
  have : RS.init (bytes.take k) = (RS.init bytes).cut k := rfl
  rw [this]
  exact (readHeader_TO cfg hc info _ k).bind fun _ s' k' => readItems_TO cfg hc classes sch s' k'

end Morfuse.Archive
