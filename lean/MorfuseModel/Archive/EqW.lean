import MorfuseModel.Archive.Eq
import MorfuseModel.Archive.Value
/-! `Same` for script values and mixed sequences -/
namespace Morfuse.Archive
open Same

mutual
def Value.same : (a b : Value) → Same a b
  | .none, .none => refl Value.none
  | .int a, .int b => refl Value.int ⊛ of a b
  | .float a, .float b => refl Value.float ⊛ of a b
  | .char a, .char b => refl Value.char ⊛ of a b
  | .string a, .string b => refl Value.string ⊛ of a b
  | .constString a, .constString b => refl Value.constString ⊛ of a b
  | .vector a, .vector b => refl Value.vector ⊛ of a b
  | .link c s a, .link c' s' b => refl Value.link ⊛ of c c' ⊛ of s s' ⊛ of a b
  | .holderRef c a, .holderRef c' b => refl Value.holderRef ⊛ of c c' ⊛ of a b
  | .pointer p vs, .pointer p' vs' => refl Value.pointer ⊛ of p p' ⊛ of vs vs'
  | .array h rc tl th tli es, .array h' rc' tl' th' tli' es' =>
    refl Value.array ⊛ of h h' ⊛ of rc rc' ⊛ of tl tl' ⊛ of th th' ⊛ of tli tli' ⊛ Value.sameE es es'
  | .constArray h rc es, .constArray h' rc' es' => refl Value.constArray ⊛ of h h' ⊛ of rc rc' ⊛ Value.sameE es es'
  | _, _ => no
def Value.sameE : (a b : List (Lbl × Value)) → Same a b
  | [], [] => refl []
  | (l, v) :: es, (l', v') :: es' => refl List.cons ⊛ (refl Prod.mk ⊛ of l l' ⊛ Value.same v v') ⊛ Value.sameE es es'
  | _, _ => no
end

def WItem.same : (a b : WItem) → Same a b
  | .item a, .item b => refl WItem.item ⊛ Item.same a b
  | .value s v, .value s' v' => refl WItem.value ⊛ of s s' ⊛ Value.same v v'
  | .named s k v, .named s' k' v' => refl WItem.named ⊛ of s s' ⊛ of k k' ⊛ Value.same v v'
  | _, _ => no

end Morfuse.Archive
