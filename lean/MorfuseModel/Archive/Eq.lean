import MorfuseModel.Archive.Model
/-! Comparison of decode outcomes, for concrete witnesses checked with `decide +kernel` (`Item` and `Value` are nested
inductives: no derived `DecidableEq`).  A `Same a b` is built the way the compared values are — `refl` on the constructor,
`⊛` for every field — and so carries its own correctness. -/
namespace Morfuse.Archive

def Same {α : Type} (a b : α) : Type := { r : Bool // r = true → a = b }

namespace Same
variable {α β : Type}

def refl (a : α) : Same a a := ⟨true, fun _ => rfl⟩

def no {a b : α} : Same a b := ⟨false, nofun⟩

def of [DecidableEq α] (a b : α) : Same a b := ⟨decide (a = b), of_decide_eq_true⟩

def app {f g : α → β} {a b : α} (x : Same f g) (y : Same a b) : Same (f a) (g b) :=
  ⟨x.1 && y.1, fun h => by rw [x.2 (Bool.and_eq_true_iff.mp h).1, y.2 (Bool.and_eq_true_iff.mp h).2]⟩

scoped infixl:60 " ⊛ " => app

theorem eq {a b : α} (x : Same a b) (h : x.1 = true) : a = b := x.2 h

def outcome (same : (a b : α) → Same a b) : (r r' : Except Err α) → Same r r'
  | .ok a, .ok b => refl Except.ok ⊛ same a b
  | .error e, .error e' => refl Except.error ⊛ of e e'
  | _, _ => no

def list (same : (a b : α) → Same a b) : (l l' : List α) → Same l l'
  | [], [] => refl []
  | a :: as, b :: bs => refl List.cons ⊛ same a b ⊛ list same as bs
  | _, _ => no

end Same

open Same

mutual
def Item.same : (a b : Item) → Same a b
  | .prim p v, .prim p' v' => refl Item.prim ⊛ of p p' ⊛ of v v'
  | .raw a, .raw b => refl Item.raw ⊛ of a b
  | .str a, .str b => refl Item.str ⊛ of a b
  | .ptr s o, .ptr s' o' => refl Item.ptr ⊛ of s s' ⊛ of o o'
  | .position o, .position o' => refl Item.position ⊛ of o o'
  | .object m o c b, .object m' o' c' b' => refl Item.object ⊛ of m m' ⊛ of o o' ⊛ of c c' ⊛ Item.sameL b b'
  | _, _ => no
def Item.sameL : (a b : List Item) → Same a b
  | [], [] => refl []
  | a :: as, b :: bs => refl List.cons ⊛ Item.same a b ⊛ Item.sameL as bs
  | _, _ => no
end

end Morfuse.Archive
