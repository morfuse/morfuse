import MorfuseModel.Archive.SetHeader
import MorfuseModel.Archive.Honest
/-! Round trip of `Listener::Archive`'s tables: the data-directed reader of `Tables.lean`, run on what the
writer produced, returns the tables (archive indices in the pointer slots until `Close` = `fixTables`). -/
namespace Morfuse.Archive

/-- what a key needs to be loadable: its text can be allocated -/
def WFKey (cfg : Cfg) : Option Bytes → Prop
  | none => True
  | some bs => bs.length < 2 ^ 64 ∧ strAlloc bs.length < cfg.allocLimit

theorem readKey_honest {T t : List Lbl} (cfg : Cfg) (k : Option Bytes) (hk : WFKey cfg k) :
    Honest T (readKey cfg) t (keyCalls k) k := by
  cases k with
  | none =>
    refine Honest.cons (Honest.data cfg .byte 0 none) (Honest.congr (fun s => ?_) (Honest.pure none))
    simp [unle_le_of_lt, Prim.width]
  | some bs =>
    refine Honest.cons (Honest.data cfg .byte 1 none) (Honest.congr (fun s => ?_)
      (Honest.map some (Honest.str cfg [] hk.1 hk.2 (fun _ => rfl))))
    simp [unle_le_of_lt, Prim.width]

theorem readPtrs_honest {T : List Lbl} (hT : T.length < nullIdx) (cfg : Cfg) (ls : List Lbl) (t : List Lbl) :
    Honest T (readPtrs cfg ls.length) t (ls.map (.ptr true ·)) (ls.map (rawPtr T)) :=
  Honest.ptrs hT cfg true (readPtrs cfg) (fun _ => rfl) (fun _ _ => rfl) ls t

/-- a `ConList` can be loaded: `SetNumObjects` succeeds -/
def WFList (cfg : Cfg) (ls : List Lbl) : Prop := ls.length < 2 ^ 32 ∧ ls.length * safePtrSize < cfg.allocLimit

theorem readConList_honest {T : List Lbl} (hT : T.length < nullIdx) (cfg : Cfg) (ls : List Lbl) (hw : WFList cfg ls)
    (t : List Lbl) :
    Honest T (readConList cfg) t (conListCalls ls) (ls.map (rawPtr T)) :=
  Honest.counted cfg hw.1 (by simp [ptrs_enc_length]; omega)
    (fun nb s e hg hl => by simp [e, hg, hl, Nat.not_le.mpr hw.2]) (readPtrs_honest hT cfg ls _)

def WFEntry (cfg : Cfg) (e : ConEntry) : Prop := WFKey cfg e.1 ∧ WFList cfg e.2

def rawEntry (T : List Lbl) (e : ConEntry) : Option Bytes × List Nat :=
  (e.1, e.2.map fun o => if o = 0 then 0 else idxIn T o)

theorem readEntries_honest {T : List Lbl} (hT : T.length < nullIdx) (cfg : Cfg) (tl : Nat) (htl : tl ≠ 0) :
    (es : List ConEntry) → (∀ e ∈ es, WFEntry cfg e) → (t : List Lbl) →
    Honest T (readEntries cfg tl es.length) t (entriesCalls es) (es.map (rawEntry T))
  | [], _, _ => Honest.pure _
  | e :: es, hw, _ => by
    have hwe := hw e List.mem_cons_self
    have ih := fun t => readEntries_honest hT cfg tl htl es (fun x hx => hw x (List.mem_cons_of_mem _ hx)) t
    rw [entriesCalls, entryCalls, List.append_assoc]
    exact Honest.bind (readKey_honest cfg e.1 hwe.1) (Honest.bind (readConList_honest hT cfg e.2 hwe.2 _)
      (Honest.congr (fun s => if_neg htl) (Honest.map _ (ih _))))

/-- a set the writer can have produced and the reader can load -/
structure WFSet (cfg : Cfg) (s : ConSet) : Prop where
  tl : s.tableLength ≠ 0 ∧ s.tableLength < 2 ^ 32 ∧ s.tableLength * 8 < cfg.allocLimit
  th : s.threshold < 2 ^ 32
  tli : s.tableLengthIndex < 2 ^ 16
  cnt : s.entries.length < 2 ^ 32
  /-- `count` and `tableLength` do not exceed what the stream holds behind them (always true of `count`: every entry
      takes bytes; a table sparser than that is loaded into a smaller one and its `tableLength` does not round-trip) -/
  bounds : ∀ t : List Lbl,
    s.entries.length ≤ (encItems t (.prim .u16 s.tableLengthIndex :: (entriesCalls s.entries ++ []))).2.length ∧
    s.tableLength ≤ (encItems t (.prim .u16 s.tableLengthIndex :: (entriesCalls s.entries ++ []))).2.length
  entries : ∀ e ∈ s.entries, WFEntry cfg e

theorem rawSet_entries (T : List Lbl) (s : ConSet) : (rawSet T s).entries = s.entries.map (rawEntry T) := rfl

theorem readSet_honest {T : List Lbl} (hT : T.length < nullIdx) (cfg : Cfg) (s : ConSet) (hw : WFSet cfg s)
    (t : List Lbl) : Honest T (readSet cfg) t (setCalls s) (rawSet T s) := by
  rw [readSet_eq]
  refine Honest.setHeader cfg hw.tl hw.th hw.cnt hw.tli ?_
    (Honest.map (RawSet.mk s.tableLength s.threshold s.tableLengthIndex)
      (readEntries_honest hT cfg s.tableLength hw.tl.1 s.entries hw.entries t))
  have := hw.bounds t
  rwa [List.append_nil] at this

def WFOptSet (cfg : Cfg) : Option ConSet → Prop
  | none => True
  | some s => WFSet cfg s

theorem readOptSet_honest {T : List Lbl} (hT : T.length < nullIdx) (cfg : Cfg) (o : Option ConSet)
    (hw : WFOptSet cfg o) (t : List Lbl) :
    Honest T (readOptSet cfg o.isSome) t (optSetCalls o) (o.map (rawSet T)) := by
  cases o with
  | none => exact Honest.congr (fun s' => by simp [readOptSet]) (Honest.pure none)
  | some s => exact Honest.congr (fun s' => by simp [readOptSet]) (Honest.map some (readSet_honest hT cfg s hw t))

structure WFTables (cfg : Cfg) (st : LTables) : Prop where
  notify : WFOptSet cfg st.notify
  waitFor : WFOptSet cfg st.waitFor
  endl : WFOptSet cfg st.endl

theorem flagOf_bits (st : LTables) :
    flagOf st < 256 ∧ (decide (flagOf st % 2 = 1) = st.notify.isSome) ∧
      (decide (flagOf st / 2 % 2 = 1) = st.waitFor.isSome) ∧ (decide (flagOf st / 8 % 2 = 1) = st.endl.isSome) := by
  unfold flagOf
  cases st.notify.isSome <;> cases st.waitFor.isSome <;> cases st.endl.isSome <;> decide

theorem readListener_honest {T : List Lbl} (hT : T.length < nullIdx) (cfg : Cfg) (st : LTables)
    (hw : WFTables cfg st) (t : List Lbl) : Honest T (readListener cfg) t (listenerCalls st) (rawTables T st) := by
  obtain ⟨hf, b1, b2, b3⟩ := flagOf_bits st
  have hu : unle (le (Prim.u8).width (flagOf st)) = flagOf st := unle_le_of_lt (by simpa [Prim.width] using hf)
  rw [listenerCalls, List.append_assoc]
  refine Honest.cons (Honest.data cfg .u8 (flagOf st) _) ?_
  simp only [hu, b1, b2, b3]
  exact Honest.bind (readOptSet_honest hT cfg st.notify hw.notify _)
    (Honest.bind (readOptSet_honest hT cfg st.waitFor hw.waitFor _)
      (Honest.map (RawTables.mk _ _) (readOptSet_honest hT cfg st.endl hw.endl _)))

theorem ptrs_regLabels (safe : Bool) (ls : List Lbl) : regLabels (ls.map (.ptr safe ·)) = [] := by
  induction ls with
  | nil => rfl
  | cons o ls ih => simp [regLabels, regLabelsItem, ih]

theorem entriesCalls_regLabels : (es : List ConEntry) → regLabels (entriesCalls es) = []
  | [] => rfl
  | e :: es => by
    cases hk : e.1 <;>
      simp [entriesCalls, entryCalls, keyCalls, conListCalls, hk, regLabels_append, regLabels, regLabelsItem,
        ptrs_regLabels, entriesCalls_regLabels es]

theorem listenerCalls_regLabels (st : LTables) : regLabels (listenerCalls st) = [] := by
  have h : ∀ o : Option ConSet, regLabels (optSetCalls o) = [] := fun o => by
    cases o <;> simp [optSetCalls, setCalls, regLabels, regLabelsItem, entriesCalls_regLabels]
  simp [listenerCalls, regLabels, regLabelsItem, regLabels_append, h]

/-- the listeners the tables point to -/
def setTargets (s : ConSet) : List Lbl := (s.entries.flatMap (·.2)).filter (· ≠ 0)
def optTargets : Option ConSet → List Lbl
  | none => []
  | some s => setTargets s
def tableTargets (st : LTables) : List Lbl := optTargets st.notify ++ optTargets st.waitFor ++ optTargets st.endl

theorem fixSet_raw (T Rf : List Lbl) (s : ConSet) (h : ∀ o ∈ setTargets s, Rf.getD (T.idxOf o) 0 = o) :
    fixSet Rf (rawSet T s) = s := by
  cases s with
  | mk tl th tli es =>
    simp only [fixSet, rawSet, List.map_map, ConSet.mk.injEq, true_and]
    refine (List.map_congr_left fun e he => ?_).trans (List.map_id' _)
    simp only [Function.comp, List.map_map]
    refine Prod.ext rfl ((List.map_congr_left fun o ho => ?_).trans (List.map_id' _))
    exact look_raw fun h0 => h o (by
      simp only [setTargets, List.mem_filter, List.mem_flatMap]
      exact ⟨⟨e, he, ho⟩, by simpa using h0⟩)

end Morfuse.Archive
