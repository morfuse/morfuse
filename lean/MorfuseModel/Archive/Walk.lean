import MorfuseModel.Archive.Lemmas
/-! What safety on arbitrary bytes (`Safety.lean`) and truncation (`Trunc.lean`) have in common: each is a judgement `J` on
readers that holds of `readN` and is closed under the constructs the readers of `Model.lean` are written with (`ReaderLogic`),
so the walk over the reading calls and over `CreateRead` is done once.  Both speak of every stream, so `J` is about the reader
alone; `Rob` and `Honest` are indexed by what the writer produced. -/
namespace Morfuse.Archive

def IgnoresRest {β : Type} (o : RS → β) : Prop := ∀ (s : RS) (r : Bytes), o { s with rest := r } = o s

structure ReaderLogic (cfg : Cfg) where
  J : {α : Type} → (RS → Res α) → Prop
  /-- what follows `f` may depend on what `o` saw in the state `f` started in -/
  around : ∀ {α β γ : Type} {o : RS → γ} {f : RS → Res α} {g : γ → α → RS → Res β},
    IgnoresRest o → J f → (∀ c a, J (g c a)) → J (fun s => (f s).bind (g (o s)))
  pure : ∀ {α : Type} (a : α), J (fun s => .ok a s)
  /-- only for an `ArchiveErrors` exception: an unreported error is undefined behaviour, which safety must exclude -/
  fail : ∀ {α : Type} {e : Err}, e.reported = true → J (fun s => (.err e s : Res α))
  readN : ∀ n old, J (readN cfg n old)

namespace ReaderLogic
variable {cfg : Cfg} (L : ReaderLogic cfg) {α β : Type}

theorem bind {f : RS → Res α} {g : α → RS → Res β} (hf : L.J f) (hg : ∀ a, L.J (g a)) : L.J (fun s => (f s).bind g) :=
  L.around (o := fun _ => ()) (fun _ _ => rfl) hf fun _ => hg

theorem ite {c : Prop} [Decidable c] {f g : RS → Res α} (ht : c → L.J f) (hf : ¬ c → L.J g) :
    L.J (fun s => if c then f s else g s) := by
  by_cases h : c
  · simpa only [h, if_true] using ht h
  · simpa only [h, if_false] using hf h

theorem guard {g : RS → Prop} [DecidablePred g] {e : Err} {k : RS → Res α} (hg : IgnoresRest g) (he : e.reported = true)
    (hk : L.J k) : L.J (fun s => if g s then .err e s else k s) := by
  have := L.around (o := fun s => decide (g s)) (fun s r => by simp only [hg s r]) (L.pure ())
    fun b _ => L.ite (c := b = true) (fun _ => L.fail he) fun _ => hk
  simpa only [Res.bind, decide_eq_true_eq] using this

theorem readTag (t : Nat) : L.J (readTag cfg t) :=
  L.bind (L.readN 4 none) fun _ => L.ite (fun _ => L.pure ()) fun _ => L.fail rfl

theorem readData (t w : Nat) (old : Option Bytes) : L.J (readData cfg t w old) :=
  L.bind (L.readTag t) fun _ => L.readN w old

theorem readPrim (p : Prim) : L.J (readPrim cfg p) :=
  L.bind (L.readData _ _ _) fun bs => L.pure (unle bs)

end ReaderLogic

/-! `readStr`, `readPtr`, `addAt` and the end of `readHeader` test lengths and indices taken from the stream.  They come in as
hypotheses (`readHeaderCore_J` stops before the last), since what such a guard is worth differs: safety needs what the guard learned to exclude the undefined step behind
it, truncation needs the guard to pass on the whole stream once it passed on a part.  (A test that reads the stream fits neither
`ite` nor `guard`: an instance proves these reads state by state.) -/

theorem readHeaderCore_J {cfg : Cfg} (L : ReaderLogic cfg) (hStr : ∀ init, L.J (readStr cfg init)) (info : Info) :
    L.J (readHeaderCore cfg info) :=
  L.bind (L.readN _ none) fun _ => L.ite (fun _ => L.fail rfl) fun _ =>
    L.bind (L.readPrim .u16) fun _ => L.bind (L.readPrim .u16) fun _ =>
      L.ite (fun _ => L.fail rfl) fun _ => L.bind (hStr info.name) fun _ => L.readPrim .u32

mutual
theorem readItem_J {cfg : Cfg} (L : ReaderLogic cfg) (hStr : ∀ init, L.J (readStr cfg init)) (hPtr : ∀ safe, L.J (readPtr cfg safe))
    (hAdd : ∀ i o, L.J (addAt cfg i o)) (classes : List Bytes) : (c : Sch) → L.J (readItem cfg classes c)
  | .prim p => L.bind (L.readPrim p) fun v => L.pure (Item.prim p v)
  | .raw n => L.bind (L.readData _ n _) fun bs => L.pure (Item.raw bs)
  | .str => L.bind (hStr []) fun bs => L.pure (Item.str bs)
  | .ptr safe => L.bind (hPtr safe) fun i => L.pure (Item.ptr safe i)
  | .position o => L.bind (L.readData _ 4 _) fun bs => L.bind (hAdd (unle bs) o) fun _ => L.pure (Item.position o)
  | .object m o cls body => by
    refine L.bind (L.readN 4 none) fun tb => L.ite (fun _ => L.fail rfl) fun _ => ?_
    refine L.bind (L.readN 8 none) fun sb => L.bind (hStr []) fun name => ?_
    split
    · exact L.fail rfl
    rename_i c _
    refine L.ite (fun _ => L.fail rfl) fun _ => L.bind (L.readData _ 4 none) fun ib => ?_
    refine L.guard (fun _ _ => rfl) rfl ?_
    -- the size bracket compares the positions before and after the body
    refine L.around (o := tell) (fun _ _ => rfl) (readItems_J L hStr hPtr hAdd classes body) (g := fun objstart items s =>
      brk (bracketOf m (tell s - objstart) (toInt64 (unle sb))) s
        ((addAt cfg (unle ib) o s).bind fun _ s => Res.ok (Item.object m o c items) s)) fun objstart items => ?_
    simp only [bracket_ite]
    exact L.guard (fun _ _ => rfl) rfl (L.guard (fun _ _ => rfl) rfl (L.bind (hAdd _ o) fun _ => L.pure _))
theorem readItems_J {cfg : Cfg} (L : ReaderLogic cfg) (hStr : ∀ init, L.J (readStr cfg init)) (hPtr : ∀ safe, L.J (readPtr cfg safe))
    (hAdd : ∀ i o, L.J (addAt cfg i o)) (classes : List Bytes) : (cs : List Sch) → L.J (readItems cfg classes cs)
  | [] => L.pure []
  | c :: cs => L.bind (readItem_J L hStr hPtr hAdd classes c) fun i =>
    L.bind (readItems_J L hStr hPtr hAdd classes cs) fun is => L.pure (i :: is)
end

end Morfuse.Archive
