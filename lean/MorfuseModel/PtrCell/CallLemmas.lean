import MorfuseModel.PtrCell.Call
import MorfuseModel.PtrCell.Lemmas
import MorfuseModel.Common.Assoc
/-!
# Lemmas about the call-record model (`PtrCell/Call.lean`)

`ap` either performs a step of the cell model or leaves the cells alone and raises `stuck`, which is never
lowered.  So what every legal step keeps holds after a statement without any hypothesis (`ap_keeps`); a lemma
that says a write took place (`Clear()` left NIL, a parameter was bound) is about a result that is not stuck,
and the `*_ok` lemmas hand "not stuck" back to everything that ran before.
-/
namespace Morfuse.CallRec
open Morfuse.PtrCell (Op isPtr listOf)

theorem ap_ok {s : State} {op : Op} (h : (ap s op).stuck = false) :
    s.stuck = false ∧ ∃ c, PtrCell.step s.cells op = some c ∧ ap s op = { s with cells := c } := by
  unfold ap at h ⊢
  cases hs : PtrCell.step s.cells op with
  | none => rw [hs] at h; simp at h
  | some c => rw [hs] at h; exact ⟨by simpa using h, c, rfl, rfl⟩

theorem ap_keeps {P : PtrCell.State → Prop} {s : State} {op : Op} (h0 : P s.cells)
    (h : ∀ c, PtrCell.step s.cells op = some c → P c) : P (ap s op).cells := by
  unfold ap
  cases hs : PtrCell.step s.cells op with
  | none => exact h0
  | some c => exact h c hs

theorem nil_of_frame {s s' : PtrCell.State} {op : Op} (h : PtrCell.step s op = some s')
    (hf : ∀ x ∈ PtrCell.footprint s op, s'.kind.get x = 0) (x : Nat) (hx : s.kind.get x = 0) : s'.kind.get x = 0 := by
  by_cases hm : x ∈ PtrCell.footprint s op
  · exact hf x hm
  · rw [(PtrCell.step_frame h x hm).2.1, hx]

theorem step_newCell {s s' : PtrCell.State} {t : Nat} (h : PtrCell.step s (.newCell t) = some s') :
    s'.kind.get t = 0 ∧ (∀ x, s.kind.get x = 0 → s'.kind.get x = 0) := by
  have ht : s'.kind.get t = 0 := by
    simp only [PtrCell.step, Option.ite_none_right_eq_some, Option.some.injEq] at h
    obtain ⟨-, rfl⟩ := h
    simp
  exact ⟨ht, nil_of_frame h (by simpa [PtrCell.footprint] using ht)⟩

theorem step_assign_copy {s s' : PtrCell.State} {a b : Nat} (h : PtrCell.step s (.assign a b) = some s') :
    s'.kind.get b = s.kind.get a ∧ s'.val.get b = s.val.get a := by
  simp only [PtrCell.step, Option.ite_none_right_eq_some, Option.some.injEq] at h
  obtain ⟨g, rfl⟩ := h
  obtain ⟨_, e2, e3, _⟩ := PtrCell.clearInternal_cells s b
  simp [(PtrCell.setData_cells _ _ _).2.1, (PtrCell.setData_cells _ _ _).2.2, PtrCell.writeNone, e2, e3, Mem.get_set, g.2.2]

theorem step_assign_nil {s s' : PtrCell.State} {a b : Nat} (h : PtrCell.step s (.assign a b) = some s')
    (ha : s.kind.get a = 0) :
    s'.kind.get b = 0 ∧ (∀ x, s.kind.get x = 0 → s'.kind.get x = 0) := by
  have hb : s'.kind.get b = 0 := (step_assign_copy h).1.trans ha
  exact ⟨hb, nil_of_frame h (by simpa [PtrCell.footprint] using hb)⟩

theorem step_destroy_nil {s s' : PtrCell.State} {a : Nat} (h : PtrCell.step s (.destroy a) = some s') :
    ∀ x, s.kind.get x = 0 → s'.kind.get x = 0 := by
  refine nil_of_frame h ?_
  simp only [PtrCell.step, Option.ite_none_right_eq_some, Option.some.injEq] at h
  obtain ⟨-, rfl⟩ := h
  simp [PtrCell.footprint]

theorem ap_frame (s : State) (op : Op) :
    (ap s op).vars = s.vars ∧ (ap s op).nextCell = s.nextCell ∧
    (ap s op).records = s.records ∧ (ap s op).insts = s.insts ∧ (ap s op).threads = s.threads := by
  unfold ap; cases PtrCell.step s.cells op <;> simp

theorem setNil_ok {s : State} {c : Nat} (h : (setNil s c).stuck = false) : s.stuck = false :=
  (ap_ok (ap_ok (ap_ok h).1).1).1

/-- the temporary of `Clear()` (`ScriptVariable t; c = t;`) is the next free cell: the frame excludes `s.nextCell` -/
theorem setNil_spec {s : State} {c : Nat} (h : (setNil s c).stuck = false) :
    (setNil s c).cells.kind.get c = 0 ∧
    (∀ x, s.cells.kind.get x = 0 → (setNil s c).cells.kind.get x = 0) ∧
    (setNil s c).vars = s.vars ∧
    (∀ x, x ≠ c → x ≠ s.nextCell →
      (setNil s c).cells.kind.get x = s.cells.kind.get x ∧ (setNil s c).cells.val.get x = s.cells.val.get x) := by
  unfold setNil at h ⊢
  obtain ⟨h2, c3, e3, r3⟩ := ap_ok h
  obtain ⟨h1, c2, e2, r2⟩ := ap_ok h2
  obtain ⟨_, c1, e1, r1⟩ := ap_ok h1
  rw [r2] at e3; rw [r1] at e2
  rw [r3, r2, r1]
  simp only at e1 e2 e3 ⊢
  have n1 := step_newCell e1
  have n2 := step_assign_nil e2 n1.1
  have n3 := step_destroy_nil e3
  refine ⟨n3 _ n2.1, fun x hx => n3 _ (n2.2 _ (n1.2 _ hx)), trivial, fun x hc hn => ?_⟩
  have f1 := PtrCell.step_frame e1 x (by simpa [PtrCell.footprint] using hn)
  have f2 := PtrCell.step_frame e2 x (by simpa [PtrCell.footprint] using hc)
  have f3 := PtrCell.step_frame e3 x (by simpa [PtrCell.footprint] using hn)
  exact ⟨by rw [f3.2.1, f2.2.1, f1.2.1], by rw [f3.2.2, f2.2.2, f1.2.2]⟩

theorem lookup_congr {s s' : State} (th : Th) (q : Tgt) (h1 : s'.vars = s.vars) :
    lookup s' th q = lookup s th q := by
  unfold lookup; rw [h1]

theorem getOrCreate_spec (s : State) (th : Th) (p : Tgt) :
    lookup (getOrCreate s th p).2 th p = some (getOrCreate s th p).1 ∧
    (∀ q c, lookup s th q = some c → lookup (getOrCreate s th p).2 th q = some c) ∧
    (∀ x, s.cells.kind.get x = 0 → (getOrCreate s th p).2.cells.kind.get x = 0) ∧
    ((getOrCreate s th p).2.stuck = false → s.stuck = false) := by
  unfold getOrCreate
  cases hl : lookup s th p with
  | some c => exact ⟨hl, fun q c h => h, fun x hx => hx, fun h => h⟩
  | none =>
    simp only []
    refine ⟨?_, ?_, fun x hx => ap_keeps (P := fun c => c.kind.get x = 0) hx fun c hs => (step_newCell hs).2 x hx,
      fun h => (ap_ok h).1⟩
    · unfold lookup at hl ⊢
      rw [Assoc.find_append, hl]; simp
    · intro q c hq
      unfold lookup at hq ⊢
      rw [Assoc.find_append, hq]; rfl

theorem bindOne_ok {s : State} {th : Th} {p : Tgt} (h : (bindOne s th p).1.stuck = false) : s.stuck = false := by
  refine (getOrCreate_spec s th p).2.2.2 ?_
  unfold bindOne at h
  -- `(_, _).1` is reduced first: unifying through the projection would unfold `ap` down to `step`
  split at h <;> dsimp only at h
  · exact (ap_ok h).1
  · exact setNil_ok h

theorem bindAll_ok : ∀ (ps : List Tgt) {s : State} {th : Th}, (bindAll s th ps).1.stuck = false → s.stuck = false
  | [], _, _, h => h
  | _ :: ps, _, _, h => bindOne_ok (bindAll_ok ps h)

theorem bindOne_index (s : State) (th : Th) (p : Tgt) :
    (bindOne s th p).2.fast = th.fast ∧ (bindOne s th p).2.tid = th.tid ∧ (bindOne s th p).2.inst = th.inst ∧
    th.fastIndex ≤ (bindOne s th p).2.fastIndex ∧ (bindOne s th p).2.fastIndex ≤ th.fastIndex + 1 ∧
    (th.fast.length ≤ th.fastIndex → (bindOne s th p).2 = th) := by
  unfold bindOne
  split
  · rename_i h; exact ⟨rfl, rfl, rfl, Nat.le_succ _, Nat.le_refl _, fun h' => absurd h (Nat.not_lt.2 h')⟩
  · exact ⟨rfl, rfl, rfl, Nat.le_refl _, Nat.le_succ _, fun _ => rfl⟩

theorem lookup_th_congr (s : State) {th th' : Th} (q : Tgt) (h1 : th'.tid = th.tid) (h2 : th'.inst = th.inst) :
    lookup s th' q = lookup s th q := by
  unfold lookup key; rw [h1, h2]

theorem bindOne_exhausted {s : State} {th : Th} {p : Tgt} (hex : th.fast.length ≤ th.fastIndex)
    (hns : (bindOne s th p).1.stuck = false) :
    (∃ c, lookup (bindOne s th p).1 th p = some c ∧ (bindOne s th p).1.cells.kind.get c = 0) ∧
    (∀ q c, lookup s th q = some c → s.cells.kind.get c = 0 →
      lookup (bindOne s th p).1 th q = some c ∧ (bindOne s th p).1.cells.kind.get c = 0) := by
  have hlt : ¬ th.fastIndex < th.fast.length := Nat.not_lt.2 hex
  unfold bindOne at hns ⊢
  simp only [hlt, if_false] at hns ⊢
  have g := getOrCreate_spec s th p
  have n := setNil_spec hns
  constructor
  · exact ⟨(getOrCreate s th p).1, by rw [lookup_congr th p n.2.2.1]; exact g.1, n.1⟩
  · intro q c hq hk
    exact ⟨by rw [lookup_congr th q n.2.2.1]; exact g.2.1 q c hq, n.2.1 c (g.2.2.1 c hk)⟩

theorem bindAll_keeps_nil : ∀ (ps : List Tgt) (s : State) (th : Th), th.fast.length ≤ th.fastIndex →
    (bindAll s th ps).1.stuck = false → ∀ q c, lookup s th q = some c → s.cells.kind.get c = 0 →
      (bindAll s th ps).2 = th ∧ lookup (bindAll s th ps).1 th q = some c ∧ (bindAll s th ps).1.cells.kind.get c = 0
  | [], _, _, _, _, _, _, hq, hk => ⟨rfl, hq, hk⟩
  | p :: ps, s, th, hex, hns, q, c, hq, hk => by
    have hth := (bindOne_index s th p).2.2.2.2.2 hex
    -- `bindAll s th (p :: ps)` is by definition `bindAll` of `ps` from the state after `bindOne s th p`
    have h1 := bindAll_ok ps hns
    have e := (bindOne_exhausted hex h1).2 q c hq hk
    simp only [bindAll] at hns ⊢
    rw [hth] at hns ⊢
    exact bindAll_keeps_nil ps _ th hex hns q c e.1 e.2

theorem bindOne_index_succ (s : State) (th : Th) (p : Tgt) (h : th.fastIndex < th.fast.length) :
    (bindOne s th p).2.fastIndex = th.fastIndex + 1 := by
  unfold bindOne; simp [h]

theorem endFrom_two_pending {s : State} {a tmp r : Nat} (hp : isPtr s.cells a = true)
    (hk : s.cells.kind.get tmp = 2) (hl : listOf s.cells (s.cells.val.get a) = [r, a]) (hra : r ≠ a) (hrt : r ≠ tmp) :
    endFrom s a tmp = setNil (ap s (.assign tmp r)) a := by
  have hra' : (r != a) = true := by simpa using hra
  have hrt' : (r == tmp) = false := by simpa using hrt
  unfold endFrom
  simp only [hp, hk, hl, Bool.not_true, Bool.false_eq_true, if_false, List.length_cons, List.length_nil,
    List.contains_cons, List.contains_nil, beq_self_eq_true, Bool.or_false, Bool.or_true, Bool.and_true,
    if_true, List.filter_cons, hra', bne_self_eq_false, List.filter_nil,
    List.reverse_cons, List.reverse_nil, List.nil_append, List.foldl_cons, List.foldl_nil, hrt',
    show ((2 : Nat) == 0) = false from rfl, show ((2 : Nat) == 1) = false from rfl]

end Morfuse.CallRec
