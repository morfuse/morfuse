import MorfuseModel.PtrCell.Model
import MorfuseModel.Sched.TablesLemmas
import MorfuseModel.Common.Lists
/-!
# Invariant of the ScriptPointer model: the holder's list is exactly the set of live sharers

`Shares s c h`: cell `c` is a live Pointer whose holder is `h`.  The invariant says that `listOf s h` lists exactly
the `c` with `Shares s c h`, once each (`inv_iff`).  Every operation is a composition of four moves on that
correspondence — nothing changes (`Inv.same`), a cell leaves (`Inv.remove`), a cell joins (`Inv.add`), a holder
goes with all its sharers (`Inv.drop`) — so an operation's proof says what it does to the lists and to `Shares`.
-/
namespace Morfuse.PtrCell
open Morfuse.Sched (Tbl)

structure Inv (s : State) : Prop where
  listed : ∀ h c, c ∈ listOf s h → s.live.get c = 1 ∧ s.kind.get c = 2 ∧ s.val.get c = h
  member : ∀ c, s.live.get c = 1 → s.kind.get c = 2 → c ∈ listOf s (s.val.get c)
  nodup : ∀ h, (listOf s h).Nodup
  fresh : ∀ h, s.nextH ≤ h → listOf s h = []

theorem key_eq (h h' : Nat) : ((h', 0) : Nat × Nat) = (h, 0) ↔ h' = h := by
  constructor
  · intro e; exact (Prod.mk.inj e).1
  · intro e; rw [e]

theorem init_inv : Inv init := by
  refine ⟨?_, ?_, ?_, ?_⟩ <;> simp [init, listOf, Tbl.getD_nil]

theorem listOf_push (s : State) (h x h' : Nat) :
    Tbl.getD (Tbl.push s.hl (h, 0) x) (h', 0) = if h' = h then listOf s h ++ [x] else listOf s h' := by
  rw [Tbl.getD_push]; simp only [key_eq, listOf]

theorem listOf_removeAll (s : State) (h x h' : Nat) :
    Tbl.getD (Tbl.removeAll s.hl (h, 0) x).1 (h', 0) =
      if h' = h then (listOf s h).filter (· != x) else listOf s h' := by
  rw [Tbl.getD_removeAll]; simp only [key_eq, listOf]

theorem listOf_removeKey (s : State) (h h' : Nat) :
    Tbl.getD (Tbl.removeKey s.hl (h, 0)) (h', 0) = if h' = h then [] else listOf s h' := by
  rw [Tbl.getD_removeKey]; simp only [key_eq, listOf]

theorem nodup_snoc {l : List Nat} (hl : l.Nodup) {x : Nat} (hx : x ∉ l) : (l ++ [x]).Nodup := by
  rw [List.nodup_append]
  refine ⟨hl, List.pairwise_singleton _ _, ?_⟩
  intro y hy z hz e
  rw [List.mem_singleton.1 hz] at e; exact hx (e ▸ hy)

def Shares (s : State) (c h : Nat) : Prop := s.live.get c = 1 ∧ s.kind.get c = 2 ∧ s.val.get c = h

theorem inv_iff {s : State} : Inv s ↔ (∀ h c, c ∈ listOf s h ↔ Shares s c h) ∧ (∀ h, (listOf s h).Nodup) ∧
    ∀ h, s.nextH ≤ h → listOf s h = [] :=
  ⟨fun hi => ⟨fun h c => ⟨hi.listed h c, fun ⟨h1, h2, h3⟩ => h3 ▸ hi.member c h1 h2⟩, hi.nodup, hi.fresh⟩,
   fun ⟨hm, hn, hf⟩ => ⟨fun h c hc => (hm h c).1 hc, fun c h1 h2 => (hm _ c).2 ⟨h1, h2, rfl⟩, hn, hf⟩⟩

theorem not_shares_of_kind {s : State} {b : Nat} (hk : s.kind.get b ≠ 2) (h : Nat) : ¬ Shares s b h := fun hs => hk hs.2.1

theorem holder_lt_nextH {s : State} (hi : Inv s) {a : Nat} (ha : s.live.get a = 1) (hk : s.kind.get a = 2) :
    s.val.get a < s.nextH := by
  apply Nat.lt_of_not_le; intro hle
  have hm := hi.member a ha hk
  rw [hi.fresh _ hle] at hm; cases hm

theorem filter_ne_self {s : State} (hi : Inv s) {a : Nat} (h : Nat) (ha : ¬ Shares s a h) :
    (listOf s h).filter (· != a) = listOf s h :=
  List.filter_eq_self.2 fun c hc => by
    have : c ≠ a := fun e => ha (e ▸ hi.listed h c hc)
    simpa using this

/-- `ScriptPointer::remove(a)` on the holder that `a` shares, if it shares one: `a` leaves every list -/
theorem listOf_removeAll_filter {s : State} (hi : Inv s) {a h0 : Nat} (ha : ∀ h, Shares s a h → h = h0) (h : Nat) :
    Tbl.getD (Tbl.removeAll s.hl (h0, 0) a).1 (h, 0) = (listOf s h).filter (· != a) := by
  rw [listOf_removeAll]
  split
  · subst_vars; rfl
  · rename_i hne
    exact (filter_ne_self hi h fun hs => hne (ha h hs)).symm

section moves
variable {s s' : State} (hi : Inv s)
include hi

theorem Inv.same (hl : s'.hl = s.hl) (hs : ∀ c h, Shares s' c h ↔ Shares s c h) (hn : s.nextH ≤ s'.nextH) : Inv s' := by
  obtain ⟨hm, hnd, hf⟩ := inv_iff.1 hi
  have hl : ∀ h, listOf s' h = listOf s h := fun h => by simp only [listOf, hl]
  exact inv_iff.2 ⟨fun h c => by rw [hl, hs]; exact hm h c, fun h => by rw [hl]; exact hnd h,
    fun h hh => by rw [hl]; exact hf h (Nat.le_trans hn hh)⟩

theorem Inv.remove (a : Nat) (hl : ∀ h, listOf s' h = (listOf s h).filter (· != a))
    (hs : ∀ c h, Shares s' c h ↔ Shares s c h ∧ c ≠ a) (hn : s'.nextH = s.nextH) : Inv s' := by
  obtain ⟨hm, hnd, hf⟩ := inv_iff.1 hi
  refine inv_iff.2 ⟨fun h c => ?_, fun h => by rw [hl]; exact (hnd h).filter _,
    fun h hh => by rw [hl, hf h (hn ▸ hh)]; rfl⟩
  rw [hl, hs, List.mem_filter, hm]; simp

theorem Inv.add (b h0 : Nat) (hb : ∀ h, ¬ Shares s b h)
    (hl : ∀ h, listOf s' h = if h = h0 then listOf s h0 ++ [b] else listOf s h)
    (hs : ∀ c h, Shares s' c h ↔ Shares s c h ∨ (c = b ∧ h = h0)) (hn : s.nextH ≤ s'.nextH) (h0lt : h0 < s'.nextH) :
    Inv s' := by
  obtain ⟨hm, hnd, hf⟩ := inv_iff.1 hi
  refine inv_iff.2 ⟨fun h c => ?_, fun h => ?_, fun h hh => ?_⟩
  · rw [hl, hs]
    split
    · subst_vars; simp [*]
    · simp [*]
  · rw [hl]
    split
    · exact nodup_snoc (hnd _) fun hm' => hb _ ((hm _ _).1 hm')
    · exact hnd h
  · rw [hl, if_neg (by omega), hf h (Nat.le_trans hn hh)]

theorem Inv.drop (h0 : Nat) (hl : ∀ h, listOf s' h = if h = h0 then [] else listOf s h)
    (hs : ∀ c h, Shares s' c h ↔ Shares s c h ∧ h ≠ h0) (hn : s'.nextH = s.nextH) : Inv s' := by
  obtain ⟨hm, hnd, hf⟩ := inv_iff.1 hi
  refine inv_iff.2 ⟨fun h c => ?_, fun h => ?_, fun h hh => ?_⟩
  · rw [hl, hs]
    split
    · simp [*]
    · simp [*]
  · rw [hl]; split
    · exact List.nodup_nil
    · exact hnd h
  · rw [hl]; split
    · rfl
    · exact hf h (hn ▸ hh)

end moves

theorem clearInternal_cells (s : State) (a : Nat) :
    (clearInternal s a).live = s.live ∧ (clearInternal s a).kind = s.kind ∧ (clearInternal s a).val = s.val ∧
    (clearInternal s a).nextH = s.nextH := by
  unfold clearInternal
  split <;> exact ⟨rfl, rfl, rfl, rfl⟩

/-- `clearInternal` keeps the invariant except that cell `a` itself may now be a Pointer that is not
    listed; stated as an invariant of the state in which `a` has been reset to None -/
theorem clear_then_none_inv {s : State} (hi : Inv s) (a : Nat) :
    Inv (writeNone (clearInternal s a) a) := by
  obtain ⟨e1, e2, e3, e4⟩ := clearInternal_cells s a
  refine hi.remove a (fun h => ?_) (fun c h => ?_) e4
  · unfold clearInternal
    split
    · exact listOf_removeAll_filter hi (fun h hs => hs.2.2.symm) h
    · rename_i hp
      exact (filter_ne_self hi h fun hs => hp (by simp [isPtr, hs.2.1])).symm
  · simp only [Shares, writeNone, e1, e2, e3, Mem.get_set]
    by_cases hc : c = a <;> simp [hc]

theorem setData_inv {s : State} (hi : Inv s) {a b : Nat} (hab : a ≠ b)
    (hb : s.live.get b = 1) (hbk : s.kind.get b = 0) (ha : s.live.get a = 1) : Inv (setData s a b) := by
  have hka : (s.kind.set b (s.kind.get a)).get a = s.kind.get a := by simp [Mem.get_set, hab]
  have hva : (s.val.set b (s.val.get a)).get a = s.val.get a := by simp [Mem.get_set, hab]
  unfold setData
  simp only [hka, hva]
  split
  · rename_i hk
    have hk : s.kind.get a = 2 := by simpa using hk
    refine hi.add b (s.val.get a) (not_shares_of_kind (by rw [hbk]; decide)) (fun h => listOf_push s _ _ _)
      (fun c h => ?_) (Nat.le_refl _) (holder_lt_nextH hi ha hk)
    simp only [Shares, Mem.get_set]
    by_cases hc : c = b
    · subst hc; simp [hb, hk, hbk, eq_comm]
    · simp [hc]
  · rename_i hk
    refine hi.same rfl (fun c h => ?_) (Nat.le_refl _)
    simp only [Shares, Mem.get_set]
    by_cases hc : c = b
    · subst hc; simp [hbk]; intro _ h2; simp [h2] at hk
    · simp [hc]

def PlainWrite (f : State → Nat → State) : Prop :=
  ∀ s c, (f s c).live = s.live ∧ (f s c).hl = s.hl ∧ (f s c).nextH = s.nextH ∧
    (∀ x, x ≠ c → (f s c).kind.get x = s.kind.get x ∧ (f s c).val.get x = s.val.get x) ∧
    (f s c).kind.get c ≠ 2

theorem foldl_write_spec (f : State → Nat → State) (hf : PlainWrite f) :
    ∀ (l : List Nat) (s : State),
      (l.foldl f s).live = s.live ∧ (l.foldl f s).hl = s.hl ∧ (l.foldl f s).nextH = s.nextH ∧
      (∀ x, x ∉ l → (l.foldl f s).kind.get x = s.kind.get x ∧ (l.foldl f s).val.get x = s.val.get x) ∧
      (∀ x, x ∈ l → ∃ t, (l.foldl f s).kind.get x = (f t x).kind.get x ∧ (l.foldl f s).val.get x = (f t x).val.get x)
  | [], s => by simp
  | c :: l, s => by
    simp only [List.foldl_cons]
    obtain ⟨h1, h2, h3, h4, h5⟩ := foldl_write_spec f hf l (f s c)
    obtain ⟨g1, g2, g3, g4, _⟩ := hf s c
    refine ⟨by rw [h1, g1], by rw [h2, g2], by rw [h3, g3], ?_, ?_⟩
    · intro x hx
      have hxc : x ≠ c := fun e => hx (by simp [e])
      have hxl : x ∉ l := fun e => hx (List.mem_cons_of_mem _ e)
      have := h4 x hxl
      rw [this.1, this.2]; exact g4 x hxc
    · intro x hx
      by_cases hxl : x ∈ l
      · exact h5 x hxl
      · rcases List.mem_cons.1 hx with e | e
        · exact ⟨s, e ▸ h4 x hxl⟩
        · exact absurd e hxl

theorem plainWrite_writeInt (v : Nat) : PlainWrite fun s c => writeInt s c v := by
  intro s c
  refine ⟨rfl, rfl, rfl, ?_, ?_⟩
  · intro x hx; simp [writeInt, Mem.get_set, hx]
  · simp [writeInt]

theorem plainWrite_writeNone : PlainWrite fun s c => writeNone s c := by
  intro s c
  refine ⟨rfl, rfl, rfl, ?_, ?_⟩
  · intro x hx; simp [writeNone, Mem.get_set, hx]
  · simp [writeNone]

theorem plainWrite_endRef (a v : Nat) : PlainWrite fun s c => if c = a then writeNone s c else writeInt s c v := by
  intro s c
  dsimp only
  split
  · exact plainWrite_writeNone s c
  · exact plainWrite_writeInt v s c

/-- an `End` loop `f` over the sharers of holder `h`, then dropping the holder -/
theorem endLoop_inv {s : State} (hi : Inv s) (h : Nat) (f : State → Nat → State) (hf : PlainWrite f) :
    Inv { (listOf s h).foldl f s with hl := Tbl.removeKey ((listOf s h).foldl f s).hl (h, 0) } := by
  obtain ⟨g1, g2, g3, g4, g5⟩ := foldl_write_spec f hf (listOf s h) s
  refine hi.drop h (fun h' => by show Tbl.getD (Tbl.removeKey _ _) _ = _; rw [g2]; exact listOf_removeKey s h h')
    (fun c h' => ?_) g3
  simp only [Shares, g1]
  by_cases hc : c ∈ listOf s h
  · have := hi.listed h c hc
    obtain ⟨t, e, _⟩ := g5 c hc
    simp [e, (hf t c).2.2.2.2, this, eq_comm]
  · rw [(g4 c hc).1, (g4 c hc).2]
    exact ⟨fun hs => ⟨hs, fun e => hc (e ▸ ((inv_iff.1 hi).1 h' c).2 hs)⟩, fun hs => hs.1⟩

theorem newPointer_inv {s : State} (hi : Inv s) {a : Nat} (hl : s.live.get a = 1) (hk : s.kind.get a = 0) :
    Inv { s with kind := s.kind.set a 2, val := s.val.set a s.nextH, hl := Tbl.push s.hl (s.nextH, 0) a,
                 nextH := s.nextH + 1 } := by
  refine hi.add a s.nextH (not_shares_of_kind (by rw [hk]; decide)) (fun h => listOf_push s _ _ _)
    (fun c h => ?_) (Nat.le_succ _) (Nat.lt_succ_self _)
  simp only [Shares, Mem.get_set]
  by_cases hc : c = a
  · subst hc; simp [hl, hk, eq_comm]
  · simp [hc]

/-- `moveTo a b` of a Pointer payload: `b` joins the holder's list, `a` leaves it and becomes None -/
theorem movePtr_inv {s : State} (hi : Inv s) {a b : Nat} (hla : s.live.get a = 1) (hdead : s.live.get b ≠ 1)
    (hk : s.kind.get a = 2) :
    Inv (holderRemove { s with live := s.live.set b 1, kind := (s.kind.set b (s.kind.get a)).set a 0,
                               val := s.val.set b (s.val.get a), hl := Tbl.push s.hl (s.val.get a, 0) b }
          (s.val.get a) a) := by
  have hab : a ≠ b := fun e => hdead (e ▸ hla)
  have h1 : Inv { s with live := s.live.set b 1, kind := s.kind.set b 2, val := s.val.set b (s.val.get a),
                         hl := Tbl.push s.hl (s.val.get a, 0) b } := by
    refine hi.add b (s.val.get a) (fun h hs => hdead hs.1) (fun h => listOf_push s _ _ _) (fun c h => ?_) (Nat.le_refl _)
      (holder_lt_nextH hi hla hk)
    simp only [Shares, Mem.get_set]
    by_cases hc : c = b
    · subst hc; simp [eq_comm]; intro h1; exact absurd h1.symm hdead
    · simp [hc]
  refine h1.remove a (fun h => ?_) (fun c h => ?_) rfl
  · refine listOf_removeAll_filter h1 (fun h hs => ?_) h
    have := hs.2.2; simp only [Mem.get_set, hab, if_false] at this; exact this.symm
  · simp only [Shares, holderRemove, hk, Mem.get_set]
    by_cases hc : c = a
    · subst hc; simp
    · simp [hc]

/-- cells that share nothing, before and after: a dead cell becomes a live None cell (`new ScriptVariable()`), a
    payload that is no Pointer is written, moved or dies -/
theorem plain_inv {s s' : State} (hi : Inv s) (hl : s'.hl = s.hl) (hn : s'.nextH = s.nextH)
    (hs : ∀ c, (s'.live.get c = s.live.get c ∧ s'.kind.get c = s.kind.get c ∧ s'.val.get c = s.val.get c) ∨
      ((s.live.get c ≠ 1 ∨ s.kind.get c ≠ 2) ∧ (s'.live.get c ≠ 1 ∨ s'.kind.get c ≠ 2))) : Inv s' := by
  refine hi.same hl (fun c h => ?_) (Nat.le_of_eq hn.symm)
  rcases hs c with ⟨e1, e2, e3⟩ | ⟨h1, h2⟩
  · simp only [Shares, e1, e2, e3]
  · exact ⟨fun hs => absurd hs.2.1 (h2.resolve_left (not_not_intro hs.1)),
      fun hs => absurd hs.2.1 (h1.resolve_left (not_not_intro hs.1))⟩

theorem step_inv {s s' : State} {op : Op} (hi : Inv s) (hs : step s op = some s') : Inv s' := by
  have dead : ∀ {b}, s.live.get b = 0 → s.live.get b ≠ 1 := fun h => by rw [h]; decide
  cases op with
  | newCell a =>
    simp only [step, Option.ite_none_right_eq_some, Option.some.injEq] at hs
    obtain ⟨hc, rfl⟩ := hs
    refine plain_inv hi rfl rfl fun c => ?_
    by_cases hca : c = a
    · subst hca; exact .inr ⟨.inl (dead hc.2), .inr (by simp)⟩
    · exact .inl (by simp [Mem.get_set, hca])
  | newPointer a =>
    simp only [step, Option.ite_none_right_eq_some, Option.some.injEq] at hs
    obtain ⟨hc, rfl⟩ := hs
    exact newPointer_inv hi hc.1 hc.2
  | copyTo a b =>
    simp only [step, Option.ite_none_right_eq_some, Option.some.injEq] at hs
    obtain ⟨hc, rfl⟩ := hs
    have hab : a ≠ b := by intro e; rw [e] at hc; exact dead hc.2.2 hc.1
    have h1 : Inv { s with live := s.live.set b 1, kind := s.kind.set b 0 } := by
      refine plain_inv hi rfl rfl fun c => ?_
      by_cases hcb : c = b
      · subst hcb; exact .inr ⟨.inl (dead hc.2.2), .inr (by simp)⟩
      · exact .inl (by simp [Mem.get_set, hcb])
    exact setData_inv h1 hab (by simp) (by simp) (by simp [Mem.get_set, hab, hc.1])
  | moveTo a b =>
    simp only [step, Option.ite_none_right_eq_some] at hs
    obtain ⟨hc, hs⟩ := hs
    by_cases hk : s.kind.get a = 2
    · rw [if_pos (by rw [hk]; rfl)] at hs
      obtain rfl := Option.some.inj hs
      exact movePtr_inv hi hc.1 (dead hc.2.2) hk
    · rw [if_neg (by simpa using hk)] at hs
      obtain rfl := Option.some.inj hs
      have hab : a ≠ b := by intro e; rw [e] at hc; exact dead hc.2.2 hc.1
      refine plain_inv hi rfl rfl fun c => ?_
      by_cases hca : c = a
      · subst hca; exact .inr ⟨.inr hk, .inr (by simp)⟩
      · by_cases hcb : c = b
        · subst hcb; exact .inr ⟨.inl (dead hc.2.2), .inr (by simpa [Mem.get_set, hab.symm] using hk)⟩
        · exact .inl (by simp [Mem.get_set, hca, hcb])
  | assign a b =>
    simp only [step, Option.ite_none_right_eq_some, Option.some.injEq] at hs
    obtain ⟨hc, rfl⟩ := hs
    exact setData_inv (clear_then_none_inv hi b) hc.2.2
      (by rw [show (writeNone (clearInternal s b) b).live = _ from (clearInternal_cells s b).1]; exact hc.2.1)
      (by simp [writeNone])
      (by rw [show (writeNone (clearInternal s b) b).live = _ from (clearInternal_cells s b).1]; exact hc.1)
  | destroy a =>
    simp only [step, Option.ite_none_right_eq_some, Option.some.injEq] at hs
    obtain ⟨-, rfl⟩ := hs
    refine plain_inv (clear_then_none_inv hi a) rfl rfl fun c => ?_
    by_cases hca : c = a
    · subst hca; exact .inr ⟨.inr (by simp [writeNone]), .inr (by simp)⟩
    · exact .inl (by simp [writeNone, Mem.get_set, hca])
  | setInt a v =>
    simp only [step, Option.ite_none_right_eq_some, Option.some.injEq] at hs
    obtain ⟨-, rfl⟩ := hs
    refine plain_inv (clear_then_none_inv hi a) rfl rfl fun c => ?_
    by_cases hca : c = a
    · subst hca; exact .inr ⟨.inr (by simp [writeNone]), .inr (by simp [writeInt])⟩
    · exact .inl (by simp [writeNone, writeInt, Mem.get_set, hca])
  | endRef a v =>
    simp only [step, Option.ite_none_right_eq_some, Option.some.injEq] at hs
    obtain ⟨-, rfl⟩ := hs
    split
    · exact endLoop_inv hi _ _ (plainWrite_endRef a v)
    · exact endLoop_inv hi _ _ (plainWrite_writeInt v)
  | endPlain a =>
    simp only [step, Option.ite_none_right_eq_some, Option.some.injEq] at hs
    obtain ⟨-, rfl⟩ := hs
    exact endLoop_inv hi _ _ plainWrite_writeNone

def footprint (s : State) : Op → List Nat
  | .newCell a | .newPointer a | .destroy a | .setInt a _ => [a]
  | .copyTo _ b | .assign _ b => [b]
  | .moveTo a b => [a, b]
  | .endRef a _ | .endPlain a => listOf s (s.val.get a)

theorem setData_cells (w : State) (a b : Nat) :
    (setData w a b).live = w.live ∧ (setData w a b).kind = w.kind.set b (w.kind.get a) ∧
    (setData w a b).val = w.val.set b (w.val.get a) := by
  unfold setData
  dsimp only
  split <;> exact ⟨rfl, rfl, rfl⟩

theorem step_frame {s s' : State} {op : Op} (hs : step s op = some s') (x : Nat) (hx : x ∉ footprint s op) :
    s'.live.get x = s.live.get x ∧ s'.kind.get x = s.kind.get x ∧ s'.val.get x = s.val.get x := by
  have c := clearInternal_cells s
  have loop : ∀ {f : State → Nat → State} {l : List Nat}, PlainWrite f → x ∉ l →
      (l.foldl f s).live.get x = s.live.get x ∧ (l.foldl f s).kind.get x = s.kind.get x ∧
      (l.foldl f s).val.get x = s.val.get x :=
    fun hf hx => ⟨by rw [(foldl_write_spec _ hf _ s).1], (foldl_write_spec _ hf _ s).2.2.2.1 x hx⟩
  cases op <;> simp only [step, Option.ite_none_right_eq_some] at hs <;> obtain ⟨-, hs⟩ := hs
  case moveTo a b =>
    simp only [footprint, List.mem_cons, List.not_mem_nil, or_false, not_or] at hx
    split at hs <;> obtain rfl := Option.some.inj hs <;>
      simp only [holderRemove, Mem.get_set, hx.1, hx.2, if_false, and_self]
  case endRef a v =>
    obtain rfl := Option.some.inj hs
    split
    · exact loop (plainWrite_endRef a v) hx
    · exact loop (plainWrite_writeInt v) hx
  case endPlain a => obtain rfl := Option.some.inj hs; exact loop plainWrite_writeNone hx
  all_goals
    obtain rfl := Option.some.inj hs
    have hx : x ≠ _ := fun e => hx (by rw [e]; exact List.mem_singleton.2 rfl)
    simp only [(setData_cells _ _ _).1, (setData_cells _ _ _).2.1, (setData_cells _ _ _).2.2, writeNone, writeInt, (c _).1,
      (c _).2.1, (c _).2.2.1, Mem.get_set, hx, if_false, and_self]

theorem run_inv : ∀ (ops : List Op) {s s' : State}, Inv s → run s ops = some s' → Inv s' :=
  run_invariant (fun _ => rfl) (fun _ _ _ => rfl) step_inv

theorem reachable_inv {s : State} (h : Reachable s) : Inv s := by
  obtain ⟨ops, hr⟩ := h
  exact run_inv ops init_inv hr

end Morfuse.PtrCell
