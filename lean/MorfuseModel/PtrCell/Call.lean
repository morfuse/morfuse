import MorfuseModel.PtrCell.Model
import MorfuseModel.Sched.Timer
/-!
# The host call protocol on result cells: call records, parameter stores, `end <expr>`

`ScriptMaster::ExecuteThread(script, Event&, label)` → `ScriptThread::Execute(Event&)` →
`ScriptThread::ScriptExecute` / `ScriptVM::SetFastData` / `OP_STORE_PARAM` / `ScriptVM::End*` /
`Listener::CreateReturnThread`, transcribed on top of the `ScriptPointer` cell model: every
`ScriptVariable` the protocol touches (the slots of the host's `Event` records, the VM's argument buffer
`fastEvent`, `m_ReturnValue`, script variables of the scopes `local` / `level` / `game` / `parm` / `group`)
is one cell of `PtrCell.State`, every C++ statement is one or more `PtrCell.step`s (`ap`), so the cell part
of every state of this model is `PtrCell.Reachable` by construction (no theorem says so).

Not modelled: temporaries that live inside one C++ statement (operand stack, the `Event` of a script
command).  They can only change which branch of `ScriptPointer::setValueRef` runs, and the branches differ
only in what is left in the ending VM's own `m_ReturnValue`, which is destroyed right after.
Values other than "pending" are opaque tokens (the driver interns them).
-/
namespace Morfuse.CallRec
open Morfuse.PtrCell (Op isPtr listOf)
open Morfuse.Sched (Timer)

/-- a script variable: scope 0 `local`, 1 `level`, 2 `game`, 3 `parm`, 4 `group` -/
structure Tgt where
  scope : Nat
  name : Nat
  deriving Repr, DecidableEq, Inhabited

/-- operand of `end`: none, a literal (`none` = `NIL`), a variable -/
inductive EndV | none | lit (v : Option Nat) | var (t : Tgt) deriving Repr, DecidableEq, Inhabited

inductive Instr
  | set (t : Tgt) (v : Option Nat)                       -- `T = <literal>` / `T = NIL`
  | print (t : Tgt)                                      -- `println "p" T`
  | wait (ms : Nat)                                      -- `wait d`, d > 0
  | thread (t : Tgt) (label : Nat) (args : List Tgt)     -- `T = thread tK a1 a2 …`
  | end_ (e : EndV)
  deriving Repr, DecidableEq, Inhabited

/-- one label with its declared parameters and the code up to the next label (section 0: the code in
    front of the first label; it has no parameters) -/
structure Sec where
  params : List Tgt := []
  body : List Instr := []
  deriving Repr, Inhabited

structure Th where
  tid : Nat
  inst : Nat
  sec : Nat
  pc : Nat := 0                     -- next instruction of the section's body
  entered : Bool := false           -- the label's STORE_PARAM sequence has run
  fast : List Nat := []             -- `fastEvent.data`
  fastIndex : Nat := 0
  ret : Nat                         -- `m_ReturnValue`
  deriving Repr, Inhabited

structure State where
  cells : PtrCell.State := {}
  nextCell : Nat := 1
  stuck : Bool := false             -- a cell operation the cell model rejects was attempted
  outOfFuel : Bool := false
  prog : List Sec := []
  threads : List Th := []           -- suspended threads (timed waits)
  timer : Timer := {}
  clock : Nat := 0
  scaled : Nat := 0
  lastClock : Nat := 0
  vars : List ((Nat × Nat × Nat) × Nat) := []   -- (scope, owner, name) ↦ cell; owner: the thread of a
                                                -- `local`, the instance of a `group`, 0 otherwise
  insts : List (Nat × Nat) := []             -- instance ↦ number of threads
  records : List (List Nat) := []            -- the host's `Event`s: data cells
  out : List (Nat × Nat) := []               -- printed (kind, value), reverse order
  nextTid : Nat := 100
  nextInst : Nat := 1

/-- one statement on cells -/
def ap (s : State) (op : Op) : State :=
  match PtrCell.step s.cells op with
  | some c => { s with cells := c }
  | none => { s with stuck := true }

def fresh (s : State) : Nat × State := (s.nextCell, { s with nextCell := s.nextCell + 1 })

/-- `ScriptVariable x;` -/
def newNone (s : State) : Nat × State :=
  (s.nextCell, ap { s with nextCell := s.nextCell + 1 } (.newCell s.nextCell))

/-- `c.Clear()` -/
def setNil (s : State) (c : Nat) : State :=
  ap (ap (ap { s with nextCell := s.nextCell + 1 } (.newCell s.nextCell)) (.assign s.nextCell c)) (.destroy s.nextCell)

/-- a literal into `c` -/
def setLit (s : State) (c : Nat) : Option Nat → State
  | some v => ap s (.setInt c v)
  | none => setNil s c

/-- the variable list a target lives in: the thread's, the script instance's, or a context object's -/
def key (th : Th) (t : Tgt) : Nat × Nat × Nat :=
  (t.scope, if t.scope = 0 then th.tid else if t.scope = 4 then th.inst else 0, t.name)

def lookup (s : State) (th : Th) (t : Tgt) : Option Nat :=
  (s.vars.find? (·.1 == key th t)).map (·.2)

/-- `ScriptVariableList::GetOrCreateVariable` of the scope's object -/
def getOrCreate (s : State) (th : Th) (t : Tgt) : Nat × State :=
  match lookup s th t with
  | some c => (c, s)
  | none =>
    (s.nextCell, { ap { s with nextCell := s.nextCell + 1 } (.newCell s.nextCell) with
                     vars := s.vars ++ [(key th t, s.nextCell)] })

/-- the value of variable `t` as a new variable (an `Event` argument) -/
def copyOf (s : State) (th : Th) (t : Tgt) : Nat × State :=
  match lookup s th t with
  | some c => (s.nextCell, ap { s with nextCell := s.nextCell + 1 } (.copyTo c s.nextCell))
  | none => newNone s

/-- `OP_STORE_PARAM` and the store that follows it:
    `if (fastIndex < fastEvent.NumArgs()) top = fastEvent[++fastIndex]; else top = NIL;  P = top` -/
def bindOne (s : State) (th : Th) (p : Tgt) : State × Th :=
  if th.fastIndex < th.fast.length then
    (ap (getOrCreate s th p).2 (.assign (th.fast.getD th.fastIndex 0) (getOrCreate s th p).1),
     { th with fastIndex := th.fastIndex + 1 })
  else (setNil (getOrCreate s th p).2 (getOrCreate s th p).1, th)

/-- the parameter list of a label: one `bindOne` per declared parameter, in order -/
def bindAll (s : State) (th : Th) : List Tgt → State × Th
  | [] => (s, th)
  | p :: ps => bindAll (bindOne s th p).1 (bindOne s th p).2 ps

/-- `m_ReturnValue.setPointerRef(value)` (`ScriptPointer::setValueRef(value, m_ReturnValue)`), `a` =
    `m_ReturnValue`, `tmp` = the value.  A plain value goes through the cell model's `endRef`; NIL leaves
    every sharer None (what `Clear` does); a value that is itself a pending result makes every sharer a
    sharer of that other cell (`*pVar = value` registers `pVar` there), the holder is gone afterwards. -/
def endFrom (s : State) (a tmp : Nat) : State :=
  if !isPtr s.cells a then s else
  let k := s.cells.kind.get tmp
  if k == 0 then ap s (.endPlain a)
  else if k == 1 then ap s (.endRef a (s.cells.val.get tmp))
  else
    let l := listOf s.cells (s.cells.val.get a)
    let two := l.length == 2 && l.contains a
    let targets := if two then l.filter (· != a) else l
    let s := targets.reverse.foldl (fun s c => if c == tmp then setNil s c else ap s (.assign tmp c)) s
    if two then setNil s a else s

/-- `delete thread`: `~ScriptVM` (`m_ReturnValue`, `fastEvent`), the thread's `local` variables,
    `ScriptClass::RemoveThread` (the instance and its `group` variables die with the last thread) -/
def deleteThread (s : State) (th : Th) : State :=
  let s := ap s (.destroy th.ret)
  let s := th.fast.foldl (fun s c => ap s (.destroy c)) s
  let mine := fun (e : (Nat × Nat × Nat) × Nat) => e.1.1 == 0 && e.1.2.1 == th.tid
  let s := (s.vars.filter mine).foldl (fun s e => ap s (.destroy e.2)) s
  let s := { s with vars := s.vars.filter (fun e => !mine e) }
  let n : Nat := ((s.insts.find? (·.1 == th.inst)).map (·.2)).getD 0
  if n ≤ 1 then
    let grp := fun (e : (Nat × Nat × Nat) × Nat) => e.1.1 == 4 && e.1.2.1 == th.inst
    let s := (s.vars.filter grp).foldl (fun s e => ap s (.destroy e.2)) s
    { s with insts := s.insts.filter (fun e => !(e.1 == th.inst)),
             vars := s.vars.filter (fun e => !grp e) }
  else { s with insts := s.insts.map (fun e => if e.1 == th.inst then (e.1, e.2 - 1) else e) }

/-- `end` / `end <expr>` (`ScriptThread::EventEnd` → `ScriptVM::End` / `EndRef`), then `delete thread` -/
def finish (s : State) (th : Th) (e : EndV) : State :=
  let s := match e with
    | .none => if isPtr s.cells th.ret then ap s (.endPlain th.ret) else s
    | .lit v =>
      let (t, s) := newNone s
      let s := setLit s t v
      ap (endFrom s th.ret t) (.destroy t)
    | .var x =>
      let (t, s) := copyOf s th x
      ap (endFrom s th.ret t) (.destroy t)
  deleteThread s th

/-- the arguments of a call as new variables: `SetFastData(view)` copies every value -/
def copyCells (s : State) (l : List Nat) : List Nat × State :=
  l.foldl (fun (acc : List Nat × State) a =>
    let (b, s) := fresh acc.2
    (acc.1 ++ [b], ap s (.copyTo a b))) ([], s)

/-- `ScriptVM::Execute` of thread `th`: runs until the thread waits or ends -/
def runTh : Nat → State → Th → State
  | 0, s, _ => { s with outOfFuel := true }
  | fuel + 1, s, th =>
    match s.prog[th.sec]? with
    | none => finish s th .none                 -- end of the script: `OP_DONE`
    | some sec =>
      if !th.entered then
        -- the label's parameter list (also when the thread falls into the label from the code above it)
        runTh fuel (bindAll s th sec.params).1 { (bindAll s th sec.params).2 with entered := true }
      else
        match sec.body[th.pc]? with
        | none => runTh fuel s { th with sec := th.sec + 1, pc := 0, entered := false }   -- falls into the next label
        | some ins =>
          let th := { th with pc := th.pc + 1 }
          match ins with
          | .set t v =>
            let (c, s) := getOrCreate s th t
            runTh fuel (setLit s c v) th
          | .print t =>
            let o := match lookup s th t with
              | some c => (s.cells.kind.get c, s.cells.val.get c)
              | none => (0, 0)
            runTh fuel { s with out := o :: s.out } th
          | .wait ms =>
            -- Wait(): AddTiming(this, ms); Suspend()
            { s with timer := s.timer.add th.tid (s.scaled + ms), threads := s.threads ++ [th] }
          | .thread t l args =>
            if l = 0 ∨ l ≥ s.prog.length then runTh fuel s th else
            -- Listener::CreateReturnThread: returnValue.newPointer(); ExecuteThreadInternal(ev, returnValue)
            let (r, s) := newNone s
            let s := ap s (.newPointer r)
            let (fastCells, s) := args.foldl (fun (acc : List Nat × State) a =>
              let (c, s) := copyOf acc.2 th a
              (acc.1 ++ [c], s)) ([], s)
            let (m, s) := newNone s
            let s := ap s (.assign r m)                -- m_ScriptVM->m_ReturnValue = returnValue
            let child : Th := { tid := s.nextTid, inst := th.inst, sec := l, fast := fastCells, ret := m }
            let s := { s with nextTid := s.nextTid + 1,
                              insts := s.insts.map (fun e => if e.1 == th.inst then (e.1, e.2 + 1) else e) }
            let s := runTh fuel s child
            -- ev.AddValue(returnValue); the VM stores the command's result into T
            let (c, s) := getOrCreate s th t
            let s := ap s (.assign r c)
            let s := ap s (.destroy r)
            runTh fuel s th
          | .end_ e => finish s th e

def defaultFuel : Nat := 2000

/-- the `while ((m_CurrentThread = GetNextElement()))` loop of `ScriptMaster::ExecuteRunning` -/
def drain : Nat → State → State
  | 0, s => { s with outOfFuel := true }
  | fuel + 1, s =>
    match s.timer.next with
    | (none, tm) => { s with timer := tm }
    | (some (t, _), tm) =>
      let s := { s with timer := tm }
      match s.threads.find? (·.tid == t) with
      | none => drain fuel s
      | some th =>
        let s := { s with threads := s.threads.filter (fun x => !(x.tid == t)) }
        drain fuel (runTh defaultFuel s th)

/-- a new `Event` with the given argument values (`AddValue` of each); returns its index -/
def newRecord (s : State) (vals : List (Option Nat)) : Nat × State :=
  let (cs, s) := vals.foldl (fun (acc : List Nat × State) v =>
    let (c, s) := newNone acc.2
    (acc.1 ++ [c], setLit s c v)) ([], s)
  (s.records.length, { s with records := s.records ++ [cs] })

/-- `director.ExecuteThread(script, record, label)`; `start = none`: no label (top of the script).
    Returns the answer and whether the started thread is still alive. -/
def hostCall (s : State) (start : Option Nat) (rec : Nat) : State × String × Bool :=
  let bad : Bool := match start with | some l => l == 0 || decide (l ≥ s.prog.length) | none => false
  if bad || decide (rec ≥ s.records.length) then (s, "err LabelNotFound", false) else
  let args := s.records.getD rec []
  -- ScriptThread::Execute(Event&): returnValue.newPointer(2)
  let (r, s) := newNone s
  let s := ap s (.newPointer r)
  -- ScriptExecute(ev.GetListView(), returnValue): m_ReturnValue = returnValue; SetFastData(view)
  let (m, s) := newNone s
  let s := ap s (.assign r m)
  let (fastCells, s) := copyCells s args
  let t := s.nextTid
  let th : Th := { tid := t, inst := s.nextInst, sec := start.getD 0, fast := fastCells, ret := m }
  let s := { s with nextTid := t + 1, nextInst := s.nextInst + 1, insts := s.insts ++ [(s.nextInst, 1)] }
  let s := runTh defaultFuel s th
  -- ExecuteRunning() at the end of ScriptExecuteInternal
  let s := if s.timer.dirty then drain defaultFuel s else s
  -- if (!returnValue.IsNone()) ev.AddValue(std::move(returnValue));
  let s :=
    if s.cells.kind.get r ≠ 0 then
      let (b, s) := fresh s
      let s := ap s (.moveTo r b)
      { s with records := s.records.mapIdx (fun i l => if i = rec then l ++ [b] else l) }
    else s
  let s := ap s (.destroy r)
  (s, "ok", s.threads.any (·.tid == t))

/-- `ScriptContext::Execute()` at time scale 1 with the injected clock -/
def hostExecute (s : State) : State :=
  let delta := s.clock - s.lastClock
  let s := { s with scaled := s.scaled + delta, lastClock := s.clock }
  let s := { s with timer := s.timer.setTime s.clock }
  drain defaultFuel s

end Morfuse.CallRec
