import MorfuseModel.Sched.TablesLemmas
/-!
# The removal loops of `Listener` as pure table functions, and the mirror they restore

`UnregisterTargets` and `CancelWaitingSources` are the same loop on the *other* table: walk a list of
listeners from last to first and remove every occurrence of `x` under `(l, name)` for each listed
listener `l` that is still alive.  `purge` is that loop on a bare table (`multiPurge`: for every name of one owner); the
machine's loops only change one table of the state and are `purge` on it (`MachineInvTables`).

Every removal, a loop or `removeKey` / `removeOwner`, is an equation `getD t' k = (getD t k).filter (keep k)`; such
equations compose (`Tbl.getD_foldl_filter`), and containment (`Sub.of_filter`) and the mirror (`TblMirror.of_filter`: both
tables lose the same registrations) are read off that shape.
-/
namespace Morfuse.Sched

namespace Tbl

def purgeStep (al : Nat → Bool) (x name : Nat) (acc : Tbl × List Nat) (l : Nat) : Tbl × List Nat :=
  if al l then
    ((removeAll acc.1 (l, name) x).1, if (removeAll acc.1 (l, name) x).2 then acc.2 ++ [l] else acc.2)
  else acc

def purge (al : Nat → Bool) (T : Tbl) (x name : Nat) (list : List Nat) (st : List Nat) : Tbl × List Nat :=
  list.reverse.foldl (purgeStep al x name) (T, st)

theorem purgeStep_getD (al : Nat → Bool) (x name : Nat) (acc : Tbl × List Nat) (l : Nat) (k : Key) :
    getD (purgeStep al x name acc l).1 k = (getD acc.1 k).filter fun y => !(al l && k == (l, name) && y == x) := by
  unfold purgeStep
  cases al l
  · exact (List.filter_eq_self.2 fun _ _ => rfl).symm
  · rw [if_pos rfl, getD_removeAll]
    split
    · subst k; simp [bne]
    · rename_i hk; exact (List.filter_eq_self.2 fun _ _ => by simp [hk]).symm

theorem purge_getD (al : Nat → Bool) (T : Tbl) (x name : Nat) (list st : List Nat) (k : Key) :
    getD (purge al T x name list st).1 k =
      (getD T k).filter fun y => !(y == x && k.2 == name && al k.1 && list.contains k.1) := by
  unfold purge
  rw [getD_foldl_filter (σ := Tbl × List Nat) (·.1) _ _ (purgeStep_getD al x name)]
  congr 1; funext y
  -- no visit takes `y` out of the list of `k` iff not: `y` is `x`, `k` is `(l, name)` for a listed `l` that is alive
  rw [Bool.eq_iff_iff]
  simp only [List.all_eq_true, List.mem_reverse, Bool.and_eq_true, beq_iff_eq,
    List.contains_eq_mem, decide_eq_true_eq, Bool.not_eq_true', ← Bool.not_eq_true]
  exact ⟨fun h ⟨⟨⟨hy, hn⟩, ha⟩, ho⟩ => h k.1 ho ⟨⟨ha, by rw [← hn]⟩, hy⟩,
    fun h l hl ⟨⟨ha, hk⟩, hy⟩ => h ⟨⟨⟨hy, by rw [hk]⟩, by rw [hk]; exact ha⟩, by rw [hk]; exact hl⟩⟩

theorem purge_WF (al : Nat → Bool) {T : Tbl} (h : WF T) (x name : Nat) (list st : List Nat) :
    WF (purge al T x name list st).1 :=
  List.foldlRecOn (motive := fun (acc : Tbl × List Nat) => WF acc.1) list.reverse _ h (fun acc h l _ => by
    unfold purgeStep
    split
    · exact h.removeAll _ _
    · exact h)

theorem purge_cons (al : Nat → Bool) (T : Tbl) (x name l : Nat) (list st : List Nat) :
    purge al T x name (l :: list) st = purgeStep al x name (purge al T x name list st) l := by
  simp only [purge, List.reverse_cons, List.foldl_append, List.foldl_cons, List.foldl_nil]

/-- what the loop reports, exactly: the listeners visited that are alive and hold `x`, each at its first visit (that
    visit takes `x` out of its list, so a second visit finds nothing) -/
theorem purge_snd (al : Nat → Bool) (T : Tbl) (x name : Nat) (st : List Nat) : ∀ list : List Nat,
    (purge al T x name list st).2 =
      st ++ dedup (list.reverse.filter fun l => al l && (getD T (l, name)).contains x)
  | [] => by simp [purge, dedup]
  | l :: list => by
    have ih := purge_snd al T x name st list
    rw [purge_cons, purgeStep, removeAll_found, purge_getD, List.reverse_cons, List.filter_append]
    by_cases ha : al l = true
    · by_cases hx : x ∈ getD T (l, name)
      · -- reported now unless an earlier visit has already taken `x` out of its list
        by_cases hl : l ∈ list <;> simp [ha, hx, hl, ih, dedup_append_singleton, dstep, mem_dedup]
      · simp [ha, hx, ih]
    · simp [ha, ih]

theorem purge_stopped (al : Nat → Bool) (T : Tbl) (x name : Nat) (list st : List Nat) :
    ∀ l ∈ (purge al T x name list st).2, l ∈ st ∨ (l ∈ list ∧ al l = true ∧ x ∈ getD T (l, name)) := by
  simp [purge_snd, mem_dedup]

theorem purge_complete (al : Nat → Bool) (T : Tbl) (x name : Nat) (list st : List Nat) (l : Nat)
    (hl : l ∈ list) (ha : al l = true) (hx : x ∈ getD T (l, name)) : l ∈ (purge al T x name list st).2 := by
  simp [purge_snd, mem_dedup, hl, ha, hx]

theorem purge_mono (al : Nat → Bool) (T : Tbl) (x name : Nat) (list st : List Nat) :
    ∀ y ∈ st, y ∈ (purge al T x name list st).2 := by
  simp +contextual [purge_snd]

/-- the loop over several names: `keys` are `(name, list)` pairs -/
def multiPurge (al : Nat → Bool) (T : Tbl) (x : Nat) (keys : List (Nat × List Nat)) (st : List Nat) :
    Tbl × List Nat :=
  keys.foldl (fun acc e => purge al acc.1 x e.1 e.2 acc.2) (T, st)

theorem multiPurge_getD (al : Nat → Bool) (x : Nat) (keys : List (Nat × List Nat)) (T : Tbl) (st : List Nat) (k : Key) :
    getD (multiPurge al T x keys st).1 k =
      (getD T k).filter fun y => !(y == x && al k.1 && keys.any fun e => e.1 == k.2 && e.2.contains k.1) := by
  unfold multiPurge
  rw [getD_foldl_filter (σ := Tbl × List Nat) (·.1) _ _ (fun acc e => purge_getD al acc.1 x e.1 e.2 acc.2)]
  congr 1; funext y
  rw [Bool.eq_iff_iff]
  simp only [List.all_eq_true, List.any_eq_true, Bool.and_eq_true, beq_iff_eq,
    List.contains_eq_mem, decide_eq_true_eq, Bool.not_eq_true', ← Bool.not_eq_true]
  exact ⟨fun h ⟨⟨hy, ha⟩, e, he, hn, hm⟩ => h e he ⟨⟨⟨hy, hn.symm⟩, ha⟩, hm⟩,
    fun h e he ⟨⟨⟨hy, hn⟩, ha⟩, hm⟩ => h ⟨⟨hy, ha⟩, e, he, hn.symm, hm⟩⟩

theorem multiPurge_WF (al : Nat → Bool) (x : Nat) (keys : List (Nat × List Nat)) (T : Tbl) (st : List Nat)
    (h : WF T) : WF (multiPurge al T x keys st).1 :=
  List.foldlRecOn (motive := fun (acc : Tbl × List Nat) => WF acc.1) keys _ h (fun acc h e _ => purge_WF al h x e.1 e.2 acc.2)

theorem foldl_purgeStep_fst_indep (al : Nat → Bool) (x name : Nat) :
    ∀ (L : List Nat) (T : Tbl) (st st' : List Nat),
      (L.foldl (purgeStep al x name) (T, st)).1 = (L.foldl (purgeStep al x name) (T, st')).1
  | [], _, _, _ => rfl
  | l :: L, T, st, st' => by
    simp only [List.foldl_cons]
    unfold purgeStep
    by_cases ha : al l = true
    · simp only [ha, if_true]
      exact foldl_purgeStep_fst_indep al x name L _ _ _
    · simp only [ha]
      exact foldl_purgeStep_fst_indep al x name L _ _ _

theorem purge_fst_indep (al : Nat → Bool) (T : Tbl) (x name : Nat) (list st st' : List Nat) :
    (purge al T x name list st).1 = (purge al T x name list st').1 :=
  foldl_purgeStep_fst_indep al x name _ _ _ _

theorem multiPurge_fst_indep (al : Nat → Bool) (x : Nat) :
    ∀ (keys : List (Nat × List Nat)) (T : Tbl) (st st' : List Nat),
      (multiPurge al T x keys st).1 = (multiPurge al T x keys st').1
  | [], _, _, _ => rfl
  | e :: keys, T, st, st' => by
    unfold multiPurge
    simp only [List.foldl_cons]
    have h1 := multiPurge_fst_indep al x keys (purge al T x e.1 e.2 st).1 (purge al T x e.1 e.2 st).2
      (purge al T x e.1 e.2 st').2
    unfold multiPurge at h1
    rw [h1, purge_fst_indep al T x e.1 e.2 st st']

theorem multiPurge_cons (al : Nat → Bool) (T : Tbl) (x : Nat) (e : Nat × List Nat)
    (keys : List (Nat × List Nat)) (st : List Nat) :
    multiPurge al T x (e :: keys) st =
      multiPurge al (purge al T x e.1 e.2 st).1 x keys (purge al T x e.1 e.2 st).2 := rfl

theorem purge_keeps (al : Nat → Bool) (T : Tbl) (x name : Nat) (list st : List Nat) (c t n : Nat)
    (h : c ∈ getD T (t, n)) :
    c ∈ getD (purge al T x name list st).1 (t, n) ∨ t ∈ (purge al T x name list st).2 := by
  by_cases hc : ((c = x ∧ n = name) ∧ al t = true) ∧ t ∈ list
  · obtain ⟨⟨⟨rfl, rfl⟩, ha⟩, hl⟩ := hc
    exact Or.inr (purge_complete al T c n list st t hl ha h)
  · rw [purge_getD]
    exact Or.inl (List.mem_filter.2 ⟨h, by rw [Bool.not_eq_true', Bool.eq_false_iff]; simpa using hc⟩)

theorem multiPurge_mono (al : Nat → Bool) (x : Nat) :
    ∀ (keys : List (Nat × List Nat)) (T : Tbl) (st : List Nat), ∀ y ∈ st, y ∈ (multiPurge al T x keys st).2
  | [], _, _, _, hy => hy
  | e :: keys, T, st, y, hy => by
    rw [multiPurge_cons]
    exact multiPurge_mono al x keys _ _ y (purge_mono al T x e.1 e.2 st y hy)

theorem multiPurge_keeps (al : Nat → Bool) (x : Nat) (c t n : Nat) :
    ∀ (keys : List (Nat × List Nat)) (T : Tbl) (st : List Nat), c ∈ getD T (t, n) →
      c ∈ getD (multiPurge al T x keys st).1 (t, n) ∨ t ∈ (multiPurge al T x keys st).2
  | [], _, _, h => Or.inl h
  | e :: keys, T, st, h => by
    rw [multiPurge_cons]
    rcases purge_keeps al T x e.1 e.2 st c t n h with h1 | h1
    · exact multiPurge_keeps al x c t n keys _ _ h1
    · exact Or.inr (multiPurge_mono al x keys _ _ t h1)

theorem Sub.purge (al : Nat → Bool) (a : Tbl) (x name : Nat) (list st : List Nat) :
    Sub (purge al a x name list st).1 a := Sub.of_filter (purge_getD al a x name list st)

theorem Sub.multiPurge (al : Nat → Bool) (a : Tbl) (x : Nat) (keys : List (Nat × List Nat)) (st : List Nat) :
    Sub (multiPurge al a x keys st).1 a := Sub.of_filter (multiPurge_getD al x keys a st)

theorem keysOf_names_nodup {t : Tbl} (h : WF t) (o : Nat) : ((keysOf t o).map (·.1)).Nodup := by
  unfold keysOf
  rw [List.map_map]
  have h1 : ((t.filter (·.1.1 == o)).map (·.1)).Nodup := (List.filter_sublist.map _).nodup h.nodup
  unfold List.Nodup at h1 ⊢
  rw [List.pairwise_map] at h1 ⊢
  apply List.Pairwise.imp_of_mem _ h1
  intro ea eb hea heb hne hab
  apply hne
  have ha' : ea.1.1 = o := by simpa using (List.mem_filter.1 hea).2
  have hb' : eb.1.1 = o := by simpa using (List.mem_filter.1 heb).2
  exact Prod.ext (by rw [ha', hb']) hab

theorem lost_owner_stopped {T : Tbl} (hT : WF T) (al : Nat → Bool) (src name : Nat) (list st : List Nat)
    {x : Nat} (ho : hasOwner T x = true)
    (hno : ¬ hasOwner (purge al T src name list st).1 x = true) :
    x ∈ (purge al T src name list st).2 := by
  obtain ⟨n0, hn0, h0⟩ := lost_owner hT (purge_WF al hT src name list st) ho hno
  obtain ⟨y, hy⟩ := List.exists_mem_of_ne_nil _ hn0
  -- `y` has left the entry `(x, n0)`: it is `src`, and `x` was visited
  have hc := List.filter_eq_nil_iff.1 (purge_getD al T src name list st _ ▸ h0) y hy
  obtain ⟨⟨⟨rfl, rfl⟩, ha⟩, hl⟩ : ((y = src ∧ n0 = name) ∧ al x = true) ∧ x ∈ list := by simpa using hc
  exact purge_complete al T y n0 list st x hl ha hy

end Tbl

/-- every registration is recorded on both sides, with multiplicity: `x` under `(o, n)` in `a` as
    often as `o` under `(x, n)` in `b` -/
def TblMirror (a b : Tbl) : Prop :=
  ∀ o n x, (Tbl.getD a (o, n)).count x = (Tbl.getD b (x, n)).count o

theorem TblMirror.symm {a b : Tbl} (h : TblMirror a b) : TblMirror b a := fun o n x => (h x n o).symm

theorem TblMirror.mem_iff {a b : Tbl} (h : TblMirror a b) (o n x : Nat) :
    x ∈ Tbl.getD a (o, n) ↔ o ∈ Tbl.getD b (x, n) := by
  rw [← List.count_pos_iff, ← List.count_pos_iff (a := o), h o n x]

theorem count_filter_ite (l : List Nat) (p : Nat → Bool) (a : Nat) :
    (l.filter p).count a = if p a then l.count a else 0 := by
  split
  · rename_i h; exact List.count_filter h
  · rename_i h; exact List.count_eq_zero.2 fun m => h (List.mem_filter.1 m).2

theorem count_filter_ne' (l : List Nat) (a b : Nat) :
    (l.filter (· != b)).count a = if a = b then 0 else l.count a := by
  rw [count_filter_ite]; by_cases h : a = b <;> simp [h]

/-- `Register`: one more `x` under `(o, n)`, one more `o` under `(x, n)` -/
theorem TblMirror.push {a b : Tbl} (h : TblMirror a b) (o n x : Nat) :
    TblMirror (Tbl.push a (o, n) x) (Tbl.push b (x, n) o) := by
  intro o' n' x'
  simp only [Tbl.getD_push]
  by_cases h1 : (o', n') = (o, n)
  · obtain ⟨rfl, rfl⟩ := Prod.mk.inj h1
    by_cases h2 : x' = x
    · subst h2; simp [h o' n' x']
    · have : ¬ (x', n') = (x, n') := by intro e; exact h2 (Prod.mk.inj e).1
      have h2' : ¬ x = x' := fun e => h2 e.symm
      simp [this, h o' n' x', h2']
  · simp only [h1, if_false]
    by_cases h2 : (x', n') = (x, n)
    · obtain ⟨rfl, rfl⟩ := Prod.mk.inj h2
      have hs : ¬ o = o' := by intro e; exact h1 (by rw [e])
      simp [h o' n' x', hs]
    · simp [h2, h o' n' x']

theorem TblMirror.of_filter {a b a' b' : Tbl} (h : TblMirror a b) {p q : Key → Nat → Bool}
    (ha : ∀ k, Tbl.getD a' k = (Tbl.getD a k).filter (p k)) (hb : ∀ k, Tbl.getD b' k = (Tbl.getD b k).filter (q k))
    (hpq : ∀ o n x, x ∈ Tbl.getD a (o, n) → p (o, n) x = q (x, n) o) : TblMirror a' b' := by
  intro o n x
  rw [ha, hb]
  by_cases hx : x ∈ Tbl.getD a (o, n)
  · rw [count_filter_ite, count_filter_ite, hpq o n x hx, h o n x]
  · rw [List.count_eq_zero.2 fun m => hx (List.mem_filter.1 m).1,
      List.count_eq_zero.2 fun m => hx ((h.mem_iff o n x).2 (List.mem_filter.1 m).1)]

/-- the single-name loop followed by the removal of the key restores the mirror
    (`Unregister(name)` with `a` = notify, `CancelWaiting(0)` with `a` = waitFor) -/
theorem TblMirror.purge_removeKey {a b : Tbl} (h : TblMirror a b) (al : Nat → Bool) (o n : Nat) (st : List Nat)
    (hal : ∀ l ∈ Tbl.getD a (o, n), al l = true) :
    TblMirror (Tbl.removeKey a (o, n)) (Tbl.purge al b o n (Tbl.getD a (o, n)) st).1 := by
  refine h.of_filter (Tbl.getD_filter_key a fun k => !(k == (o, n))) (Tbl.purge_getD al b o n _ st) fun o' n' x hx => ?_
  show (!(o' == o && n' == n)) = _
  cases hb : (o' == o && n' == n)
  · rfl
  · obtain ⟨rfl, rfl⟩ : o' = o ∧ n' = n := by simpa using hb
    simp [hx, hal x hx]

/-- the loop over every name of one owner followed by the removal of the owner restores the mirror
    (`UnregisterAll` with `a` = notify, `CancelWaitingAll` with `a` = waitFor) -/
theorem TblMirror.multiPurge_removeOwner {a b : Tbl} (h : TblMirror a b) (ha : Tbl.WF a) (al : Nat → Bool) (o : Nat)
    (st : List Nat) (hal : ∀ n, ∀ l ∈ Tbl.getD a (o, n), al l = true) :
    TblMirror (Tbl.removeOwner a o) (Tbl.multiPurge al b o (Tbl.keysOf a o) st).1 := by
  refine h.of_filter (Tbl.getD_filter_key a fun k => !(k.1 == o)) (Tbl.multiPurge_getD al o _ b st) fun o' n' x hx => ?_
  by_cases hk : o' = o
  · subst hk
    have : (Tbl.keysOf a o').any (fun e => e.1 == n' && e.2.contains x) = true :=
      List.any_eq_true.2 ⟨_, (ha.mem_keysOf_iff o' n' _).2 ⟨rfl, List.ne_nil_of_mem hx⟩, by simp [hx]⟩
    simp only [this, hal n' x hx, beq_self_eq_true, Bool.and_self]
  · have hb : (o' == o) = false := by simpa using hk
    simp [hb]

/-- a loop over a structure that holds the table: as long as one step is `purgeStep` on the table, the loop is -/
theorem Tbl.foldl_purgeStep_lift {σ : Type} (al : Nat → Bool) (x name : Nat) (put : Tbl → σ)
    (step : σ × List Nat → Nat → σ × List Nat)
    (hstep : ∀ T st l, step (put T, st) l =
      (put (Tbl.purgeStep al x name (T, st) l).1, (Tbl.purgeStep al x name (T, st) l).2)) :
    ∀ (L : List Nat) (T : Tbl) (st : List Nat),
      L.foldl step (put T, st) =
        (put (L.foldl (Tbl.purgeStep al x name) (T, st)).1, (L.foldl (Tbl.purgeStep al x name) (T, st)).2)
  | [], _, _ => rfl
  | l :: L, T, st => by
    simp only [List.foldl_cons]
    rw [hstep]
    exact Tbl.foldl_purgeStep_lift al x name put step hstep L _ _

end Morfuse.Sched
