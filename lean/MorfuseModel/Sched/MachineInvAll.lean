import MorfuseModel.Sched.MachineInvInstr
import MorfuseModel.Sched.MachineInvMain
/-!
# The timer loop, `ScriptExecuteInternal`, and the induction over the whole mutual block
-/
namespace Morfuse.Sched

variable {P : List Nat → State → Prop}

theorem drain_inv_succ {fuel : Nat} (L : ExecKept P) (hev : IEv P (execVM fuel)) (hdr : IDr P (drain fuel)) :
    IDr P (drain (fuel + 1)) := by
  intro W s h
  rw [drain_succ]
  cases hn : s.timer.next with
  | mk r tm =>
    cases r with
    | none =>
      dsimp only
      obtain ⟨_, htm⟩ := Timer.next_none hn
      have i1 : Inv [] W none ({ s with timer := tm } : State) := h.setTimerSame tm (by rw [htm])
      exact Ok.pure ⟨i1.setCur none (by simp), G0.of_eq rfl rfl rfl, rfl, fun _ j => L.congr j rfl rfl rfl rfl⟩
    | some ed =>
      obtain ⟨t, d⟩ := ed
      dsimp only
      obtain ⟨i, hi, _, _, htm⟩ := Timer.next_some hn
      have hmem : (t, d) ∈ s.timer.elems := List.mem_of_getElem? hi
      obtain ⟨th, hth, hts⟩ := h.tim.t1 (t, d) hmem
      have ht100 : 100 ≤ t := (h.n.range t th hth).1
      have rr := h.th t th hth
      have hhv : th.hasVM = true := rr.hasVM_of_ts (by rw [hts]; simp)
      have i0 : Inv [] W none ({ s with cur := some t } : State) :=
        h.setCur (some t) (fun x hx => by simp at hx; omega)
      have i1 : Inv [] W none (({ s with timer := tm, cur := some t } : State).setTh t fun th => { th with ts := .running }) :=
        i0.setTh_awake t (fun th => { th with ts := .running }) th tm hth
          (fun _ => rfl) (recOK_running rr) (fun _ => rfl)
          (h.tim.erase i t d hi _ (fun _ => by simp) tm (by rw [htm])) (by simp)
          (fun x m => m) (fun x m _ => m) (fun hw0 => by rw [hts] at hw0; cases hw0)
      refine (hev W _ t _ i1 (thFind_setTh_self _ hth) hhv rfl (Or.inl rfl)).bind ((presAll fuel).dr _) (fun p => ?_)
      have j1 : ∀ A, P A s → P (t :: A) (({ s with timer := tm, cur := some t } : State).setTh t fun th => { th with ts := .running }) :=
        fun A j => L.mono (L.setTs t .running (L.congr (s' := ({ s with timer := tm, cur := some t } : State)) j rfl rfl rfl rfl))
          (fun x m => List.mem_cons_of_mem _ m)
      refine (hdr W _ p.1).map (fun q => ⟨q.1, ?_, q.2.2.1, fun A j => q.2.2.2 A (p.2.2 A (j1 A j))⟩)
      refine G0.trans h.n ?_ (G0.trans i1.n p.2.1.g0 q.2.1)
      exact (G0.setTh s t (fun th => { th with ts := .running }) (fun _ => rfl) (fun _ => rfl) (fun _ _ hi => hi)).congr
        rfl rfl rfl rfl rfl rfl

theorem executeRunning_inv_succ {fuel : Nat} (hdr : IDr P (drain fuel)) : IEr P (executeRunning (fuel + 1)) := by
  intro W s h
  rw [executeRunning_succ]
  split
  · exact Ok.pure ⟨h, G.refl s, fun _ j => j⟩
  · split
    · exact Ok.pure ⟨h, G.refl s, fun _ j => j⟩
    · exact (hdr W s h).map (fun p => ⟨p.1, p.2.1.withCur (Or.inr p.2.2.1), p.2.2.2⟩)

theorem scriptExecuteInternal_inv_succ {fuel : Nat} (L : ExecKept P) (hstp : IStp (stop fuel)) (hev : IEv P (execVM fuel))
    (her : IEr P (executeRunning fuel)) : ISei P (scriptExecuteInternal (fuel + 1)) := by
  intro W s t th h hth hhv
  rw [scriptExecuteInternal_succ]
  have ht100 : 100 ≤ t := (h.n.range t th hth).1
  have Pr := presAll fuel
  have i0 : Inv [] (t :: W) none ({ s with cur := some t } : State) :=
    h.setCur (some t) (fun x hx => by simp at hx; omega)
  have q1 := (qAll fuel).stp [] ({ s with cur := some t } : State) t i0.n
  have j1 : ∀ A, P A s → P A (stop fuel { s with cur := some t } t) :=
    fun A j => (L.quietAll fuel).stp A _ t i0.n (L.congr j rfl rfl rfl rfl)
  -- a running thread's `Stop()` does nothing
  have hstill : th.ts = .running → (stop fuel { s with cur := some t } t).alive t = true := fun hr => by
    have e : (stop fuel { s with cur := some t } t).alive t = s.alive t := by
      rcases stop_running fuel ({ s with cur := some t } : State) t th hth hr with e | e <;> rw [e] <;> rfl
    rw [e, State.alive_ge _ ht100]
    exact (aliveTh_iff h.n.nodup t).2 ⟨th, hth, (h.th t th hth).not_dead hhv⟩
  refine (hstp [] W _ t i0).bind ?_ (fun p1 => ?_)
  · exact ((execIfAlive_pres Pr.ev _ _).trans (restoreCur_pres _ _)).trans (Pr.er _)
  obtain ⟨i1, hrun⟩ := p1
  generalize stop fuel ({ s with cur := some t } : State) t = S1 at q1 i1 hrun j1 hstill ⊢
  -- the execution, if the thread survived its own `Stop()`; `t` stays active only if it is executed
  have hexec : Ok (execIfAlive (execVM fuel) S1 t)
      (Inv [] W none (execIfAlive (execVM fuel) S1 t) ∧ G0 S1 (execIfAlive (execVM fuel) S1 t) ∧
        ∀ A, (th.vm = .idling ∨ th.ts = .running) → P (t :: A) s → P A (execIfAlive (execVM fuel) S1 t)) := by
    unfold execIfAlive
    split
    · rename_i hal
      obtain ⟨th1, hth1, hvm1, _⟩ := q1.alive_hasVM i1.n hth hhv ht100 hal
      exact (hev W _ t th1 i1 hth1 hvm1 (hrun th1 hth1) (Or.inl q1.cur)).map
        (fun p => ⟨p.1, p.2.1.g0, fun A _ j => p.2.2 A (j1 _ j)⟩)
    · rename_i hal
      refine Ok.pure ⟨i1, G0.of_eq rfl rfl rfl, fun A hpre j => ?_⟩
      rcases hpre with hidle | hr
      · exact j1 A (L.idleActive hth hhv hidle j)
      · exact absurd (hstill hr) hal
  refine hexec.bind ((restoreCur_pres _ _).trans (Pr.er _)) (fun p2 => ?_)
  obtain ⟨i2, g2, j2⟩ := p2
  generalize execIfAlive (execVM fuel) S1 t = S2 at i2 g2 j2 ⊢
  have i3 : Inv [] W none (restoreCur S2 s.cur) := i2.setCur _ (restoreCur_ninv i2.n s.cur h.n.cur).cur
  have g3 : G s (restoreCur S2 s.cur) :=
    ((G0.trans h.n (q1.toG.g0.congr rfl rfl rfl rfl rfl rfl) g2).congr (b' := restoreCur S2 s.cur)
      rfl rfl rfl rfl rfl rfl).withCur (restoreCur_cur S2 s.cur)
  exact (her W _ i3).map (fun p => ⟨p.1, G.trans h.n g3 p.2.1,
    fun A hpre j => p.2.2 A (L.congr (s' := restoreCur S2 s.cur) (j2 A hpre j) rfl rfl rfl rfl)⟩)

theorem iAll_zero : IAll P 0 where
  dt := fun C W s t _ => by rw [deleteThread_zero]; exact Or.inl rfl
  sn := fun C W s t _ => by rw [stoppedNotify_zero]; exact Or.inl rfl
  stp := fun C W s t _ => by rw [stop_zero]; exact Or.inl rfl
  cwa := fun C W s t _ => by rw [cancelWaitingAll_zero]; exact Or.inl rfl
  swf := fun C W s t n d _ _ => by rw [stoppedWaitFor_zero]; exact Or.inl rfl
  ur := fun C W s t n _ _ => by rw [unregister_zero]; exact Or.inl rfl
  ua := fun C W s t _ => by rw [unregisterAll_zero]; exact Or.inl rfl
  sei := fun W s t th _ _ _ => by rw [scriptExecuteInternal_zero]; exact Or.inl rfl
  er := fun W s _ => by rw [executeRunning_zero]; exact Or.inl rfl
  dr := fun W s _ => by rw [drain_zero]; exact Or.inl rfl
  ev := fun W s t th _ _ _ _ _ => by rw [execVM_zero]; exact Or.inl rfl
  pr := fun W s t _ _ _ => by rw [process_zero]; exact Or.inl rfl
  ex := fun W s t th0 th ins _ _ _ _ _ => by rw [exec_zero]; exact Or.inl rfl

theorem iAll_succ (L : ExecKept P) {fuel : Nat} (ih : IAll P fuel) : IAll P (fuel + 1) where
  dt := deleteThread_inv_succ L ih.cwa ih.ur ih.ua
  sn := stoppedNotify_inv_succ ih.dt
  stp := stop_inv_succ (qAll fuel).cwa ih.cwa
  cwa := cancelWaitingAll_inv_succ ih.swf ih.sn
  swf := stoppedWaitFor_inv_succ L ih.dt ih.stp ih.sei
  ur := unregister_inv_succ L ih.dt ih.swf ih.sn
  ua := unregisterAll_inv_succ ih.ur ih.swf ih.sn
  sei := scriptExecuteInternal_inv_succ L ih.stp ih.ev ih.er
  er := executeRunning_inv_succ ih.dr
  dr := drain_inv_succ L ih.ev ih.dr
  ev := execVM_inv_succ L ih.pr
  pr := process_inv_succ L ih.ex ih.pr
  ex := exec_inv_succ L ih

/-- `Inv` through every function of the mutual block, with a rider kept by the executing half -/
theorem execAll (L : ExecKept P) : ∀ fuel, IAll P fuel
  | 0 => iAll_zero
  | fuel + 1 => iAll_succ L (execAll L fuel)

theorem iAll : ∀ fuel, IAll (fun _ _ => True) fuel := execAll ExecKept.trivial

end Morfuse.Sched
