import MorfuseModel.Sched.MachineQuietDelete
/-!
# Complete idle threads through the destruction cascades

`W A s`: every thread record is a *complete idle thread* (it has its VM and the VM is `idling`) or belongs
to the active set `A` (threads whose `ScriptVM::Execute` or destructor is on the native stack, threads
just created).  `FZ s s'` ("frozen"): no record appears, no record gets a VM back, and a record that had
already lost its VM keeps its VM state and `vmObj` flag — this is what makes `~ScriptThread` of a complete
idle thread end with the record removed (`NotifyDelete` sees `idling`, clears `vmObj`, nothing touches
it until `finishDelete`).  `wqAll`: both, for the destruction cascades (`quietAll`), every fuel, under `NInv` alone.
-/
namespace Morfuse.Sched

def W (A : List Nat) (s : State) : Prop :=
  ∀ t th, thFind s.threads t = some th → (th.hasVM = true ∧ th.vm = .idling) ∨ t ∈ A

def FZ (s s' : State) : Prop :=
  ∀ u th', thFind s'.threads u = some th' → ∃ th, thFind s.threads u = some th ∧
    (th'.hasVM = true → th.hasVM = true) ∧ (th.hasVM = false → th'.vm = th.vm ∧ th'.vmObj = th.vmObj)

theorem FZ.refl (s : State) : FZ s s := fun _ th' h => ⟨th', h, id, fun _ => ⟨rfl, rfl⟩⟩

theorem FZ.trans {a b c : State} (h1 : FZ a b) (h2 : FZ b c) : FZ a c := by
  intro u thc hc
  obtain ⟨thb, hb, m2, f2⟩ := h2 u thc hc
  obtain ⟨tha, ha, m1, f1⟩ := h1 u thb hb
  refine ⟨tha, ha, fun h => m1 (m2 h), fun h => ?_⟩
  have hbv : thb.hasVM = false := by
    cases hv : thb.hasVM with
    | false => rfl
    | true => have := m1 hv; rw [h] at this; cases this
  obtain ⟨e1, e2⟩ := f1 h
  obtain ⟨e3, e4⟩ := f2 hbv
  exact ⟨e3.trans e1, e4.trans e2⟩

theorem FZ.of_threads {s s' : State} (e : s'.threads = s.threads) : FZ s s' := by
  intro u th' h; rw [e] at h; exact ⟨th', h, id, fun _ => ⟨rfl, rfl⟩⟩

theorem FZ.setTh (s : State) (t : Nat) (f : Th → Th) (hhv : ∀ x, (f x).hasVM = true → x.hasVM = true)
    (hfr : ∀ x, x.hasVM = false → (f x).vm = x.vm ∧ (f x).vmObj = x.vmObj) : FZ s (s.setTh t f) := by
  intro u th' h
  rcases thFind_setTh_some h with ⟨rfl, th, h1, rfl⟩ | ⟨_, h1⟩
  · exact ⟨th, h1, hhv th, hfr th⟩
  · exact ⟨_, h1, id, fun _ => ⟨rfl, rfl⟩⟩

theorem FZ.filter (s : State) (t : Nat) : FZ s { s with threads := s.threads.filter (fun e => !(e.1 == t)) } := by
  intro u th' h
  simp only at h
  rw [thFind_filter_ne] at h
  split at h
  · cases h
  · exact ⟨th', h, id, fun _ => ⟨rfl, rfl⟩⟩

theorem W.mono {A B : List Nat} {s : State} (h : W A s) (hs : ∀ x ∈ A, x ∈ B) : W B s :=
  fun t th hf => (h t th hf).elim Or.inl (fun m => Or.inr (hs t m))

def WZ (A : List Nat) (s s' : State) : Prop := (W A s → W A s') ∧ FZ s s'

theorem WZ.refl (A : List Nat) (s : State) : WZ A s s := ⟨id, FZ.refl s⟩
theorem WZ.trans {A : List Nat} {a b c : State} (h1 : WZ A a b) (h2 : WZ A b c) : WZ A a c :=
  ⟨fun h => h2.1 (h1.1 h), h1.2.trans h2.2⟩
theorem W.congr {A : List Nat} {s s' : State} (h : W A s) (e1 : s'.threads = s.threads) : W A s' :=
  fun t th hf => h t th (by rw [← e1]; exact hf)

theorem WZ.of_eq {A : List Nat} {s s' : State} (e1 : s'.threads = s.threads) : WZ A s s' :=
  ⟨(·.congr e1), FZ.of_threads e1⟩

theorem W.setTh {A : List Nat} {s : State} (h : W A s) (t : Nat) (f : Th → Th)
    (hhv : ∀ x, (f x).hasVM = x.hasVM := by intros; rfl) (hvm : ∀ x, (f x).vm = x.vm := by intros; rfl) :
    W A (s.setTh t f) := by
  intro u th' hu
  rcases thFind_setTh_some hu with ⟨rfl, th, h1, rfl⟩ | ⟨_, h1⟩
  · rw [hhv, hvm]; exact h u th h1
  · exact h u _ h1

theorem WZ.setTh (A : List Nat) (s : State) (t : Nat) (f : Th → Th)
    (hhv : ∀ x, (f x).hasVM = x.hasVM := by intros; rfl) (hvm : ∀ x, (f x).vm = x.vm := by intros; rfl)
    (hvo : ∀ x, (f x).vmObj = x.vmObj := by intros; rfl) : WZ A s (s.setTh t f) :=
  ⟨fun h => h.setTh t f hhv hvm, FZ.setTh s t f (fun x h => by rw [← hhv]; exact h) (fun x _ => ⟨hvm x, hvo x⟩)⟩

theorem wzQuiet : QuietRel WZ :=
  ⟨WZ.refl, WZ.trans, fun _ _ _ _ _ _ _ _ _ _ => WZ.of_eq rfl, fun A s t => WZ.setTh A s t _,
    fun A _ _ t h _ => WZ.trans h (WZ.setTh A _ t _), fun _ _ _ => WZ.of_eq rfl⟩

theorem finishDelete_fz (s : State) (t : Nat) : FZ s (finishDelete s t) := by
  unfold finishDelete
  split
  · exact FZ.refl s
  · split
    · exact FZ.setTh s t _ (fun _ h => h) (fun _ _ => ⟨rfl, rfl⟩)
    · exact FZ.filter s t

/-- The whole of `~ScriptThread`.  Inside, `t` is active; at the end its record is gone if it was a complete idle
    thread at the start: `NotifyDelete` then clears `vmObj`, and the record is frozen before and after. -/
theorem deleteThread_wz_succ {fuel : Nat} (ih : QuietAll WZ fuel) : Quiet1 WZ (deleteThread (fuel + 1)) := by
  intro X s t h
  rw [deleteThread_succ]
  cases hf : thFind s.threads t with
  | none => exact WZ.refl X s
  | some th =>
    simp only
    split
    · exact WZ.refl X s
    · rename_i hvm
      have hvm' : th.hasVM = true := by simpa using hvm
      have ht : 100 ≤ t := (h.range t th hf).1
      have h0 : NInv (s.setTh t fun th => { th with hasVM := false }) := h.setTh t _
      have h3 := deleteThread_head_ninv fuel h t th
      have find0 : thFind (s.setTh t fun th => { th with hasVM := false }).threads t = some { th with hasVM := false } := by
        rw [thFind_setTh, if_pos rfl, hf]; rfl
      have w1 := fun (A : List Nat) => wzQuiet.stopStep ih.cwa A h0 t th
      have w3 := fun (A : List Nat) => (wzQuiet.cancelEvents A _ t).trans (ih.listenerEnd wzQuiet A h3 ht)
      generalize stopStep (cancelWaitingAll fuel) (s.setTh t fun th => { th with hasVM := false }) t th = s1 at w1 w3 ⊢
      generalize listenerEnd fuel (cancelEvents (notifyDelete s1 t) t) t = s6 at w3 ⊢
      have fz01 : FZ s s1 := (FZ.setTh s t (fun th => { th with hasVM := false }) (fun _ hx => by cases hx)
        (fun _ _ => ⟨rfl, rfl⟩)).trans (w1 []).2
      have rec1 : ∀ th1, thFind s1.threads t = some th1 → th1.hasVM = false ∧ th1.vm = th.vm ∧ th1.vmObj = th.vmObj := by
        intro th1 h1r
        obtain ⟨th0, h0r, m01, fr01⟩ := (w1 []).2 t th1 h1r
        rw [find0] at h0r; cases h0r
        exact ⟨Bool.eq_false_iff.2 (fun hv => by cases m01 hv), fr01 rfl⟩
      -- `NotifyDelete`: frozen relative to `s` (where `t` still had its VM)
      have fz02 : FZ s (notifyDelete s1 t) := by
        intro u th2 h2
        rw [thFind_notifyDelete] at h2
        split at h2
        · rename_i hut; subst hut
          exact ⟨th, hf, fun _ => hvm', fun e => by rw [hvm'] at e; cases e⟩
        · exact fz01 u th2 h2
      refine ⟨fun hw => ?_, (fz02.trans (w3 []).2).trans (finishDelete_fz s6 t)⟩
      -- `W`: with `t` exempt all the way
      have hw0 : W (t :: X) (s.setTh t fun th => { th with hasVM := false }) := by
        intro u thu hu
        rw [thFind_setTh] at hu
        split at hu
        · rename_i hut; right; rw [hut]; exact List.mem_cons_self
        · exact (hw u thu hu).elim Or.inl (fun m => Or.inr (List.mem_cons_of_mem _ m))
      have hw2 : W (t :: X) (notifyDelete s1 t) := by
        intro u thu hu
        rw [thFind_notifyDelete] at hu
        split at hu
        · rename_i hut; right; rw [hut]; exact List.mem_cons_self
        · exact (w1 (t :: X)).1 hw0 u thu hu
      intro u thu hu
      rw [thFind_finishDelete] at hu
      split at hu
      · rename_i hut; subst hut
        -- `t` still has a record at the very end: it was in `X` (its VM was not idle)
        rcases hw u th hf with ⟨_, hidle⟩ | m
        · exfalso
          cases h6r : thFind s6.threads u with
          | none => rw [h6r] at hu; cases hu
          | some th6 =>
            obtain ⟨th2, h2r, _, fr26⟩ := (w3 []).2 u th6 h6r
            rw [thFind_notifyDelete, if_pos rfl] at h2r
            cases h1r : thFind s1.threads u with
            | none => rw [h1r] at h2r; cases h2r
            | some th1 =>
              obtain ⟨hv1, hvm1, _⟩ := rec1 th1 h1r
              rw [h1r] at h2r; cases h2r
              have hvo6 : th6.vmObj = false := by
                rw [(fr26 hv1).2]
                simp only [ndRec, hvm1, hidle, beq_self_eq_true, if_true]
              rw [h6r] at hu
              simp only [Option.bind_some, hvo6, Bool.false_eq_true, if_false] at hu
              cases hu
        · exact Or.inr m
      · rename_i hut
        rcases (w3 (t :: X)).1 hw2 u thu hu with c | m
        · exact Or.inl c
        · rcases List.mem_cons.1 m with m | m
          · exact absurd m hut
          · exact Or.inr m

theorem wqAll : ∀ fuel, QuietAll WZ fuel := quietAll wzQuiet fun _ ih => deleteThread_wz_succ ih

end Morfuse.Sched
