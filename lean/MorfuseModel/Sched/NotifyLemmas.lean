import MorfuseModel.Sched.TablesPurge
/-!
# `notify` on the two mirrored tables (pure part of `Listener::Unregister(name)`)
-/
namespace Morfuse.Sched

/-- the two tables of all listeners -/
structure Tabs where
  n : Tbl      -- m_NotifyList : (source, name) ↦ waiters
  w : Tbl      -- m_WaitForList : (waiter, name) ↦ sources

/-- every registration is recorded on both sides, with multiplicity -/
def Mirror (T : Tabs) : Prop :=
  ∀ src name x, (Tbl.getD T.n (src, name)).count x = (Tbl.getD T.w (x, name)).count src

theorem mirror_iff {T : Tabs} : Mirror T ↔ TblMirror T.n T.w := Iff.rfl

/-- `Listener::Register(name, waiter)` -/
def registerT (T : Tabs) (src name x : Nat) : Tabs :=
  ⟨T.n.push (src, name) x, T.w.push (x, name) src⟩

/-- the loop of `UnregisterTargets`: one step -/
def tstep (src name : Nat) (acc : Tbl × List Nat) (l : Nat) : Tbl × List Nat :=
  let r := Tbl.removeAll acc.1 (l, name) src
  (r.1, if r.2 then acc.2 ++ [l] else acc.2)

theorem purgeStep_alive {al : Nat → Bool} {l : Nat} (h : al l = true) (src name : Nat) (acc : Tbl × List Nat) :
    Tbl.purgeStep al src name acc l = tstep src name acc l := if_pos h

/-- `UnregisterTargets(name, list, stopped)` on the wait-for table alone (every listed listener alive) -/
def targetsT (w : Tbl) (src name : Nat) (list : List Nat) : Tbl × List Nat :=
  list.reverse.foldl (tstep src name) (w, [])

theorem foldl_congr_mem {α β : Type} (f g : β → α → β) :
    ∀ (l : List α) (b : β), (∀ b, ∀ a ∈ l, f b a = g b a) → l.foldl f b = l.foldl g b
  | [], _, _ => rfl
  | a :: l, b, h => by
    rw [List.foldl_cons, List.foldl_cons, h b a List.mem_cons_self]
    exact foldl_congr_mem f g l _ fun b a ha => h b a (List.mem_cons_of_mem _ ha)

/-- `targetsT` is the machine's `purge` loop when every listed listener is alive -/
theorem purge_eq_targetsT (al : Nat → Bool) (w : Tbl) (src name : Nat) (list : List Nat)
    (h : ∀ l ∈ list, al l = true) : Tbl.purge al w src name list [] = targetsT w src name list :=
  foldl_congr_mem _ _ _ _ fun acc l hl => purgeStep_alive (h l (List.mem_reverse.1 hl)) src name acc

/-- script `notify`: the waiters to wake (in wake order) and the tables afterwards -/
def notifyT (T : Tabs) (src name : Nat) : Tabs × List Nat :=
  let r := targetsT T.w src name (Tbl.getD T.n (src, name))
  (⟨T.n.removeKey (src, name), r.1⟩, r.2.reverse)

theorem targetsT_spec (T : Tabs) (hm : Mirror T) (src name : Nat) :
    let list := Tbl.getD T.n (src, name)
    (∀ k, Tbl.getD (targetsT T.w src name list).1 k =
        (Tbl.getD T.w k).filter fun y => !(y == src && k.2 == name && list.contains k.1)) ∧
    (targetsT T.w src name list).2 = dedup list.reverse := by
  intro list
  rw [← purge_eq_targetsT (fun _ => true) _ _ _ _ fun _ _ => rfl]
  constructor
  · intro k
    rw [Tbl.purge_getD]
    simp
  · rw [Tbl.purge_snd, List.nil_append, List.filter_eq_self.2]
    intro l hl
    -- by the mirror every listed listener holds `src`
    simpa using ((mirror_iff.1 hm).mem_iff src name l).1 (List.mem_reverse.1 hl)

end Morfuse.Sched
