import MorfuseModel.Sched.Machine
import MorfuseModel.Common.Assoc
/-!
# The thread list as a partial function

`thFind : id ↦ record` with the effect of the three list updates the machine performs (`setTh` = map, record removal =
filter, creation = append of a fresh id).
-/
namespace Morfuse.Sched

theorem getD_mem_or {α : Type} (l : List α) (i : Nat) (d : α) : l.getD i d ∈ l ∨ l.getD i d = d := by
  rw [List.getD_eq_getElem?_getD]
  cases h : l[i]? with
  | none => right; rfl
  | some x => left; simp only [Option.getD_some]; exact List.mem_of_getElem? h

theorem fetch_of_forall {P : Instr → Prop} {p : List (List Instr)} (h : ∀ body ∈ p, ∀ ins ∈ body, P ins)
    (h0 : P (.end_ .none)) (l pc : Nat) : P ((p.getD l []).getD pc (.end_ .none)) := by
  rcases getD_mem_or (p.getD l []) pc (.end_ .none) with hi | hi
  · rcases getD_mem_or p l [] with hb | hb
    · exact h _ hb _ hi
    · rw [hb] at hi; cases hi
  · rw [hi]; exact h0

def thFind (ths : List (Nat × Th)) (t : Nat) : Option Th := (ths.find? (·.1 == t)).map (·.2)

/-- every equation and lemma is stated with `thFind`; `th?` stands in the model and in the property statements only, which
    meet the lemmas by unfolding -/
theorem State.th?_eq (s : State) (t : Nat) : s.th? t = thFind s.threads t := rfl

def thUpd (t : Nat) (f : Th → Th) (e : Nat × Th) : Nat × Th := if e.1 == t then (e.1, f e.2) else e

theorem State.setTh_threads (s : State) (t : Nat) (f : Th → Th) :
    (s.setTh t f).threads = s.threads.map (thUpd t f) := rfl

theorem thFind_nil (t : Nat) : thFind [] t = none := rfl

theorem thFind_cons (e : Nat × Th) (ths : List (Nat × Th)) (t : Nat) :
    thFind (e :: ths) t = if e.1 = t then some e.2 else thFind ths t := Assoc.find_cons e ths t

theorem thFind_map_upd (ths : List (Nat × Th)) (t : Nat) (f : Th → Th) (u : Nat) :
    thFind (ths.map (thUpd t f)) u = if u = t then (thFind ths t).map f else thFind ths u := by
  unfold thFind; rw [Option.map_map]; exact Assoc.find_map_at ths t (fun e => f e.2) u

theorem thFind_upd_self {ths : List (Nat × Th)} {t : Nat} {th : Th} (f : Th → Th) (h : thFind ths t = some th) :
    thFind (ths.map (thUpd t f)) t = some (f th) := by
  rw [thFind_map_upd, if_pos rfl, h]; rfl

theorem thFind_upd_ne (ths : List (Nat × Th)) (f : Th → Th) {t u : Nat} (h : u ≠ t) :
    thFind (ths.map (thUpd t f)) u = thFind ths u := by
  rw [thFind_map_upd, if_neg h]

theorem thFind_upd_some {ths : List (Nat × Th)} {t u : Nat} {f : Th → Th} {th' : Th}
    (h : thFind (ths.map (thUpd t f)) u = some th') :
    (u = t ∧ ∃ th, thFind ths t = some th ∧ th' = f th) ∨ (u ≠ t ∧ thFind ths u = some th') := by
  rw [thFind_map_upd] at h
  split at h
  · rename_i hut
    cases hf : thFind ths t with
    | none => rw [hf] at h; cases h
    | some th => rw [hf] at h; exact Or.inl ⟨hut, th, rfl, (Option.some.inj h).symm⟩
  · rename_i hut; exact Or.inr ⟨hut, h⟩

theorem thFind_setTh (s : State) (t : Nat) (f : Th → Th) (u : Nat) :
    thFind (s.setTh t f).threads u = if u = t then (thFind s.threads t).map f else thFind s.threads u :=
  thFind_map_upd s.threads t f u

theorem thFind_setTh_self {s : State} {t : Nat} {th : Th} (f : Th → Th) (h : thFind s.threads t = some th) :
    thFind (s.setTh t f).threads t = some (f th) := thFind_upd_self f h

theorem thFind_setTh_ne (s : State) (f : Th → Th) {t u : Nat} (h : u ≠ t) :
    thFind (s.setTh t f).threads u = thFind s.threads u := thFind_upd_ne s.threads f h

theorem thFind_setTh_some {s : State} {t u : Nat} {f : Th → Th} {th' : Th}
    (h : thFind (s.setTh t f).threads u = some th') :
    (u = t ∧ ∃ th, thFind s.threads t = some th ∧ th' = f th) ∨ (u ≠ t ∧ thFind s.threads u = some th') :=
  thFind_upd_some h

theorem thFind_setTh_bind (s : State) (t : Nat) (f : Th → Th) (u : Nat) :
    thFind (s.setTh t f).threads u = (thFind s.threads u).bind fun th => some (if u = t then f th else th) := by
  rw [thFind_setTh]
  split
  · subst u; cases thFind s.threads t <;> rfl
  · cases thFind s.threads u <;> rfl

theorem thFind_filter_ne (ths : List (Nat × Th)) (t u : Nat) :
    thFind (ths.filter (fun e => !(e.1 == t))) u = if u = t then none else thFind ths u :=
  Assoc.find_erase ths t u

theorem thFind_filter_self (ths : List (Nat × Th)) (t : Nat) :
    thFind (ths.filter (fun e => !(e.1 == t))) t = none := by
  rw [thFind_filter_ne, if_pos rfl]

theorem thFind_filter_of_ne (ths : List (Nat × Th)) {t u : Nat} (h : u ≠ t) :
    thFind (ths.filter (fun e => !(e.1 == t))) u = thFind ths u := by
  rw [thFind_filter_ne, if_neg h]

theorem thFind_filter_some {ths : List (Nat × Th)} {t u : Nat} {th' : Th}
    (h : thFind (ths.filter (fun e => !(e.1 == t))) u = some th') : u ≠ t ∧ thFind ths u = some th' := by
  rw [thFind_filter_ne] at h
  split at h
  · cases h
  · rename_i hut; exact ⟨hut, h⟩

theorem thFind_filter_bind (ths : List (Nat × Th)) (t u : Nat) :
    thFind (ths.filter (fun e => !(e.1 == t))) u = (thFind ths u).bind fun th => if u = t then none else some th := by
  rw [thFind_filter_ne]
  split <;> cases thFind ths u <;> rfl

theorem thFind_append (ths : List (Nat × Th)) (t' : Nat) (th : Th) (u : Nat) :
    thFind (ths ++ [(t', th)]) u =
      match thFind ths u with
      | some x => some x
      | none => if u = t' then some th else none := by
  unfold thFind
  rw [Assoc.find_append, Assoc.find_cons]
  cases Option.map (·.2) (ths.find? (·.1 == u)) <;> simp [eq_comm]

theorem thFind_append_of_some {ths : List (Nat × Th)} {u : Nat} {x : Th} (t' : Nat) (th : Th)
    (h : thFind ths u = some x) : thFind (ths ++ [(t', th)]) u = some x := by
  rw [thFind_append, h]

theorem thFind_append_some {ths : List (Nat × Th)} {t' u : Nat} {th th' : Th}
    (h : thFind (ths ++ [(t', th)]) u = some th') :
    thFind ths u = some th' ∨ (thFind ths u = none ∧ u = t' ∧ th' = th) := by
  rw [thFind_append] at h
  cases hf : thFind ths u with
  | some x => rw [hf] at h; exact Or.inl h
  | none =>
    rw [hf] at h
    dsimp only at h
    split at h
    · rename_i hut; exact Or.inr ⟨rfl, hut, (Option.some.inj h).symm⟩
    · cases h

theorem thFind_spawned {ths : List (Nat × Th)} {t' : Nat} (th : Th) (hf : thFind ths t' = none) :
    thFind (ths ++ [(t', th)]) t' = some th := by
  rw [thFind_append, hf]; simp

theorem thFind_some_mem {ths : List (Nat × Th)} {t : Nat} {th : Th} (h : thFind ths t = some th) :
    (t, th) ∈ ths := Assoc.mem_of_find h

theorem thFind_none_iff {ths : List (Nat × Th)} {t : Nat} :
    thFind ths t = none ↔ t ∉ ths.map (·.1) := Assoc.find_eq_none_iff

theorem map_thUpd_of_none {ths : List (Nat × Th)} {t : Nat} (f : Th → Th) (h : thFind ths t = none) :
    ths.map (thUpd t f) = ths := Assoc.map_at_of_none (fun e => f e.2) h

theorem thFind_of_mem {ths : List (Nat × Th)} (hn : (ths.map (·.1)).Nodup) {t : Nat} {th : Th}
    (h : (t, th) ∈ ths) : thFind ths t = some th := Assoc.find_of_mem hn h

theorem map_upd_keys (ths : List (Nat × Th)) (t : Nat) (f : Th → Th) :
    (ths.map (thUpd t f)).map (·.1) = ths.map (·.1) := Assoc.keys_map_at ths t fun e => f e.2

/-- a thread is alive (weak references to it are non-null): it has a record that is not `dead` -/
def aliveTh (ths : List (Nat × Th)) (l : Nat) : Bool := ths.any (fun e => e.1 == l && !e.2.dead)

theorem State.isThread_iff (l : Nat) : State.isThread l = true ↔ 100 ≤ l := by simp [State.isThread]

theorem State.alive_thread (s : State) {l : Nat} (h : State.isThread l = true) :
    s.alive l = aliveTh s.threads l := by
  unfold State.alive; simp [h, aliveTh]

theorem State.alive_obj (s : State) {l : Nat} (h : State.isThread l = false) :
    s.alive l = s.objAlive l := by
  unfold State.alive; simp [h]

theorem State.alive_ge (s : State) {l : Nat} (h : 100 ≤ l) : s.alive l = aliveTh s.threads l :=
  s.alive_thread ((State.isThread_iff l).2 h)

theorem aliveTh_iff {ths : List (Nat × Th)} (hn : (ths.map (·.1)).Nodup) (l : Nat) :
    aliveTh ths l = true ↔ ∃ th, thFind ths l = some th ∧ th.dead = false := by
  unfold aliveTh
  simp only [List.any_eq_true, Bool.and_eq_true, beq_iff_eq, Bool.not_eq_eq_eq_not, Bool.not_true]
  constructor
  · rintro ⟨e, hm, he, hd⟩
    refine ⟨e.2, ?_, hd⟩
    apply thFind_of_mem hn
    rw [← he]; exact hm
  · rintro ⟨th, hf, hd⟩
    exact ⟨(l, th), thFind_some_mem hf, rfl, hd⟩

theorem aliveTh_false_of_none {ths : List (Nat × Th)} {l : Nat} (h : thFind ths l = none) :
    aliveTh ths l = false := by
  unfold aliveTh
  rw [Bool.eq_false_iff]
  intro ha
  simp only [List.any_eq_true, Bool.and_eq_true, beq_iff_eq] at ha
  obtain ⟨e, hm, he, _⟩ := ha
  have := thFind_none_iff.1 h
  apply this
  exact List.mem_map.2 ⟨e, hm, he⟩

theorem State.hasVM_eq (s : State) (t : Nat) :
    s.hasVM t = match thFind s.threads t with | some th => th.hasVM | none => false := rfl

/-- thread `u` has a record with its VM and not dead -/
def LiveVM (s : State) (u : Nat) : Prop := ∃ th, thFind s.threads u = some th ∧ th.hasVM = true ∧ th.dead = false

theorem aliveTh_map_upd (ths : List (Nat × Th)) (t : Nat) (f : Th → Th) (hf : ∀ th, (f th).dead = th.dead)
    (l : Nat) : aliveTh (ths.map (thUpd t f)) l = aliveTh ths l := by
  unfold aliveTh
  rw [List.any_map]
  congr 1
  funext e
  simp only [Function.comp, thUpd]
  split
  · simp [hf]
  · rfl

theorem aliveTh_upd_ne (ths : List (Nat × Th)) (f : Th → Th) {t l : Nat} (h : l ≠ t) :
    aliveTh (ths.map (thUpd t f)) l = aliveTh ths l := by
  unfold aliveTh
  rw [List.any_map]
  congr 1
  funext e
  simp only [Function.comp, thUpd]
  split
  · rename_i hk
    have hk' : e.1 = t := by simpa using hk
    have : (e.1 == l) = false := by simp; rw [hk']; exact fun e' => h e'.symm
    simp [this]
  · rfl

theorem State.alive_eq {s s' : State} {l : Nat} (h1 : aliveTh s'.threads l = aliveTh s.threads l)
    (h2 : s'.objs = s.objs) : s'.alive l = s.alive l := by
  unfold State.alive State.objAlive
  rw [h2]
  have : (s'.threads.any fun e => e.1 == l && !e.2.dead) = (s.threads.any fun e => e.1 == l && !e.2.dead) := h1
  rw [this]

theorem State.alive_congr {s s' : State} (h1 : ∀ l, aliveTh s'.threads l = aliveTh s.threads l)
    (h2 : s'.objs = s.objs) (l : Nat) : s'.alive l = s.alive l := State.alive_eq (h1 l) h2

theorem State.alive_mono {s s' : State} {l : Nat} (h1 : aliveTh s.threads l = true → aliveTh s'.threads l = true)
    (h2 : s.objAlive l = true → s'.objAlive l = true) (h : s.alive l = true) : s'.alive l = true := by
  by_cases hl : State.isThread l = true
  · rw [State.alive_thread _ hl] at h ⊢; exact h1 h
  · have hl' : State.isThread l = false := by simpa using hl
    rw [State.alive_obj _ hl'] at h ⊢; exact h2 h

theorem aliveTh_filter_ne (ths : List (Nat × Th)) (t l : Nat) (h : l ≠ t) :
    aliveTh (ths.filter (fun e => !(e.1 == t))) l = aliveTh ths l := by
  unfold aliveTh
  induction ths with
  | nil => rfl
  | cons e ths ih =>
    by_cases he : e.1 = t
    · have hb : (e.1 == t) = true := by simpa using he
      have hl : (e.1 == l) = false := by simp; rw [he]; exact fun e' => h e'.symm
      simp [hb, hl, ih]
    · have hb : (e.1 == t) = false := by simpa using he
      simp [hb, ih]

theorem aliveTh_append (ths : List (Nat × Th)) (e : Nat × Th) (l : Nat) :
    aliveTh (ths ++ [e]) l = (aliveTh ths l || (e.1 == l && !e.2.dead)) := by
  unfold aliveTh; simp

end Morfuse.Sched
