import MorfuseModel.Sched.MachineNotifyTrace
import MorfuseModel.Sched.MachineHost
/-!
# The notify-table history of one driver command
-/
namespace Morfuse.Sched

theorem NN.hostMoves : HostMoves NN :=
  (HostSteps.of_all NN.steps.toSteps (nnAll defaultFuel) fun _ _ _ _ => NN.of_eq rfl).moves (fun _ _ _ => NN.of_eq rfl)
    NN.blind.calls

theorem HostOp.apply_nn (s : State) (op : HostOp) (hne : op ≠ .reset) : NN s (op.apply s) :=
  HostOp.apply_rel NN.hostMoves (fun _ _ => NN.of_eq rfl) (fun _ => NN.of_eq rfl) s op hne fun _ _ _ _ => NN.of_eq rfl

end Morfuse.Sched
