import MorfuseModel.Sched.MachineInstQuiet
import MorfuseModel.Sched.MachineInvAll
/-!
# `J` through the executing half of the machine

`J X` does not depend on the active set; the destruction cascades inside are covered by `jqAll` (no `Inv` needed).
-/
namespace Morfuse.Sched

theorem vmSuspend_jr (X : List Nat) (s : State) (t : Nat) : JR X s (vmSuspend s t) := by
  unfold vmSuspend
  exact JR.setTh X s t _ (fun x => by split <;> rfl) (fun x => by split <;> rfl) (fun x => by split <;> rfl)
    (fun x hx => by split at hx <;> exact hx) (fun x hx => by
      split at hx
      · cases hx
      · exact hx)

theorem vmResume_jr (X : List Nat) (s : State) (t : Nat) : JR X s (vmResume s t) := by
  unfold vmResume
  exact JR.setTh X s t _ (fun x => by split <;> rfl) (fun x => by split <;> rfl) (fun x => by split <;> rfl)
    (fun x hx => by split at hx <;> exact hx) (fun x hx => by
      split at hx
      · cases hx
      · exact hx)

theorem jKept (X : List Nat) : ExecKept (fun _ => J X) where
  mono := fun j _ => j
  congr := fun j e1 e2 e3 e4 => j.congr e1 e2 e3 e4
  quietAll := fun fuel => (jqAll fuel).const X
  setTh := fun t f hf j => j.setTh t f (fun x => (hf x).1) (fun x => (hf x).2.1) (fun x => (hf x).2.2.1)
    (fun x hx => by rw [← (hf x).2.2.2.1]; exact hx) (fun x hx => by rw [← (hf x).2.2.2.2]; exact hx)
  cancelEvents := fun t j => cancelEvents_jr X _ t j
  vmSuspend := fun p j => vmSuspend_jr X _ p j
  postEvent := fun {_ s} c due hc j => ⟨j.a, j.b, j.c, j.d, fun ev he => by
    have he' : ev ∈ s.events.takeWhile (fun e => e.2 ≤ due) ++ (c, due) :: s.events.dropWhile (fun e => e.2 ≤ due) := he
    rcases List.mem_append.1 he' with hm | hm
    · exact j.e ev ((List.takeWhile_sublist _).subset hm)
    · rcases List.mem_cons.1 hm with hm | hm
      · subst hm; exact hc
      · exact j.e ev ((List.dropWhile_sublist _).subset hm)⟩
  spawnSame := fun {_ s t th0 th} l hn r hinst j =>
    (j.spawnIn hn ({ label := l, inst := th.inst, params := bindLoop (s.progParams.getD l 0) 0 [], parent := t } : Th)
      th.inst rfl rfl rfl rfl (by rw [hinst]; exact (j.a t th0 r.find r.hasVM).imp id (fun m => ⟨t, m⟩))
      (by rw [hinst]; exact j.c t th0 r.find)).congr rfl rfl rfl
  spawnNew := fun {_ s} t l hn j =>
    (j.spawnFresh hn ({ label := l, inst := s.nextInst, params := bindLoop (s.progParams.getD l 0) 0 [], parent := t } : Th)
      rfl rfl rfl rfl).congr rfl rfl rfl
  prologue := fun t j =>
    (j.setTh t (fun th => { th with vm := .running }) (fun _ => rfl) (fun _ => rfl) (fun _ => rfl) (fun _ hx => hx)
      (fun _ hx => by cases hx)).congr rfl rfl rfl
  epilogue := fun t _ j => j.epi t
  idleActive := fun _ _ _ j => j

theorem jAll (X : List Nat) : ∀ fuel, IAll (fun _ => J X) fuel := execAll (jKept X)

end Morfuse.Sched
