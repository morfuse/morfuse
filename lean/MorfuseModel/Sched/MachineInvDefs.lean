import MorfuseModel.Sched.MachineInvPres
import MorfuseModel.Sched.MachineInvQuiet
/-!
# The machine-level invariant `Inv` and the history relation `G`

`Inv C W top s` (for programs of class `ProgOK`):

* `n`   — the structural invariant `NInv`;
* `th`  — per thread record: no VM ⇒ state `running`; dead ⇒ no VM and VM state `destroyed`;
          VM `running` ⇒ thread state `running`; VM `destroyed` ⇒ no VM (`f4` is the last clause of `lnk`);
* `tim` — **timer consistency**: every timer element is a thread in state `timing`, no thread is in the
          timer twice, every `timing` thread is in the timer;
* `tab` — **mirror**: the notify and wait-for tables are mirror images with multiplicity, and every
          listener mentioned in them is alive (a weak reference that reads non-null);
* `lnk` — **no lost wake-up**: a listener owns a wait-for entry only if it is a `waiting` thread, and a
          `waiting` thread owns at least one; a `waiting` thread whose VM is not idle waits on channel 0
          only.

The three exemption parameters, one for each clause of the last group in this order, describe the places *inside* a
cascade where it is transiently false: `C` = threads whose `CancelWaitingAll` is in progress (already `running`, entries
not yet removed), `W` = threads woken by a notify whose `StoppedWaitFor` has not been called yet (`waiting`, entry already
removed), `top` = the thread that executed `waittill` and has not yet left `ScriptVM::Execute`.  At the host level all
three are empty.
-/
namespace Morfuse.Sched

structure RecOK (th : Th) : Prop where
  f1 : th.hasVM = false → th.ts = .running
  f2 : th.dead = true → th.hasVM = false ∧ th.vm = .destroyed
  f3 : th.vm = .running → th.ts = .running
  f5 : th.vm = .destroyed → th.hasVM = false

theorem RecOK.not_dead {th : Th} (r : RecOK th) (h : th.hasVM = true) : th.dead = false := by
  cases hd : th.dead with
  | false => rfl
  | true => rw [(r.f2 hd).1] at h; cases h

theorem RecOK.hasVM_of_ts {th : Th} (r : RecOK th) (h : th.ts ≠ .running) : th.hasVM = true := by
  cases hv : th.hasVM with
  | true => rfl
  | false => exact absurd (r.f1 hv) h

def ThInv (ths : List (Nat × Th)) : Prop := ∀ t th, thFind ths t = some th → RecOK th

structure TimInv (tm : Timer) (ths : List (Nat × Th)) : Prop where
  t1 : ∀ e ∈ tm.elems, ∃ th, thFind ths e.1 = some th ∧ th.ts = .timing
  t2 : (tm.elems.map (·.1)).Nodup
  t3 : ∀ t th, thFind ths t = some th → th.ts = .timing → t ∈ tm.elems.map (·.1)

structure TabInv (s : State) : Prop where
  mir : TblMirror s.notify s.waitFor
  aN : ∀ o n x, x ∈ Tbl.getD s.notify (o, n) → s.alive o = true ∧ aliveTh s.threads x = true

structure LinkInv (C W : List Nat) (top : Option Nat) (s : State) : Prop where
  linkC : ∀ t, Tbl.hasOwner s.waitFor t = true →
    t ∈ C ∨ ∃ th, thFind s.threads t = some th ∧ th.ts = .waiting
  linkW : ∀ t th, thFind s.threads t = some th → th.ts = .waiting →
    t ∈ W ∨ Tbl.hasOwner s.waitFor t = true
  f4 : ∀ t th, thFind s.threads t = some th → th.ts = .waiting → th.vm ≠ .idling →
    top = some t ∨ ∀ n, Tbl.getD s.waitFor (t, n) ≠ [] → n = 0

structure Inv (C W : List Nat) (top : Option Nat) (s : State) : Prop where
  n : NInv s
  th : ThInv s.threads
  tim : TimInv s.timer s.threads
  tab : TabInv s
  lnk : LinkInv C W top s

/-- Out of fuel a function returns from the middle of a cascade, where `Inv` need not hold: postconditions are modulo
    the flag, which is never cleared (`Pres.oof`), so that `Ok.bind` can sequence two calls. -/
def Ok (s' : State) (P : Prop) : Prop := s'.outOfFuel = true ∨ P

theorem Ok.bind' {a b : State} {P R : Prop} (h : Ok a P) (hp : a.outOfFuel = true → b.outOfFuel = true)
    (k : P → Ok b R) : Ok b R := h.elim (fun o => Or.inl (hp o)) k

theorem Ok.bind {a b : State} {P R : Prop} (h : Ok a P) (hp : Pres a b) (k : P → Ok b R) : Ok b R :=
  h.bind' hp.oof k

theorem Ok.map {a : State} {P R : Prop} (h : Ok a P) (k : P → R) : Ok a R :=
  h.elim Or.inl (fun p => Or.inr (k p))

theorem Ok.pure {a : State} {P : Prop} (h : P) : Ok a P := Or.inr h

theorem Ok.and {a : State} {P R : Prop} (h1 : Ok a P) (h2 : Ok a R) : Ok a (P ∧ R) :=
  h1.elim Or.inl (fun p => h2.map (fun r => ⟨p, r⟩))

theorem Ok.rider {a : State} {I H R : Prop} (h : Ok a (I ∧ H)) (r : R) : Ok a (I ∧ H ∧ R) :=
  h.map (fun p => ⟨p.1, p.2, r⟩)

theorem Ok.fuel (s : State) (P : Prop) : Ok { s with outOfFuel := true } P := Or.inl rfl

theorem ok_cases (s : State) (P : Prop) (h : s.outOfFuel = false → P) : Ok s P := by
  cases ho : s.outOfFuel with
  | true => exact Or.inl ho
  | false => exact Or.inr (h ho)

theorem Ok.get {s : State} {P : Prop} (h : Ok s P) (ho : s.outOfFuel = false) : P := by
  rcases h with h | h
  · rw [ho] at h; cases h
  · exact h

/-- a loop whose invariant depends on what is left of the list (each round discharges the exemption of its element) -/
theorem Ok.foldlRest {α : Type} {f : State → α → State} (I : List α → State → Prop) (hp : ∀ s a, Pres s (f s a))
    (hf : ∀ a l s, I (a :: l) s → Ok (f s a) (I l (f s a))) :
    ∀ (l : List α) (s : State), I l s → Ok (l.foldl f s) (I [] (l.foldl f s))
  | [], _, h => Ok.pure h
  | a :: l, s, h => (hf a l s h).bind (Pres.foldl f hp l _) (Ok.foldlRest I hp hf l _)

/-- with `Pre.imp`, takes an invariant modulo fuel through the control-flow lemmas of `MachineSteps` -/
theorem Ok.kept {I : State → Prop} {s s' : State} (hp : Pres s s') (h : I s → Ok s' (I s')) (q : Ok s (I s)) :
    Ok s' (I s') := q.bind hp h

/-! ### history relation: what any function may have done to the threads that existed before

Beside `Inv` in the postconditions, for the caller that holds a thread across a call: `Process` needs that its thread
still has the VM or is dead (`lost`) and that the current thread is the same or null (`cur`), `ScriptVM::Execute` the
depth, the wake loop of `Unregister` that a waiter it found idle is still idle, or destroyed, at its turn (`idle`, `mono`).
The cascades have it from `Q` (`Q.toG`). -/

structure G (s s' : State) : Prop where
  tid : s.nextTid ≤ s'.nextTid
  cur : s'.cur = s.cur ∨ s'.cur = none
  depth : s'.depth = s.depth
  mono : ∀ u th', u < s.nextTid → thFind s'.threads u = some th' →
    ∃ th, thFind s.threads u = some th ∧ (th.dead = true → th'.dead = true)
  lost : ∀ u th, thFind s.threads u = some th → th.hasVM = true →
    thFind s'.threads u = none ∨ ∃ th', thFind s'.threads u = some th' ∧ (th'.hasVM = true ∨ th'.dead = true)
  idle : ∀ u th, thFind s.threads u = some th → (th.vm = .idling ∨ th.vm = .destroyed) →
    thFind s'.threads u = none ∨
      ∃ th', thFind s'.threads u = some th' ∧ (th'.vm = .idling ∨ th'.vm = .destroyed)

theorem G.refl (s : State) : G s s where
  tid := Nat.le_refl _
  cur := Or.inl rfl
  depth := rfl
  mono := fun _ th' _ h => ⟨th', h, id⟩
  lost := fun _ th h hv => Or.inr ⟨th, h, Or.inl hv⟩
  idle := fun _ th h hv => Or.inr ⟨th, h, hv⟩

theorem G.cur_of {s s' : State} (g : G s s') {t : Nat} (h : s.cur = some t ∨ s.cur = none) :
    s'.cur = some t ∨ s'.cur = none := by
  rcases g.cur with e | e
  · rw [e]; exact h
  · exact Or.inr e

theorem G.hasVM_or_dead {s s' : State} (g : G s s') {t : Nat} {th th' : Th} (h : thFind s.threads t = some th)
    (hv : th.hasVM = true) (h' : thFind s'.threads t = some th') : th'.hasVM = true ∨ th'.dead = true := by
  rcases g.lost t th h hv with e | ⟨th2, e, e2⟩
  · rw [h'] at e; cases e
  · rw [h'] at e; cases e; exact e2

theorem G.trans {a b c : State} (ha : NInv a) (h1 : G a b) (h2 : G b c) : G a c := by
  have hgone : ∀ u, u < a.nextTid → thFind b.threads u = none → thFind c.threads u = none := by
    intro u hu hb
    cases hcn : thFind c.threads u with
    | none => rfl
    | some th'' =>
      obtain ⟨th', hb', _⟩ := h2.mono u th'' (Nat.lt_of_lt_of_le hu h1.tid) hcn
      rw [hb] at hb'; cases hb'
  refine ⟨Nat.le_trans h1.tid h2.tid, ?_, h2.depth.trans h1.depth, ?_, ?_, ?_⟩
  · rcases h2.cur with e | e
    · rw [e]; exact h1.cur
    · exact Or.inr e
  · intro u th'' hu h
    obtain ⟨th', hb, m2⟩ := h2.mono u th'' (Nat.lt_of_lt_of_le hu h1.tid) h
    obtain ⟨th, hh, m1⟩ := h1.mono u th' hu hb
    exact ⟨th, hh, fun d => m2 (m1 d)⟩
  · intro u th h hv
    have hu : u < a.nextTid := (ha.range u th h).2
    rcases h1.lost u th h hv with hb | ⟨th', hb, hc⟩
    · exact Or.inl (hgone u hu hb)
    · cases hcn : thFind c.threads u with
      | none => exact Or.inl rfl
      | some th'' =>
        refine Or.inr ⟨th'', rfl, ?_⟩
        rcases hc with hc | hc
        · exact h2.hasVM_or_dead hb hc hcn
        · obtain ⟨th2, hb', m2⟩ := h2.mono u th'' (Nat.lt_of_lt_of_le hu h1.tid) hcn
          rw [hb] at hb'; cases hb'
          exact Or.inr (m2 hc)
  · intro u th h hv
    rcases h1.idle u th h hv with hb | ⟨th', hb, hc⟩
    · exact Or.inl (hgone u (ha.range u th h).2 hb)
    · exact h2.idle u th' hb hc

theorem Q.toG {s s' : State} (h : Q [] s s') : G s s' where
  tid := Nat.le_of_eq h.tid.symm
  cur := Or.inl h.cur
  depth := h.depth
  mono := fun u th' _ hu => by
    obtain ⟨th, h1, q⟩ := h.th u th' hu
    exact ⟨th, h1, q.dead⟩
  lost := fun u th hu hv => by
    rcases h.lost u th hu hv with h1 | ⟨th', h1, h2⟩
    · exact Or.inl h1
    · refine Or.inr ⟨th', h1, ?_⟩
      rcases h2 with h2 | h2 | h2
      · exact Or.inl h2
      · exact Or.inr h2
      · cases h2
  idle := fun u th hu hv => by
    cases hf : thFind s'.threads u with
    | none => exact Or.inl rfl
    | some th' =>
      right
      obtain ⟨th0, h1, q⟩ := h.th u th' hf
      rw [hu] at h1; cases h1
      refine ⟨th', rfl, ?_⟩
      rcases q.vm with e | e
      · rw [e]; exact hv
      · exact Or.inr e

theorem G.of_eq {s s' : State} (e1 : s'.threads = s.threads) (e2 : s'.nextTid = s.nextTid)
    (e3 : s'.cur = s.cur) (e4 : s'.depth = s.depth) : G s s' where
  tid := Nat.le_of_eq e2.symm
  cur := Or.inl e3
  depth := e4
  mono := fun u th' _ h => ⟨th', by rw [← e1]; exact h, id⟩
  lost := fun u th h hv => Or.inr ⟨th, by rw [e1]; exact h, Or.inl hv⟩
  idle := fun u th h hv => Or.inr ⟨th, by rw [e1]; exact h, hv⟩

/-- `G` without `cur`: it composes across the places that set and restore the current thread (`ScriptExecuteInternal`,
    the timer loop); `G0.withCur` gives `G` back -/
structure G0 (s s' : State) : Prop where
  tid : s.nextTid ≤ s'.nextTid
  depth : s'.depth = s.depth
  mono : ∀ u th', u < s.nextTid → thFind s'.threads u = some th' →
    ∃ th, thFind s.threads u = some th ∧ (th.dead = true → th'.dead = true)
  lost : ∀ u th, thFind s.threads u = some th → th.hasVM = true →
    thFind s'.threads u = none ∨ ∃ th', thFind s'.threads u = some th' ∧ (th'.hasVM = true ∨ th'.dead = true)
  idle : ∀ u th, thFind s.threads u = some th → (th.vm = .idling ∨ th.vm = .destroyed) →
    thFind s'.threads u = none ∨
      ∃ th', thFind s'.threads u = some th' ∧ (th'.vm = .idling ∨ th'.vm = .destroyed)

theorem G.g0 {s s' : State} (g : G s s') : G0 s s' := ⟨g.tid, g.depth, g.mono, g.lost, g.idle⟩

theorem G0.withCur {s s' : State} (g : G0 s s') (hc : s'.cur = s.cur ∨ s'.cur = none) : G s s' :=
  ⟨g.tid, hc, g.depth, g.mono, g.lost, g.idle⟩

theorem G0.congr' {a b a' b' : State} (g : G0 a b)
    (ea1 : a'.threads = a.threads) (ea2 : a'.nextTid = a.nextTid)
    (eb1 : b'.threads = b.threads) (eb2 : b'.nextTid = b.nextTid) (hd : b'.depth = a'.depth) : G0 a' b' := by
  refine ⟨by rw [ea2, eb2]; exact g.tid, hd, ?_, ?_, ?_⟩
  · rw [ea1, ea2, eb1]; exact g.mono
  · rw [ea1, eb1]; exact g.lost
  · rw [ea1, eb1]; exact g.idle

theorem G0.congr {a b a' b' : State} (g : G0 a b)
    (ea1 : a'.threads = a.threads) (ea2 : a'.nextTid = a.nextTid) (ea3 : a'.depth = a.depth)
    (eb1 : b'.threads = b.threads) (eb2 : b'.nextTid = b.nextTid) (eb3 : b'.depth = b.depth) : G0 a' b' :=
  g.congr' ea1 ea2 eb1 eb2 (by rw [ea3, eb3]; exact g.depth)

theorem G0.of_eq {s s' : State} (e1 : s'.threads = s.threads) (e2 : s'.nextTid = s.nextTid)
    (e4 : s'.depth = s.depth) : G0 s s' :=
  (G.of_eq (s := s) (s' := { s' with cur := s.cur }) e1 e2 rfl e4).g0.congr rfl rfl rfl rfl rfl rfl

theorem G0.trans {a b c : State} (ha : NInv a) (h1 : G0 a b) (h2 : G0 b c) : G0 a c := by
  have g1 : G a { b with cur := a.cur } :=
    (h1.congr (a' := a) (b' := { b with cur := a.cur }) rfl rfl rfl rfl rfl rfl).withCur (Or.inl rfl)
  have g2 : G { b with cur := a.cur } { c with cur := a.cur } :=
    (h2.congr (a' := { b with cur := a.cur }) (b' := { c with cur := a.cur }) rfl rfl rfl rfl rfl rfl).withCur (Or.inl rfl)
  exact (G.trans ha g1 g2).g0.congr rfl rfl rfl rfl rfl rfl

theorem top_shift {top top' : Option Nat} {t u : Nat} (htop : top = none ∨ top = top' ∨ top = some t)
    (hut : u ≠ t) (e : top = some u) : top' = some u := by
  rcases htop with ht | ht | ht
  · rw [ht] at e; cases e
  · rw [← ht]; exact e
  · rw [ht] at e; exact absurd (Option.some.inj e).symm hut

/-- the one rule for the exemptions: one may be added freely, and dropped for a thread of which the exempted
    clause holds -/
theorem Inv.shift {C W C' W' : List Nat} {top top' : Option Nat} {s : State} (h : Inv C W top s)
    (hC : ∀ x ∈ C, x ∈ C' ∨ Tbl.hasOwner s.waitFor x = false)
    (hW : ∀ x ∈ W, x ∈ W' ∨
      ∀ th, thFind s.threads x = some th → th.ts = .waiting → Tbl.hasOwner s.waitFor x = true)
    (ht : ∀ x, top = some x → top' = some x ∨ ∀ th, thFind s.threads x = some th → th.ts = .waiting →
      th.vm ≠ .idling → ∀ n, Tbl.getD s.waitFor (x, n) ≠ [] → n = 0) : Inv C' W' top' s :=
  { h with lnk :=
    { linkC := fun t ho => (h.lnk.linkC t ho).elim
        (fun m => (hC t m).elim Or.inl (fun e => by rw [e] at ho; cases ho)) Or.inr
      linkW := fun t th hf hw => (h.lnk.linkW t th hf hw).elim
        (fun m => (hW t m).elim Or.inl (fun e => Or.inr (e th hf hw))) Or.inr
      f4 := fun t th hf hw hv => (h.lnk.f4 t th hf hw hv).elim
        (fun e => (ht t e).elim Or.inl (fun e => Or.inr (e th hf hw hv))) Or.inr } }

theorem Inv.weaken {C W C' W' : List Nat} {top top' : Option Nat} {s : State} (h : Inv C W top s)
    (hC : ∀ x ∈ C, x ∈ C') (hW : ∀ x ∈ W, x ∈ W') (ht : top = none ∨ top = top') : Inv C' W' top' s :=
  h.shift (fun x m => Or.inl (hC x m)) (fun x m => Or.inl (hW x m))
    (fun x e => Or.inl (ht.elim (fun e0 => by rw [e0] at e; cases e) (fun e0 => e0 ▸ e)))

theorem Inv.consW {C W : List Nat} {top : Option Nat} {s : State} (h : Inv C W top s) (t : Nat) :
    Inv C (t :: W) top s :=
  h.weaken (fun _ m => m) (fun _ m => List.mem_cons_of_mem _ m) (Or.inr rfl)

theorem Inv.consC {C W : List Nat} {top : Option Nat} {s : State} (h : Inv C W top s) (t : Nat) :
    Inv (t :: C) W top s :=
  h.weaken (fun _ m => List.mem_cons_of_mem _ m) (fun _ m => m) (Or.inr rfl)

theorem Inv.dropW_of {C W : List Nat} {top : Option Nat} {s : State} {t : Nat} (h : Inv C (t :: W) top s)
    (ht : ∀ th, thFind s.threads t = some th → th.ts = .waiting → Tbl.hasOwner s.waitFor t = true) :
    Inv C W top s :=
  h.shift (fun _ m => Or.inl m) (fun _ m => (List.mem_cons.1 m).elim (fun e => Or.inr (e ▸ ht)) Or.inl)
    (fun _ e => Or.inl e)

theorem Inv.dropW {C W : List Nat} {top : Option Nat} {s : State} {t : Nat} (h : Inv C (t :: W) top s)
    (ht : ∀ th, thFind s.threads t = some th → th.ts ≠ .waiting) : Inv C W top s :=
  h.dropW_of (fun th hf hw => absurd hw (ht th hf))

theorem Inv.dropW_none {C W : List Nat} {top : Option Nat} {s : State} {t : Nat} (h : Inv C (t :: W) top s)
    (hf : thFind s.threads t = none) : Inv C W top s :=
  h.dropW (fun th0 h0 => by rw [hf] at h0; cases h0)

theorem Inv.dropW_awake {C W : List Nat} {top : Option Nat} {s : State} {t : Nat} {th : Th}
    (h : Inv C (t :: W) top s) (hf : thFind s.threads t = some th) (hts : th.ts ≠ .waiting) : Inv C W top s :=
  h.dropW (fun th0 h0 => by rw [hf] at h0; cases h0; exact hts)

theorem Inv.dropC {C W : List Nat} {top : Option Nat} {s : State} {t : Nat} (h : Inv (t :: C) W top s)
    (ht : Tbl.hasOwner s.waitFor t = false) : Inv C W top s :=
  h.shift (fun _ m => (List.mem_cons.1 m).elim (fun e => Or.inr (e ▸ ht)) Or.inl) (fun _ m => Or.inl m)
    (fun _ e => Or.inl e)

end Morfuse.Sched
