import MorfuseModel.Sched.Machine
/-!
# The host operations of the scheduler machine

`HostOp` is the list of commands the driver (`lean/Driver/Sched.lean`) accepts apart from `save`/`load`
and the read-only `thread-result` and `source`; `HostOp.apply` is what the driver does to the machine state for each
of them (the driver calls this function, so the theorems of `Sched/MachineHost.lean` about `HostOp.apply`
are about the function the correspondence runs compare with the engine).
-/
namespace Morfuse.Sched
open State

/-- `director.ExecuteThread(script, label)` without a host `Event`: the result cell is dropped -/
def hostCallV (s : State) (label : Nat) : State :=
  let c := s.nextCall
  let s' := (hostCall s label []).1
  { s' with threads := s'.threads.map (fun e => (e.1, if e.2.call == some c then { e.2 with call := none } else e.2)) }

/-- the status word of `hostCall` (`hostCall_status` in `MachineHost.lean`) -/
def hostCallStatus (s : State) (label : Nat) : String :=
  if label ≥ s.prog.length then "err LabelNotFound" else "ok"

inductive HostOp
  | reset                                                 -- a new context
  | script (prog : List (List Instr)) (params : List Nat) -- compile / recompile
  | call (label : Nat) (args : List V)
  | callv (label : Nat)
  | advance (ms : Nat)                                    -- the injected clock moves
  | resetDirector                                         -- `director.Reset()`
  | execute                                               -- `ScriptContext::Execute()`
  | step (ms : Nat)                                       -- advance, then execute
  | takeOut                                               -- the driver reads and clears the output

def HostOp.apply (s : State) : HostOp → State
  | .reset => {}
  | .script p ps => hostScript s p ps
  | .call l args => (hostCall s l args).1
  | .callv l => hostCallV s l
  | .advance k => { s with clock := s.clock + k }
  | .resetDirector => hostReset s
  | .execute => hostExecute s
  | .step k => hostExecute { s with clock := s.clock + k }
  | .takeOut => { s with out := [] }

end Morfuse.Sched
