import MorfuseModel.Sched.MachineWaitthread
import MorfuseModel.Sched.MachineHost
/-!
# The `waitthread` relation for the host operations

`HostOp.apply_wtr`: for every driver command (`reset` included) from any state whose program satisfies `WTSafe`: a listener
registered on channel 0 of thread `t0` before is still registered afterwards, or `t0` has no live VM afterwards, or the
operation ran out of fuel.
-/
namespace Morfuse.Sched

variable {c0 t0 : Nat}

/-- a dead record has lost its VM: "no live VM" is "no VM" -/
theorem hasVM_false_of_not_liveVM {s : State} (hth : ThInv s.threads) {t : Nat} (g : ¬ LiveVM s t) :
    s.hasVM t = false := by
  rw [State.hasVM_eq]
  cases hf : thFind s.threads t with
  | none => rfl
  | some th =>
    refine Bool.eq_false_iff.2 fun hv => ?_
    cases hd : th.dead with
    | false => exact g ⟨th, hf, hv, hd⟩
    | true => exact nomatch hv.symm.trans ((hth t th hf).f2 hd).1

theorem WTR.hostMoves (ht0 : 100 ≤ t0) : HostMoves (WTR c0 t0) :=
  HostSteps.moves
    { WTR.steps with
      unlink := fun _ _ _ _ => WTR.of_eq rfl rfl rfl rfl rfl
      dt := (wtrAll ht0 defaultFuel).dt
      cwa := (wtrAll ht0 defaultFuel).cwa
      sei := (wtrAll ht0 defaultFuel).sei
      er := (wtrAll ht0 defaultFuel).er }
    (fun s l args => WTR.append s (callSetup s l args) _ rfl rfl rfl rfl rfl) WTR.blind.calls

/-- `WTR` does not survive a change of program (its side condition speaks of the program), so the statement is read off
    `HostOp.apply_form`: the change leaves the notify table and the thread records alone -/
theorem HostOp.apply_wtr (ht0 : 100 ≤ t0) (s : State) (op : HostOp) (hp : WTSafe s.prog) (hlt : t0 < s.nextTid)
    (hc : c0 ∈ Tbl.getD s.notify (t0, 0)) :
    c0 ∈ Tbl.getD (op.apply s).notify (t0, 0) ∨ Ended t0 (op.apply s) := by
  by_cases hne : op = .reset
  · subst hne; exact Or.inr (Or.inl (fun ⟨_, h, _⟩ => by cases h))
  · obtain ⟨k, X, r, e⟩ := HostOp.apply_form (WTR.hostMoves (c0 := c0) ht0) s op hne
    have r' : WTR c0 t0 s X :=
      r.elim (WTR.trans (WTR.of_eq rfl rfl rfl rfl rfl)) (WTR.trans (WTR.of_eq rfl rfl rfl rfl rfl))
    have := (r' hp hlt).core hc
    rcases e with e | ⟨_, _, _, e⟩ <;> rw [e] <;> exact this

end Morfuse.Sched
