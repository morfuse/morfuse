import MorfuseModel.Sched.MachineEq
import MorfuseModel.Sched.TablesPurge
/-!
# The table scans of the machine are `purge` / `multiPurge` on one table of the state
-/
namespace Morfuse.Sched

theorem unregisterTargets_eq_purge (s : State) (src name : Nat) (list : List Nat) :
    unregisterTargets s src name list =
      ({ s with waitFor := (Tbl.purge s.alive s.waitFor src name list []).1 },
       (Tbl.purge s.alive s.waitFor src name list []).2) := by
  unfold unregisterTargets Tbl.purge
  refine Tbl.foldl_purgeStep_lift s.alive src name (fun T => ({ s with waitFor := T } : State)) _ ?_ _ s.waitFor []
  intro T st l
  have hal : State.alive ({ s with waitFor := T } : State) l = s.alive l := rfl
  simp only [Tbl.purgeStep, hal]
  split <;> rfl

theorem cancelWaitingSources_eq_purge (s : State) (w name : Nat) (list st : List Nat) :
    cancelWaitingSources s w name list st =
      ({ s with notify := (Tbl.purge s.alive s.notify w name list st).1 },
       (Tbl.purge s.alive s.notify w name list st).2) := by
  unfold cancelWaitingSources Tbl.purge
  refine Tbl.foldl_purgeStep_lift s.alive w name (fun T => ({ s with notify := T } : State)) _ ?_ _ s.notify st
  intro T st l
  have hal : State.alive ({ s with notify := T } : State) l = s.alive l := rfl
  simp only [Tbl.purgeStep, hal]
  split <;> rfl

theorem cwaSources_frame (s : State) (w : Nat) :
    cwaSources s w =
      ({ s with notify := (Tbl.multiPurge s.alive s.notify w (Tbl.keysOf s.waitFor w) []).1 },
       (Tbl.multiPurge s.alive s.notify w (Tbl.keysOf s.waitFor w) []).2) := by
  unfold cwaSources Tbl.multiPurge
  generalize Tbl.keysOf s.waitFor w = keys
  suffices hs : ∀ (keys : List (Nat × List Nat)) (T : Tbl) (st : List Nat),
      keys.foldl (fun (acc : State × List Nat) e => cancelWaitingSources acc.1 w e.1 e.2 acc.2)
        (({ s with notify := T } : State), st) =
      ({ s with notify := (keys.foldl (fun acc e => Tbl.purge s.alive acc.1 w e.1 e.2 acc.2) (T, st)).1 },
        (keys.foldl (fun acc e => Tbl.purge s.alive acc.1 w e.1 e.2 acc.2) (T, st)).2) from hs keys s.notify []
  intro keys
  induction keys with
  | nil => intro T st; rfl
  | cons e keys ih =>
    intro T st
    simp only [List.foldl_cons]
    rw [cancelWaitingSources_eq_purge]
    exact ih _ _

theorem uaTargets_frame (s : State) (src : Nat) :
    (uaTargets s src).1 =
      { s with waitFor := (Tbl.multiPurge s.alive s.waitFor src (Tbl.keysOf s.notify src) []).1 } := by
  unfold uaTargets
  generalize Tbl.keysOf s.notify src = keys
  suffices hs : ∀ (keys : List (Nat × List Nat)) (T : Tbl) (st' : List (Nat × Nat)),
      (keys.foldl (fun (acc : State × List (Nat × Nat)) e =>
        ((unregisterTargets acc.1 src e.1 e.2).1,
          acc.2 ++ (unregisterTargets acc.1 src e.1 e.2).2.map (fun l => (l, e.1))))
        (({ s with waitFor := T } : State), st')).1 =
      { s with waitFor := (Tbl.multiPurge s.alive T src keys []).1 }
    from hs keys s.waitFor []
  intro keys
  induction keys with
  | nil => intro T st'; rfl
  | cons e keys ih =>
    intro T st'
    simp only [List.foldl_cons]
    rw [unregisterTargets_eq_purge]
    rw [Tbl.multiPurge_cons, Tbl.multiPurge_fst_indep _ _ _ _ _ []]
    exact ih _ _

theorem uaTargets_complete_aux (s : State) (src : Nat) :
    ∀ (keys : List (Nat × List Nat)) (T : Tbl) (st' : List (Nat × Nat)), (keys.map (·.1)).Nodup →
      (∀ p ∈ st', p ∈ (keys.foldl (fun (acc : State × List (Nat × Nat)) e =>
        ((unregisterTargets acc.1 src e.1 e.2).1,
          acc.2 ++ (unregisterTargets acc.1 src e.1 e.2).2.map (fun l => (l, e.1))))
        (({ s with waitFor := T } : State), st')).2) ∧
      ∀ e ∈ keys, ∀ l ∈ e.2, s.alive l = true → src ∈ Tbl.getD T (l, e.1) →
        (l, e.1) ∈ (keys.foldl (fun (acc : State × List (Nat × Nat)) e =>
          ((unregisterTargets acc.1 src e.1 e.2).1,
            acc.2 ++ (unregisterTargets acc.1 src e.1 e.2).2.map (fun l => (l, e.1))))
          (({ s with waitFor := T } : State), st')).2
  | [], T, st', _ => ⟨fun p hp => hp, fun e he => by simp at he⟩
  | e0 :: keys, T, st', hn => by
    simp only [List.foldl_cons]
    rw [unregisterTargets_eq_purge]
    simp only [List.map_cons, List.nodup_cons] at hn
    have ih := uaTargets_complete_aux s src keys
      (Tbl.purge s.alive T src e0.1 e0.2 []).1
      (st' ++ (Tbl.purge s.alive T src e0.1 e0.2 []).2.map (fun l => (l, e0.1))) hn.2
    refine ⟨fun p hp => ih.1 p (List.mem_append_left _ hp), ?_⟩
    intro e he l hl ha hx
    rcases List.mem_cons.1 he with he | he
    · subst he
      apply ih.1
      apply List.mem_append_right
      exact List.mem_map.2 ⟨l, Tbl.purge_complete s.alive T src e.1 e.2 [] l hl ha hx, rfl⟩
    · apply ih.2 e he l hl ha
      have hne : ¬ e.1 = e0.1 := by
        intro h; apply hn.1; rw [← h]; exact List.mem_map.2 ⟨e, he, rfl⟩
      rw [Tbl.purge_getD]
      exact List.mem_filter.2 ⟨hx, by simp [hne]⟩

theorem uaTargets_complete (s : State) (src : Nat) (hw : Tbl.WF s.notify) (n l : Nat)
    (hl : l ∈ Tbl.getD s.notify (src, n)) (ha : s.alive l = true) (hx : src ∈ Tbl.getD s.waitFor (l, n)) :
    (l, n) ∈ (uaTargets s src).2 :=
  (uaTargets_complete_aux s src (Tbl.keysOf s.notify src) s.waitFor [] (Tbl.keysOf_names_nodup hw src)).2
    (n, Tbl.getD s.notify (src, n)) ((hw.mem_keysOf_iff src n _).2 ⟨rfl, List.ne_nil_of_mem hl⟩) l hl ha hx

theorem removeFromInst_frame (s : State) (t i : Nat) :
    removeFromInst s t i = { s with insts := (removeFromInst s t i).insts } := by
  unfold removeFromInst
  split
  · rfl
  · split
    · split
      · split <;> rfl
      · rfl
    · rfl

end Morfuse.Sched
