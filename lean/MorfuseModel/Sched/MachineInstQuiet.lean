import MorfuseModel.Sched.MachineInst
import MorfuseModel.Sched.MachineQuietDelete
/-!
# `J` through the destruction cascades (the quiet half of the machine)

Under `NInv` alone — no fuel condition, no `Inv` — the cascades keep `J`: the only steps that touch what `J` reads are
`CancelPendingEvents`, `hasVM := false`, `NotifyDelete` (the thread has lost its VM by then: `NoVM`) and the end of the
destructor (the VM is destroyed by then: `Gone`).
-/
namespace Morfuse.Sched

def JR (X : List Nat) (s s' : State) : Prop := J X s → J X s'

theorem JR.refl (X : List Nat) (s : State) : JR X s s := id
theorem JR.trans {X : List Nat} {a b c : State} (h1 : JR X a b) (h2 : JR X b c) : JR X a c := fun h => h2 (h1 h)
theorem JR.of_eq {X : List Nat} {s s' : State} (e1 : s'.threads = s.threads) (e2 : s'.insts = s.insts)
    (e3 : s'.nextInst = s.nextInst) (e4 : s'.events = s.events := by rfl) : JR X s s' := fun h => h.congr e1 e2 e3 e4

theorem JR.setTh (X : List Nat) (s : State) (t : Nat) (f : Th → Th)
    (hinst : ∀ x, (f x).inst = x.inst := by intros; rfl)
    (hatt : ∀ x, (f x).attached = x.attached := by intros; rfl)
    (hdead : ∀ x, (f x).dead = x.dead := by intros; rfl)
    (hhv : ∀ x, (f x).hasVM = true → x.hasVM = true := by intro x h; exact h)
    (hvm : ∀ x, (f x).vm = .destroyed → x.vm = .destroyed := by intro x h; exact h) :
    JR X s (s.setTh t f) := fun h => h.setTh t f hinst hatt hdead hhv hvm

theorem cancelEvents_jr (X : List Nat) (s : State) (t : Nat) : JR X s (cancelEvents s t) :=
  fun h => h.eventsSub rfl rfl rfl (fun _ he => (List.mem_filter.1 he).1)

theorem cancelEvents_noEv (s : State) (t : Nat) : NoEv (cancelEvents s t) t := by
  intro ev he hk
  have := (List.mem_filter.1 he).2
  simp [hk] at this

/-- `CancelPendingEvents` only touches the queue, `NotifyDelete` never reads it -/
theorem cancelEvents_notifyDelete (s : State) (t : Nat) :
    cancelEvents (notifyDelete s t) t = notifyDelete (cancelEvents s t) t := by
  rw [notifyDelete_eq, notifyDelete_eq]
  show _ = match thFind s.threads t with | none => _ | some th => _
  cases thFind s.threads t with
  | none => rfl
  | some th =>
    simp only
    split
    · rw [removeFromInst_frame (s.setTh t _), removeFromInst_frame ((cancelEvents s t).setTh t _),
        removeFromInst_insts, removeFromInst_insts]
      rfl
    · rfl

theorem jrQuiet : QuietRel JR :=
  ⟨JR.refl, JR.trans, fun _ _ _ _ _ _ _ _ _ _ => JR.of_eq rfl rfl rfl, fun X s t => JR.setTh X s t _,
    fun X _ _ t h _ => JR.trans h (JR.setTh X _ t _), cancelEvents_jr⟩

theorem jqAll : ∀ fuel, QuietAll JR fuel :=
  quietAll jrQuiet fun _ ih => jrQuiet.deleteThread_succ
    (fun X s t => JR.setTh X s t _ (fun _ => rfl) (fun _ => rfl) (fun _ => rfl) (fun _ hx => by cases hx)
      (fun _ hx => hx))
    (fun X s t hv hj => by
      rw [cancelEvents_notifyDelete]
      exact (cancelEvents_jr X s t hj).ndel hv (cancelEvents_noEv s t))
    (fun _ _ _ hg hj => hj.fdel hg) ih

end Morfuse.Sched
