import MorfuseModel.Sched.MachineInvExecPrim
import MorfuseModel.Sched.MachineInvNotify
/-!
# The executing half of the machine: what is proved of each function; `Suspend()`, `Wait`, and `Register` by the
executing thread
-/
namespace Morfuse.Sched

def IEr (P : List Nat → State → Prop) (f : State → State) : Prop :=
  ∀ W s, Inv [] W none s → Ok (f s) (Inv [] W none (f s) ∧ G s (f s) ∧ ∀ A, P A s → P A (f s))

/-- the timer loop also leaves no current thread -/
def IDr (P : List Nat → State → Prop) (f : State → State) : Prop :=
  ∀ W s, Inv [] W none s →
    Ok (f s) (Inv [] W none (f s) ∧ G0 s (f s) ∧ (f s).cur = none ∧ ∀ A, P A s → P A (f s))

/-- `ScriptVM::Execute` of `t` is entered with `t` active and left without.  `cur` is in the precondition because `waittill`
    and the like register `CurrentThread()`, not `t`; it is null when a nested execution could not restore it (`G.cur`). -/
def IEv (P : List Nat → State → Prop) (f : State → Nat → State) : Prop :=
  ∀ W s t th, Inv [] W none s → thFind s.threads t = some th → th.hasVM = true → th.ts = .running →
    (s.cur = some t ∨ s.cur = none) →
    Ok (f s t) (Inv [] W none (f s t) ∧ G s (f s t) ∧ ∀ A, P (t :: A) s → P A (f s t))

/-- between two instructions `t` is exempt as the executing thread: after `waittill` under a name other than 0 it is
    `waiting` with a VM that is only `suspended`, and idle when `Execute` returns.  The third hypothesis is what `exec`
    asks in `Running`. -/
def IPr (P : List Nat → State → Prop) (f : State → Nat → State) : Prop :=
  ∀ W s t, Inv [] W (some t) s → (s.cur = some t ∨ s.cur = none) →
    (∀ th, thFind s.threads t = some th → th.vm = .running → th.hasVM = true) →
    Ok (f s t) (Inv [] W (some t) (f s t) ∧ G s (f s t) ∧
      (∀ th', thFind (f s t).threads t = some th' → th'.vm ≠ .running) ∧ ∀ A, P (t :: A) s → P (t :: A) (f s t))

def ExPost (P : List Nat → State → Prop) (W : List Nat) (t : Nat) (s s' : State) : Prop :=
  Inv [] W (some t) s' ∧ G s s' ∧ ∀ A, P (t :: A) s → P (t :: A) s'

/-- `th0` is the record of `t` in `s`, `th` the one `Process` read before it advanced the pc.  An instruction starts
    without the `top` exemption, since its thread is `running`. -/
def IEx (P : List Nat → State → Prop) (f : State → Nat → Th → Instr → State) : Prop :=
  ∀ W s t th0 th ins, Inv [] W none s → Running s t th0 → Instr.ok ins →
    (s.cur = some t ∨ s.cur = none) → th.inst = th0.inst → Ok (f s t th ins) (ExPost P W t s (f s t th ins))

structure IAll (P : List Nat → State → Prop) (fuel : Nat) : Prop where
  dt : IDt (deleteThread fuel)
  sn : ISn (stoppedNotify fuel)
  stp : IStp (stop fuel)
  cwa : ICwa (cancelWaitingAll fuel)
  swf : ISwf P (stoppedWaitFor fuel)
  ur : IUr P (unregister fuel)
  ua : IUa (unregisterAll fuel)
  sei : ISei P (scriptExecuteInternal fuel)
  er : IEr P (executeRunning fuel)
  dr : IDr P (drain fuel)
  ev : IEv P (execVM fuel)
  pr : IPr P (process fuel)
  ex : IEx P (exec fuel)

/-- `Suspend()` after the record update `f1` -/
def suspendAfter (f1 : Th → Th) (th : Th) : Th :=
  if (f1 th).vm == .running then { f1 th with vm := .suspended } else f1 th

theorem vmSuspend_setTh (X : State) (p : Nat) (f1 : Th → Th) :
    vmSuspend (X.setTh p f1) p = X.setTh p (suspendAfter f1) := by
  unfold vmSuspend
  rw [State.setTh_setTh]
  rfl

theorem suspendAfter_ts (f1 : Th → Th) (th : Th) : (suspendAfter f1 th).ts = (f1 th).ts := by
  unfold suspendAfter; split <;> rfl
theorem suspendAfter_hasVM (f1 : Th → Th) (th : Th) : (suspendAfter f1 th).hasVM = (f1 th).hasVM := by
  unfold suspendAfter; split <;> rfl
theorem suspendAfter_dead (f1 : Th → Th) (th : Th) : (suspendAfter f1 th).dead = (f1 th).dead := by
  unfold suspendAfter; split <;> rfl
theorem suspendAfter_parent (f1 : Th → Th) (th : Th) : (suspendAfter f1 th).parent = (f1 th).parent := by
  unfold suspendAfter; split <;> rfl
theorem suspendAfter_vm_ne (f1 : Th → Th) (th : Th) : (suspendAfter f1 th).vm ≠ .running := by
  unfold suspendAfter; split
  · simp
  · rename_i h; simpa using h
theorem suspendAfter_vm (f1 : Th → Th) (th : Th) :
    (suspendAfter f1 th).vm = (f1 th).vm ∨ ((f1 th).vm = .running ∧ (suspendAfter f1 th).vm = .suspended) := by
  unfold suspendAfter; split
  · rename_i h; right; exact ⟨by simpa using h, rfl⟩
  · left; rfl

theorem RecOK.afterSuspend {th : Th} (r : RecOK th) (x : TS) (hv : th.hasVM = true) (hd : th.dead = false) :
    RecOK (suspendAfter (fun th => { th with ts := x }) th) := by
  refine ⟨fun h => ?_, fun h => ?_, fun h => absurd h (suspendAfter_vm_ne _ _), fun h => ?_⟩
  · rw [suspendAfter_hasVM] at h; simp only at h; rw [hv] at h; cases h
  · rw [suspendAfter_dead] at h; simp only at h; rw [hd] at h; cases h
  · rw [suspendAfter_hasVM]; simp only
    rcases suspendAfter_vm (fun th => { th with ts := x }) th with e | ⟨_, e⟩
    · rw [e] at h; simp only at h; exact r.f5 h
    · rw [e] at h; cases h

theorem G0.afterSuspend (X : State) (p : Nat) (x : TS) :
    G0 X (X.setTh p (suspendAfter fun th => { th with ts := x })) :=
  G0.setTh X p _ (fun y => by rw [suspendAfter_hasVM]) (fun y => by rw [suspendAfter_dead])
    (fun th _ hi => by
      rcases suspendAfter_vm (fun th => { th with ts := x }) th with e | ⟨e, _⟩
      · rw [e]; exact hi
      · simp only at e; rcases hi with hi | hi <;> rw [hi] at e <;> cases e)

theorem waitOn_shape (X : State) (p ms : Nat) :
    vmSuspend (addTiming (X.setTh p (fun th => { th with ts := .timing })) p ms) p =
      { (X.setTh p (suspendAfter fun th => { th with ts := .timing })) with
        timer := X.timer.add p (X.scaled + ms) } := by
  have h1 : vmSuspend (addTiming (X.setTh p (fun th => { th with ts := .timing })) p ms) p =
      { (vmSuspend (X.setTh p (fun th => { th with ts := .timing })) p) with
        timer := X.timer.add p (X.scaled + ms) } := rfl
  rw [h1, vmSuspend_setTh]

/-- `Wait(ms)` of a `running` thread that has a VM -/
theorem Inv.goTiming {W : List Nat} {X : State} (h : Inv [] W none X) (p ms : Nat) (th1 : Th)
    (hth : thFind X.threads p = some th1) (hrun : th1.ts = .running) (hvm : th1.hasVM = true) :
    Inv [] W none { (X.setTh p (suspendAfter fun th => { th with ts := .timing })) with
        timer := X.timer.add p (X.scaled + ms) } := by
  have r1 := h.th p th1 hth
  exact h.setTh_awake p (suspendAfter fun th => { th with ts := .timing }) th1 _ hth
    (fun x => by rw [suspendAfter_parent]) (r1.afterSuspend .timing hvm (r1.not_dead hvm))
    (fun x => by rw [suspendAfter_dead])
    (h.tim.start p _ th1 hth (by rw [hrun]; simp) _ (fun x => by rw [suspendAfter_ts]))
    (by rw [suspendAfter_ts]; simp) (fun x m => m) (fun x m _ => m) (fun hw0 => by rw [hrun] at hw0; cases hw0)

theorem G0.goTiming (X : State) (p ms : Nat) :
    G0 X { (X.setTh p (suspendAfter fun th => { th with ts := .timing })) with
        timer := X.timer.add p (X.scaled + ms) } :=
  (G0.afterSuspend X p .timing).congr rfl rfl rfl rfl rfl rfl

theorem Inv.suspend {C W : List Nat} {top : Option Nat} {X : State} (h : Inv C W top X) (p : Nat) :
    Inv C W top (vmSuspend X p) := by
  unfold vmSuspend
  refine h.setTh_keepTs p _ (fun x => by split <;> rfl) (fun x => by split <;> rfl) (fun x => by split <;> rfl)
    (fun th hth => ?_) (fun x => ?_)
  · have r := h.th p th hth
    split
    · rename_i hv
      have hv' : th.vm = .running := by simpa using hv
      exact ⟨r.f1, fun hd => (by rw [(r.f2 hd).2] at hv'; cases hv'), fun hr => (by cases hr), fun hr => (by cases hr)⟩
    · exact r
  · split
    · rename_i hv; exact Or.inr (Or.inr (Or.inl (by simpa using hv)))
    · exact Or.inl rfl

/-- `Register(n, t)` on source `o` by the executing thread `t`.  Afterwards `t` keeps the `top` exemption, or needs none
    because this is its first registration and on channel 0 (`waitthread`, whose callee runs next): `htop`. -/
theorem regWait_inv {fuel : Nat} {W : List Nat} {s : State} {t : Nat} (top' : Option Nat) (o n : Nat)
    (h : Inv [] W (some t) s)
    (hrun : Tbl.hasOwner s.waitFor t = false →
      ∃ th0, thFind s.threads t = some th0 ∧ th0.vm = .running ∧ th0.hasVM = true)
    (ho : s.alive o = true) (hon : o < 100 ∨ NameOK n)
    (htop : top' = some t ∨ (n = 0 ∧ Tbl.hasOwner s.waitFor t = false)) :
    Ok (regWait (stop fuel) s o n t)
      (Inv [] W top' (regWait (stop fuel) s o n t) ∧ G0 s (regWait (stop fuel) s o n t) ∧
        Tbl.hasOwner (regWait (stop fuel) s o n t).waitFor t = true ∧
        (∀ l, (regWait (stop fuel) s o n t).alive l = s.alive l) ∧
        (∀ u, u ≠ t → thFind (regWait (stop fuel) s o n t).threads u = thFind s.threads u) ∧
        (regWait (stop fuel) s o n t).cur = s.cur) := by
  unfold regWait
  simp only
  by_cases hown : Tbl.hasOwner s.waitFor t = true
  · -- a further name of `waittill_any`: the thread is already waiting
    simp only [hown, Bool.not_true, Bool.false_eq_true, if_false]
    obtain ⟨th, hth, hw⟩ : ∃ th, thFind s.threads t = some th ∧ th.ts = .waiting := by
      rcases h.lnk.linkC t hown with m | m
      · simp at m
      · exact m
    have hd : th.dead = false :=
      (h.th t th hth).not_dead ((h.th t th hth).hasVM_of_ts (by rw [hw]; simp))
    have ht' : top' = some t := by
      rcases htop with e | ⟨_, e⟩
      · exact e
      · rw [hown] at e; cases e
    apply Ok.pure
    refine ⟨?_, G0.of_eq rfl rfl rfl, Tbl.hasOwner_push_self _ (t, n) o, fun l => rfl, fun u _ => trivial, trivial⟩
    exact (h.consW t).register o n th hth hw hd ho hon (Or.inr (Or.inl ht'.symm)) (Or.inr (Or.inl ht'))
  · have hown' : Tbl.hasOwner s.waitFor t = false := by simpa using hown
    simp only [hown', Bool.not_false, if_true]
    obtain ⟨th0, hth0, hvm0, hhv0⟩ := hrun hown'
    have r0 := h.th t th0 hth0
    have hts0 : th0.ts = .running := r0.f3 hvm0
    have hd0 : th0.dead = false := r0.not_dead hhv0
    rcases stop_running fuel { s with notify := Tbl.push s.notify (o, n) t } t th0 hth0 hts0 with e | e
    · rw [e, vmSuspend_setTh]
      apply Ok.pure
      -- the record of `t` becomes `waiting` / `suspended`
      have h1 : Inv [] (t :: W) (some t) (s.setTh t (suspendAfter fun th => { th with ts := .waiting })) :=
        h.setTh (C' := []) (W' := t :: W) (top' := some t) t (suspendAfter fun th => { th with ts := .waiting })
          th0 s.timer hth0 (fun x => by rw [suspendAfter_parent]) (r0.afterSuspend .waiting hhv0 hd0)
          (fun x => by rw [suspendAfter_dead])
          (h.tim.setTh_off t _ (fun th1 h1 => by rw [hth0] at h1; cases h1; rw [hts0]; simp)
            (fun x => by rw [suspendAfter_ts]; simp))
          (fun x m _ => m) (fun x m _ => List.mem_cons_of_mem _ m) (Or.inr (Or.inl rfl))
          (fun ho' => by rw [hown'] at ho'; cases ho')
          (fun _ => Or.inl List.mem_cons_self)
          (fun _ _ => Or.inr (fun n' hne => absurd ((h.n.wfW.hasOwner_false_iff t).1 hown' n') hne))
      have hth1 : thFind (s.setTh t (suspendAfter fun th => { th with ts := .waiting })).threads t =
          some (suspendAfter (fun th => { th with ts := .waiting }) th0) := thFind_setTh_self _ hth0
      have hal : ∀ l, (s.setTh t (suspendAfter fun th => { th with ts := .waiting })).alive l = s.alive l :=
        State.alive_congr (fun l => aliveTh_map_upd _ _ _ (fun x => by rw [suspendAfter_dead]) l) rfl
      have hreg := h1.register (top' := top') o n _ hth1 (by rw [suspendAfter_ts]) (by rw [suspendAfter_dead]; exact hd0)
        (by rw [hal]; exact ho) hon
        (by rcases htop with e1 | _
            · exact Or.inr (Or.inl e1.symm)
            · exact Or.inr (Or.inr rfl))
        (by rcases htop with e1 | ⟨e1, _⟩
            · exact Or.inr (Or.inl e1)
            · exact Or.inr (Or.inr ⟨e1, hown'⟩))
      refine ⟨hreg, ?_, Tbl.hasOwner_push_self _ (t, n) o, ?_, ?_, rfl⟩
      · exact (G0.afterSuspend s t .waiting).congr rfl rfl rfl rfl rfl rfl
      · intro l
        exact hal l
      · exact fun u hu => thFind_setTh_ne s _ hu
    · rw [e]
      exact Or.inl rfl

end Morfuse.Sched
