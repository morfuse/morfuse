import MorfuseModel.Sched.MachineSlots
import MorfuseModel.Sched.MachineHost
/-!
# Result slots at the host level

`SR` for the host operations that create no host call (`Execute`, the destruction of all instances), the shape of a host
call (link created for the fresh slot, then `SR`, then `open → pending`), and the link invariant `LK`: every
link points below `nextCall` and no two thread records are linked to the same slot — kept by every host move
(`lkMoves`), hence in every reachable state, with or without fuel.
-/
namespace Morfuse.Sched

theorem srHost : HostSteps SR := .of_all srSteps.toSteps (srAll defaultFuel) fun _ _ _ _ => SR.of_eq rfl rfl rfl

theorem killAllInsts_sr (s : State) : SR s (killAllInsts s) := killAllInsts_rel srHost s

/-- **a frame writes a slot only through the `end` of the thread linked to it** -/
theorem hostExecute_sr (s : State) : SR s (hostExecute s) :=
  (SR.of_eq (s := s) (s' := frameSetTime s) rfl rfl rfl).trans (hostExecute_rel srHost s)

theorem hostCall_sr (s : State) (label : Nat) (args : List V) :
    SR (callSetup s label args) (scriptExecuteInternal defaultFuel (callSetup s label args) s.nextTid) :=
  (srAll defaultFuel).sei _ _

structure LK (s : State) : Prop where
  lt : ∀ t th c, thFind s.threads t = some th → th.call = some c → c < s.nextCall
  uniq : ∀ t t' th th' c, thFind s.threads t = some th → thFind s.threads t' = some th' →
    th.call = some c → th'.call = some c → t = t'

theorem LK.of_sr {s s' : State} (h : LK s) (r : SR s s') : LK s' := by
  refine ⟨fun t th c hf hc => ?_, fun t t' th th' c hf hf' hc hc' => ?_⟩
  · obtain ⟨th0, h0, hc0⟩ := r.lm t th c hf hc
    rw [r.nc]; exact h.lt t th0 c h0 hc0
  · obtain ⟨th0, h0, hc0⟩ := r.lm t th c hf hc
    obtain ⟨th1, h1, hc1⟩ := r.lm t' th' c hf' hc'
    exact h.uniq t t' th0 th1 c h0 h1 hc0 hc1

theorem LK.congr {s s' : State} (h : LK s) (e1 : s'.threads = s.threads) (e2 : s'.nextCall = s.nextCall) : LK s' :=
  ⟨by rw [e1, e2]; exact h.lt, by rw [e1]; exact h.uniq⟩

theorem callSetup_lk {s : State} (h : LK s) (label : Nat) (args : List V) : LK (callSetup s label args) := by
  have hfind : ∀ u th c, thFind (callSetup s label args).threads u = some th → th.call = some c →
      (thFind s.threads u = some th) ∨ (c = s.nextCall ∧ u = s.nextTid) := by
    intro u th c hf hc
    rcases thFind_append_some (ths := s.threads) hf with h1 | ⟨_, hut, rfl⟩
    · exact Or.inl h1
    · exact Or.inr ⟨(Option.some.inj hc).symm, hut⟩
  refine ⟨fun t th c hf hc => ?_, fun t t' th th' c hf hf' hc hc' => ?_⟩
  · show c < s.nextCall + 1
    rcases hfind t th c hf hc with h1 | ⟨h1, _⟩
    · have := h.lt t th c h1 hc; omega
    · omega
  · rcases hfind t th c hf hc with h1 | ⟨h1, n1⟩
    · rcases hfind t' th' c hf' hc' with h2 | ⟨h2, _⟩
      · exact h.uniq t t' th th' c h1 h2 hc hc'
      · have := h.lt t th c h1 hc; omega
    · rcases hfind t' th' c hf' hc' with h2 | ⟨_, n2⟩
      · have := h.lt t' th' c h2 hc'; omega
      · rw [n1, n2]

theorem hostCall_lk {s : State} (h : LK s) (label : Nat) (args : List V) : LK (hostCall s label args).1 :=
  hostCall_pre (Pre.imp LK) (fun h => (callSetup_lk h label args).of_sr (hostCall_sr s label args))
    (fun _ _ _ h => h.congr rfl rfl) h

theorem lkMoves : HostMoves (fun s s' => LK s → LK s') where
  toPre := Pre.imp LK
  takeOut := fun _ h => h.congr rfl rfl
  kill := fun s h => h.of_sr (killAllInsts_sr s)
  call := fun _ l args h => hostCall_lk h l args
  dropLink := fun s c h => h.of_sr
    (mapTh_rel srSteps.toPre _ (dropCall_idem c) (fun s t => srSteps.setTh s t _ (dropCall_recUpd c)) s)
  run := fun s h => h.of_sr (hostExecute_rel srHost s)

theorem reachable_lk {s : State} (h : Reachable s) : LK s :=
  h.induction (C := LK) ⟨fun t th c hf => by simp [thFind] at hf, fun t t' th th' c hf => by simp [thFind] at hf⟩
    fun op _ _ hne => HostOp.apply_rel lkMoves (fun _ _ h => h.congr rfl rfl) (fun _ h => h.congr rfl rfl) _ op hne
      fun _ _ _ _ h => h.congr rfl rfl

end Morfuse.Sched
