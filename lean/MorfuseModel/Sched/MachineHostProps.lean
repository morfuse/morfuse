import MorfuseModel.Sched.MachineHost
/-!
# Consequences used by the property files C06, C07, C13

Lemma level; the property statements themselves are in `Props/C06.lean`, `C07.lean`, `C13.lean`.
-/
namespace Morfuse.Sched

theorem drain_none_due : ∀ (fuel : Nat) (s : State), (drain fuel s).outOfFuel = false →
    ∀ e ∈ (drain fuel s).timer.elems, (drain fuel s).timer.mtime < e.2
  | 0, s, h => by rw [drain_zero] at h; cases h
  | fuel + 1, s, h => by
    rw [drain_succ] at h ⊢
    split
    · rename_i tm hn
      obtain ⟨h1, h2⟩ := Timer.next_none hn
      subst h2
      exact h1
    · rename_i t d tm hn
      rw [hn] at h
      exact drain_none_due fuel _ h

theorem executeRunning_none_due (fuel : Nat) (s : State) (hc : s.cur = none) (hd : s.depth = 0) (htd : TD s.timer)
    (ho : (executeRunning (fuel + 1) s).outOfFuel = false) :
    ∀ e ∈ (executeRunning (fuel + 1) s).timer.elems, (executeRunning (fuel + 1) s).timer.mtime < e.2 := by
  rw [executeRunning_succ] at ho ⊢
  have h1 : (s.cur.isSome || decide (s.depth > 0)) = false := by rw [hc, hd]; rfl
  simp only [h1, Bool.false_eq_true, if_false] at ho ⊢
  split
  · rename_i hdirty
    exact htd (by simpa using hdirty)
  · rename_i hdirty
    simp only [hdirty] at ho
    exact drain_none_due fuel s ho

/-- a top-level `ScriptExecuteInternal` (no current thread, empty native stack, sound dirty flag) ends with
    `ExecuteRunning`: nothing is due afterwards — a `wait 0` resumes inside the same host call -/
theorem sei_none_due (fuel : Nat) (s : State) (t : Nat) (hc : s.cur = none) (hd : s.depth = 0) (htd : TD s.timer)
    (ho : (scriptExecuteInternal (fuel + 1 + 1) s t).outOfFuel = false) :
    ∀ e ∈ (scriptExecuteInternal (fuel + 1 + 1) s t).timer.elems,
      (scriptExecuteInternal (fuel + 1 + 1) s t).timer.mtime < e.2 := by
  rw [scriptExecuteInternal_succ] at ho ⊢
  have h1 := (hrAll (fuel + 1)).stp { s with cur := some t } t
  have h2 := execIfAlive_rel hrSteps.toPre (hrAll (fuel + 1)).ev (stop (fuel + 1) { s with cur := some t } t) t
  have h3 := restoreCur_ht (execIfAlive (execVM (fuel + 1)) (stop (fuel + 1) { s with cur := some t } t) t) s.cur
  apply executeRunning_none_due fuel _ ?_ ?_ ?_ ho
  · unfold restoreCur; rw [hc]; rfl
  · show (execIfAlive (execVM (fuel + 1)) (stop (fuel + 1) { s with cur := some t } t) t).depth = 0
    rw [h2.depth, h1.depth]; exact hd
  · exact h3.td (h2.ht.td (h1.ht.td htd))

theorem hostExecute_none_due {s : State} (hc : s.cur = none) (hd : s.depth = 0)
    (ho : (hostExecute s).outOfFuel = false) :
    (hostExecute s).timer.mtime = s.clock ∧ ∀ e ∈ (hostExecute s).timer.elems, s.clock < e.2 := by
  have r1 := processEvents_rel hrHostSteps defaultFuel (frameSetTime s)
  have r2 := (hrAll defaultFuel).er (processEvents defaultFuel (frameSetTime s))
  have hm : (hostExecute s).timer.mtime = s.clock := by
    rw [hostExecute_eq, r2.ht.mtime, r1.ht.mtime]; rfl
  refine ⟨hm, fun e he => ?_⟩
  rw [← hm]
  exact executeRunning_none_due _ _ (r1.cur hc (fuel_left_before r2.oof ho)) (r1.depth.trans hd)
    (r1.ht.td (TD.setTime _ _)) ho e he

theorem hostCall_none_due {s : State} (h : HInv s) (label : Nat) (args : List V) (hl : label < s.prog.length)
    (ho : (hostCall s label args).1.outOfFuel = false) :
    ∀ e ∈ (hostCall s label args).1.timer.elems, (hostCall s label args).1.timer.mtime < e.2 := by
  have hl' : ¬ label ≥ s.prog.length := by omega
  rw [hostCall_eq] at ho ⊢
  simp only [hl', if_false] at ho ⊢
  rw [callFinish_oof] at ho
  rw [callFinish_timer]
  exact sei_none_due _ (callSetup s label args) s.nextTid h.cur h.depth h.td ho

/-- `wait ms` executed by thread `t`: its old timer entry (if any) is removed by `Stop()`, then the
    element `(t, scaledTime + ms)` is appended -/
theorem exec_wait_timer (fuel : Nat) (s : State) (t : Nat) (th : Th) (ms : Nat) :
    (exec (fuel + 1) s t th (.wait ms)).timer.elems = (stop fuel s t).timer.elems ++ [(t, s.scaled + ms)] := by
  rw [exec_wait]
  show (stop fuel s t).timer.elems ++ [(t, (stop fuel s t).scaled + ms)] = _
  rw [((hrAll fuel).stp s t).ht.scaled]

theorem drain_resumes_due (fuel : Nat) (s : State) (t d : Nat) (tm : Timer) (hn : s.timer.next = (some (t, d), tm)) :
    (t, d) ∈ s.timer.elems ∧ d ≤ s.timer.mtime ∧
    (∀ e ∈ s.timer.elems, e.2 ≤ s.timer.mtime → d ≤ e.2) ∧
    drain (fuel + 1) s = drain fuel (execVM fuel (({ s with timer := tm, cur := some t } : State).setTh t
      (fun th => { th with ts := .running })) t) := by
  obtain ⟨i, hi, hd, hmin, _⟩ := Timer.next_some hn
  refine ⟨List.mem_of_getElem? hi, hd, ?_, ?_⟩
  · intro e he hdue
    obtain ⟨j, hj⟩ := List.mem_iff_getElem?.1 he
    exact (hmin j e.1 e.2 hj hdue).1
  · rw [drain_succ, hn]

theorem drain_stops (fuel : Nat) (s : State) (tm : Timer) (hn : s.timer.next = (none, tm)) :
    (∀ e ∈ s.timer.elems, s.timer.mtime < e.2) ∧ drain (fuel + 1) s = { s with timer := tm, cur := none } := by
  refine ⟨(Timer.next_none hn).1, ?_⟩
  rw [drain_succ, hn]

theorem Inv.timing_once {C W : List Nat} {top : Option Nat} {s : State} (h : Inv C W top s) {t : Nat} {th : Th}
    (hf : thFind s.threads t = some th) (hts : th.ts = .timing) : (s.timer.elems.map (·.1)).count t = 1 := by
  rw [h.tim.t2.count, if_pos (h.tim.t3 t th hf hts)]

theorem Inv.timer_elem_live {C W : List Nat} {top : Option Nat} {s : State} (h : Inv C W top s) {e : Nat × Nat}
    (he : e ∈ s.timer.elems) :
    ∃ th, thFind s.threads e.1 = some th ∧ th.ts = .timing ∧ th.hasVM = true ∧ th.dead = false := by
  obtain ⟨th, hf, hts⟩ := h.tim.t1 e he
  have r := h.th e.1 th hf
  have hv : th.hasVM = true := r.hasVM_of_ts (by rw [hts]; simp)
  exact ⟨th, hf, hts, hv, r.not_dead hv⟩

theorem Inv.waiting_iff {top : Option Nat} {s : State} (h : Inv [] [] top s) (t : Nat) :
    (∃ th, thFind s.threads t = some th ∧ th.ts = .waiting) ↔ Tbl.hasOwner s.waitFor t = true := by
  constructor
  · rintro ⟨th, hf, hw⟩
    rcases h.lnk.linkW t th hf hw with m | m
    · cases m
    · exact m
  · intro ho
    rcases h.lnk.linkC t ho with m | m
    · cases m
    · exact m

theorem Inv.registered_alive {C W : List Nat} {top : Option Nat} {s : State} (h : Inv C W top s) {o n x : Nat}
    (hx : x ∈ Tbl.getD s.notify (o, n)) : s.alive o = true ∧ s.alive x = true :=
  ⟨(h.tab.aN o n x hx).1, h.waiters_alive o n x hx⟩

theorem Inv.registered_waiting {top : Option Nat} {s : State} (h : Inv [] [] top s) {o n x : Nat}
    (hx : x ∈ Tbl.getD s.notify (o, n)) :
    s.alive o = true ∧ o ∈ Tbl.getD s.waitFor (x, n) ∧
      ∃ th, thFind s.threads x = some th ∧ th.ts = .waiting ∧ th.dead = false ∧ th.hasVM = true := by
  obtain ⟨a1, a2⟩ := h.tab.aN o n x hx
  have hm : o ∈ Tbl.getD s.waitFor (x, n) := (h.tab.mir.mem_iff o n x).1 hx
  have ho : Tbl.hasOwner s.waitFor x = true := (h.n.wfW.hasOwner_iff x).2 ⟨n, List.ne_nil_of_mem hm⟩
  obtain ⟨th, hf, hw⟩ := (h.waiting_iff x).2 ho
  obtain ⟨th', hf', hd⟩ := (aliveTh_iff h.n.nodup x).1 a2
  rw [hf] at hf'; cases hf'
  exact ⟨a1, hm, th, hf, hw, hd, (h.th x th hf).hasVM_of_ts (by rw [hw]; simp)⟩

/-- **no lost wake-up**: a `waiting` thread is registered with a live source -/
theorem Inv.waiting_has_source {top : Option Nat} {s : State} (h : Inv [] [] top s) {t : Nat} {th : Th}
    (hf : thFind s.threads t = some th) (hw : th.ts = .waiting) :
    ∃ o n, t ∈ Tbl.getD s.notify (o, n) ∧ s.alive o = true := by
  have ho := (h.waiting_iff t).1 ⟨th, hf, hw⟩
  obtain ⟨n, hn⟩ := (h.n.wfW.hasOwner_iff t).1 ho
  obtain ⟨o, hmem⟩ := List.exists_mem_of_ne_nil _ hn
  have hx : t ∈ Tbl.getD s.notify (o, n) := (h.tab.mir.mem_iff o n t).2 hmem
  exact ⟨o, n, hx, (h.tab.aN o n t hx).1⟩

theorem Inv.empty_of_no_live {top : Option Nat} {s : State} (h : Inv [] [] top s)
    (hq : ∀ t th, thFind s.threads t = some th → th.dead = true ∨ th.hasVM = false) :
    s.timer.elems = [] ∧ s.notify = [] ∧ s.waitFor = [] := by
  have hno : ∀ t th, thFind s.threads t = some th → th.dead = false → th.hasVM = true → False := by
    intro t th hf hd hv
    rcases hq t th hf with e | e
    · rw [hd] at e; cases e
    · rw [hv] at e; cases e
  have hN : s.notify = [] := by
    apply Classical.byContradiction
    intro hne
    obtain ⟨k, x, hx⟩ := h.n.wfN.exists_mem_of_ne_nil hne
    obtain ⟨_, _, th, hf, _, hd, hv⟩ := h.registered_waiting (o := k.1) (n := k.2) hx
    exact hno x th hf hd hv
  refine ⟨?_, hN, ?_⟩
  · apply List.eq_nil_iff_forall_not_mem.2
    intro e he
    obtain ⟨th, hf, _, hv, hd⟩ := h.timer_elem_live he
    exact hno e.1 th hf hd hv
  · apply Classical.byContradiction
    intro hne
    obtain ⟨k, o, ho⟩ := h.n.wfW.exists_mem_of_ne_nil hne
    have hx : k.1 ∈ Tbl.getD s.notify (o, k.2) := (h.tab.mir.mem_iff o k.2 k.1).2 ho
    rw [hN] at hx
    simp [Tbl.getD, Tbl.find] at hx

theorem Inv.quiescent_empty {top : Option Nat} {s : State} (h : Inv [] [] top s)
    (hq : ∀ t th, thFind s.threads t = some th → th.dead = true) :
    s.timer.elems = [] ∧ s.notify = [] ∧ s.waitFor = [] :=
  h.empty_of_no_live (fun t th hf => Or.inl (hq t th hf))

theorem Inv.suspended_live {top : Option Nat} {s : State} (h : Inv [] [] top s) {t : Nat} {th : Th}
    (hf : thFind s.threads t = some th) (hs : th.ts = .timing ∨ th.ts = .waiting) :
    th.hasVM = true ∧ th.dead = false ∧ th.vm ≠ .destroyed ∧
      (th.ts = .timing → t ∈ s.timer.elems.map (·.1)) ∧
      (th.ts = .waiting → Tbl.hasOwner s.waitFor t = true) := by
  have r := h.th t th hf
  have hv : th.hasVM = true := r.hasVM_of_ts (by rcases hs with hs | hs <;> (rw [hs]; simp))
  refine ⟨hv, r.not_dead hv, (fun e => by have := r.f5 e; rw [hv] at this; cases this), fun e => h.tim.t3 t th hf e,
    fun e => (h.waiting_iff t).1 ⟨th, hf, e⟩⟩

end Morfuse.Sched
