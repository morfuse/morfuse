import MorfuseModel.Sched.MachineSteps
/-!
# Who writes a host result slot

`SR s s'` relates the state before and after any function of the machine (unconditionally: no invariant, no
fuel condition):
* `lm` — no thread acquires a link to a host call (`Th.call`): a record linked to slot `c` afterwards was linked
  to `c` before;
* `sl` — a slot whose content changed belonged to a thread that was linked to it before and is not linked to it
  afterwards, it was undecided (`open` / `pending`) before and is decided afterwards (`Written`);
* `nc` — no slot is handed out (`nextCall` is untouched: only the set-up of a host call creates one).
The only place where the first two happen is the instruction `end` of the linked thread itself (`endResult` followed
by dropping the link).
-/
namespace Morfuse.Sched

theorem getRet_of_calls {a b : State} (h : a.calls = b.calls) (c : Nat) : a.getRet c = b.getRet c := by
  unfold State.getRet; rw [h]

theorem getRet_setRet_eq (s : State) (c c' : Nat) (r : Ret) :
    (s.setRet c r).getRet c' =
      if c' = c then ((s.calls.find? (·.1 == c)).map fun _ => r).getD .none else s.getRet c' := by
  unfold State.getRet State.setRet
  rw [Assoc.find_map_at s.calls c (fun _ => r) c']; split <;> rfl

theorem getRet_setRet (s : State) (c : Nat) (r : Ret) : (s.setRet c r).getRet c = r ∨ (s.setRet c r).getRet c = .none := by
  rw [getRet_setRet_eq, if_pos rfl]
  cases s.calls.find? (·.1 == c) <;> simp

theorem getRet_setRet_ne (s : State) (c c' : Nat) (r : Ret) (h : c' ≠ c) : (s.setRet c r).getRet c' = s.getRet c' := by
  rw [getRet_setRet_eq, if_neg h]

theorem getRet_setRet_self (s : State) (c : Nat) (r : Ret) (h : s.getRet c ≠ .none) : (s.setRet c r).getRet c = r := by
  rw [getRet_setRet_eq, if_pos rfl]
  unfold State.getRet at h
  cases hf : s.calls.find? (·.1 == c) with
  | none => rw [hf] at h; exact absurd rfl h
  | some e => rfl

/-- the value an `end` hands to the host -/
def endValue (th : Th) : EndV → Option V
  | .none => none
  | .lit n => some (.int n)
  | .param i => match th.params.getD i .nil with | .nil => none | x => some x

theorem endResult_eq (s : State) (th : Th) (ev : EndV) :
    endResult s th ev = (match th.call with
      | none => s
      | some c =>
        match s.getRet c, endValue th ev with
        | .open_, some x => s.setRet c (.val x)
        | .open_, none => s.setRet c .none
        | .pending, some x => s.setRet c (.val x)
        | .pending, none => s.setRet c .nil
        | _, _ => s) := by
  unfold endResult endValue; cases ev <;> rfl

/-- the slot went from undecided to decided -/
def Written (a b : Ret) : Prop :=
  (a = .open_ ∧ (b = .none ∨ ∃ x, b = .val x)) ∨ (a = .pending ∧ (b = .nil ∨ ∃ x, b = .val x))

theorem Written.ne {a b : Ret} (h : Written a b) : b ≠ .open_ ∧ b ≠ .pending := by
  rcases h with ⟨_, h | ⟨x, h⟩⟩ | ⟨_, h | ⟨x, h⟩⟩ <;> (rw [h]; simp)

structure SR (s s' : State) : Prop where
  lm : ∀ t th' c, thFind s'.threads t = some th' → th'.call = some c →
    ∃ th, thFind s.threads t = some th ∧ th.call = some c
  sl : ∀ c, s'.getRet c ≠ s.getRet c → ∃ t th, thFind s.threads t = some th ∧ th.call = some c ∧
    (∀ th', thFind s'.threads t = some th' → th'.call ≠ some c) ∧ Written (s.getRet c) (s'.getRet c)
  nc : s'.nextCall = s.nextCall

theorem SR.refl (s : State) : SR s s := ⟨fun _ th' _ h hc => ⟨th', h, hc⟩, fun _ h => absurd rfl h, rfl⟩

theorem SR.trans {a b c : State} (h1 : SR a b) (h2 : SR b c) : SR a c := by
  refine ⟨fun t th' k h hc => ?_, fun k hk => ?_, h2.nc.trans h1.nc⟩
  · obtain ⟨th, hb, hcb⟩ := h2.lm t th' k h hc
    exact h1.lm t th k hb hcb
  · by_cases hab : b.getRet k = a.getRet k
    · have hbc : c.getRet k ≠ b.getRet k := by rw [hab]; exact hk
      obtain ⟨t, th, hf, hl, hun, hw⟩ := h2.sl k hbc
      obtain ⟨tha, hfa, hla⟩ := h1.lm t th k hf hl
      exact ⟨t, tha, hfa, hla, hun, by rw [← hab]; exact hw⟩
    · obtain ⟨t, th, hf, hl, hun, hw⟩ := h1.sl k hab
      have hbc : c.getRet k = b.getRet k := by
        apply Classical.byContradiction
        intro hne
        obtain ⟨_, _, _, _, _, hw2⟩ := h2.sl k hne
        have := hw.ne
        rcases hw2 with ⟨e, _⟩ | ⟨e, _⟩
        · exact this.1 e
        · exact this.2 e
      refine ⟨t, th, hf, hl, ?_, by rw [hbc]; exact hw⟩
      intro th' hc' hl'
      obtain ⟨thb, hb, hlb⟩ := h2.lm t th' k hc' hl'
      exact hun thb hb hlb

theorem SR.of_eq {s s' : State} (h1 : s'.threads = s.threads) (h2 : s'.calls = s.calls)
    (h3 : s'.nextCall = s.nextCall) : SR s s' :=
  ⟨fun t th' c h hc => ⟨th', by rw [← h1]; exact h, hc⟩,
   fun c h => absurd (getRet_of_calls h2 c) h, h3⟩

theorem SR.setTh (s : State) (t : Nat) (f : Th → Th)
    (hf : ∀ x c, (f x).call = some c → x.call = some c := by intro x c h; exact h) : SR s (s.setTh t f) := by
  refine ⟨fun u th' c h hc => ?_, fun c h => absurd rfl h, rfl⟩
  rcases thFind_setTh_some h with ⟨rfl, th, h1, rfl⟩ | ⟨_, h1⟩
  · exact ⟨th, h1, hf _ _ hc⟩
  · exact ⟨_, h1, hc⟩

theorem SR.filter (s : State) (t : Nat) : SR s { s with threads := s.threads.filter (fun e => !(e.1 == t)) } :=
  ⟨fun _ th' _ h hc => ⟨th', (thFind_filter_some h).2, hc⟩, fun _ h => absurd rfl h, rfl⟩

theorem SR.append (s : State) (t' : Nat) (r : Th) (hr : r.call = none) (s' : State)
    (h1 : s'.threads = s.threads ++ [(t', r)]) (h2 : s'.calls = s.calls) (h3 : s'.nextCall = s.nextCall := by rfl) :
    SR s s' := by
  refine ⟨fun u th' c h hc => ?_, fun c h => absurd (getRet_of_calls h2 c) h, h3⟩
  rw [h1] at h
  rcases thFind_append_some h with hf | ⟨_, _, rfl⟩
  · exact ⟨th', hf, hc⟩
  · rw [hr] at hc; cases hc

theorem SR.removeFromInst (s : State) (t i : Nat) : SR s (removeFromInst s t i) := by
  rw [removeFromInst_frame]; exact SR.of_eq rfl rfl rfl

theorem endResult_cases (s : State) (th : Th) (ev : EndV) :
    endResult s th ev = s ∨
      ∃ c r, th.call = some c ∧ endResult s th ev = s.setRet c r ∧ Written (s.getRet c) r := by
  rw [endResult_eq]
  cases hc : th.call with
  | none => exact Or.inl rfl
  | some c =>
    simp only
    cases hg : s.getRet c with
    | open_ =>
      cases endValue th ev with
      | none => exact Or.inr ⟨c, _, rfl, rfl, Or.inl ⟨hg, Or.inl rfl⟩⟩
      | some x => exact Or.inr ⟨c, _, rfl, rfl, Or.inl ⟨hg, Or.inr ⟨x, rfl⟩⟩⟩
    | pending =>
      cases endValue th ev with
      | none => exact Or.inr ⟨c, _, rfl, rfl, Or.inr ⟨hg, Or.inl rfl⟩⟩
      | some x => exact Or.inr ⟨c, _, rfl, rfl, Or.inr ⟨hg, Or.inr ⟨x, rfl⟩⟩⟩
    | none => left; cases endValue th ev <;> rfl
    | nil => left; cases endValue th ev <;> rfl
    | val v => left; cases endValue th ev <;> rfl

/-- `endResult` followed by dropping the link: the one step that writes a slot -/
theorem endStep_sr (s : State) (t : Nat) (th : Th) (ev : EndV)
    (hl : ∃ th0, thFind s.threads t = some th0 ∧ th0.call = th.call) :
    SR s ((endResult s th ev).setTh t fun th => { th with call := none }) := by
  obtain ⟨th0, hf0, hc0⟩ := hl
  -- the link of `t` is dropped, the others stay
  have hlm : ∀ (S : State), S.threads = s.threads → ∀ u th' c,
      thFind (S.setTh t fun th => { th with call := none }).threads u = some th' → th'.call = some c →
      u ≠ t ∧ thFind s.threads u = some th' := by
    intro S hS u th' c h hc
    rw [thFind_setTh] at h
    split at h
    · cases hm : thFind S.threads t with
      | none => rw [hm] at h; cases h
      | some x => rw [hm] at h; cases h; cases hc
    · rename_i hut
      rw [hS] at h
      exact ⟨hut, h⟩
  rcases endResult_cases s th ev with e | ⟨c, r, hcall, e, hw⟩
  · rw [e]
    exact ⟨fun u th' c h hc => ⟨th', (hlm s rfl u th' c h hc).2, hc⟩, fun c h => absurd rfl h, rfl⟩
  · rw [e]
    refine ⟨fun u th' c' h hc => ⟨th', (hlm _ rfl u th' c' h hc).2, hc⟩, fun c' hne => ?_, rfl⟩
    have hget : ((s.setRet c r).setTh t fun th => { th with call := none }).getRet c' = (s.setRet c r).getRet c' := rfl
    rw [hget] at hne ⊢
    have hcc : c' = c := Classical.byContradiction fun hcc => hne (getRet_setRet_ne s c c' r hcc)
    subst hcc
    refine ⟨t, th0, hf0, by rw [hc0, hcall], fun th' h' hc' => (hlm _ rfl t th' c' h' hc').1 rfl, ?_⟩
    rw [getRet_setRet_self s c' r (by rcases hw with ⟨hg, _⟩ | ⟨hg, _⟩ <;> (rw [hg]; simp))]
    exact hw

theorem srSteps : Steps.Full SR where
  refl := SR.refl
  trans := SR.trans
  frame := fun _ _ _ _ _ _ => SR.of_eq rfl rfl rfl
  fuel := fun _ => SR.of_eq rfl rfl rfl
  setTh := fun s t f hf => SR.setTh s t f hf.call
  dropThread := fun s t _ _ => SR.filter s t
  unlinkVM := SR.removeFromInst
  timerRemove := fun _ _ => SR.of_eq rfl rfl rfl
  addTimer := fun _ _ _ => SR.of_eq rfl rfl rfl
  timerNext := fun _ => SR.of_eq rfl rfl rfl
  sameInst := fun s t th l => SR.append s s.nextTid _ rfl (spawnSame s t th l) rfl rfl
  newInst := fun s t l => SR.append s s.nextTid _ rfl (spawnNew s t l) rfl rfl
  register := fun _ _ _ _ => SR.of_eq rfl rfl rfl
  cancelKey := fun _ _ _ _ => SR.of_eq rfl rfl rfl
  cancelOwner := fun _ _ => SR.of_eq rfl rfl rfl
  unregKey := fun _ _ _ _ => SR.of_eq rfl rfl rfl
  unregOwner := fun _ _ => SR.of_eq rfl rfl rfl

theorem srAll : ∀ fuel, All SR fuel :=
  all_of_steps srSteps endStep_sr
    (fun _ ih => scriptExecuteInternal_rel srSteps.toSteps (fun _ _ => SR.of_eq rfl rfl rfl) ih.stp ih.ev ih.er)
    (fun _ ih => drain_rel srSteps.toSteps (fun _ _ => SR.of_eq rfl rfl rfl) ih.ev ih.dr)
    (fun _ ih => execVM_rel srSteps.toSteps (fun _ _ => SR.of_eq rfl rfl rfl) ih.pr)

end Morfuse.Sched
