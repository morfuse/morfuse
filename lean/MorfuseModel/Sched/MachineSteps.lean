import MorfuseModel.Sched.MachineInvTables
/-!
# Relations that every function of the machine respects

`Pre R` (reflexive, transitive) is all the control flow of the machine asks for: the lemmas about sequencing, tests,
loops and the four scans of the listener tables (which take the scan with its removal as a hypothesis about the state at
hand) are stated for it, and serve an invariant (`Pre.imp`) or a relation under an invariant (`Kept`) as well.  `Steps R`:
`R` also holds across each primitive update of the machine.  Kept apart, so that a relation that survives them only in
context can use the rest: the table scans (`Steps.Full`), and the writes of the current thread, the stack depth and the
result cells (`Blind`).  Then `R s (f … s …)` for every function by induction on the fuel (`all_of_steps`, `all_of_blind`).
-/
namespace Morfuse.Sched

structure Pre (R : State → State → Prop) : Prop where
  refl : ∀ s, R s s
  trans : ∀ {a b c}, R a b → R b c → R a c

/-- `R` with an invariant riding on it: from a state that satisfies `I` the step keeps `I` and is an `R` step -/
def Kept (I : State → Prop) (R : State → State → Prop) (s s' : State) : Prop := I s → I s' ∧ R s s'

theorem Pre.kept {R : State → State → Prop} (h : Pre R) (I : State → Prop) : Pre (Kept I R) :=
  ⟨fun s hi => ⟨hi, h.refl s⟩, fun h1 h2 hi => ⟨(h2 (h1 hi).1).1, h.trans (h1 hi).2 (h2 (h1 hi).1).2⟩⟩

theorem Pre.imp (I : State → Prop) : Pre (fun s s' => I s → I s') := ⟨fun _ h => h, fun h1 h2 h => h2 (h1 h)⟩

/-- what every update of a thread record by the machine or the host satisfies -/
structure RecUpd (f : Th → Th) : Prop where
  hasVM : ∀ x, (f x).hasVM = true → x.hasVM = true
  dead : ∀ x, (f x).dead = false → x.dead = false
  call : ∀ x c, (f x).call = some c → x.call = some c

structure Steps (R : State → State → Prop) : Prop extends Pre R where
  frame : ∀ (s : State) W E o out ev, R s { s with waitFor := W, endOn := E, objs := o, out := out, events := ev }
  fuel : ∀ s, R s { s with outOfFuel := true }
  setTh : ∀ s t f, RecUpd f → R s (s.setTh t f)
  dropThread : ∀ s t th, thFind s.threads t = some th → R s { s with threads := s.threads.filter (fun e => !(e.1 == t)) }
  unlinkVM : ∀ s t i, R s (removeFromInst s t i)
  timerRemove : ∀ s t, R s { s with timer := s.timer.remove t }
  addTimer : ∀ s t d, R s (addTiming s t d)
  timerNext : ∀ s, R s { s with timer := s.timer.next.2 }
  sameInst : ∀ s t th l, R s (spawnSame s t th l)
  newInst : ∀ s t l, R s (spawnNew s t l)
  register : ∀ s o n c, R s { s with notify := Tbl.push s.notify (o, n) c }

/-- the four scans of the listener tables, each with the removal that follows it (between the two the tables do not
    mirror each other): `CancelWaiting(name)`, the rest of `CancelWaitingAll`, `Unregister(name)`, `UnregisterAll` -/
structure Steps.Full (R : State → State → Prop) : Prop extends Steps R where
  cancelKey : ∀ (s : State) w name list, R s
    { s with notify := (Tbl.purge s.alive s.notify w name list []).1, waitFor := Tbl.removeKey s.waitFor (w, name) }
  cancelOwner : ∀ (s : State) w, R s
    { s with notify := (Tbl.multiPurge s.alive s.notify w (Tbl.keysOf s.waitFor w) []).1,
             waitFor := Tbl.removeOwner s.waitFor w }
  unregKey : ∀ (s : State) src name list, R s
    { s with notify := Tbl.removeKey s.notify (src, name), waitFor := (Tbl.purge s.alive s.waitFor src name list []).1 }
  unregOwner : ∀ (s : State) src, R s
    { s with notify := Tbl.removeOwner s.notify src,
             waitFor := (Tbl.multiPurge s.alive s.waitFor src (Tbl.keysOf s.notify src) []).1 }

namespace Steps
variable {R : State → State → Prop} (h : Steps R)
include h

theorem setTs (s : State) (t : Nat) (v : TS) : R s (s.setTh t fun th => { th with ts := v }) :=
  h.setTh s t _ ⟨fun _ e => e, fun _ e => e, fun _ _ e => e⟩
theorem setVm (s : State) (t : Nat) (v : VS) : R s (s.setTh t fun th => { th with vm := v }) :=
  h.setTh s t _ ⟨fun _ e => e, fun _ e => e, fun _ _ e => e⟩
theorem suspend (s : State) (t : Nat) : R s (vmSuspend s t) :=
  h.setTh s t _ ⟨fun _ => by split <;> exact id, fun _ => by split <;> exact id, fun _ _ => by split <;> exact id⟩
theorem resume (s : State) (t : Nat) : R s (vmResume s t) :=
  h.setTh s t _ ⟨fun _ => by split <;> exact id, fun _ => by split <;> exact id, fun _ _ => by split <;> exact id⟩
theorem noVM (s : State) (t : Nat) : R s (s.setTh t fun th => { th with hasVM := false }) :=
  h.setTh s t _ ⟨fun _ e => (nomatch e), fun _ e => e, fun _ _ e => e⟩
theorem setDead (s : State) (t : Nat) : R s (s.setTh t fun th => { th with dead := true }) :=
  h.setTh s t _ ⟨fun _ e => e, fun _ e => (nomatch e), fun _ _ e => e⟩
theorem incPc (s : State) (t : Nat) : R s (s.setTh t fun th => { th with pc := th.pc + 1 }) :=
  h.setTh s t _ ⟨fun _ e => e, fun _ e => e, fun _ _ e => e⟩
theorem clearCall (s : State) (t : Nat) : R s (s.setTh t fun th => { th with call := none }) :=
  h.setTh s t _ ⟨fun _ e => e, fun _ e => e, fun _ _ e => nomatch e⟩
/-- `KillThreads` takes the VM out of its instance -/
theorem detach (s : State) (t : Nat) : R s (s.setTh t fun th => { th with attached := false }) :=
  h.setTh s t _ ⟨fun _ e => e, fun _ e => e, fun _ _ e => e⟩

end Steps

structure Blind (R : State → State → Prop) : Prop where
  cur : ∀ (s : State) c, R s { s with cur := c }
  depth : ∀ (s : State) d, R s { s with depth := d }
  calls : ∀ (s : State) cs, R s { s with calls := cs }

variable {R : State → State → Prop}

theorem foldl_rel (h : Pre R) {α : Type} (f : State → α → State) (hf : ∀ s a, R s (f s a)) :
    ∀ (l : List α) (s : State), R s (l.foldl f s)
  | [], s => h.refl s
  | a :: l, s => h.trans (hf s a) (foldl_rel h f hf l (f s a))

theorem foldl_setTh (g : Th → Th) (hg : ∀ x, g (g x) = g x) : ∀ (L : List Nat) (s : State),
    L.foldl (fun s t => s.setTh t g) s =
      { s with threads := s.threads.map (fun e => if L.contains e.1 then (e.1, g e.2) else e) }
  | [], s => by simp
  | t :: L, s => by
    rw [List.foldl_cons, foldl_setTh g hg L]
    simp only [State.setTh, List.map_map]
    congr 1
    apply List.map_congr_left
    intro e _
    simp only [Function.comp, List.contains_cons]
    by_cases h1 : (e.1 == t) = true <;> by_cases h2 : L.contains e.1 = true <;> simp [h1, hg]

/-- an idempotent change of every thread record is that change to the records of each id in turn -/
theorem mapTh_rel (h : Pre R) (g : Th → Th) (hg : ∀ x, g (g x) = g x) (hset : ∀ s t, R s (s.setTh t g)) (s : State) :
    R s { s with threads := s.threads.map (fun e => (e.1, g e.2)) } := by
  have e : ({ s with threads := s.threads.map (fun e => (e.1, g e.2)) } : State) =
      (s.threads.map (·.1)).foldl (fun s t => s.setTh t g) s := by
    rw [foldl_setTh g hg]
    congr 1
    apply List.map_congr_left
    intro e he
    rw [if_pos (List.contains_iff_mem.2 (List.mem_map_of_mem he))]
  rw [e]
  exact foldl_rel h _ hset _ s

theorem setWaitFor_rel (h : Steps R) (s : State) (T : Tbl) : R s { s with waitFor := T } := h.frame s _ _ _ _ _
theorem setEndOn_rel (h : Steps R) (s : State) (T : Tbl) : R s { s with endOn := T } := h.frame s _ _ _ _ _
theorem setObjs_rel (h : Steps R) (s : State) (l : List Nat) : R s { s with objs := l } := h.frame s _ _ _ _ _
theorem emit_rel (h : Steps R) (s : State) (m : String) : R s (s.emit m) := h.frame s _ _ _ _ _
theorem setEvents_rel (h : Steps R) (s : State) (ev : List (Nat × Nat)) : R s { s with events := ev } :=
  h.frame s _ _ _ _ _
theorem cancelEvents_rel (h : Steps R) (s : State) (t : Nat) : R s (cancelEvents s t) := setEvents_rel h s _
theorem postEvent_rel (h : Steps R) (s : State) (t d : Nat) : R s (postEvent s t d) := setEvents_rel h s _

theorem stopStep_rel (h : Pre R) {cw : State → Nat → State} {t : Nat}
    (hwake : ∀ s, R s (s.setTh t fun th => { th with ts := .running }))
    (htr : ∀ s : State, R s { s with timer := s.timer.remove t }) (hcw : ∀ s, R s (cw s t)) (s : State) (th : Th) :
    R s (stopStep cw s t th) := by
  unfold stopStep
  split
  · exact h.trans (hwake s) (htr _)
  · split
    · exact h.trans (hwake s) (hcw _)
    · exact h.refl s

theorem notifyDelete_rel (h : Steps R) (s : State) (t : Nat) : R s (notifyDelete s t) := by
  have h1 := fun b => h.setTh s t (ndRec b) ⟨fun _ e => e, fun _ e => e, fun _ _ e => e⟩
  rw [notifyDelete_eq]
  split
  · exact h.refl s
  · split
    · exact h.trans (h1 _) (h.unlinkVM _ _ _)
    · exact h1 _

theorem finishDelete_rel (h : Steps R) (s : State) (t : Nat) : R s (finishDelete s t) := by
  unfold finishDelete
  cases hf : thFind s.threads t with
  | none => exact h.refl s
  | some th =>
    simp only
    split
    · exact h.setDead s t
    · exact h.dropThread s t th hf

theorem ifAlive_rel (h : Pre R) {α : Type} (al : State → α → Bool) {f : State → α → State}
    (hf : ∀ s a, R s (f s a)) (s : State) (a : α) : R s (if al s a then f s a else s) := by
  split
  · exact hf s a
  · exact h.refl s

theorem notifyLoop_rel (h : Pre R) {sn : State → Nat → State} (hsn : ∀ s l, R s (sn s l)) (s : State)
    (stopped : List Nat) : R s (notifyLoop sn s stopped) :=
  foldl_rel h _ (ifAlive_rel h (fun s l => s.alive l) hsn) _ s

theorem wakeLoop_rel (h : Pre R) {swf : State → Nat → Nat → Bool → State} {name : Nat}
    (hswf : ∀ s l, R s (swf s l name false)) (s : State) (stopped : List Nat) : R s (wakeLoop swf s name stopped) :=
  foldl_rel h _ (ifAlive_rel h (fun s l => s.alive l) hswf) _ s

theorem killLoop_rel (h : Pre R) {swf : State → Nat → Nat → Bool → State} (hswf : ∀ s l n, R s (swf s l n true))
    (s : State) (stopped : List (Nat × Nat)) : R s (killLoop swf s stopped) :=
  foldl_rel h _ (ifAlive_rel h (fun s (ln : Nat × Nat) => s.alive ln.1) (fun s ln => hswf s ln.1 ln.2)) _ s

theorem cwaZero_rel (h : Pre R) {swf : State → Nat → Nat → Bool → State} {sn : State → Nat → State} {s : State} {w : Nat}
    (hkey : ∀ list, R s
      { s with notify := (Tbl.purge s.alive s.notify w 0 list []).1, waitFor := Tbl.removeKey s.waitFor (w, 0) })
    (hswf : ∀ s, R s (swf s w 0 false)) (hsn : ∀ s l, R s (sn s l)) : R s (cwaZero swf sn s w) := by
  unfold cwaZero
  split
  · exact h.refl s
  · rename_i list _
    simp only [cancelWaitingSources_eq_purge]
    refine h.trans (hkey list) (h.trans ?_ (notifyLoop_rel h hsn _ _))
    split
    · exact hswf _
    · exact h.refl _

theorem cwaRest_rel (h : Pre R) {swf : State → Nat → Nat → Bool → State} {sn : State → Nat → State} {s : State} {w : Nat}
    (hown : R s
      { s with notify := (Tbl.multiPurge s.alive s.notify w (Tbl.keysOf s.waitFor w) []).1,
               waitFor := Tbl.removeOwner s.waitFor w })
    (hswf : ∀ s, R s (swf s w 0 false)) (hsn : ∀ s l, R s (sn s l)) : R s (cwaRest swf sn s w) := by
  unfold cwaRest
  split
  · exact h.refl s
  · simp only [cwaSources_frame]
    exact h.trans hown (h.trans (hswf _) (notifyLoop_rel h hsn _ _))

theorem startTiming_rel (h : Steps R) {stp : State → Nat → State} (hstp : ∀ s t, R s (stp s t)) (s : State)
    (t : Nat) : R s (startTiming stp s t) := by
  unfold startTiming
  split
  · exact hstp s t
  · exact h.trans (h.trans (hstp s t) (h.setTs _ t .timing)) (h.addTimer _ _ _)

theorem endOnFold_rel (h : Pre R) {dt : State → Nat → State} (hdt : ∀ s t, R s (dt s t)) (src name : Nat) :
    ∀ (L : List Nat) (acc : State × Bool),
      R acc.1 (L.foldl (endOnStep dt src name) acc).1
  | [], acc => h.refl _
  | l :: L, acc => by
    simp only [List.foldl_cons]
    refine h.trans ?_ (endOnFold_rel h hdt src name L _)
    unfold endOnStep
    split
    · split
      · exact h.refl _
      · exact hdt _ _
    · exact h.refl _

theorem endOnLoop_rel (h : Pre R) {dt : State → Nat → State} (hdt : ∀ s t, R s (dt s t)) (s : State)
    (src name : Nat) (listeners : List Nat) : R s (endOnLoop dt s src name listeners).1 :=
  endOnFold_rel h hdt src name listeners.reverse (s, false)

theorem unregEndOn_rel (h : Pre R) {dt : State → Nat → State} {s : State} {src name : Nat}
    (hkey : R s { s with endOn := Tbl.removeKey s.endOn (src, name) }) (hdt : ∀ s t, R s (dt s t)) :
    R s (unregEndOn dt s src name).1 := by
  unfold unregEndOn
  split
  · exact h.refl s
  · split
    · exact h.refl s
    · exact h.trans hkey (endOnLoop_rel h hdt _ _ _ _)

theorem unregNotify_rel (h : Pre R) {swf : State → Nat → Nat → Bool → State} {sn : State → Nat → State} {s : State}
    {src name : Nat}
    (hkey : ∀ list, R s
      { s with notify := Tbl.removeKey s.notify (src, name), waitFor := (Tbl.purge s.alive s.waitFor src name list []).1 })
    (hswf : ∀ s l, R s (swf s l name false)) (hsn : ∀ s, R s (sn s src)) : R s (unregNotify swf sn s src name) := by
  unfold unregNotify
  split
  · exact h.refl s
  · split
    · exact h.refl s
    · rename_i list _
      simp only [unregisterTargets_eq_purge]
      refine h.trans (hkey list) (h.trans ?_ (wakeLoop_rel h hswf _ _))
      split
      · exact hsn _
      · exact h.refl _

theorem uaRest_rel (h : Pre R) {swf : State → Nat → Nat → Bool → State} {sn : State → Nat → State} {s : State} {src : Nat}
    (hown : R s
      { s with notify := Tbl.removeOwner s.notify src,
               waitFor := (Tbl.multiPurge s.alive s.waitFor src (Tbl.keysOf s.notify src) []).1 })
    (hswf : ∀ s l n, R s (swf s l n true)) (hsn : ∀ s, R s (sn s src)) : R s (uaRest swf sn s src) := by
  unfold uaRest
  split
  · exact h.refl s
  · simp only
    rw [uaTargets_frame]
    exact h.trans hown (h.trans (hsn _) (killLoop_rel h hswf _ _))

theorem regWait_rel (h : Steps R) {stp : State → Nat → State} (hstp : ∀ s t, R s (stp s t)) (s : State)
    (o n c : Nat) : R s (regWait stp s o n c) := by
  unfold regWait
  simp only
  refine h.trans (h.register s o n c) ?_
  split
  · exact h.trans (h.trans (h.trans (hstp _ c) (h.setTs _ c .waiting)) (h.suspend _ c)) (setWaitFor_rel h _ _)
  · exact setWaitFor_rel h _ _

theorem waitOn_rel (h : Steps R) {stp : State → Nat → State} (hstp : ∀ s t, R s (stp s t)) (s : State)
    (p ms : Nat) : R s (waitOn stp s p ms) := by
  unfold waitOn
  exact h.trans (h.trans (h.trans (hstp s p) (h.setTs _ p .timing)) (h.addTimer _ p ms)) (h.suspend _ p)

theorem waitOnGuarded_rel (h : Steps R) {stp : State → Nat → State} (hstp : ∀ s t, R s (stp s t)) (s : State)
    (p ms : Nat) : R s (waitOnGuarded stp s p ms) := by
  unfold waitOnGuarded
  split
  · exact hstp s p
  · exact waitOn_rel h hstp s p ms

/-- the instruction `end` up to the destruction of the thread -/
theorem endStep_rel (h : Steps R) (hcalls : ∀ (s : State) cs, R s { s with calls := cs }) (s : State) (t : Nat)
    (th : Th) (ev : EndV) : R s ((endResult s th ev).setTh t fun th => { th with call := none }) := by
  refine h.trans ?_ (h.clearCall _ t)
  rw [endResult_frame]
  exact hcalls s _

theorem execIfAlive_rel (h : Pre R) {ev : State → Nat → State} (hev : ∀ s t, R s (ev s t)) (s : State) (t : Nat) :
    R s (execIfAlive ev s t) :=
  ifAlive_rel h (fun s t => s.alive t) hev s t

theorem vmEpilogue_rel (h : Steps R) (s : State) (t : Nat) : R s (vmEpilogue s t) := by
  unfold vmEpilogue
  cases hf : thFind s.threads t with
  | none => exact h.refl s
  | some th =>
    simp only
    split
    · exact h.setVm s t .idling
    · exact h.dropThread s t th hf
    · exact h.refl s

section succ
variable {fuel : Nat}

theorem stoppedNotify_rel (h : Pre R) (dt : ∀ s t, R s (deleteThread fuel s t)) (s : State) (l : Nat) :
    R s (stoppedNotify (fuel + 1) s l) := by
  rw [stoppedNotify_succ]
  split
  · split
    · exact dt _ _
    · exact h.refl s
  · exact h.refl s

theorem stop_rel (h : Steps R) (cwa : ∀ s w, R s (cancelWaitingAll fuel s w)) (s : State) (t : Nat) :
    R s (stop (fuel + 1) s t) := by
  rw [stop_succ]
  split
  · exact h.refl s
  · exact stopStep_rel h.toPre (h.setTs · t .running) (h.timerRemove · t) (cwa · t) _ _

theorem stoppedWaitFor_rel (h : Steps R) (dt : ∀ s t, R s (deleteThread fuel s t)) (stp : ∀ s t, R s (stop fuel s t))
    (sei : ∀ s t, R s (scriptExecuteInternal fuel s t)) (s : State) (t name : Nat) (d : Bool) :
    R s (stoppedWaitFor (fuel + 1) s t name d) :=
  stoppedWaitFor_split (P := fun r => R s r) fuel s t name d (fun _ => h.refl s) (fun _ _ _ _ _ => dt _ _)
    (fun _ _ _ _ _ _ _ _ => h.trans (cancelEvents_rel h _ _) (sei _ _))
    (fun _ _ _ _ _ _ _ _ => h.trans (cancelEvents_rel h _ _) (h.resume _ _))
    (fun _ _ _ _ _ _ _ => h.trans (cancelEvents_rel h _ _) (startTiming_rel h stp _ _))
    (fun _ _ _ _ _ _ => cancelEvents_rel h _ _)

theorem scriptExecuteInternal_rel (h : Steps R) (hcur : ∀ (s : State) c, R s { s with cur := c })
    (stp : ∀ s t, R s (stop fuel s t)) (ev : ∀ s t, R s (execVM fuel s t))
    (er : ∀ s, R s (executeRunning fuel s)) (s : State) (t : Nat) : R s (scriptExecuteInternal (fuel + 1) s t) := by
  rw [scriptExecuteInternal_succ]
  exact h.trans (h.trans (h.trans (h.trans (hcur s (some t)) (stp _ _)) (execIfAlive_rel h.toPre ev _ _))
    (hcur _ _)) (er _)

theorem executeRunning_rel (h : Pre R) (dr : ∀ s, R s (drain fuel s)) (s : State) :
    R s (executeRunning (fuel + 1) s) := by
  rw [executeRunning_succ]
  split
  · exact h.refl s
  · split
    · exact h.refl s
    · exact dr _

theorem drain_rel (h : Steps R) (hcur : ∀ (s : State) c, R s { s with cur := c })
    (ev : ∀ s t, R s (execVM fuel s t)) (dr : ∀ s, R s (drain fuel s)) (s : State) :
    R s (drain (fuel + 1) s) := by
  rw [drain_succ]
  split
  · rename_i tm hn
    have e : tm = s.timer.next.2 := by rw [hn]
    subst e
    exact h.trans (h.timerNext s) (hcur _ none)
  · rename_i t d tm hn
    have e : tm = s.timer.next.2 := by rw [hn]
    subst e
    exact h.trans (h.trans (h.trans (h.trans (h.timerNext s) (hcur _ (some t))) (h.setTs _ t .running))
      (ev _ _)) (dr _)

theorem execVM_rel (h : Steps R) (hdepth : ∀ (s : State) d, R s { s with depth := d })
    (pr : ∀ s t, R s (process fuel s t)) (s : State) (t : Nat) : R s (execVM (fuel + 1) s t) := by
  rw [execVM_succ]
  exact h.trans (h.trans (h.trans (h.trans (h.setVm s t .running) (hdepth _ _)) (pr _ _)) (hdepth _ _))
    (vmEpilogue_rel h _ _)

/-- the three instructions that reach `Unregister` on a listener named by the script, and `end`, are left to the caller
    (`hn`, `hp`, `hd`, `he`) -/
theorem exec_rel (h : Steps R) (dt : ∀ s t, R s (deleteThread fuel s t)) (stp : ∀ s t, R s (stop fuel s t))
    (sei : ∀ s t, R s (scriptExecuteInternal fuel s t)) (s : State) (t : Nat) (th : Th) (ins : Instr)
    (hn : ∀ o n, ins = .notify o n → R s (unregister fuel s o n))
    (hp : ∀ n, ins = .notifyParent n → R s (unregister fuel s th.parent n))
    (hd : ∀ o, ins = .delete o → R s (listenerEnd fuel s o))
    (he : ∀ ev, ins = .end_ ev → R s ((endResult s th ev).setTh t fun th => { th with call := none })) :
    R s (exec (fuel + 1) s t th ins) := by
  cases ins with
  | mark k => rw [exec_mark]; exact emit_rel h s _
  | pparam i => rw [exec_pparam]; exact emit_rel h s _
  | wait ms => rw [exec_wait]; exact waitOn_rel h stp _ _ _
  | waittill o names =>
    rw [exec_waittill]
    split
    · exact h.refl s
    · split
      · exact h.refl s
      · exact foldl_rel h.toPre _ (fun s n => regWait_rel h stp _ _ _ _) _ _
  | waittillTimeout o n ms =>
    rw [exec_waittillTimeout]
    split
    · exact h.refl s
    · split
      · exact h.refl s
      · exact h.trans (regWait_rel h stp _ _ _ _) (postEvent_rel h _ _ _)
  | notify o n =>
    rw [exec_notify]
    split
    · exact h.refl s
    · exact hn o n rfl
  | endon o n =>
    rw [exec_endon]
    split
    · exact h.refl s
    · split
      · exact h.refl s
      · exact setEndOn_rel h s _
  | delete o =>
    rw [exec_delete]
    split
    · exact h.refl s
    · exact h.trans (hd o rfl) (setObjs_rel h _ _)
  | thread l =>
    rw [exec_thread]
    split
    · exact h.refl s
    · exact h.trans (h.sameInst s t th l) (sei _ _)
  | waitthread l =>
    rw [exec_waitthread]
    split
    · exact h.refl s
    · split
      · exact h.trans (h.newInst s t l) (sei _ _)
      · exact h.trans (h.trans (h.newInst s t l) (regWait_rel h stp _ _ _ _)) (sei _ _)
  | pause => rw [exec_pause]; exact h.trans (stp _ _) (h.suspend _ _)
  | waitParent ms =>
    rw [exec_waitParent]
    split
    · exact h.refl s
    · exact waitOnGuarded_rel h stp _ _ _
  | waittillParent names =>
    rw [exec_waittillParent]
    split
    · exact h.refl s
    · split
      · exact h.refl s
      · exact foldl_rel h.toPre _ (fun s n => regWait_rel h stp _ _ _ _) _ _
  | notifyParent n =>
    rw [exec_notifyParent]
    split
    · exact h.refl s
    · exact hp n rfl
  | end_ ev =>
    rw [exec_end]
    exact h.trans (he ev rfl) (dt _ _)
  | spawn o =>
    rw [exec_spawn]
    split
    · exact h.refl s
    · exact setObjs_rel h s _

end succ

/-- `ex`: `exec` is given a record that carries the host-call link of the record of `t`, as `Process` does -/
structure All (R : State → State → Prop) (fuel : Nat) : Prop where
  dt : ∀ s t, R s (deleteThread fuel s t)
  sn : ∀ s l, R s (stoppedNotify fuel s l)
  stp : ∀ s t, R s (stop fuel s t)
  cwa : ∀ s w, R s (cancelWaitingAll fuel s w)
  swf : ∀ s t name deleting, R s (stoppedWaitFor fuel s t name deleting)
  ur : ∀ s src name, R s (unregister fuel s src name)
  ua : ∀ s src, R s (unregisterAll fuel s src)
  sei : ∀ s t, R s (scriptExecuteInternal fuel s t)
  er : ∀ s, R s (executeRunning fuel s)
  dr : ∀ s, R s (drain fuel s)
  ev : ∀ s t, R s (execVM fuel s t)
  pr : ∀ s t, R s (process fuel s t)
  ex : ∀ s t th ins, (∃ th0, thFind s.threads t = some th0 ∧ th0.call = th.call) → R s (exec fuel s t th ins)

theorem All.zero (h : Steps R) : All R 0 where
  dt := fun s t => by rw [deleteThread_zero]; exact h.fuel s
  sn := fun s t => by rw [stoppedNotify_zero]; exact h.fuel s
  stp := fun s t => by rw [stop_zero]; exact h.fuel s
  cwa := fun s t => by rw [cancelWaitingAll_zero]; exact h.fuel s
  swf := fun s t n d => by rw [stoppedWaitFor_zero]; exact h.fuel s
  ur := fun s t n => by rw [unregister_zero]; exact h.fuel s
  ua := fun s t => by rw [unregisterAll_zero]; exact h.fuel s
  sei := fun s t => by rw [scriptExecuteInternal_zero]; exact h.fuel s
  er := fun s => by rw [executeRunning_zero]; exact h.fuel s
  dr := fun s => by rw [drain_zero]; exact h.fuel s
  ev := fun s t => by rw [execVM_zero]; exact h.fuel s
  pr := fun s t => by rw [process_zero]; exact h.fuel s
  ex := fun s t th ins _ => by rw [exec_zero]; exact h.fuel s

theorem All.listenerEnd {fuel : Nat} (h : Steps R) (ih : All R fuel) (s : State) (o : Nat) :
    R s (listenerEnd fuel s o) :=
  h.trans (h.trans (h.trans (ih.ur _ _ _) (ih.ur _ _ _)) (ih.ua _ _)) (ih.cwa _ _)

/-- `hend`, `sei`, `dr`, `ev`: the places where the result cells, the current thread and the stack depth are written -/
theorem All.succ {fuel : Nat} (hF : Steps.Full R) (ih : All R fuel)
    (hend : ∀ s t th ev, (∃ th0, thFind s.threads t = some th0 ∧ th0.call = th.call) →
      R s ((endResult s th ev).setTh t fun th => { th with call := none }))
    (sei : ∀ s t, R s (scriptExecuteInternal (fuel + 1) s t)) (dr : ∀ s, R s (drain (fuel + 1) s))
    (ev : ∀ s t, R s (execVM (fuel + 1) s t)) : All R (fuel + 1) where
  dt := fun s t => by
    have h := hF.toSteps
    rw [deleteThread_succ]
    split
    · exact h.refl s
    · split
      · exact h.refl s
      · exact h.trans (h.trans (h.trans (h.trans (h.trans (h.noVM s t)
          (stopStep_rel h.toPre (h.setTs · t .running) (h.timerRemove · t) (ih.cwa · t) _ _))
          (notifyDelete_rel h _ _)) (cancelEvents_rel h _ _)) (ih.listenerEnd h _ t)) (finishDelete_rel h _ _)
  sn := stoppedNotify_rel hF.toPre ih.dt
  stp := stop_rel hF.toSteps ih.cwa
  cwa := fun s w => by
    rw [cancelWaitingAll_succ]
    exact hF.trans (cwaZero_rel hF.toPre (hF.cancelKey s w 0) (ih.swf · w 0 false) ih.sn)
      (cwaRest_rel hF.toPre (hF.cancelOwner _ w) (ih.swf · w 0 false) ih.sn)
  swf := stoppedWaitFor_rel hF.toSteps ih.dt ih.stp ih.sei
  ur := fun s src name => by
    have h1 := unregEndOn_rel hF.toPre (setEndOn_rel hF.toSteps s _) ih.dt (src := src) (name := name)
    rw [unregister_succ]
    split
    · exact h1
    · exact hF.trans h1 (unregNotify_rel hF.toPre (hF.unregKey _ src name) (ih.swf · · name false) (ih.sn · src))
  ua := fun s src => by
    rw [unregisterAll_succ]
    exact hF.trans (hF.trans (ih.ur s src 0) (setEndOn_rel hF.toSteps _ _))
      (uaRest_rel hF.toPre (hF.unregOwner _ src) (ih.swf · · · true) (ih.sn · src))
  sei := sei
  er := executeRunning_rel hF.toPre ih.dr
  dr := dr
  ev := ev
  pr := fun s t => by
    have h := hF.toSteps
    rw [process_succ]
    split
    · exact h.refl s
    · split
      · exact h.refl s
      · rename_i th hf _
        refine h.trans (h.trans (h.incPc s t) (ih.ex _ t th _ ⟨{ th with pc := th.pc + 1 }, ?_, rfl⟩)) (ih.pr _ _)
        exact thFind_setTh_self _ hf
  ex := fun s t th ins hl =>
    exec_rel hF.toSteps ih.dt ih.stp ih.sei s t th ins (fun _ _ _ => ih.ur _ _ _) (fun _ _ => ih.ur _ _ _)
      (fun o _ => ih.listenerEnd hF.toSteps s o) (fun ev _ => hend s t th ev hl)

theorem all_of_steps (h : Steps.Full R)
    (hend : ∀ s t th ev, (∃ th0, thFind s.threads t = some th0 ∧ th0.call = th.call) →
      R s ((endResult s th ev).setTh t fun th => { th with call := none }))
    (hsei : ∀ fuel, All R fuel → ∀ s t, R s (scriptExecuteInternal (fuel + 1) s t))
    (hdr : ∀ fuel, All R fuel → ∀ s, R s (drain (fuel + 1) s))
    (hev : ∀ fuel, All R fuel → ∀ s t, R s (execVM (fuel + 1) s t)) : ∀ fuel, All R fuel
  | 0 => All.zero h.toSteps
  | fuel + 1 =>
    have ih := all_of_steps h hend hsei hdr hev fuel
    All.succ h ih hend (hsei fuel ih) (hdr fuel ih) (hev fuel ih)

theorem all_of_blind (h : Steps.Full R) (hb : Blind R) : ∀ fuel, All R fuel :=
  all_of_steps h (fun s t th ev _ => endStep_rel h.toSteps hb.calls s t th ev)
    (fun _ ih => scriptExecuteInternal_rel h.toSteps hb.cur ih.stp ih.ev ih.er)
    (fun _ ih => drain_rel h.toSteps hb.cur ih.ev ih.dr)
    (fun _ ih => execVM_rel h.toSteps hb.depth ih.pr)

end Morfuse.Sched
