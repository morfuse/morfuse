import MorfuseModel.Sched.MachineInvPrim
/-!
# `Inv` under the kinds of state update: the fields it reads only through `NInv`, one thread record, the two tables,
a thread's death
-/
namespace Morfuse.Sched

theorem Inv.frame {C W : List Nat} {top : Option Nat} {s s' : State} (h : Inv C W top s) (hn : NInv s')
    (e1 : s'.threads = s.threads) (e2 : s'.timer.elems = s.timer.elems) (e3 : s'.notify = s.notify)
    (e4 : s'.waitFor = s.waitFor)
    (hal : ∀ o n, Tbl.getD s.notify (o, n) ≠ [] → s.alive o = true → s'.alive o = true) : Inv C W top s' := by
  refine ⟨hn, by rw [e1]; exact h.th, ?_, ⟨by rw [e3, e4]; exact h.tab.mir, ?_⟩, ?_, ?_, ?_⟩
  · rw [e1]; exact h.tim.congr_elems e2
  · intro o n x hx
    rw [e3] at hx
    obtain ⟨a1, a2⟩ := h.tab.aN o n x hx
    exact ⟨hal o n (List.ne_nil_of_mem hx) a1, by rw [e1]; exact a2⟩
  · intro u ho; rw [e4] at ho; rw [e1]; exact h.lnk.linkC u ho
  · intro u th0 h0 hw; rw [e1] at h0; rw [e4]; exact h.lnk.linkW u th0 h0 hw
  · intro u th0 h0 hw hv; rw [e1] at h0; rw [e4]; exact h.lnk.f4 u th0 h0 hw hv

theorem Inv.congr {C W : List Nat} {top : Option Nat} {s s' : State} (h : Inv C W top s)
    (e1 : s'.threads = s.threads) (e2 : s'.nextTid = s.nextTid)
    (e3 : s'.notify = s.notify) (e4 : s'.waitFor = s.waitFor) (e5 : s'.endOn = s.endOn)
    (e6 : s'.prog = s.prog) (e7 : s'.objs = s.objs) (e8 : s'.cur = s.cur) (e9 : s'.timer = s.timer) :
    Inv C W top s' :=
  h.frame (h.n.congr e1 e2 e3 e4 e5 e6 e7 e8 e9) e1 (by rw [e9]) e3 e4
    (fun o _ _ a => by rw [State.alive_congr (fun l => by rw [e1]) e7]; exact a)

theorem Inv.setCur {C W : List Nat} {top : Option Nat} {s : State} (h : Inv C W top s) (c : Option Nat)
    (hc : ∀ x, c = some x → 100 ≤ x) : Inv C W top { s with cur := c } :=
  h.frame (h.n.setCur c hc) rfl rfl rfl rfl (fun _ _ _ a => a)

theorem Inv.setTimerSame {C W : List Nat} {top : Option Nat} {s : State} (h : Inv C W top s) (tm : Timer)
    (he : tm.elems = s.timer.elems) : Inv C W top { s with timer := tm } :=
  h.frame (h.n.timer tm (by rw [he]; exact fun e h => h)) rfl he rfl rfl (fun _ _ _ a => a)

theorem Inv.setEndOn {C W : List Nat} {top : Option Nat} {s : State} (h : Inv C W top s) (T : Tbl)
    (hs : ∀ o, Tbl.hasOwner T o = true → Tbl.hasOwner s.endOn o = true ∨ o < 100) :
    Inv C W top { s with endOn := T } :=
  h.frame (h.n.setEndOn T hs) rfl rfl rfl rfl (fun _ _ _ a => a)

theorem Inv.setProg {C W : List Nat} {top : Option Nat} {s : State} (h : Inv C W top s)
    (p : List (List Instr)) (ps : List Nat) (hp : ProgOK p) : Inv C W top { s with prog := p, progParams := ps } :=
  ⟨{ h.n with prog := hp }, h.th, h.tim, ⟨h.tab.mir, fun o n x hx => h.tab.aN o n x hx⟩,
    ⟨h.lnk.linkC, h.lnk.linkW, h.lnk.f4⟩⟩

theorem Inv.emit {C W : List Nat} {top : Option Nat} {s : State} (h : Inv C W top s) (m : String) :
    Inv C W top (s.emit m) := h.congr rfl rfl rfl rfl rfl rfl rfl rfl rfl

theorem postEvent_inv {C W : List Nat} {top : Option Nat} {s : State} (h : Inv C W top s) (t d : Nat) :
    Inv C W top (postEvent s t d) := h.congr rfl rfl rfl rfl rfl rfl rfl rfl rfl

theorem endResult_inv {C W : List Nat} {top : Option Nat} {s : State} (h : Inv C W top s) (th : Th) (ev : EndV) :
    Inv C W top (endResult s th ev) := by
  rw [endResult_frame]; exact h.congr rfl rfl rfl rfl rfl rfl rfl rfl rfl

theorem cancelEvents_inv {C W : List Nat} {top : Option Nat} {s : State} (h : Inv C W top s) (t : Nat) :
    Inv C W top (cancelEvents s t) := h.congr rfl rfl rfl rfl rfl rfl rfl rfl rfl

theorem removeFromInst_inv {C W : List Nat} {top : Option Nat} {s : State} (h : Inv C W top s) (t i : Nat) :
    Inv C W top (removeFromInst s t i) := by
  rw [removeFromInst_frame]; exact h.congr rfl rfl rfl rfl rfl rfl rfl rfl rfl

/-- NInv's timer clause follows from timer consistency -/
theorem tim_ge_100 {tm : Timer} {ths : List (Nat × Th)} {nt : Nat} (h : TimInv tm ths)
    (hr : ∀ t th, thFind ths t = some th → 100 ≤ t ∧ t < nt) : ∀ e ∈ tm.elems, 100 ≤ e.1 := by
  intro e he
  obtain ⟨th, h1, _⟩ := h.t1 e he
  exact (hr e.1 th h1).1

/-- The record of `t` becomes `f th` and the timer `tm'`.  `hC'`, `hW'`, `htop` carry over the exemptions of the other
    threads; `hC`, `hW`, `h4` are the clauses of `LinkInv` for `t` with its new record, each with the exemption that may
    stand for it. -/
theorem Inv.setTh {C W C' W' : List Nat} {top top' : Option Nat} {s : State} (h : Inv C W top s)
    (t : Nat) (f : Th → Th) (th : Th) (tm' : Timer)
    (hth : thFind s.threads t = some th)
    (hpar : ∀ x, (f x).parent = x.parent)
    (hok : RecOK (f th))
    (hdead : ∀ x, (f x).dead = x.dead)
    (htim : TimInv tm' (s.threads.map (thUpd t f)))
    (hC' : ∀ x ∈ C, x ≠ t → x ∈ C') (hW' : ∀ x ∈ W, x ≠ t → x ∈ W')
    (htop : top = none ∨ top = top' ∨ top = some t)
    (hC : Tbl.hasOwner s.waitFor t = true → t ∈ C' ∨ (f th).ts = .waiting)
    (hW : (f th).ts = .waiting → t ∈ W' ∨ Tbl.hasOwner s.waitFor t = true)
    (h4 : (f th).ts = .waiting → (f th).vm ≠ .idling →
      top' = some t ∨ ∀ n, Tbl.getD s.waitFor (t, n) ≠ [] → n = 0) :
    Inv C' W' top' { (s.setTh t f) with timer := tm' } := by
  have hn1 : NInv (s.setTh t f) := h.n.setTh t f hpar
  refine ⟨?_, ?_, htim, ?_, ?_⟩
  · exact { hn1 with tim := tim_ge_100 htim hn1.range }
  · exact h.th.setTh t f (fun th0 h0 => by rw [hth] at h0; cases h0; exact hok)
  · refine ⟨h.tab.mir, ?_⟩
    intro o n x hx
    have hal : ∀ l, ({ (s.setTh t f) with timer := tm' } : State).alive l = s.alive l :=
      State.alive_congr (fun l => aliveTh_map_upd _ _ _ hdead l) rfl
    obtain ⟨a1, a2⟩ := h.tab.aN o n x hx
    refine ⟨by rw [hal]; exact a1, ?_⟩
    show aliveTh (s.threads.map (thUpd t f)) x = true
    rw [aliveTh_map_upd _ _ _ hdead]; exact a2
  · refine ⟨?_, ?_, ?_⟩
    · intro u ho
      by_cases hut : u = t
      · subst hut
        rcases hC ho with m | m
        · exact Or.inl m
        · exact Or.inr ⟨f th, thFind_upd_self f hth, m⟩
      · rcases h.lnk.linkC u ho with m | ⟨th0, h0, h1⟩
        · exact Or.inl (hC' u m hut)
        · exact Or.inr ⟨th0, (thFind_upd_ne _ f hut).trans h0, h1⟩
    · intro u th0 h0 hw
      have h0' : thFind (s.threads.map (thUpd t f)) u = some th0 := h0
      rcases thFind_upd_some h0' with ⟨hut, th1, h1, e⟩ | ⟨hut, h0'⟩
      · rw [hth] at h1; cases h1; subst hut; subst e
        exact hW hw
      · exact (h.lnk.linkW u th0 h0' hw).elim (fun m => Or.inl (hW' u m hut)) Or.inr
    · intro u th0 h0 hw hv
      have h0' : thFind (s.threads.map (thUpd t f)) u = some th0 := h0
      rcases thFind_upd_some h0' with ⟨hut, th1, h1, e⟩ | ⟨hut, h0'⟩
      · rw [hth] at h1; cases h1; subst hut; subst e
        exact h4 hw hv
      · exact (h.lnk.f4 u th0 h0' hw hv).imp (top_shift htop hut) id

theorem Inv.setTh_awake {C W C' W' : List Nat} {top' : Option Nat} {s : State} (h : Inv C W none s)
    (t : Nat) (f : Th → Th) (th : Th) (tm' : Timer)
    (hth : thFind s.threads t = some th) (hpar : ∀ x, (f x).parent = x.parent) (hok : RecOK (f th))
    (hdead : ∀ x, (f x).dead = x.dead) (htim : TimInv tm' (s.threads.map (thUpd t f)))
    (hts : (f th).ts ≠ .waiting)
    (hC' : ∀ x ∈ C, x ∈ C') (hW' : ∀ x ∈ W, x ≠ t → x ∈ W') (hC : th.ts = .waiting → t ∈ C') :
    Inv C' W' top' { (s.setTh t f) with timer := tm' } :=
  h.setTh t f th tm' hth hpar hok hdead htim (fun x m _ => hC' x m) hW' (Or.inl rfl)
    (fun ho => by
      rcases h.lnk.linkC t ho with m | ⟨th0, h0, hw⟩
      · exact Or.inl (hC' t m)
      · rw [hth] at h0; cases h0; exact Or.inl (hC hw))
    (fun hw => absurd hw hts) (fun hw => absurd hw hts)

theorem Inv.setTh_keepTs {C W : List Nat} {top : Option Nat} {s : State} (h : Inv C W top s)
    (t : Nat) (f : Th → Th) (hpar : ∀ x, (f x).parent = x.parent) (hts : ∀ x, (f x).ts = x.ts)
    (hdead : ∀ x, (f x).dead = x.dead) (hok : ∀ th, thFind s.threads t = some th → RecOK (f th))
    (hvm : ∀ x, (f x).vm = x.vm ∨ (f x).vm = .destroyed ∨ x.vm = .running ∨ (f x).vm = .idling) :
    Inv C W top (s.setTh t f) := by
  cases hth : thFind s.threads t with
  | none => exact h.congr (map_thUpd_of_none f hth) rfl rfl rfl rfl rfl rfl rfl rfl
  | some th =>
    have hrec := hok th hth
    exact h.setTh (C' := C) (W' := W) (top' := top) t f th s.timer hth hpar hrec hdead
      (h.tim.setTh_same t f hts) (fun x m _ => m) (fun x m _ => m) (Or.inr (Or.inl rfl))
      (fun ho => by
        rcases h.lnk.linkC t ho with m | ⟨th0, h0, hw⟩
        · exact Or.inl m
        · rw [hth] at h0; cases h0; right; rw [hts]; exact hw)
      (fun hw => by rw [hts] at hw; exact h.lnk.linkW t th hth hw)
      (fun hw hv => by
        rw [hts] at hw
        rcases hvm th with e | e | e | e
        · rw [e] at hv; exact h.lnk.f4 t th hth hw hv
        · have := hrec.f1 (hrec.f5 e)
          rw [hts, hw] at this; cases this
        · have := (h.th t th hth).f3 e
          rw [hw] at this; cases this
        · exact absurd e hv)

theorem Inv.setTh_frame {C W : List Nat} {top : Option Nat} {s : State} (h : Inv C W top s) (t : Nat) (f : Th → Th)
    (hf : ∀ x, (f x).parent = x.parent ∧ (f x).ts = x.ts ∧ (f x).vm = x.vm ∧ (f x).hasVM = x.hasVM ∧ (f x).dead = x.dead) :
    Inv C W top (s.setTh t f) :=
  h.setTh_keepTs t f (fun x => (hf x).1) (fun x => (hf x).2.1) (fun x => (hf x).2.2.2.2)
    (fun th hth => by
      obtain ⟨_, hts, hvm, hhv, hd⟩ := hf th
      have r := h.th t th hth
      exact ⟨by rw [hhv, hts]; exact r.f1, by rw [hd, hhv, hvm]; exact r.f2, by rw [hvm, hts]; exact r.f3,
        by rw [hvm, hhv]; exact r.f5⟩)
    (fun x => Or.inl (hf x).2.2.1)

theorem Inv.mapTh {C W : List Nat} {top : Option Nat} {s : State} (h : Inv C W top s) (g : Th → Th)
    (hg : ∀ x, g (g x) = g x)
    (hf : ∀ x, (g x).parent = x.parent ∧ (g x).ts = x.ts ∧ (g x).vm = x.vm ∧ (g x).hasVM = x.hasVM ∧ (g x).dead = x.dead) :
    Inv C W top { s with threads := s.threads.map (fun e => (e.1, g e.2)) } :=
  mapTh_rel (Pre.imp (Inv C W top)) g hg (fun _ t h => h.setTh_frame t g hf) s h

theorem Inv.setTables {C Wl Wl' : List Nat} {top : Option Nat} {s : State} (h : Inv C Wl top s)
    (N' W' : Tbl) (wfN : Tbl.WF N') (wfW : Tbl.WF W')
    (subN : Tbl.Sub N' s.notify) (subW : Tbl.Sub W' s.waitFor) (mir : TblMirror N' W')
    (hWl : ∀ x ∈ Wl, x ∈ Wl')
    (hW : ∀ x th, thFind s.threads x = some th → th.ts = .waiting → Tbl.hasOwner s.waitFor x = true →
      x ∈ Wl' ∨ Tbl.hasOwner W' x = true) :
    Inv C Wl' top { s with notify := N', waitFor := W' } := by
  refine ⟨(h.n.setNotify N' wfN subN).setWaitFor W' wfW subW, h.th, h.tim, ?_, ?_⟩
  · refine ⟨mir, ?_⟩
    intro o n x hx
    exact h.tab.aN o n x (subN _ _ hx)
  · refine ⟨?_, ?_, ?_⟩
    · intro u ho
      exact h.lnk.linkC u (Tbl.hasOwner_of_sub h.n.wfW wfW subW ho)
    · intro u th0 h0 hw
      rcases h.lnk.linkW u th0 h0 hw with m | m
      · exact Or.inl (hWl u m)
      · exact hW u th0 h0 hw m
    · intro u th0 h0 hw hv
      rcases h.lnk.f4 u th0 h0 hw hv with e | e
      · exact Or.inl e
      · exact Or.inr (fun n hn => e n (subW.ne_nil hn))

theorem notMentioned {s : State} (hm : TblMirror s.notify s.waitFor) (hwN : Tbl.WF s.notify) (hwW : Tbl.WF s.waitFor)
    {t : Nat} (h1 : Tbl.hasOwner s.notify t = false) (h2 : Tbl.hasOwner s.waitFor t = false) :
    ∀ o n x, x ∈ Tbl.getD s.notify (o, n) → o ≠ t ∧ x ≠ t := by
  intro o n x hx
  constructor
  · intro e; subst e
    have := (hwN.hasOwner_false_iff o).1 h1 n
    rw [this] at hx; simp at hx
  · intro e; subst e
    have hx' := (hm.mem_iff o n x).1 hx
    have := (hwW.hasOwner_false_iff x).1 h2 n
    rw [this] at hx'; simp at hx'

theorem Inv.changeUnmentioned {C W : List Nat} {top : Option Nat} {s : State} (h : Inv C W top s) (t : Nat)
    (ths' : List (Nat × Th)) (hn : NInv { s with threads := ths' }) (hth : ThInv ths') (htim : TimInv s.timer ths')
    (hfind : ∀ u, u ≠ t → thFind ths' u = thFind s.threads u)
    (halive : ∀ u, u ≠ t → aliveTh ths' u = aliveTh s.threads u)
    (hnm : ∀ o n x, x ∈ Tbl.getD s.notify (o, n) → o ≠ t ∧ x ≠ t)
    (hts : ∀ th', thFind ths' t = some th' → th'.ts ≠ .waiting) :
    Inv C W top { s with threads := ths' } := by
  have hown : Tbl.hasOwner s.waitFor t = false := by
    rw [h.n.wfW.hasOwner_false_iff]
    intro n
    cases hg : Tbl.getD s.waitFor (t, n) with
    | nil => rfl
    | cons src rest =>
      have hm : src ∈ Tbl.getD s.waitFor (t, n) := by rw [hg]; exact List.mem_cons_self
      exact absurd rfl (hnm src n t ((h.tab.mir.mem_iff src n t).2 hm)).2
  refine ⟨hn, hth, htim, ⟨h.tab.mir, ?_⟩, ?_, ?_, ?_⟩
  · intro o n x hx
    obtain ⟨a1, a2⟩ := h.tab.aN o n x hx
    obtain ⟨n1, n2⟩ := hnm o n x hx
    exact ⟨by rw [← a1]; exact State.alive_eq (halive o n1) rfl, by rw [← a2]; exact halive x n2⟩
  · intro u ho
    have hut : u ≠ t := by intro e; rw [e, hown] at ho; cases ho
    rcases h.lnk.linkC u ho with m | ⟨th0, h0, h3⟩
    · exact Or.inl m
    · exact Or.inr ⟨th0, by rw [← h0]; exact hfind u hut, h3⟩
  · intro u th0 h0 hw
    by_cases hut : u = t
    · subst hut; exact absurd hw (hts th0 h0)
    · exact h.lnk.linkW u th0 (by rw [← h0]; exact (hfind u hut).symm) hw
  · intro u th0 h0 hw hv
    by_cases hut : u = t
    · subst hut; exact absurd hw (hts th0 h0)
    · exact h.lnk.f4 u th0 (by rw [← h0]; exact (hfind u hut).symm) hw hv

theorem Inv.die {C W : List Nat} {top : Option Nat} {s : State} (h : Inv C W top s) (t : Nat) (th : Th)
    (hth : thFind s.threads t = some th) (hvm : th.hasVM = false) (hd : th.vm = .destroyed)
    (h1 : Tbl.hasOwner s.notify t = false) (h2 : Tbl.hasOwner s.waitFor t = false) :
    Inv C W top (s.setTh t (fun th => { th with dead := true })) := by
  have r := h.th t th hth
  refine h.changeUnmentioned t (s.threads.map (thUpd t fun th => { th with dead := true }))
    (h.n.setTh t fun th => { th with dead := true }) ?_
    (h.tim.setTh_same t (fun th => { th with dead := true }) (fun _ => rfl))
    (fun u hu => thFind_upd_ne _ _ hu) (fun u hu => aliveTh_upd_ne _ _ hu)
    (notMentioned h.tab.mir h.n.wfN h.n.wfW h1 h2) ?_
  · exact h.th.setTh t _ (fun th0 h0 => by
      rw [hth] at h0; cases h0
      exact ⟨fun _ => r.f1 hvm, fun _ => ⟨hvm, hd⟩, r.f3, r.f5⟩)
  · intro th' h'
    rw [thFind_upd_self _ hth] at h'
    cases h'
    show th.ts ≠ .waiting
    rw [r.f1 hvm]; simp

theorem Inv.remove {C W : List Nat} {top : Option Nat} {s : State} (h : Inv C W top s) (t : Nat) (th : Th)
    (hth : thFind s.threads t = some th) (hvm : th.hasVM = false)
    (hnm : ∀ o n x, x ∈ Tbl.getD s.notify (o, n) → o ≠ t ∧ x ≠ t) :
    Inv C W top { s with threads := s.threads.filter (fun e => !(e.1 == t)) } := by
  have hts : th.ts = .running := (h.th t th hth).f1 hvm
  refine h.changeUnmentioned t (s.threads.filter (fun e => !(e.1 == t))) (h.n.filterTh t) (h.th.filter t) ?_
    (fun u hu => thFind_filter_of_ne _ hu) (fun u hu => aliveTh_filter_ne _ _ _ hu) hnm ?_
  · exact h.tim.filter t (fun th0 h0 => by rw [hth] at h0; cases h0; rw [hts]; simp)
  · intro th' h'
    rw [thFind_filter_self] at h'; cases h'

theorem inv_init : Inv [] [] none ({} : State) := by
  refine ⟨⟨by simp, ?_, by decide, ?_, Tbl.WF.nil, Tbl.WF.nil, ?_, ?_, ?_, ?_, ?_, ?_, ?_, ?_⟩, ?_, ⟨?_, ?_, ?_⟩, ⟨?_, ?_⟩,
    ⟨?_, ?_, ?_⟩⟩
  · intro t th h; simp [thFind] at h
  · intro t th h; simp [thFind] at h
  · intro b hb; simp at hb
  · intro o ho; simp at ho
  · intro src n _ h; simp [Tbl.getD, Tbl.find] at h
  · intro src _; rfl
  · intro k x h; simp [Tbl.getD, Tbl.find] at h
  · intro o n h; simp [Tbl.getD, Tbl.find] at h
  · intro c h; simp at h
  · intro e he; simp at he
  · intro t th h; simp [thFind] at h
  · intro e he; simp at he
  · simp
  · intro t th h; simp [thFind] at h
  · intro o n; simp [Tbl.getD, Tbl.find]
  · intro o n x h; simp [Tbl.getD, Tbl.find] at h
  · intro t h; simp [Tbl.hasOwner] at h
  · intro t th h; simp [thFind] at h
  · intro t th h; simp [thFind] at h

end Morfuse.Sched
