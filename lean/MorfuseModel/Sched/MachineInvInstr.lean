import MorfuseModel.Sched.MachineInvExec
/-!
# `Inv` (and the rider) through one instruction (`exec`)
-/
namespace Morfuse.Sched

variable {P : List Nat → State → Prop}

theorem Running.ts {W : List Nat} {s : State} {t : Nat} {th0 : Th} (r : Running s t th0) (h : Inv [] W none s) :
    th0.ts = .running := (h.th t th0 r.find).f3 r.vm

theorem Running.noOwner {W : List Nat} {s : State} {t : Nat} {th0 : Th} (r : Running s t th0)
    (h : Inv [] W none s) : Tbl.hasOwner s.waitFor t = false := by
  rw [Bool.eq_false_iff]
  intro ho
  rcases h.lnk.linkC t ho with m | ⟨th, hth, hw⟩
  · simp at m
  · rw [r.find] at hth; cases hth
    rw [r.ts h] at hw; cases hw

theorem cur_eq {s : State} {t c : Nat} (hcur : s.cur = some t ∨ s.cur = none) (hc : s.cur = some c) : c = t := by
  rcases hcur with e | e
  · rw [hc] at e; exact Option.some.inj e
  · rw [hc] at e; cases e

theorem objAlive_alive {s : State} (hn : NInv s) {o : Nat} (ho : s.objAlive o = true) : s.alive o = true := by
  have hlt := objAlive_lt hn ho
  rw [State.alive_obj _ (by simp [State.isThread]; omega)]
  exact ho

theorem ExPost.refl {W : List Nat} {s : State} (t : Nat) (h : Inv [] W none s) : ExPost P W t s s :=
  ⟨h.toTop t, G.refl s, fun _ j => j⟩

theorem objCur_cur {s : State} {t : Nat} (hcur : s.cur = some t ∨ s.cur = none) (o : Nat) (k : Nat → State)
    {C : State → Prop} (h0 : C s) (hk : s.objAlive o = true → C (k t)) :
    C (if !s.objAlive o then s else match s.cur with | none => s | some c => k c) :=
  objCur_elim o k h0 fun _ hc ho => cur_eq hcur hc ▸ hk ho

/-- the loop of `waittill` / `waittill_any` -/
theorem regFold_inv {fuel : Nat} (L : ExecKept P) {W : List Nat} {t o : Nat} (ht : 100 ≤ t) :
    ∀ (names : List Nat) (s : State), (∀ n ∈ names, o < 100 ∨ NameOK n) → Inv [] W (some t) s →
      (Tbl.hasOwner s.waitFor t = false →
        ∃ th0, thFind s.threads t = some th0 ∧ th0.vm = .running ∧ th0.hasVM = true) →
      s.alive o = true →
      Ok (names.foldl (fun s n => regWait (stop fuel) s o n t) s)
        (ExPost P W t s (names.foldl (fun s n => regWait (stop fuel) s o n t) s))
  | [], s, _, h, _, _ => Ok.pure ⟨h, G.refl s, fun _ j => j⟩
  | n :: names, s, hon, h, hrun, ho => by
    simp only [List.foldl_cons]
    refine (regWait_inv (fuel := fuel) (some t) o n h hrun ho (hon n List.mem_cons_self) (Or.inl rfl)).bind
      (Pres.foldl _ (fun s a => regWait_pres (presAll fuel).stp _ _ _ _) _ _) (fun p => ?_)
    obtain ⟨p1, p2, p3, p4, _, p6⟩ := p
    refine (regFold_inv L ht names _ (fun m hm => hon m (List.mem_cons_of_mem _ hm)) p1
      (fun hno => by rw [p3] at hno; cases hno) (by rw [p4]; exact ho)).map
      (fun q => ⟨q.1, G.trans h.n (p2.withCur (Or.inl p6)) q.2.1,
        fun A j => q.2.2 A (L.regWait fuel _ h.n o n t ht (hon n List.mem_cons_self) j)⟩)

theorem exec_wait_inv {fuel : Nat} (L : ExecKept P) {W : List Nat} {s : State} {t : Nat} {th0 th : Th}
    (h : Inv [] W none s) (r : Running s t th0) (ms : Nat) :
    Ok (exec (fuel + 1) s t th (.wait ms)) (ExPost P W t s (exec (fuel + 1) s t th (.wait ms))) := by
  rw [exec_wait]
  refine Ok.rider ?_ (fun A => L.waitOn fuel _ h.n t ms)
  unfold waitOn
  rcases stop_running fuel s t th0 r.find (r.ts h) with e | e
  · rw [e, waitOn_shape]
    exact Ok.pure ⟨(h.goTiming t ms th0 r.find (r.ts h) r.hasVM).toTop t, (G0.goTiming s t ms).withCur (Or.inl rfl)⟩
  · rw [e]; exact Or.inl rfl

theorem exec_pause_inv {fuel : Nat} (L : ExecKept P) {W : List Nat} {s : State} {t : Nat} {th0 th : Th}
    (h : Inv [] W none s) (r : Running s t th0) :
    Ok (exec (fuel + 1) s t th .pause) (ExPost P W t s (exec (fuel + 1) s t th .pause)) := by
  rw [exec_pause]
  refine Ok.rider ?_ (fun A j => L.vmSuspend t ((L.quietAll fuel).stp _ s t h.n j))
  rcases stop_running fuel s t th0 r.find (r.ts h) with e | e
  · rw [e]
    exact Ok.pure ⟨(h.suspend t).toTop t, (G0.suspend s t).withCur (Or.inl rfl)⟩
  · rw [e]; exact Or.inl rfl

theorem endResult_g (s : State) (th : Th) (ev : EndV) : G s (endResult s th ev) := by
  rw [endResult_frame]; exact G.of_eq rfl rfl rfl rfl

theorem exec_waittillTimeout_inv {fuel : Nat} (L : ExecKept P) {W : List Nat} {s : State} {t : Nat} {th0 th : Th}
    (h : Inv [] W none s) (r : Running s t th0) (hcur : s.cur = some t ∨ s.cur = none) (o n ms : Nat) :
    Ok (exec (fuel + 1) s t th (.waittillTimeout o n ms))
      (ExPost P W t s (exec (fuel + 1) s t th (.waittillTimeout o n ms))) := by
  rw [exec_waittillTimeout]
  refine objCur_cur (C := fun s' => Ok s' (ExPost P W t s s')) hcur o _ (Ok.pure (ExPost.refl t h)) (fun hoa => ?_)
  have ho := objAlive_lt h.n hoa
  refine (regWait_inv (fuel := fuel) (some t) o n (h.toTop t) (fun _ => ⟨th0, r.find, r.vm, r.hasVM⟩)
    (objAlive_alive h.n hoa) (Or.inl ho) (Or.inl rfl)).bind (postEvent_pres _ _ _) (fun p => ?_)
  obtain ⟨p1, p2, p3, _, _, p6⟩ := p
  refine Ok.pure ⟨postEvent_inv p1 _ _, G.trans h.n (p2.withCur (Or.inl p6)) (G.of_eq rfl rfl rfl rfl), fun A j => ?_⟩
  -- the waiting thread is a record with a live VM
  obtain ⟨thc, hfc, hwc⟩ := (p1.lnk.linkC t p3).resolve_left List.not_mem_nil
  refine L.postEvent t _ ⟨thc, hfc, fun e => ?_⟩ (L.regWait fuel _ h.n o n t (h.n.range t th0 r.find).1 (Or.inl ho) j)
  have := (p1.th t thc hfc).f1 ((p1.th t thc hfc).f5 e)
  rw [hwc] at this; cases this

theorem exec_delete_inv {fuel : Nat} (L : ExecKept P) (ih : IAll P fuel) {W : List Nat} {s : State} {t : Nat} {th : Th}
    (h : Inv [] W none s) (o : Nat) :
    Ok (exec (fuel + 1) s t th (.delete o)) (ExPost P W t s (exec (fuel + 1) s t th (.delete o))) := by
  rw [exec_delete]
  split
  · exact Ok.pure (ExPost.refl t h)
  · refine (listenerEnd_inv L ih.ur ih.ua ih.cwa h o (Or.inl rfl)).bind (Pres.of_eq rfl rfl rfl) (fun p => ?_)
    exact Ok.pure ⟨(p.1.eraseObj o p.2.1).toTop t, G.trans h.n p.2.2.2.1 (G.of_eq rfl rfl rfl rfl),
      fun A j => L.congr (p.2.2.2.2 _ j) rfl rfl rfl rfl⟩

theorem spawnSame_inv {W : List Nat} {s : State} (h : Inv [] W none s) (t : Nat) (th : Th) (l : Nat)
    (ht : 100 ≤ t) : Inv [] W none (spawnSame s t th l) ∧ G s (spawnSame s t th l) ∧
      ∃ r, thFind (spawnSame s t th l).threads s.nextTid = some r ∧ r.hasVM = true ∧ r.ts = .running := by
  refine ⟨?_, ?_, ?_⟩
  · exact (h.spawn ({ label := l, inst := th.inst, params := bindLoop (s.progParams.getD l 0) 0 [], parent := t } : Th)
      (Or.inr ht) rfl rfl rfl rfl).congr rfl rfl rfl rfl rfl rfl rfl rfl rfl
  · have g : G0 s (spawnSame s t th l) :=
      (G0.spawn s ({ label := l, inst := th.inst, params := bindLoop (s.progParams.getD l 0) 0 [], parent := t } : Th)).congr
        rfl rfl rfl rfl rfl rfl
    exact g.withCur (Or.inl rfl)
  · exact ⟨_, thFind_spawned _ (fresh_none h.n), rfl, rfl⟩

theorem spawnNew_inv {W : List Nat} {s : State} (h : Inv [] W none s) (t : Nat) (l : Nat)
    (ht : 100 ≤ t) : Inv [] W none (spawnNew s t l) ∧ G s (spawnNew s t l) ∧
      ∃ r, thFind (spawnNew s t l).threads s.nextTid = some r ∧ r.hasVM = true ∧ r.ts = .running ∧ r.dead = false := by
  refine ⟨?_, ?_, ?_⟩
  · exact (h.spawn ({ label := l, inst := s.nextInst, params := bindLoop (s.progParams.getD l 0) 0 [], parent := t } : Th)
      (Or.inr ht) rfl rfl rfl rfl).congr rfl rfl rfl rfl rfl rfl rfl rfl rfl
  · have g : G0 s (spawnNew s t l) :=
      (G0.spawn s ({ label := l, inst := s.nextInst, params := bindLoop (s.progParams.getD l 0) 0 [], parent := t } : Th)).congr
        rfl rfl rfl rfl rfl rfl
    exact g.withCur (Or.inl rfl)
  · exact ⟨_, thFind_spawned _ (fresh_none h.n), rfl, rfl, rfl⟩

theorem exec_thread_inv {fuel : Nat} (L : ExecKept P) (ih : IAll P fuel) {W : List Nat} {s : State} {t : Nat}
    {th0 th : Th} (h : Inv [] W none s) (r : Running s t th0) (hinst : th.inst = th0.inst) (l : Nat) :
    Ok (exec (fuel + 1) s t th (.thread l)) (ExPost P W t s (exec (fuel + 1) s t th (.thread l))) := by
  rw [exec_thread]
  split
  · exact Ok.pure (ExPost.refl t h)
  · have ht : 100 ≤ t := (h.n.range t th0 r.find).1
    obtain ⟨i1, g1, r1, hr1, hv1, hts1⟩ := spawnSame_inv h t th l ht
    exact (ih.sei W _ s.nextTid r1 (i1.consW _) hr1 hv1).map (fun p =>
      ⟨p.1.toTop t, G.trans h.n g1 p.2.1, fun A j => p.2.2 _ (Or.inr hts1) (L.spawnSame l h.n r hinst j)⟩)

theorem exec_waitthread_inv {fuel : Nat} (L : ExecKept P) (ih : IAll P fuel) {W : List Nat} {s : State} {t : Nat}
    {th0 th : Th} (h : Inv [] W none s) (r : Running s t th0) (hcur : s.cur = some t ∨ s.cur = none) (l : Nat) :
    Ok (exec (fuel + 1) s t th (.waitthread l)) (ExPost P W t s (exec (fuel + 1) s t th (.waitthread l))) := by
  rw [exec_waitthread]
  split
  · exact Ok.pure (ExPost.refl t h)
  · have ht : 100 ≤ t := (h.n.range t th0 r.find).1
    obtain ⟨i1, g1, r1, hr1, hv1, hts1, hd1⟩ := spawnNew_inv h t l ht
    cases hc : s.cur with
    | none =>
      simp only
      exact (ih.sei W _ s.nextTid r1 (i1.consW _) hr1 hv1).map (fun p =>
        ⟨p.1.toTop t, G.trans h.n g1 p.2.1, fun A j => p.2.2 _ (Or.inr hts1) (L.spawnNew t l h.n j)⟩)
    | some c =>
      have hct : c = t := cur_eq hcur hc
      subst hct
      simp only
      have hne : s.nextTid ≠ c := by have := (h.n.range c th0 r.find).2; omega
      -- the caller's record is untouched by the creation
      have hkeep : thFind (spawnNew s c l).threads c = some th0 := thFind_append_of_some _ _ r.find
      have r' : Running (spawnNew s c l) c th0 := ⟨hkeep, r.vm, r.hasVM⟩
      have halive : (spawnNew s c l).alive s.nextTid = true := by
        rw [State.alive_ge _ h.n.tid100]
        exact (aliveTh_iff i1.n.nodup _).2 ⟨r1, hr1, hd1⟩
      refine (regWait_inv (fuel := fuel) none s.nextTid 0 (i1.toTop c) (fun _ => ⟨th0, hkeep, r.vm, r.hasVM⟩)
        halive (Or.inr nameOK_zero) (Or.inr ⟨rfl, r'.noOwner i1⟩)).bind ((presAll fuel).sei _ _) (fun p => ?_)
      obtain ⟨p1, p2, _, _, p5, p6⟩ := p
      have hr2 : thFind (regWait (stop fuel) (spawnNew s c l) s.nextTid 0 c).threads s.nextTid = some r1 := by
        rw [p5 _ hne]; exact hr1
      refine (ih.sei W _ s.nextTid r1 (p1.consW _) hr2 hv1).map (fun q => ⟨q.1.toTop c, ?_, fun A j => ?_⟩)
      · exact G.trans h.n g1 (G.trans i1.n (p2.withCur (Or.inl p6)) q.2.1)
      · exact q.2.2 _ (Or.inr hts1) (L.regWait fuel _ i1.n s.nextTid 0 c ht (Or.inr nameOK_zero) (L.spawnNew c l h.n j))

theorem exec_waittillParent_inv {fuel : Nat} (L : ExecKept P) {W : List Nat} {s : State} {t : Nat} {th0 th : Th}
    (h : Inv [] W none s) (r : Running s t th0) (hcur : s.cur = some t ∨ s.cur = none) (names : List Nat)
    (hok : ∀ n ∈ names, NameOK n) :
    Ok (exec (fuel + 1) s t th (.waittillParent names))
      (ExPost P W t s (exec (fuel + 1) s t th (.waittillParent names))) := by
  rw [exec_waittillParent]
  split
  · exact Ok.pure (ExPost.refl t h)
  · rename_i hg
    simp only [Bool.or_eq_true, beq_iff_eq, Bool.not_eq_eq_eq_not, Bool.not_true, not_or] at hg
    have hal : s.alive th.parent = true := by simpa using hg.2
    cases hc : s.cur with
    | none => exact Ok.pure (ExPost.refl t h)
    | some c =>
      have hct : c = t := cur_eq hcur hc
      subst hct
      simp only
      exact regFold_inv L (h.n.range c th0 r.find).1 names s (fun n hn => Or.inr (hok n hn)) (h.toTop c)
        (fun _ => ⟨th0, r.find, r.vm, r.hasVM⟩) hal

theorem exec_waitParent_inv {fuel : Nat} (L : ExecKept P) (ih : IAll P fuel) {W : List Nat} {s : State} {t : Nat}
    {th : Th} (h : Inv [] W none s) (ms : Nat) :
    Ok (exec (fuel + 1) s t th (.waitParent ms)) (ExPost P W t s (exec (fuel + 1) s t th (.waitParent ms))) := by
  rw [exec_waitParent]
  split
  · exact Ok.pure (ExPost.refl t h)
  · rename_i hg
    refine Ok.rider ?_ (fun A => L.waitOnGuarded fuel _ h.n th.parent ms)
    simp only [Bool.or_eq_true, beq_iff_eq, Bool.not_eq_eq_eq_not, Bool.not_true, not_or] at hg
    obtain ⟨_, hvm⟩ := hg
    have hvm' : s.hasVM th.parent = true := by simpa using hvm
    rw [State.hasVM_eq] at hvm'
    cases hp : thFind s.threads th.parent with
    | none => rw [hp] at hvm'; cases hvm'
    | some thp =>
      rw [hp] at hvm'
      simp only at hvm'
      unfold waitOnGuarded waitOn
      have q := (qAll fuel).stp [] s th.parent h.n
      have hs := ih.stp [] W s th.parent (h.consW _)
      -- the state after `Stop()` is named once: the steps below do not look into it
      generalize stop fuel s th.parent = X at q hs ⊢
      refine hs.bind ?_ (fun p => ?_)
      · split
        · exact Pres.refl _
        · exact Pres.of_eq rfl rfl rfl
      split
      · exact Ok.pure ⟨p.1.toTop t, q.toG⟩
      · rename_i hal2
        obtain ⟨th1, hth1, hvm1, _⟩ :=
          q.alive_hasVM p.1.n hp hvm' (h.n.range _ thp hp).1 (by simpa using hal2)
        rw [waitOn_shape]
        refine Ok.pure ⟨(p.1.goTiming _ ms th1 hth1 (p.2 th1 hth1) hvm1).toTop t, ?_⟩
        exact G.trans h.n q.toG ((G0.goTiming _ _ ms).withCur (Or.inl rfl))

theorem exec_end_inv {fuel : Nat} (L : ExecKept P) (ih : IAll P fuel) {W : List Nat} {s : State} {t : Nat} {th : Th}
    (h : Inv [] W none s) (ev : EndV) :
    Ok (exec (fuel + 1) s t th (.end_ ev)) (ExPost P W t s (exec (fuel + 1) s t th (.end_ ev))) := by
  rw [exec_end]
  have i2 : Inv [] W none ((endResult s th ev).setTh t fun th => { th with call := none }) :=
    (endResult_inv h th ev).setTh_frame t _ fun _ => ⟨rfl, rfl, rfl, rfl, rfl⟩
  have g2 : G s ((endResult s th ev).setTh t fun th => { th with call := none }) :=
    G.trans h.n (endResult_g s th ev)
      ((G0.setTh _ t (fun th => { th with call := none }) (fun _ => rfl) (fun _ => rfl) (fun _ _ hi => hi)).withCur (Or.inl rfl))
  refine (ih.dt [] W _ t (i2.consW t)).map (fun p => ⟨p.toTop t, ?_, fun A j => ?_⟩)
  · exact G.trans h.n g2 ((qAll fuel).dt [] _ t i2.n).toG
  · exact (L.quietAll fuel).dt _ _ t i2.n
      (L.setTh t _ (fun _ => ⟨rfl, rfl, rfl, rfl, rfl⟩) (L.endResult _ s th ev j))

theorem exec_inv_succ {fuel : Nat} (L : ExecKept P) (ih : IAll P fuel) : IEx P (exec (fuel + 1)) := by
  intro W s t th0 th ins h r hok hcur hinst
  have same : ∀ {s' : State}, s'.threads = s.threads → s'.insts = s.insts → s'.nextInst = s.nextInst →
      s'.events = s.events → ∀ A, P (t :: A) s → P (t :: A) s' := fun e1 e2 e3 e4 _ j => L.congr j e1 e2 e3 e4
  cases ins with
  | mark k => rw [exec_mark]; exact Ok.pure ⟨(h.emit _).toTop t, G.of_eq rfl rfl rfl rfl, same rfl rfl rfl rfl⟩
  | pparam i => rw [exec_pparam]; exact Ok.pure ⟨(h.emit _).toTop t, G.of_eq rfl rfl rfl rfl, same rfl rfl rfl rfl⟩
  | wait ms => exact exec_wait_inv L h r ms
  | waittill o names =>
    rw [exec_waittill]
    exact objCur_cur (C := fun s' => Ok s' (ExPost P W t s s')) hcur o _ (Ok.pure (ExPost.refl t h)) (fun hoa =>
      regFold_inv L (h.n.range t th0 r.find).1 names s (fun _ _ => Or.inl (objAlive_lt h.n hoa)) (h.toTop t)
        (fun _ => ⟨th0, r.find, r.vm, r.hasVM⟩) (objAlive_alive h.n hoa))
  | waittillTimeout o n ms => exact exec_waittillTimeout_inv L h r hcur o n ms
  | notify o n =>
    rw [exec_notify]
    split
    · exact Ok.pure (ExPost.refl t h)
    · exact (ih.ur [] W s o n h (Or.inl rfl)).map (fun p => ⟨p.1.toTop t, p.2.1, fun A => p.2.2 _⟩)
  | endon o n =>
    rw [exec_endon]
    refine objCur_cur (C := fun s' => Ok s' (ExPost P W t s s')) hcur o _ (Ok.pure (ExPost.refl t h)) (fun hoa =>
      Ok.pure ⟨(h.setEndOn _ (fun o' ho2 => ?_)).toTop t, G.of_eq rfl rfl rfl rfl, same rfl rfl rfl rfl⟩)
    rcases Tbl.hasOwner_pushUnique ho2 with h1 | h1
    · exact Or.inl h1
    · right; rw [h1]; exact objAlive_lt h.n hoa
  | delete o => exact exec_delete_inv L ih h o
  | thread l => exact exec_thread_inv L ih h r hinst l
  | waitthread l => exact exec_waitthread_inv L ih h r hcur l
  | pause => exact exec_pause_inv L h r
  | waitParent ms => exact exec_waitParent_inv L ih h ms
  | waittillParent names => exact exec_waittillParent_inv L h r hcur names hok
  | notifyParent n =>
    rw [exec_notifyParent]
    split
    · exact Ok.pure (ExPost.refl t h)
    · exact (ih.ur [] W s _ n h (Or.inl rfl)).map (fun p => ⟨p.1.toTop t, p.2.1, fun A => p.2.2 _⟩)
  | end_ ev => exact exec_end_inv L ih h ev
  | spawn o =>
    rw [exec_spawn]
    split
    · exact Ok.pure (ExPost.refl t h)
    · exact Ok.pure ⟨(h.addObj o hok).toTop t, G.of_eq rfl rfl rfl rfl, same rfl rfl rfl rfl⟩

end Morfuse.Sched
