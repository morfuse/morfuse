import MorfuseModel.Sched.MachineIdleAll
import MorfuseModel.Sched.MachineInstReset
/-!
# Between host operations every thread record is a complete idle thread

`reachable_hinv3`: in every reachable state (modulo fuel) `HInv2` holds and `W []`: every record has its VM
and the VM is idle.  Consequence: `Reset()` / recompile leave no record at all, and no queued event.
-/
namespace Morfuse.Sched

theorem killAllInsts_w {s : State} (hn : NInv s) (w : W [] s) : W [] (killAllInsts s) :=
  (wzQuiet.killAllInsts wqAll (fun A s t => WZ.setTh A s t _) (fun _ _ _ => WZ.of_eq rfl) [] hn).1 w

structure HInv3 (s : State) : Prop where
  h2 : HInv2 s
  w : W [] s

theorem HInv3.h {s : State} (h : HInv3 s) : HInv s := h.h2.h
theorem HInv3.inv {s : State} (h : HInv3 s) : Inv [] [] none s := h.h2.h.inv
theorem HInv3.n {s : State} (h : HInv3 s) : NInv s := h.h2.h.inv.n
theorem HInv3.j {s : State} (h : HInv3 s) : J [] s := h.h2.j

theorem wHost : HostKept W where
  toExecKept := wKept
  init := fun t th hf => by simp [thFind] at hf
  pop := fun _ w => w.congr rfl
  kill := killAllInsts_w
  setup := fun {s} _ _ _ w => (w.spawn _ s.nextTid).congr rfl

theorem hinv3_init : HInv3 ({} : State) := ⟨⟨hinv_init, j_init⟩, wHost.init⟩

theorem HostOp.apply_hinv3 {s : State} (h : Ok s (HInv3 s)) (op : HostOp) (hok : op.ok) :
    Ok (op.apply s) (HInv3 (op.apply s)) :=
  ((HostOp.apply_hinv2 (h.map (·.h2)) op hok).and (wHost.apply op hok (h.map fun h => ⟨h.h, h.w⟩))).map fun p =>
    ⟨p.1, p.2.2⟩

theorem reachable_hinv3 {s : State} (h : Reachable s) : Ok s (HInv3 s) :=
  ((reachable_hinv2 h).and (wHost.reachable h)).map fun p => ⟨p.1, p.2.2⟩

theorem threads_nil_of_none {ths : List (Nat × Th)} (h : ∀ t, thFind ths t = none) : ths = [] := by
  cases ths with
  | nil => rfl
  | cons e l => have := h e.1; rw [thFind_cons] at this; simp at this

theorem HInv3.empty {s : State} (h : HInv3 s) (hI : s.insts = []) :
    s.threads = [] ∧ s.insts = [] ∧ s.events = [] ∧ s.timer.elems = [] ∧ s.notify = [] ∧ s.waitFor = [] := by
  obtain ⟨hv, p3, p4, p5⟩ := clean_of_no_insts h.inv h.j hI
  have hth : s.threads = [] := threads_nil_of_none fun t => by
    cases hf : thFind s.threads t with
    | none => rfl
    | some th =>
      rcases h.w t th hf with ⟨c1, _⟩ | m
      · rw [hv t th hf] at c1; cases c1
      · cases m
  refine ⟨hth, hI, List.eq_nil_iff_forall_not_mem.2 fun ev he => ?_, p3, p4, p5⟩
  obtain ⟨th, h1, _⟩ := h.j.e ev he
  rw [hth] at h1
  simp [thFind] at h1

theorem killAllInsts_hinv3 {s : State} (h : HInv3 s) : Ok (killAllInsts s) (HInv3 (killAllInsts s)) :=
  ((jHost.moves.kill s (Ok.pure ⟨h.h, h.j⟩)).and (wHost.moves.kill s (Ok.pure ⟨h.h, h.w⟩))).map fun p =>
    ⟨⟨p.1.1, p.1.2⟩, p.2.2⟩

theorem killAllInsts_empty {s : State} (h : HInv3 s) :
    Ok (killAllInsts s) ((killAllInsts s).threads = [] ∧ (killAllInsts s).insts = [] ∧ (killAllInsts s).events = [] ∧
      (killAllInsts s).timer.elems = [] ∧ (killAllInsts s).notify = [] ∧ (killAllInsts s).waitFor = []) :=
  (killAllInsts_hinv3 h).map fun hX => hX.empty (killAllInsts_insts h.n h.j)

theorem hostReset_clean {s : State} (h : Ok s (HInv3 s)) :
    Ok (hostReset s) (((hostReset s).threads = [] ∧ (hostReset s).insts = [] ∧ (hostReset s).events = [] ∧
      (hostReset s).timer.elems = [] ∧ (hostReset s).notify = [] ∧ (hostReset s).waitFor = []) ∧ HInv3 (hostReset s)) :=
  h.bind' (HostOp.apply_oof .resetDirector nofun) fun hi => (killAllInsts_empty hi).and (HostOp.apply_hinv3 (Ok.pure hi) .resetDirector trivial)

end Morfuse.Sched
