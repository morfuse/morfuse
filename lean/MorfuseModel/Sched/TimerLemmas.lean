import MorfuseModel.Sched.Timer
import MorfuseModel.Common.Lists
/-!
# The lemmas of `con::timer`: what `GetNextElement` returns, and what `add` / `remove` / `next` keep

`scan` walks the indexed elements from the highest index down.  `pickFrom` is the same choice by recursion on the
elements in storage order (the head is looked at last); `scan_indexed` says so, and the specification of `next` is
read off `pickFrom`.
-/
namespace Morfuse.Sched.Timer

abbrev IE := Nat × (Nat × Nat)     -- (index, (thread, due))

def pickFrom (b : Nat) : List (Nat × Nat) → Nat × Option IE
  | [] => (b, none)
  | x :: l =>
    if x.2 ≤ (pickFrom b l).1 then (x.2, some (0, x)) else ((pickFrom b l).1, (pickFrom b l).2.map (Prod.map (· + 1) id))

theorem scan_concat (c : IE) : ∀ (l : List IE) (best : Nat) (acc : Option IE),
    scan (l ++ [c]) best acc = if c.2.2 ≤ (scan l best acc).1 then (c.2.2, some c) else scan l best acc
  | [], _, _ => by obtain ⟨i, e, d⟩ := c; rfl
  | (i, (e, d)) :: rest, best, acc => by
    simp only [List.cons_append, scan]
    split <;> exact scan_concat c rest _ _

theorem scan_map (f : Nat → Nat) : ∀ (l : List IE) (best : Nat) (acc : Option IE),
    scan (l.map (Prod.map f id)) best (acc.map (Prod.map f id)) =
      ((scan l best acc).1, (scan l best acc).2.map (Prod.map f id))
  | [], _, _ => rfl
  | (i, (e, d)) :: rest, best, acc => by
    simp only [List.map_cons, Prod.map, id, scan]
    split
    · exact scan_map f rest d (some (i, (e, d)))
    · exact scan_map f rest best acc

theorem indexed_cons (x : Nat × Nat) (l : List (Nat × Nat)) :
    indexed (x :: l) = (0, x) :: (indexed l).map (Prod.map (· + 1) id) := by
  simp only [indexed, List.length_cons, List.range_succ_eq_map, List.zip_cons_cons, List.zip_map_left]

theorem scan_indexed (b : Nat) : ∀ l : List (Nat × Nat), scan (indexed l).reverse b none = pickFrom b l
  | [] => rfl
  | x :: l => by
    rw [indexed_cons, List.reverse_cons, ← List.map_reverse, scan_concat]
    have h := scan_map (· + 1) (indexed l).reverse b none
    rw [Option.map_none, scan_indexed b l] at h
    rw [h, pickFrom]

theorem pickFrom_spec (b : Nat) : ∀ l : List (Nat × Nat),
    ((pickFrom b l).2 = none → (pickFrom b l).1 = b ∧ ∀ x ∈ l, b < x.2) ∧
    (∀ i x, (pickFrom b l).2 = some (i, x) → (pickFrom b l).1 = x.2 ∧ x.2 ≤ b ∧ l[i]? = some x ∧
      ∀ j y, l[j]? = some y → y.2 ≤ b → x.2 ≤ y.2 ∧ (y.2 = x.2 → i ≤ j))
  | [] => ⟨fun _ => ⟨rfl, fun _ h => nomatch h⟩, fun _ _ h => nomatch h⟩
  | a :: l => by
    obtain ⟨hn, hs⟩ := pickFrom_spec b l
    rw [pickFrom]
    cases hr : (pickFrom b l).2 with
    | none =>
      -- nothing in the tail is due: the head is taken iff it is due
      obtain ⟨h1, h2⟩ := hn hr
      rw [h1]
      split
      · next ha =>
        refine ⟨(fun h => nomatch h), fun i x h => ?_⟩
        cases h
        refine ⟨rfl, ha, rfl, fun j y hj hy => ?_⟩
        cases j with
        | zero => cases hj; exact ⟨Nat.le_refl _, fun _ => Nat.le_refl _⟩
        | succ j => exact absurd hy (Nat.not_le.2 (h2 y (List.mem_of_getElem? hj)))
      · next ha =>
        refine ⟨fun _ => ⟨rfl, fun x hx => ?_⟩, fun i x h => nomatch h⟩
        rcases List.mem_cons.1 hx with rfl | hx
        · exact Nat.not_le.1 ha
        · exact h2 x hx
    | some c =>
      -- the tail's choice `c` stands unless the head is due no later
      obtain ⟨i, x⟩ := c
      obtain ⟨h1, h2, h3, h4⟩ := hs i x hr
      rw [h1]
      split
      · next ha =>
        refine ⟨(fun h => nomatch h), fun i' x' h => ?_⟩
        cases h
        refine ⟨rfl, Nat.le_trans ha h2, rfl, fun j y hj hy => ?_⟩
        cases j with
        | zero => cases hj; exact ⟨Nat.le_refl _, fun _ => Nat.le_refl _⟩
        | succ j => exact ⟨Nat.le_trans ha (h4 j y hj hy).1, fun _ => Nat.zero_le _⟩
      · next ha =>
        refine ⟨(fun h => nomatch h), fun i' x' h => ?_⟩
        cases h
        refine ⟨rfl, h2, h3, fun j y hj hy => ?_⟩
        cases j with
        | zero => cases hj; exact ⟨Nat.le_of_lt (Nat.not_le.1 ha), fun e => absurd (Nat.le_of_eq e) ha⟩
        | succ j => exact ⟨(h4 j y hj hy).1, fun e => Nat.succ_le_succ ((h4 j y hj hy).2 e)⟩

/-- Specification of `timer::GetNextElement` when it returns an element. -/
theorem next_some {t t' : Timer} {e d : Nat} (h : t.next = (some (e, d), t')) :
    ∃ i, t.elems[i]? = some (e, d) ∧ d ≤ t.mtime ∧
      (∀ j e' d', t.elems[j]? = some (e', d') → d' ≤ t.mtime → d ≤ d' ∧ (d' = d → i ≤ j)) ∧
      t' = { t with elems := t.elems.eraseIdx i } := by
  rw [next, scan_indexed] at h
  split at h
  · next i ed hs =>
    cases h
    obtain ⟨_, h2, h3, h4⟩ := (pickFrom_spec t.mtime t.elems).2 i (e, d) hs
    exact ⟨i, h3, h2, fun j e' d' hj hd => h4 j (e', d') hj hd, rfl⟩
  · cases h

/-- Specification of `timer::GetNextElement` when it returns nothing. -/
theorem next_none {t t' : Timer} (h : t.next = (none, t')) :
    (∀ ed ∈ t.elems, t.mtime < ed.2) ∧ t' = { t with dirty := false } := by
  rw [next, scan_indexed] at h
  split at h
  · cases h
  · next hs =>
    cases h
    exact ⟨((pickFrom_spec t.mtime t.elems).1 hs).2, rfl⟩

end Morfuse.Sched.Timer

namespace Morfuse.Sched

theorem Timer.remove_mtime (tm : Timer) (e : Nat) : (tm.remove e).mtime = tm.mtime := by
  unfold Timer.remove; split <;> rfl
theorem Timer.add_mtime (tm : Timer) (e d : Nat) : (tm.add e d).mtime = tm.mtime := rfl
theorem Timer.next_mtime (tm : Timer) : tm.next.2.mtime = tm.mtime := by
  unfold Timer.next; split <;> rfl

theorem Timer.remove_sub (tm : Timer) (e : Nat) : ∀ x ∈ (tm.remove e).elems, x ∈ tm.elems := by
  intro x hx
  unfold Timer.remove at hx
  split at hx
  · exact (List.eraseIdx_sublist _ _).subset hx
  · exact hx

theorem Timer.next_sub (tm : Timer) : ∀ x ∈ tm.next.2.elems, x ∈ tm.elems := by
  intro x hx
  unfold Timer.next at hx
  split at hx
  · exact (List.eraseIdx_sublist _ _).subset hx
  · exact hx

theorem Timer.next_some_mem (tm : Timer) {e d : Nat} {tm' : Timer} (h : tm.next = (some (e, d), tm')) :
    (e, d) ∈ tm.elems := by
  obtain ⟨i, hi, _⟩ := Timer.next_some h
  exact List.mem_of_getElem? hi

theorem lastIdxOf_spec {l : List (Nat × Nat)} {e i : Nat} (h : Timer.lastIdxOf l e = some i) :
    ∃ d, l[i]? = some (e, d) := by
  unfold Timer.lastIdxOf at h
  have hm := List.mem_of_find?_eq_some h
  have hp := List.find?_some h
  simp only [List.mem_reverse, List.mem_range] at hm
  simp only [beq_iff_eq] at hp
  refine ⟨(l.getD i (0, 0)).2, ?_⟩
  rw [List.getD_eq_getElem?_getD, List.getElem?_eq_getElem hm] at hp
  simp only [Option.getD_some] at hp
  rw [List.getElem?_eq_getElem hm, List.getD_eq_getElem?_getD, List.getElem?_eq_getElem hm]
  simp only [Option.getD_some, Option.some.injEq]
  rw [← hp]

theorem lastIdxOf_none {l : List (Nat × Nat)} {e : Nat} (h : Timer.lastIdxOf l e = none) :
    e ∉ l.map (·.1) := by
  unfold Timer.lastIdxOf at h
  rw [List.find?_eq_none] at h
  intro hm
  obtain ⟨x, hx, hxe⟩ := List.mem_map.1 hm
  obtain ⟨i, hi, hget⟩ := List.mem_iff_getElem.1 hx
  have := h i (by simp [hi])
  apply this
  rw [List.getD_eq_getElem?_getD, List.getElem?_eq_getElem hi]
  simp [hget, hxe]

theorem nodup_map_eraseIdx {l : List (Nat × Nat)} (h : (l.map (·.1)).Nodup) (i : Nat) :
    ((l.eraseIdx i).map (·.1)).Nodup := ((List.eraseIdx_sublist l i).map _).nodup h

theorem not_mem_eraseIdx_of_nodup {l : List (Nat × Nat)} {i : Nat} {x : Nat × Nat}
    (hn : (l.map (·.1)).Nodup) (h : l[i]? = some x) : x.1 ∉ (l.eraseIdx i).map (·.1) := fun hm =>
  ne_of_mem_eraseIdx hn (by rw [List.getElem?_map, h]; rfl) (map_eraseIdx _ l i ▸ hm) rfl

theorem mem_eraseIdx_of_ne {l : List (Nat × Nat)} {i : Nat} {x y : Nat × Nat} (hy : y ∈ l)
    (hx : l[i]? = some x) (hne : y.1 ≠ x.1) : y ∈ l.eraseIdx i := by
  induction l generalizing i with
  | nil => simp at hy
  | cons a l ih =>
    cases i with
    | zero =>
      simp at hx; subst hx
      rcases List.mem_cons.1 hy with h | h
      · subst h; exact absurd rfl hne
      · simpa using h
    | succ i =>
      simp only [List.getElem?_cons_succ] at hx
      simp only [List.eraseIdx_cons_succ, List.mem_cons]
      rcases List.mem_cons.1 hy with h | h
      · exact Or.inl h
      · exact Or.inr (ih h hx)

/-- "the timer's dirty flag is sound": not dirty ⇒ no element is due -/
def TD (tm : Timer) : Prop := tm.dirty = false → ∀ e ∈ tm.elems, tm.mtime < e.2

theorem TD.remove {tm : Timer} (h : TD tm) (e : Nat) : TD (tm.remove e) := by
  unfold Timer.remove
  split
  · intro hd x hx
    exact h hd x ((List.eraseIdx_sublist _ _).subset hx)
  · exact h

theorem TD.add {tm : Timer} (h : TD tm) (e due : Nat) : TD (tm.add e due) := by
  intro hd x hx
  simp only [Timer.add, Bool.or_eq_false_iff, decide_eq_false_iff_not] at hd
  simp only [Timer.add, List.mem_append, List.mem_singleton] at hx
  rcases hx with hx | hx
  · exact h hd.1 x hx
  · subst hx; show tm.mtime < due; omega

theorem TD.next {tm : Timer} (h : TD tm) : TD tm.next.2 := by
  cases hn : tm.next with
  | mk r tm' =>
    cases r with
    | none =>
      obtain ⟨h1, h2⟩ := Timer.next_none hn
      subst h2
      intro _ x hx; exact h1 x hx
    | some ed =>
      obtain ⟨e, d⟩ := ed
      obtain ⟨i, _, _, _, h2⟩ := Timer.next_some hn
      subst h2
      intro hd x hx
      exact h hd x ((List.eraseIdx_sublist _ _).subset hx)

theorem TD.setTime (tm : Timer) (t : Nat) : TD (tm.setTime t) := by
  intro hd; simp [Timer.setTime] at hd

end Morfuse.Sched
