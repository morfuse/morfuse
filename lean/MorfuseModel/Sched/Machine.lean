import MorfuseModel.Sched.Timer
import MorfuseModel.Sched.Tables
/-!
# The cooperative scheduler as an executable machine

Transcribes, at the granularity of the C++ call structure, `ScriptContext::Execute`,
`ScriptMaster::{AddTiming,ExecuteRunning,ExecuteThread}`, `ScriptThread::{ScriptExecuteInternal,
Stop,StartTiming,Wait,Pause,Resume,StartedWaitFor,StoppedWaitFor,StoppedNotify,~ScriptThread}`,
`ScriptVM::{Execute,End,NotifyDelete,Suspend,Resume}`, `ScriptClass::{AddThread,RemoveThread}`,
`Listener::{Register,Unregister,UnregisterAll,CancelWaitingAll,EndOn,~Listener}` (DESIGN.md 7.4.1).

Nested C++ calls are nested Lean calls; every function takes fuel and returns the state unchanged
when it runs out (the driver reports that as `FUEL`).  Listener ids: objects `1..99`, threads `≥ 100`.
-/
namespace Morfuse.Sched

/-- script values as far as the host-call protocol needs them -/
inductive V | nil | int (n : Nat) | str (s : String) deriving Repr, DecidableEq, Inhabited

def V.show : V → String
  | .nil => "NIL" | .int n => toString n | .str s => s

/-- operand of `end` -/
inductive EndV | none | lit (n : Nat) | param (i : Nat) deriving Repr, DecidableEq, Inhabited

inductive Instr
  | mark (k : Nat)
  | pparam (i : Nat)                            -- `println "p" local.p<i>`
  | wait (ms : Nat)
  | waittill (o : Nat) (names : List Nat)      -- one name: `waittill`; several: `waittill_any`
  | waittillTimeout (o n ms : Nat)             -- `waittill_timeout`
  | notify (o n : Nat)
  | endon (o n : Nat)
  | delete (o : Nat)
  | thread (l : Nat)
  | waitthread (l : Nat)
  | pause
  | waitParent (ms : Nat)                       -- `local.p0 wait d` where p0 is the spawning thread
  | waittillParent (names : List Nat)           -- `local.p0 waittill n` / `waittill_any`: the source is a *thread* object
  | notifyParent (n : Nat)                      -- `local.p0 notify n`
  | end_ (v : EndV)
  | spawn (o : Nat)
  deriving Repr, DecidableEq, Inhabited

inductive TS | running | timing | waiting deriving Repr, DecidableEq, Inhabited
inductive VS | running | suspended | idling | destroyed deriving Repr, DecidableEq, Inhabited

/-- value seen by the host in its `Event` after `ExecuteThread(script, event, label)` -/
inductive Ret | open_ | none | pending | nil | val (v : V) deriving Repr, DecidableEq, Inhabited

structure Th where
  label : Nat
  pc : Nat := 0
  ts : TS := .running
  vm : VS := .running
  inst : Nat
  hasVM : Bool := true        -- `m_ScriptVM != nullptr` (false once the destructor has started)
  vmObj : Bool := true        -- the `ScriptVM` object still exists
  attached : Bool := true     -- `vm->m_ScriptClass != nullptr`
  call : Option Nat := none   -- host call whose result cell this thread's VM shares
  dead : Bool := false        -- the `ScriptThread` object is gone (weak references read null)
  params : List V := []       -- the label's declared parameters after binding
  parent : Nat := 0           -- the thread that spawned this one (passed as first argument), 0 = none
  deriving Repr, Inhabited

def nameDelete : Nat := 1000
def nameRemove : Nat := 1001

structure State where
  prog : List (List Instr) := []
  progParams : List Nat := []                -- declared parameter count of every label
  clock : Nat := 0
  scaled : Nat := 0
  lastClock : Nat := 0
  timer : Timer := {}
  threads : List (Nat × Th) := []
  objs : List Nat := []
  insts : List (Nat × List Nat) := []        -- instance ↦ VM chain (head first)
  notify : Tbl := []
  waitFor : Tbl := []
  endOn : Tbl := []
  cur : Option Nat := none
  out : List String := []                    -- reverse order
  nextTid : Nat := 100
  nextInst : Nat := 1
  calls : List (Nat × Ret) := []
  nextCall : Nat := 1
  outOfFuel : Bool := false
  depth : Nat := 0                           -- `ScriptExecutionStack::stackDepth`
  events : List (Nat × Nat) := []            -- posted `_cancelwaiting` events (thread, due), queue order
  deriving Inhabited

namespace State

/-- object 50 is `level`: owned by the context, alive for its whole life, archived by the host -/
def objAlive (s : State) (o : Nat) : Bool := o == 50 || s.objs.contains o
def th? (s : State) (t : Nat) : Option Th := (s.threads.find? (·.1 == t)).map (·.2)
def setTh (s : State) (t : Nat) (f : Th → Th) : State :=
  { s with threads := s.threads.map (fun e => if e.1 == t then (e.1, f e.2) else e) }
def isThread (t : Nat) : Bool := t ≥ 100
/-- a weak reference to `l` is still non-null: the object's destructor has not finished -/
def alive (s : State) (l : Nat) : Bool :=
  if isThread l then s.threads.any (fun e => e.1 == l && !e.2.dead) else objAlive s l
def hasVM (s : State) (t : Nat) : Bool := match s.th? t with | some th => th.hasVM | none => false
def emit (s : State) (m : String) : State := { s with out := m :: s.out }
def setRet (s : State) (c : Nat) (r : Ret) : State :=
  { s with calls := s.calls.map (fun e => if e.1 == c then (e.1, r) else e) }
def getRet (s : State) (c : Nat) : Ret := ((s.calls.find? (·.1 == c)).map (·.2)).getD .none

end State

open State

/-- the loop `STORE_PARAM; LOAD_LOCAL_VAR p` over the declared parameters, with the VM's `fastIndex`:
    `if (fastIndex < NumArgs) top = arg[++fastIndex] else top = NIL` -/
def bindLoop : Nat → Nat → List V → List V
  | 0, _, _ => []
  | n + 1, fastIndex, args =>
    if fastIndex < args.length then args.getD fastIndex .nil :: bindLoop n (fastIndex + 1) args
    else .nil :: bindLoop n fastIndex args

/-- `ScriptClass::RemoveThread`: unlink the VM; the instance dies with its last thread -/
def removeFromInst (s : State) (t : Nat) (i : Nat) : State :=
  match s.insts.find? (·.1 == i) with
  | none => s
  | some (_, chain) =>
    match chain with
    | h :: rest =>
      if h == t then
        if rest.isEmpty then { s with insts := s.insts.filter (fun e => !(e.1 == i)) }
        else { s with insts := s.insts.map (fun e => if e.1 == i then (i, rest) else e) }
      else { s with insts := s.insts.map (fun e => if e.1 == i then (i, chain.erase t) else e) }
    | [] => s

/-- `ScriptVM::Suspend` -/
def vmSuspend (s : State) (t : Nat) : State :=
  s.setTh t (fun th => if th.vm == .running then { th with vm := .suspended } else th)

/-- `ScriptVM::Resume(false)` -/
def vmResume (s : State) (t : Nat) : State :=
  s.setTh t (fun th => if th.vm == .suspended then { th with vm := .running } else th)

/-- `EventQueue::PostEvent`: sorted by due time, after every event with the same or an earlier time -/
def postEvent (s : State) (t due : Nat) : State :=
  let before := s.events.takeWhile (fun e => e.2 ≤ due)
  let after := s.events.dropWhile (fun e => e.2 ≤ due)
  { s with events := before ++ (t, due) :: after }

/-- `CancelPendingEvents` / `CancelEventsOfType(_cancelwaiting)` of one thread -/
def cancelEvents (s : State) (t : Nat) : State := { s with events := s.events.filter (fun e => !(e.1 == t)) }

/-- `ScriptMaster::AddTiming` -/
def addTiming (s : State) (t : Nat) (d : Nat) : State :=
  { s with timer := s.timer.add t (s.scaled + d) }

/-- `Listener::UnregisterTargets(name, list, stopped)`: walks `list` from last to first -/
def unregisterTargets (s : State) (src name : Nat) (list : List Nat) : State × List Nat :=
  list.reverse.foldl (fun (acc : State × List Nat) l =>
    if acc.1.alive l then
      let (w', found) := Tbl.removeAll acc.1.waitFor (l, name) src
      ({ acc.1 with waitFor := w' }, if found then acc.2 ++ [l] else acc.2)
    else acc) (s, [])

/-- `Listener::CancelWaitingSources(name, list, stopped)` for waiter `w` -/
def cancelWaitingSources (s : State) (w name : Nat) (list : List Nat) (stopped : List Nat) : State × List Nat :=
  list.reverse.foldl (fun (acc : State × List Nat) src =>
    if acc.1.alive src then
      let (n', found) := Tbl.removeAll acc.1.notify (src, name) w
      ({ acc.1 with notify := n' }, if found then acc.2 ++ [src] else acc.2)
    else acc) (s, stopped)

mutual

/-- `delete thread` -/
def deleteThread : Nat → State → Nat → State
  | 0, s, _ => { s with outOfFuel := true }
  | fuel + 1, s, t =>
    match s.th? t with
    | none => s
    | some th =>
      if !th.hasVM then s else
      -- ~ScriptThread
      let s := s.setTh t (fun th => { th with hasVM := false })
      let s :=
        if th.ts == .timing then { (s.setTh t (fun th => { th with ts := .running })) with timer := s.timer.remove t }
        else if th.ts == .waiting then cancelWaitingAll fuel (s.setTh t (fun th => { th with ts := .running })) t
        else s
      -- vm->NotifyDelete()
      let s := match s.th? t with
        | none => s
        | some th =>
          let s1 := s.setTh t (fun th => { th with vm := .destroyed })
          let s1 := if th.attached then removeFromInst s1 t th.inst else s1
          if th.vm == .idling then s1.setTh t (fun th => { th with vmObj := false }) else s1
      -- ~Listener
      let s := cancelEvents s t
      let s := unregister fuel s t nameDelete
      let s := unregister fuel s t nameRemove
      let s := unregisterAll fuel s t
      let s := cancelWaitingAll fuel s t
      -- ~AbstractClass: weak references read null from here on; the record goes once the VM is gone too
      match s.th? t with
      | none => s
      | some th =>
        if th.vmObj then s.setTh t (fun th => { th with dead := true })   -- VM still on the C++ stack
        else { s with threads := s.threads.filter (fun e => !(e.1 == t)) }

/-- `Listener::StoppedNotify` (virtual): a thread deletes itself, a plain object does nothing -/
def stoppedNotify : Nat → State → Nat → State
  | 0, s, _ => { s with outOfFuel := true }
  | fuel + 1, s, l =>
    if isThread l then (if s.hasVM l then deleteThread fuel s l else s) else s

/-- `ScriptThread::Stop` -/
def stop : Nat → State → Nat → State
  | 0, s, _ => { s with outOfFuel := true }
  | fuel + 1, s, t =>
    match s.th? t with
    | none => s
    | some th =>
      if th.ts == .timing then
        { (s.setTh t (fun th => { th with ts := .running })) with timer := s.timer.remove t }
      else if th.ts == .waiting then
        cancelWaitingAll fuel (s.setTh t (fun th => { th with ts := .running })) t
      else s

/-- `Listener::CancelWaitingAll` for listener `w` (first `CancelWaiting(0)`, then every name) -/
def cancelWaitingAll : Nat → State → Nat → State
  | 0, s, _ => { s with outOfFuel := true }
  | fuel + 1, s, w =>
    -- CancelWaiting(0)
    let s :=
      match Tbl.find s.waitFor (w, 0) with
      | none => s
      | some list =>
        let (s, stopped) := cancelWaitingSources s w 0 list []
        let s := { s with waitFor := Tbl.removeKey s.waitFor (w, 0) }
        let s := if !Tbl.hasOwner s.waitFor w then stoppedWaitFor fuel s w 0 false else s
        stopped.reverse.foldl (fun s src => if s.alive src then stoppedNotify fuel s src else s) s
    if !Tbl.hasOwner s.waitFor w then s else
    let (s, stopped) := (Tbl.keysOf s.waitFor w).foldl
      (fun (acc : State × List Nat) e => cancelWaitingSources acc.1 w e.1 e.2 acc.2) (s, [])
    let s := { s with waitFor := Tbl.removeOwner s.waitFor w }
    let s := stoppedWaitFor fuel s w 0 false
    stopped.reverse.foldl (fun s src => if s.alive src then stoppedNotify fuel s src else s) s

/-- `ScriptThread::StoppedWaitFor(name, bDeleting)` (a plain object ignores it) -/
def stoppedWaitFor : Nat → State → Nat → Nat → Bool → State
  | 0, s, _, _, _ => { s with outOfFuel := true }
  | fuel + 1, s, t, name, deleting =>
    if !isThread t then s else
    match s.th? t with
    | none => s
    | some th =>
      if !th.hasVM then s
      else if deleting then deleteThread fuel s t
      else
      let s := cancelEvents s t          -- CancelEventsOfType(EV_ScriptThread_CancelWaiting)
      if th.ts == .waiting then
        if name != 0 then
          if th.vm == .idling then scriptExecuteInternal fuel s t   -- Execute()
          else vmResume s t
        else
          -- StartTiming(): Stop(); state = Timing; AddTiming(this, 0)
          let s := stop fuel s t
          if !s.alive t then s else       -- deleted by its own Stop() (wait cycle): StartTiming returns
          addTiming (s.setTh t (fun th => { th with ts := .timing })) t 0
      else s

/-- `Listener::Unregister(name)` = script `notify` -/
def unregister : Nat → State → Nat → Nat → State
  | 0, s, _, _ => { s with outOfFuel := true }
  | fuel + 1, s, src, name =>
    -- the endon list first
    let (s, deleteSelf) :=
      if !Tbl.hasOwner s.endOn src then (s, false) else
      match Tbl.find s.endOn (src, name) with
      | none => (s, false)
      | some listeners =>
        let s := { s with endOn := Tbl.removeKey s.endOn (src, name) }
        listeners.reverse.foldl (fun (acc : State × Bool) l =>
          if acc.1.alive l then
            if l == src && (name == nameRemove || name == nameDelete || acc.2) then acc
            else
              let ds := acc.2 || (l == src)
              (deleteThread fuel acc.1 l, ds)
          else acc) (s, false)
    if deleteSelf then s else
    if !Tbl.hasOwner s.notify src then s else
    match Tbl.find s.notify (src, name) with
    | none => s
    | some list =>
      let (s, stopped) := unregisterTargets s src name list
      let s := { s with notify := Tbl.removeKey s.notify (src, name) }
      let s := if !Tbl.hasOwner s.notify src then stoppedNotify fuel s src else s
      stopped.reverse.foldl (fun s l => if s.alive l then stoppedWaitFor fuel s l name false else s) s

/-- `Listener::UnregisterAll` -/
def unregisterAll : Nat → State → Nat → State
  | 0, s, _ => { s with outOfFuel := true }
  | fuel + 1, s, src =>
    let s := unregister fuel s src 0
    let s := { s with endOn := Tbl.removeOwner s.endOn src }
    if !Tbl.hasOwner s.notify src then s else
    let (s, stopped) := (Tbl.keysOf s.notify src).foldl
      (fun (acc : State × List (Nat × Nat)) e =>
        let (s', st) := unregisterTargets acc.1 src e.1 e.2
        (s', acc.2 ++ st.map (fun l => (l, e.1)))) (s, [])
    let s := { s with notify := Tbl.removeOwner s.notify src }
    let s := stoppedNotify fuel s src
    stopped.reverse.foldl (fun s (ln : Nat × Nat) =>
      if s.alive ln.1 then stoppedWaitFor fuel s ln.1 ln.2 true else s) s

/-- `ScriptThread::ScriptExecuteInternal` -/
def scriptExecuteInternal : Nat → State → Nat → State
  | 0, s, _ => { s with outOfFuel := true }
  | fuel + 1, s, t =>
    let savedCur := s.cur
    let s := { s with cur := some t }     -- (m_PreviousThread is written here too; nothing modelled reads it)
    let s := stop fuel s t
    -- deleted by its own Stop() (wait cycle between threads): nothing to execute
    let s := if s.alive t then execVM fuel s t else s
    -- restore (both are SafePtr: a thread destroyed meanwhile reads null)
    let s := { s with cur := savedCur.bind (fun c => if s.alive c then some c else none) }
    executeRunning fuel s

/-- `ScriptMaster::ExecuteRunning` -/
def executeRunning : Nat → State → State
  | 0, s => { s with outOfFuel := true }
  | fuel + 1, s =>
    if s.cur.isSome || s.depth > 0 then s     -- a VM activation is still on the native stack
    else if !s.timer.dirty then s
    else drain fuel s

/-- the `while ((m_CurrentThread = GetNextElement()))` loop -/
def drain : Nat → State → State
  | 0, s => { s with outOfFuel := true }
  | fuel + 1, s =>
    match s.timer.next with
    | (none, tm) => { s with timer := tm, cur := none }
    | (some (t, _), tm) =>
      let s := { s with timer := tm, cur := some t }
      -- Resume(): SetThreadState(Running); m_ScriptVM->Execute()
      let s := s.setTh t (fun th => { th with ts := .running })
      let s := execVM fuel s t
      drain fuel s

/-- `ScriptVM::Execute` -/
def execVM : Nat → State → Nat → State
  | 0, s, _ => { s with outOfFuel := true }
  | fuel + 1, s, t =>
    let s := s.setTh t (fun th => { th with vm := .running })
    let s := { s with depth := s.depth + 1 }          -- ScriptExecutionStack
    let s := process fuel s t
    let s := { s with depth := s.depth - 1 }
    match s.th? t with
    | none => s
    | some th =>
      match th.vm with
      | .suspended => s.setTh t (fun th => { th with vm := .idling })
      | .destroyed =>
        -- delete this (the VM); the thread record disappears with it
        { s with threads := s.threads.filter (fun e => !(e.1 == t)) }
      | _ => s

/-- `ScriptVM::Process`: run instructions while the VM is `Running` -/
def process : Nat → State → Nat → State
  | 0, s, _ => { s with outOfFuel := true }
  | fuel + 1, s, t =>
    match s.th? t with
    | none => s
    | some th =>
      if th.vm != .running then s else
      let body := s.prog.getD th.label []
      let ins := body.getD th.pc (.end_ .none)
      let s := s.setTh t (fun th => { th with pc := th.pc + 1 })
      let s := exec fuel s t th ins
      process fuel s t

/-- one instruction of thread `t` -/
def exec : Nat → State → Nat → Th → Instr → State
  | 0, s, _, _, _ => { s with outOfFuel := true }
  | fuel + 1, s, t, th, ins =>
    match ins with
    | .mark k => s.emit s!"m{k}"
    | .pparam i => s.emit s!"p_{(th.params.getD i .nil).show}"
    | .wait ms =>
      -- Wait(): StartTiming(time); Suspend()
      let s := stop fuel s t
      let s := addTiming (s.setTh t (fun th => { th with ts := .timing })) t ms
      vmSuspend s t
    | .waittill o names =>
      if !s.objAlive o then s else          -- `$o` is NULL: script error, statement skipped
      match s.cur with
      | none => s
      | some c =>
        names.foldl (fun s n =>
          -- Register(name, CurrentThread()): RegisterSource then RegisterTarget
          let s := { s with notify := Tbl.push s.notify (o, n) c }
          let s :=
            if !Tbl.hasOwner s.waitFor c then
              -- StartedWaitFor(): Stop(); StartWaiting(); Suspend()
              let s := stop fuel s c
              vmSuspend (s.setTh c (fun th => { th with ts := .waiting })) c
            else s
          { s with waitFor := Tbl.push s.waitFor (c, n) o }) s
    | .waittillTimeout o n ms =>
      if !s.objAlive o then s else
      match s.cur with
      | none => s
      | some c =>
        let s := { s with notify := Tbl.push s.notify (o, n) c }
        let s :=
          if !Tbl.hasOwner s.waitFor c then
            let s := stop fuel s c
            vmSuspend (s.setTh c (fun th => { th with ts := .waiting })) c
          else s
        let s := { s with waitFor := Tbl.push s.waitFor (c, n) o }
        -- CurrentThread()->PostEvent(new Event(EV_ScriptThread_CancelWaiting), timeout)
        postEvent s c (s.clock + ms)
    | .notify o n =>
      if !s.objAlive o then s else unregister fuel s o n
    | .endon o n =>
      if !s.objAlive o then s else
      match s.cur with
      | none => s
      | some c => { s with endOn := Tbl.pushUnique s.endOn (o, n) c }
    | .delete o =>
      if !s.objs.contains o then s else
      -- ~Listener of the object
      let s := unregister fuel s o nameDelete
      let s := unregister fuel s o nameRemove
      let s := unregisterAll fuel s o
      let s := cancelWaitingAll fuel s o
      { s with objs := s.objs.erase o }
    | .spawn o =>
      if s.objs.contains o then s else { s with objs := s.objs ++ [o] }
    | .thread l =>
      if l ≥ s.prog.length then s else
      let t' := s.nextTid
      let s := { s with nextTid := t' + 1,
                        threads := s.threads ++ [(t', ({ label := l, inst := th.inst, params := bindLoop (s.progParams.getD l 0) 0 [], parent := t } : Th))],
                        insts := s.insts.map (fun (e : Nat × List Nat) => if e.1 == th.inst then (e.1, t' :: e.2) else e) }
      scriptExecuteInternal fuel s t'
    | .waitthread l =>
      if l ≥ s.prog.length then s else
      -- `waitthread` is answered by `Listener::WaitCreateThread` on the *thread* object, whose
      -- `CreateThreadInternal` is the `Listener` one: a new script instance (self = the thread)
      let t' := s.nextTid
      let i' := s.nextInst
      let s := { s with nextTid := t' + 1, nextInst := i' + 1,
                        threads := s.threads ++ [(t', ({ label := l, inst := i', params := bindLoop (s.progParams.getD l 0) 0 [], parent := t } : Th))],
                        insts := (i', [t']) :: s.insts }
      match s.cur with
      | none => scriptExecuteInternal fuel s t'
      | some c =>
        -- thread->Register(0, CurrentThread())
        let s := { s with notify := Tbl.push s.notify (t', 0) c }
        let s :=
          if !Tbl.hasOwner s.waitFor c then
            let s := stop fuel s c
            vmSuspend (s.setTh c (fun th => { th with ts := .waiting })) c
          else s
        let s := { s with waitFor := Tbl.push s.waitFor (c, 0) t' }
        scriptExecuteInternal fuel s t'
    | .pause =>
      let s := stop fuel s t
      vmSuspend s t
    | .waitParent ms =>
      -- the `wait` command sent to another thread object: `ScriptThread::EventWait` → `Wait(ms)` on it
      if th.parent == 0 || !s.alive th.parent || !s.hasVM th.parent then s else   -- NIL / NULL listener: script error
      let p := th.parent
      let s := stop fuel s p
      if !s.alive p then s else         -- `p` was deleted by its own Stop() (wait cycle): Wait returns
      let s := addTiming (s.setTh p (fun th => { th with ts := .timing })) p ms
      vmSuspend s p
    | .waittillParent names =>
      -- `Listener::WaitTill` on a thread object (threads are listeners); NIL / NULL receiver: script error
      if th.parent == 0 || !s.alive th.parent then s else
      let o := th.parent
      match s.cur with
      | none => s
      | some c =>
        names.foldl (fun s n =>
          let s := { s with notify := Tbl.push s.notify (o, n) c }
          let s :=
            if !Tbl.hasOwner s.waitFor c then
              let s := stop fuel s c
              vmSuspend (s.setTh c (fun th => { th with ts := .waiting })) c
            else s
          { s with waitFor := Tbl.push s.waitFor (c, n) o }) s
    | .notifyParent n =>
      if th.parent == 0 || !s.alive th.parent then s else unregister fuel s th.parent n
    | .end_ ev =>
      -- End()/EndRef(): result into the shared cell, then `delete m_Thread`.  Ending with a NIL
      -- value is indistinguishable from a plain `end` for the host.
      let v : Option V := match ev with
        | .none => none
        | .lit n => some (.int n)
        | .param i => match th.params.getD i .nil with | .nil => none | x => some x
      let s := match th.call with
        | none => s
        | some c =>
          match s.getRet c, v with
          | .open_, some x => s.setRet c (.val x)        -- still inside the host call
          | .open_, none => s.setRet c .none             -- cell cleared: nothing is added to the Event
          | .pending, some x => s.setRet c (.val x)
          | .pending, none => s.setRet c .nil
          | _, _ => s
      deleteThread fuel (s.setTh t (fun th => { th with call := none })) t

end

/-! ### host operations -/

def defaultFuel : Nat := 4000

/-- `director.ExecuteThread(script, event, label)`; `label` out of range = label not found -/
def hostCall (s : State) (label : Nat) (args : List V := []) : State × String :=
  if label ≥ s.prog.length then (s, "err LabelNotFound") else
  let i := s.nextInst
  let t := s.nextTid
  let c := s.nextCall
  let s := { s with nextInst := i + 1, nextTid := t + 1, nextCall := c + 1,
                    insts := (i, [t]) :: s.insts,
                    threads := s.threads ++ [(t, ({ label := label, inst := i, call := some c, params := bindLoop (s.progParams.getD label 0) 0 args } : Th))],
                    calls := s.calls ++ [(c, .open_)] }
  let s := scriptExecuteInternal defaultFuel s t
  -- `if (!returnValue.IsNone()) ev.AddValue(std::move(returnValue))`: still a pointer = the thread lives on
  let s := if s.getRet c == .open_ then s.setRet c .pending else s
  (s, "ok")

/-- `~ScriptClass`: unlink from the director's list, then `KillThreads` (every VM is detached from the
    instance first, so its `NotifyDelete` does not call `RemoveThread`) -/
def killInst (s : State) (i : Nat) : State :=
  match s.insts.find? (·.1 == i) with
  | none => s
  | some (_, chain) =>
    let s := { s with insts := s.insts.filter (fun e => !(e.1 == i)) }
    chain.foldl (fun s t => deleteThread defaultFuel (s.setTh t (fun th => { th with attached := false })) t) s

/-- destroy every script instance that exists now (`ScriptMaster::ClearAll` → `FreeAll`, and
    `DeleteProgramScript` for the only program) -/
def killAllInsts (s : State) : State :=
  (s.insts.map (·.1)).foldl (fun s i => killInst s i) s

/-- `director.Reset()` -/
def hostReset (s : State) : State :=
  let s := killAllInsts s
  { s with prog := [], progParams := [] }

/-- `GetProgramScript(name, stream, recompile = true)`: instances of the old version are destroyed -/
def hostScript (s : State) (prog : List (List Instr)) (params : List Nat) : State :=
  let s := if s.prog.isEmpty then s else killAllInsts s
  { s with prog := prog, progParams := params }

/-- `EventQueue::ProcessPendingEvents`: deliver every due `_cancelwaiting` event
    (`ScriptThread::CancelWaiting` = `CancelWaitingAll`) -/
def processEvents : Nat → State → State
  | 0, s => { s with outOfFuel := true }
  | fuel + 1, s =>
    match s.events with
    | [] => s
    | (t, due) :: rest =>
      if due > s.clock then s else
      let s := { s with events := rest }
      let s := if s.alive t && s.hasVM t then cancelWaitingAll defaultFuel s t else s
      processEvents fuel s

/-- `ScriptContext::Execute()` at time scale 1 with the injected clock -/
def hostExecute (s : State) : State :=
  let delta := s.clock - s.lastClock
  let s := { s with scaled := s.scaled + delta, lastClock := s.clock }
  let s := { s with timer := s.timer.setTime s.clock }
  let s := processEvents defaultFuel s
  executeRunning defaultFuel s

end Morfuse.Sched
