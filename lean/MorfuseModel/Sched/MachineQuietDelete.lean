import MorfuseModel.Sched.MachineInvQuiet
/-!
# `~ScriptThread` for a relation kept by the destruction cascades

For `~ScriptThread` it is enough that a `QuietRel` is kept by the three steps of its own: the VM is given up,
`NotifyDelete` of a thread without VM, the end of the destructor of a thread whose VM is destroyed
(`QuietRel.deleteThread_succ`).
-/
namespace Morfuse.Sched

theorem thFind_notifyDelete (s : State) (t u : Nat) :
    thFind (notifyDelete s t).threads u =
      if u = t then (thFind s.threads t).map fun th => ndRec (th.vm == .idling) th else thFind s.threads u := by
  rw [notifyDelete_eq]
  cases hf : thFind s.threads t with
  | none =>
    simp only [Option.map_none]
    split
    · rename_i hut; rw [hut]; exact hf
    · rfl
  | some th =>
    simp only
    split
    · rw [removeFromInst_frame]; exact (thFind_setTh s t _ u).trans (by rw [hf]; rfl)
    · exact (thFind_setTh s t _ u).trans (by rw [hf]; rfl)

theorem notifyDelete_gone {s : State} {t : Nat} (h : NoVM s t) : Gone (notifyDelete s t) t := by
  intro th' hf
  rw [thFind_notifyDelete, if_pos rfl] at hf
  cases h0 : thFind s.threads t with
  | none => rw [h0] at hf; cases hf
  | some th =>
    rw [h0] at hf
    cases hf
    exact ⟨h th h0, rfl⟩

theorem thFind_finishDelete (s : State) (t u : Nat) :
    thFind (finishDelete s t).threads u =
      if u = t then (thFind s.threads t).bind fun th => if th.vmObj then some { th with dead := true } else none
      else thFind s.threads u := by
  unfold finishDelete
  cases hf : thFind s.threads t with
  | none =>
    simp only [Option.bind_none]
    split
    · rename_i hut; rw [hut]; exact hf
    · rfl
  | some th =>
    simp only
    by_cases hv : th.vmObj = true
    · rw [if_pos hv, thFind_setTh, hf]
      simp only [Option.map_some, Option.bind_some, hv, if_true]
    · rw [if_neg hv]
      simp only
      rw [thFind_filter_ne]
      simp only [Option.bind_some, hv, Bool.false_eq_true, if_false]

theorem notifyDelete_frame (s : State) (t : Nat) :
    ∃ ths ins, notifyDelete s t = { s with threads := ths, insts := ins } := by
  rw [notifyDelete_eq]
  split
  · exact ⟨_, _, rfl⟩
  · split
    · rw [removeFromInst_frame]; exact ⟨_, _, rfl⟩
    · exact ⟨_, _, rfl⟩

theorem finishDelete_frame (s : State) (t : Nat) : ∃ ths, finishDelete s t = { s with threads := ths } := by
  unfold finishDelete
  split
  · exact ⟨_, rfl⟩
  · split
    · exact ⟨_, rfl⟩
    · exact ⟨_, rfl⟩

theorem noVM_setTh (s : State) (t : Nat) : NoVM (s.setTh t fun th => { th with hasVM := false }) t := by
  intro th' h
  rcases thFind_setTh_some h with ⟨_, th, _, rfl⟩ | ⟨hne, _⟩
  · rfl
  · exact absurd rfl hne

namespace QuietRel
variable {R : List Nat → State → State → Prop} (hR : QuietRel R)
include hR

/-- The part of `~ScriptThread` after the VM is given up.  `NoVM` holds from there on and `Gone` after
    `NotifyDelete`, because the steps in between are quiet (`qAll`). -/
theorem deleteThread_tail
    (hnd : ∀ X s t, NoVM s t → R X s (Sched.cancelEvents (notifyDelete s t) t))
    (hfd : ∀ X s t, Gone s t → R X s (finishDelete s t))
    {fuel : Nat} (ih : QuietAll R fuel) (X : List Nat) {s : State} {t : Nat} {th : Th} (h : NInv s)
    (hf : thFind s.threads t = some th) :
    R X (s.setTh t fun th => { th with hasVM := false })
      (finishDelete (listenerEnd fuel (Sched.cancelEvents (notifyDelete (Sched.stopStep (cancelWaitingAll fuel)
        (s.setTh t (fun th => { th with hasVM := false })) t th) t) t) t) t) := by
  have ht : 100 ≤ t := (h.range t th hf).1
  have h0 : NInv (s.setTh t fun th => { th with hasVM := false }) := h.setTh t _
  have v1 : NoVM _ t := (noVM_setTh s t).of_q (qQuiet.stopStep (qAll fuel).cwa [] h0 t th)
  have h3 := deleteThread_head_ninv fuel h t th
  have g3 : Gone (Sched.cancelEvents (notifyDelete (Sched.stopStep (cancelWaitingAll fuel)
      (s.setTh t fun th => { th with hasVM := false }) t th) t) t) t := notifyDelete_gone v1
  exact hR.trans (hR.trans (hR.trans (hR.stopStep ih.cwa X h0 t th) (hnd X _ t v1)) (ih.listenerEnd hR X h3 ht))
    (hfd X _ t (g3.of_q ((qAll fuel).listenerEnd qQuiet [] h3 ht)))

theorem deleteThread_succ
    (hv : ∀ X s t, R X s (s.setTh t fun th => { th with hasVM := false }))
    (hnd : ∀ X s t, NoVM s t → R X s (Sched.cancelEvents (notifyDelete s t) t))
    (hfd : ∀ X s t, Gone s t → R X s (finishDelete s t))
    {fuel : Nat} (ih : QuietAll R fuel) : Quiet1 R (deleteThread (fuel + 1)) := by
  intro X s t h
  rw [Sched.deleteThread_succ]
  cases hf : thFind s.threads t with
  | none => exact hR.refl X s
  | some th =>
    simp only
    split
    · exact hR.refl X s
    · exact hR.trans (hv X s t) (hR.deleteThread_tail hnd hfd ih X h hf)

end QuietRel

/-- `π` is a component of the state that the cascades cannot reach -/
def Unreached {α : Type} (π : State → α) : Prop :=
  ∀ (s : State) tm ths ins N W E o evs,
    π { s with timer := tm, threads := ths, insts := ins, notify := N, waitFor := W, endOn := E, outOfFuel := o,
               events := evs } = π s

theorem Unreached.setTh {α : Type} {π : State → α} (hπ : Unreached π) (s : State) (t : Nat) (f : Th → Th) :
    π (s.setTh t f) = π s := hπ s s.timer _ s.insts s.notify s.waitFor s.endOn s.outOfFuel s.events

theorem Unreached.quiet {α : Type} {π : State → α} (hπ : Unreached π) : QuietRel (fun _ s s' => π s' = π s) :=
  ⟨fun _ _ => rfl, fun h1 h2 => h2.trans h1, fun _ s tm N W E o _ _ _ => hπ s tm s.threads s.insts N W E o s.events,
    fun _ s t => hπ.setTh s t _, fun _ _ _ t h _ => (hπ.setTh _ t _).trans h,
    fun _ s _ => hπ s s.timer s.threads s.insts s.notify s.waitFor s.endOn s.outOfFuel _⟩

theorem Unreached.quietAll {α : Type} {π : State → α} (hπ : Unreached π) :
    ∀ fuel, QuietAll (fun _ s s' => π s' = π s) fuel := by
  refine Sched.quietAll hπ.quiet (fun fuel ih => hπ.quiet.deleteThread_succ (fun _ s t => hπ.setTh s t _) ?_ ?_ ih)
  · intro _ s t _
    obtain ⟨ths, ins, e⟩ := notifyDelete_frame s t
    rw [e]
    exact hπ s s.timer ths ins s.notify s.waitFor s.endOn s.outOfFuel _
  · intro _ s t _
    obtain ⟨ths, e⟩ := finishDelete_frame s t
    rw [e]
    exact hπ s s.timer ths s.insts s.notify s.waitFor s.endOn s.outOfFuel s.events

theorem deleteThread_noVM (fuel : Nat) {s : State} (h : NInv s) (t : Nat) : NoVM (deleteThread (fuel + 1) s t) t := by
  have q := qAll fuel
  rw [deleteThread_succ]
  cases hf : thFind s.threads t with
  | none =>
    intro th' h'
    simp only at h'
    rw [hf] at h'; cases h'
  | some th =>
    simp only
    split
    · rename_i hv
      intro th' h'
      rw [hf] at h'; cases h'
      simpa using hv
    · exact (noVM_setTh s t).of_q (qQuiet.deleteThread_tail
        (fun X s t _ => (notifyDelete_q X s t).trans (cancelEvents_q X _ t)) (fun X s t _ => finishDelete_q X s t) q [] h hf)

end Morfuse.Sched
