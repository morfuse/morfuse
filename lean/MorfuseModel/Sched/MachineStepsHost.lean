import MorfuseModel.Sched.MachineSteps
/-!
# Relations that the host operations respect

The bodies of the host operations in named pieces, and `HostSteps R`: a `Steps R` that also holds across the update only
`~ScriptClass` performs (an instance unlinked) and for the four functions of the machine the host operations enter, at
`defaultFuel`.  `HostMoves R`: the steps of which the body of every driver command is composed.
-/
namespace Morfuse.Sched

/-- one iteration of `KillThreads` -/
def killStep (s : State) (t : Nat) : State :=
  deleteThread defaultFuel (s.setTh t (fun th => { th with attached := false })) t

/-- the thread `ExecuteThread` creates -/
def callThread (s : State) (label : Nat) (args : List V) : Th :=
  { label := label, inst := s.nextInst, call := some s.nextCall, params := bindLoop (s.progParams.getD label 0) 0 args }

/-- the state in which `ExecuteThread` has created the instance, the thread and the result cell -/
def callSetup (s : State) (label : Nat) (args : List V) : State :=
  { s with nextInst := s.nextInst + 1, nextTid := s.nextTid + 1, nextCall := s.nextCall + 1,
           insts := (s.nextInst, [s.nextTid]) :: s.insts,
           threads := s.threads ++ [(s.nextTid, callThread s label args)],
           calls := s.calls ++ [(s.nextCall, .open_)] }

/-- `if (!returnValue.IsNone()) …`: a result cell that is still a pointer means the thread lives on -/
def callFinish (s : State) (c : Nat) : State := if s.getRet c == .open_ then s.setRet c .pending else s

theorem callFinish_timer (s : State) (c : Nat) : (callFinish s c).timer = s.timer := by
  unfold callFinish; split <;> rfl

theorem callFinish_oof (s : State) (c : Nat) : (callFinish s c).outOfFuel = s.outOfFuel := by
  unfold callFinish; split <;> rfl

theorem hostCall_eq (s : State) (label : Nat) (args : List V) :
    (hostCall s label args).1 =
      if label ≥ s.prog.length then s
      else callFinish (scriptExecuteInternal defaultFuel (callSetup s label args) s.nextTid) s.nextCall := by
  unfold hostCall
  split <;> rfl

/-- delivery of one `_cancelwaiting` event -/
def deliver (s : State) (t : Nat) : State :=
  if s.alive t && s.hasVM t then cancelWaitingAll defaultFuel s t else s

theorem processEvents_succ (fuel : Nat) (s : State) :
    processEvents (fuel + 1) s =
      match s.events with
      | [] => s
      | (t, due) :: rest =>
        if due > s.clock then s else processEvents fuel (deliver { s with events := rest } t) := rfl

theorem processEvents_zero (s : State) : processEvents 0 s = { s with outOfFuel := true } := rfl

/-- the state in which `Frame()` and `SetTime()` have run -/
def frameSetTime (s : State) : State :=
  { s with scaled := s.scaled + (s.clock - s.lastClock), lastClock := s.clock, timer := s.timer.setTime s.clock }

theorem frameSetTime_scaled {s : State} (h1 : s.scaled = s.lastClock) (h2 : s.lastClock ≤ s.clock) :
    (frameSetTime s).scaled = s.clock := by
  show s.scaled + (s.clock - s.lastClock) = s.clock
  omega

theorem hostExecute_eq (s : State) :
    hostExecute s = executeRunning defaultFuel (processEvents defaultFuel (frameSetTime s)) := rfl

structure HostSteps (R : State → State → Prop) : Prop extends Steps R where
  unlink : ∀ s i e, s.insts.find? (·.1 == i) = some e → R s { s with insts := s.insts.filter (fun e => !(e.1 == i)) }
  dt : ∀ s t, R s (deleteThread defaultFuel s t)
  cwa : ∀ s w, R s (cancelWaitingAll defaultFuel s w)
  sei : ∀ s t, R s (scriptExecuteInternal defaultFuel s t)
  er : ∀ s, R s (executeRunning defaultFuel s)

def dropCall (c : Nat) (x : Th) : Th := if x.call == some c then { x with call := none } else x

structure HostMoves (R : State → State → Prop) : Prop extends Pre R where
  takeOut : ∀ s : State, R s { s with out := [] }
  kill : ∀ s, R s (killAllInsts s)
  call : ∀ s label args, R s (hostCall s label args).1
  dropLink : ∀ (s : State) c, R s { s with threads := s.threads.map (fun e => (e.1, dropCall c e.2)) }
  run : ∀ s, R (frameSetTime s) (hostExecute s)

variable {R : State → State → Prop}

theorem HostSteps.of_all (h : Steps R) (all : All R defaultFuel)
    (unlink : ∀ (s : State) i e, s.insts.find? (·.1 == i) = some e →
      R s { s with insts := s.insts.filter (fun e => !(e.1 == i)) }) : HostSteps R :=
  { h with unlink, dt := all.dt, cwa := all.cwa, sei := all.sei, er := all.er }

theorem killInst_pre (h : Pre R) {i : Nat}
    (hunl : ∀ (s : State) e, s.insts.find? (·.1 == i) = some e → R s { s with insts := s.insts.filter (fun e => !(e.1 == i)) })
    (hks : ∀ s t, R s (killStep s t)) (s : State) : R s (killInst s i) := by
  unfold killInst
  cases hfd : s.insts.find? (·.1 == i) with
  | none => exact h.refl s
  | some e => exact h.trans (hunl s e hfd) (foldl_rel h killStep hks e.2 _)

theorem killAllInsts_pre (h : Pre R) (hki : ∀ s i, R s (killInst s i)) (s : State) : R s (killAllInsts s) :=
  foldl_rel h _ hki _ s

theorem killInst_rel (h : HostSteps R) (s : State) (i : Nat) : R s (killInst s i) :=
  killInst_pre h.toPre (h.unlink · i) (fun s t => h.trans (h.detach s t) (h.dt _ t)) s

theorem killAllInsts_rel (h : HostSteps R) (s : State) : R s (killAllInsts s) :=
  killAllInsts_pre h.toPre (killInst_rel h) s

theorem hostCall_pre (h : Pre R) {s : State} {label : Nat} {args : List V}
    (hrun : R s (scriptExecuteInternal defaultFuel (callSetup s label args) s.nextTid))
    (hret : ∀ (s : State) c r, R s (s.setRet c r)) : R s (hostCall s label args).1 := by
  rw [hostCall_eq]
  split
  · exact h.refl s
  · refine h.trans hrun ?_
    unfold callFinish
    split
    · exact hret _ _ _
    · exact h.refl _

theorem deliver_elim {C : State → Prop} {s : State} {t : Nat} (h0 : C s) (hcwa : C (cancelWaitingAll defaultFuel s t)) :
    C (deliver s t) := by
  unfold deliver
  split
  · exact hcwa
  · exact h0

theorem deliver_rel (h : HostSteps R) (s : State) (t : Nat) : R s (deliver s t) := deliver_elim (h.refl s) (h.cwa s t)

theorem processEvents_pre (h : Pre R) (hfuel : ∀ s : State, R s { s with outOfFuel := true })
    (hpop : ∀ (s : State) t due rest, s.events = (t, due) :: rest → R s { s with events := rest })
    (hdel : ∀ s t, R s (deliver s t)) : ∀ (fuel : Nat) (s : State), R s (processEvents fuel s)
  | 0, s => hfuel s
  | fuel + 1, s => by
    rw [processEvents_succ]
    split
    · exact h.refl s
    · split
      · exact h.refl s
      · rename_i t due rest hev _
        exact h.trans (h.trans (hpop s t due rest hev) (hdel _ t)) (processEvents_pre h hfuel hpop hdel fuel _)

theorem processEvents_rel (h : HostSteps R) (fuel : Nat) (s : State) : R s (processEvents fuel s) :=
  processEvents_pre h.toPre h.fuel (fun s _ _ rest _ => setEvents_rel h.toSteps s rest) (deliver_rel h) fuel s

theorem hostExecute_rel (h : HostSteps R) (s : State) : R (frameSetTime s) (hostExecute s) := by
  rw [hostExecute_eq]
  exact h.trans (processEvents_rel h _ _) (h.er _)

theorem dropCall_idem (c : Nat) (x : Th) : dropCall c (dropCall c x) = dropCall c x := by
  unfold dropCall; split <;> rfl

theorem dropCall_recUpd (c : Nat) : RecUpd (dropCall c) := by
  refine ⟨fun _ => ?_, fun _ => ?_, fun _ _ => ?_⟩ <;> unfold dropCall <;> split <;> first | exact id | exact nofun

theorem HostSteps.moves (h : HostSteps R) (setup : ∀ s label args, R s (callSetup s label args))
    (calls : ∀ (s : State) cs, R s { s with calls := cs }) : HostMoves R where
  toPre := h.toPre
  takeOut := fun s => h.frame s _ _ _ [] _
  kill := killAllInsts_rel h
  call := fun s label args => hostCall_pre h.toPre (h.trans (setup s label args) (h.sei _ _)) fun s _ _ => calls s _
  dropLink := fun s c => mapTh_rel h.toPre (dropCall c) (dropCall_idem c) (fun s t => h.setTh s t _ (dropCall_recUpd c)) s
  run := hostExecute_rel h

end Morfuse.Sched
