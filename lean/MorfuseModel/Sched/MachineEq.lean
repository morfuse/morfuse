import MorfuseModel.Sched.MachineInvBasic
/-!
# Equation lemmas of the scheduler machine in compositional form

Every function of the mutual block of `Sched.Machine` is rewritten, for `fuel + 1`, as a composition of
small named steps (all but `listenerEnd` take the `fuel`-level functions they call as parameters, so that a lemma
about a step is independent of the recursion).  Each equation is proved by unfolding (`rfl`): the
machine itself is not changed, these are only other spellings of its defining equations.
-/
namespace Morfuse.Sched
open State

/-- body of `ScriptThread::Stop` on a known record (`cw` = `CancelWaitingAll`) -/
def stopStep (cw : State → Nat → State) (s : State) (t : Nat) (th : Th) : State :=
  if th.ts == .timing then
    { (s.setTh t (fun th => { th with ts := .running })) with timer := s.timer.remove t }
  else if th.ts == .waiting then cw (s.setTh t (fun th => { th with ts := .running })) t
  else s

/-- `vm->NotifyDelete()` inside `~ScriptThread` -/
def notifyDelete (s : State) (t : Nat) : State :=
  match thFind s.threads t with
  | none => s
  | some th =>
    let s1 := s.setTh t (fun th => { th with vm := .destroyed })
    let s1 := if th.attached then removeFromInst s1 t th.inst else s1
    if th.vm == .idling then s1.setTh t (fun th => { th with vmObj := false }) else s1

theorem State.setTh_setTh (s : State) (t : Nat) (f g : Th → Th) :
    (s.setTh t f).setTh t g = s.setTh t fun x => g (f x) := by
  unfold State.setTh
  simp only [List.map_map]
  congr 2
  funext e
  simp only [Function.comp]
  split <;> simp [*]

theorem State.setTh_id (s : State) (t : Nat) : s.setTh t (fun th => th) = s := by
  unfold State.setTh
  have e : s.threads.map (fun e => if e.1 == t then (e.1, e.2) else e) = s.threads := by
    conv => rhs; rw [← List.map_id s.threads]
    apply List.map_congr_left
    intro e _
    split <;> rfl
  rw [e]

theorem removeFromInst_setTh (s : State) (t i u : Nat) (f : Th → Th) :
    (removeFromInst s t i).setTh u f = removeFromInst (s.setTh u f) t i := by
  unfold removeFromInst
  show _ = match s.insts.find? (·.1 == i) with | none => _ | some (_, chain) => _
  cases s.insts.find? (·.1 == i) with
  | none => rfl
  | some e =>
    obtain ⟨_, chain⟩ := e
    cases chain with
    | nil => rfl
    | cons h rest =>
      simp only
      split
      · split <;> rfl
      · rfl

/-- what `NotifyDelete` does to the record: the VM is destroyed, and its object goes with it if the VM was idle -/
def ndRec (idle : Bool) (th : Th) : Th := { th with vm := .destroyed, vmObj := if idle then false else th.vmObj }

/-- `NotifyDelete` (two writes of the record, `RemoveThread` in between) in normal form: one update of the record, then the
    VM leaves its instance; proofs about it start from here -/
theorem notifyDelete_eq (s : State) (t : Nat) :
    notifyDelete s t =
      match thFind s.threads t with
      | none => s
      | some th =>
        if th.attached then removeFromInst (s.setTh t (ndRec (th.vm == .idling))) t th.inst
        else s.setTh t (ndRec (th.vm == .idling)) := by
  unfold notifyDelete
  cases thFind s.threads t with
  | none => rfl
  | some th =>
    simp only
    cases th.vm == .idling
    · rfl
    · simp only [if_true]
      split
      · rw [removeFromInst_setTh, State.setTh_setTh]; rfl
      · rw [State.setTh_setTh]; rfl

/-- end of `~ScriptThread`: weak references read null / the record goes -/
def finishDelete (s : State) (t : Nat) : State :=
  match thFind s.threads t with
  | none => s
  | some th =>
    if th.vmObj then s.setTh t (fun th => { th with dead := true })
    else { s with threads := s.threads.filter (fun e => !(e.1 == t)) }

/-- `~Listener` of `x`: `Unregister(delete)`, `Unregister(remove)`, `UnregisterAll`, `CancelWaitingAll` -/
def listenerEnd (fuel : Nat) (s : State) (x : Nat) : State :=
  cancelWaitingAll fuel (unregisterAll fuel (unregister fuel (unregister fuel s x nameDelete) x nameRemove) x) x

theorem deleteThread_zero (s : State) (t : Nat) : deleteThread 0 s t = { s with outOfFuel := true } := by unfold deleteThread; rfl

theorem deleteThread_succ (fuel : Nat) (s : State) (t : Nat) :
    deleteThread (fuel + 1) s t =
      match thFind s.threads t with
      | none => s
      | some th =>
        if !th.hasVM then s else
        finishDelete (listenerEnd fuel (cancelEvents (notifyDelete (stopStep (cancelWaitingAll fuel)
          (s.setTh t (fun th => { th with hasVM := false })) t th) t) t) t) t := by
  unfold deleteThread; rfl

theorem stoppedNotify_zero (s : State) (l : Nat) : stoppedNotify 0 s l = { s with outOfFuel := true } := by unfold stoppedNotify; rfl
theorem stoppedNotify_succ (fuel : Nat) (s : State) (l : Nat) :
    stoppedNotify (fuel + 1) s l =
      if isThread l then (if s.hasVM l then deleteThread fuel s l else s) else s := by
  unfold stoppedNotify; rfl

theorem stop_zero (s : State) (t : Nat) : stop 0 s t = { s with outOfFuel := true } := by unfold stop; rfl
theorem stop_succ (fuel : Nat) (s : State) (t : Nat) :
    stop (fuel + 1) s t =
      match thFind s.threads t with
      | none => s
      | some th => stopStep (cancelWaitingAll fuel) s t th := by
  unfold stop; rfl

theorem stop_running (fuel : Nat) (s : State) (t : Nat) (th : Th) (hth : thFind s.threads t = some th)
    (hts : th.ts = .running) : stop fuel s t = s ∨ stop fuel s t = { s with outOfFuel := true } := by
  cases fuel with
  | zero => right; rw [stop_zero]
  | succ fuel =>
    left
    rw [stop_succ, hth]
    simp only [stopStep, hts]
    rfl

/-- the loop over the stopped sources: `StoppedNotify` on every one still alive -/
def notifyLoop (sn : State → Nat → State) (s : State) (stopped : List Nat) : State :=
  stopped.reverse.foldl (fun s src => if s.alive src then sn s src else s) s

/-- `CancelWaiting(0)` -/
def cwaZero (swf : State → Nat → Nat → Bool → State) (sn : State → Nat → State) (s : State) (w : Nat) : State :=
  match Tbl.find s.waitFor (w, 0) with
  | none => s
  | some list =>
    let r := cancelWaitingSources s w 0 list []
    let s1 : State := { r.1 with waitFor := Tbl.removeKey r.1.waitFor (w, 0) }
    let s2 := if !Tbl.hasOwner s1.waitFor w then swf s1 w 0 false else s1
    notifyLoop sn s2 r.2

/-- the sources of every remaining name -/
def cwaSources (s : State) (w : Nat) : State × List Nat :=
  (Tbl.keysOf s.waitFor w).foldl
    (fun (acc : State × List Nat) e => cancelWaitingSources acc.1 w e.1 e.2 acc.2) (s, [])

/-- the part of `CancelWaitingAll` after `CancelWaiting(0)` -/
def cwaRest (swf : State → Nat → Nat → Bool → State) (sn : State → Nat → State) (s : State) (w : Nat) : State :=
  if !Tbl.hasOwner s.waitFor w then s else
  let r := cwaSources s w
  let s1 : State := { r.1 with waitFor := Tbl.removeOwner r.1.waitFor w }
  notifyLoop sn (swf s1 w 0 false) r.2

theorem cancelWaitingAll_zero (s : State) (w : Nat) : cancelWaitingAll 0 s w = { s with outOfFuel := true } := by unfold cancelWaitingAll; rfl
theorem cancelWaitingAll_succ (fuel : Nat) (s : State) (w : Nat) :
    cancelWaitingAll (fuel + 1) s w =
      cwaRest (stoppedWaitFor fuel) (stoppedNotify fuel)
        (cwaZero (stoppedWaitFor fuel) (stoppedNotify fuel) s w) w := by
  unfold cancelWaitingAll; rfl

/-- `StartTiming()` -/
def startTiming (stp : State → Nat → State) (s : State) (t : Nat) : State :=
  if !(stp s t).alive t then stp s t
  else addTiming ((stp s t).setTh t (fun th => { th with ts := .timing })) t 0

theorem stoppedWaitFor_zero (s : State) (t name : Nat) (d : Bool) :
    stoppedWaitFor 0 s t name d = { s with outOfFuel := true } := by unfold stoppedWaitFor; rfl
theorem stoppedWaitFor_succ (fuel : Nat) (s : State) (t name : Nat) (deleting : Bool) :
    stoppedWaitFor (fuel + 1) s t name deleting =
      if !isThread t then s else
      match thFind s.threads t with
      | none => s
      | some th =>
        if !th.hasVM then s
        else if deleting then deleteThread fuel s t
        else if th.ts == .waiting then
          if name != 0 then
            if th.vm == .idling then scriptExecuteInternal fuel (cancelEvents s t) t
            else vmResume (cancelEvents s t) t
          else startTiming (stop fuel) (cancelEvents s t) t
        else cancelEvents s t := by
  unfold stoppedWaitFor; rfl

/-- `StoppedWaitFor` by cases: nothing happens, or the thread has its VM and is deleted (`bDeleting`), executed (it was
    waiting, a named notify, its VM idle), resumed, re-timed (channel 0), or only loses its pending events.  Proofs about one run
    use this rule: `split` on the nested conditionals is several times dearer to check. -/
theorem stoppedWaitFor_split {P : State → Prop} (fuel : Nat) (s : State) (t name : Nat) (d : Bool)
    (h0 : (isThread t = false ∨ thFind s.threads t = none ∨ ∃ th, thFind s.threads t = some th ∧ th.hasVM = false) → P s)
    (hdel : ∀ th, isThread t = true → thFind s.threads t = some th → th.hasVM = true → d = true → P (deleteThread fuel s t))
    (hexec : ∀ th, isThread t = true → thFind s.threads t = some th → th.hasVM = true → d = false → th.ts = .waiting → name ≠ 0 →
      th.vm = .idling → P (scriptExecuteInternal fuel (cancelEvents s t) t))
    (hres : ∀ th, isThread t = true → thFind s.threads t = some th → th.hasVM = true → d = false → th.ts = .waiting → name ≠ 0 →
      th.vm ≠ .idling → P (vmResume (cancelEvents s t) t))
    (htim : ∀ th, isThread t = true → thFind s.threads t = some th → th.hasVM = true → d = false → th.ts = .waiting → name = 0 →
      P (startTiming (stop fuel) (cancelEvents s t) t))
    (hce : ∀ th, isThread t = true → thFind s.threads t = some th → th.hasVM = true → d = false → th.ts ≠ .waiting →
      P (cancelEvents s t)) :
    P (stoppedWaitFor (fuel + 1) s t name d) := by
  rw [stoppedWaitFor_succ]
  cases h1 : isThread t with
  | false => exact h0 (Or.inl h1)
  | true =>
    show P (match thFind s.threads t with | none => s | some th => _)
    cases hf : thFind s.threads t with
    | none => exact h0 (Or.inr (Or.inl hf))
    | some th =>
      show P (if (!th.hasVM) = true then s else _)
      cases hv : th.hasVM with
      | false => exact h0 (Or.inr (Or.inr ⟨th, hf, hv⟩))
      | true =>
        cases d with
        | true => exact hdel th h1 hf hv rfl
        | false =>
          show P (if (th.ts == .waiting) = true then _ else _)
          by_cases h4 : th.ts = .waiting
          · rw [if_pos (by rw [h4]; rfl)]
            by_cases h5 : name = 0
            · subst h5; exact htim th h1 hf hv rfl h4 rfl
            · rw [if_pos (by simpa using h5)]
              by_cases h6 : th.vm = .idling
              · rw [if_pos (by rw [h6]; rfl)]; exact hexec th h1 hf hv rfl h4 h5 h6
              · rw [if_neg (by simpa using h6)]; exact hres th h1 hf hv rfl h4 h5 h6
          · rw [if_neg (by simpa using h4)]; exact hce th h1 hf hv rfl h4

/-- one listener of an `endon` list: destroyed if alive, the notifying listener itself at most once and not on its own
    `remove` / `delete` -/
def endOnStep (dt : State → Nat → State) (src name : Nat) (acc : State × Bool) (l : Nat) : State × Bool :=
  if acc.1.alive l then
    if l == src && (name == nameRemove || name == nameDelete || acc.2) then acc
    else (dt acc.1 l, acc.2 || (l == src))
  else acc

/-- the `endon` part of `Listener::Unregister(name)` -/
def endOnLoop (dt : State → Nat → State) (s : State) (src name : Nat) (listeners : List Nat) : State × Bool :=
  listeners.reverse.foldl (endOnStep dt src name) (s, false)

def unregEndOn (dt : State → Nat → State) (s : State) (src name : Nat) : State × Bool :=
  if !Tbl.hasOwner s.endOn src then (s, false) else
  match Tbl.find s.endOn (src, name) with
  | none => (s, false)
  | some listeners =>
    endOnLoop dt { s with endOn := Tbl.removeKey s.endOn (src, name) } src name listeners

/-- the loop over the woken waiters: `StoppedWaitFor(name, false)` on every one still alive -/
def wakeLoop (swf : State → Nat → Nat → Bool → State) (s : State) (name : Nat) (stopped : List Nat) : State :=
  stopped.reverse.foldl (fun s l => if s.alive l then swf s l name false else s) s

/-- the notify part of `Listener::Unregister(name)` -/
def unregNotify (swf : State → Nat → Nat → Bool → State) (sn : State → Nat → State)
    (s : State) (src name : Nat) : State :=
  if !Tbl.hasOwner s.notify src then s else
  match Tbl.find s.notify (src, name) with
  | none => s
  | some list =>
    let r := unregisterTargets s src name list
    let s1 : State := { r.1 with notify := Tbl.removeKey r.1.notify (src, name) }
    let s2 := if !Tbl.hasOwner s1.notify src then sn s1 src else s1
    wakeLoop swf s2 name r.2

theorem unregEndOn_of_some (dt : State → Nat → State) {s : State} {src name : Nat} {listeners : List Nat}
    (ho : Tbl.hasOwner s.endOn src = true) (hf : Tbl.find s.endOn (src, name) = some listeners) :
    unregEndOn dt s src name =
      endOnLoop dt { s with endOn := Tbl.removeKey s.endOn (src, name) } src name listeners := by
  simp only [unregEndOn, ho, hf, Bool.not_true, Bool.false_eq_true, if_false]

theorem unregNotify_of_none (swf : State → Nat → Nat → Bool → State) (sn : State → Nat → State) {s : State}
    {src name : Nat} (hf : Tbl.find s.notify (src, name) = none) : unregNotify swf sn s src name = s := by
  unfold unregNotify
  split
  · rfl
  · rw [hf]

theorem unregister_zero (s : State) (src name : Nat) : unregister 0 s src name = { s with outOfFuel := true } := by unfold unregister; rfl
theorem unregister_succ (fuel : Nat) (s : State) (src name : Nat) :
    unregister (fuel + 1) s src name =
      if (unregEndOn (deleteThread fuel) s src name).2 then (unregEndOn (deleteThread fuel) s src name).1
      else unregNotify (stoppedWaitFor fuel) (stoppedNotify fuel)
        (unregEndOn (deleteThread fuel) s src name).1 src name := by
  unfold unregister; rfl

/-- every remaining name of `src`: the waiters with the name they waited for -/
def uaTargets (s : State) (src : Nat) : State × List (Nat × Nat) :=
  (Tbl.keysOf s.notify src).foldl
    (fun (acc : State × List (Nat × Nat)) e =>
      ((unregisterTargets acc.1 src e.1 e.2).1, acc.2 ++ (unregisterTargets acc.1 src e.1 e.2).2.map (fun l => (l, e.1))))
    (s, [])

def killLoop (swf : State → Nat → Nat → Bool → State) (s : State) (stopped : List (Nat × Nat)) : State :=
  stopped.reverse.foldl (fun s (ln : Nat × Nat) => if s.alive ln.1 then swf s ln.1 ln.2 true else s) s

def uaRest (swf : State → Nat → Nat → Bool → State) (sn : State → Nat → State) (s : State) (src : Nat) : State :=
  if !Tbl.hasOwner s.notify src then s else
  let r := uaTargets s src
  let s1 : State := { r.1 with notify := Tbl.removeOwner r.1.notify src }
  killLoop swf (sn s1 src) r.2

theorem unregisterAll_zero (s : State) (src : Nat) : unregisterAll 0 s src = { s with outOfFuel := true } := by unfold unregisterAll; rfl
theorem unregisterAll_succ (fuel : Nat) (s : State) (src : Nat) :
    unregisterAll (fuel + 1) s src =
      uaRest (stoppedWaitFor fuel) (stoppedNotify fuel)
        { (unregister fuel s src 0) with endOn := Tbl.removeOwner (unregister fuel s src 0).endOn src } src := by
  unfold unregisterAll; rfl

/-- restore of `m_CurrentThread` (a `SafePtr`) -/
def restoreCur (s : State) (saved : Option Nat) : State :=
  { s with cur := saved.bind (fun c => if s.alive c then some c else none) }

/-- `Execute` unless the thread was deleted by its own `Stop()` -/
def execIfAlive (ev : State → Nat → State) (s : State) (t : Nat) : State :=
  if s.alive t then ev s t else s

theorem scriptExecuteInternal_zero (s : State) (t : Nat) :
    scriptExecuteInternal 0 s t = { s with outOfFuel := true } := by unfold scriptExecuteInternal; rfl
theorem scriptExecuteInternal_succ (fuel : Nat) (s : State) (t : Nat) :
    scriptExecuteInternal (fuel + 1) s t =
      executeRunning fuel (restoreCur (execIfAlive (execVM fuel) (stop fuel { s with cur := some t } t) t) s.cur) := by
  unfold scriptExecuteInternal; rfl

theorem executeRunning_zero (s : State) : executeRunning 0 s = { s with outOfFuel := true } := by unfold executeRunning; rfl
theorem executeRunning_succ (fuel : Nat) (s : State) :
    executeRunning (fuel + 1) s =
      if s.cur.isSome || s.depth > 0 then s else if !s.timer.dirty then s else drain fuel s := by
  unfold executeRunning; rfl

theorem drain_zero (s : State) : drain 0 s = { s with outOfFuel := true } := by unfold drain; rfl
theorem drain_succ (fuel : Nat) (s : State) :
    drain (fuel + 1) s =
      match s.timer.next with
      | (none, tm) => { s with timer := tm, cur := none }
      | (some (t, _), tm) =>
        drain fuel (execVM fuel (({ s with timer := tm, cur := some t } : State).setTh t
          (fun th => { th with ts := .running })) t) := by
  rw [drain] <;> rfl

/-- `ScriptVM::Execute` after `Process` returned -/
def vmEpilogue (s : State) (t : Nat) : State :=
  match thFind s.threads t with
  | none => s
  | some th =>
    match th.vm with
    | .suspended => s.setTh t (fun th => { th with vm := .idling })
    | .destroyed => { s with threads := s.threads.filter (fun e => !(e.1 == t)) }
    | _ => s

def vmPrologue (s : State) (t : Nat) : State :=
  { (s.setTh t (fun th => { th with vm := .running })) with depth := s.depth + 1 }

theorem execVM_zero (s : State) (t : Nat) : execVM 0 s t = { s with outOfFuel := true } := by unfold execVM; rfl
theorem execVM_succ (fuel : Nat) (s : State) (t : Nat) :
    execVM (fuel + 1) s t =
      vmEpilogue { (process fuel (vmPrologue s t) t) with depth := (process fuel (vmPrologue s t) t).depth - 1 } t := by
  unfold execVM; rfl

theorem process_zero (s : State) (t : Nat) : process 0 s t = { s with outOfFuel := true } := by unfold process; rfl
theorem process_succ (fuel : Nat) (s : State) (t : Nat) :
    process (fuel + 1) s t =
      match thFind s.threads t with
      | none => s
      | some th =>
        if th.vm != .running then s else
        process fuel (exec fuel (s.setTh t (fun th => { th with pc := th.pc + 1 })) t th
          ((s.prog.getD th.label []).getD th.pc (.end_ .none))) t := by
  rw [process] <;> rfl

/-- `Listener::Register(name, CurrentThread())` on source `o`: `RegisterSource`, then `RegisterTarget`
    (whose first registration calls `StartedWaitFor`) -/
def regWait (stp : State → Nat → State) (s : State) (o n c : Nat) : State :=
  let s : State := { s with notify := Tbl.push s.notify (o, n) c }
  let s :=
    if !Tbl.hasOwner s.waitFor c then vmSuspend ((stp s c).setTh c (fun th => { th with ts := .waiting })) c
    else s
  { s with waitFor := Tbl.push s.waitFor (c, n) o }

/-- `Wait(ms)` on thread `p` -/
def waitOn (stp : State → Nat → State) (s : State) (p ms : Nat) : State :=
  vmSuspend (addTiming ((stp s p).setTh p (fun th => { th with ts := .timing })) p ms) p

/-- `Wait(ms)` sent to another thread `p`: returns when `p` was deleted by its own `Stop()` -/
def waitOnGuarded (stp : State → Nat → State) (s : State) (p ms : Nat) : State :=
  if !(stp s p).alive p then stp s p else waitOn stp s p ms

/-- the result cell of a host call when its thread ends -/
def endResult (s : State) (th : Th) (ev : EndV) : State :=
  let v : Option V := match ev with
    | .none => none
    | .lit n => some (.int n)
    | .param i => match th.params.getD i .nil with | .nil => none | x => some x
  match th.call with
  | none => s
  | some c =>
    match s.getRet c, v with
    | .open_, some x => s.setRet c (.val x)
    | .open_, none => s.setRet c .none
    | .pending, some x => s.setRet c (.val x)
    | .pending, none => s.setRet c .nil
    | _, _ => s

theorem endResult_frame (s : State) (th : Th) (ev : EndV) :
    endResult s th ev = { s with calls := (endResult s th ev).calls } := by
  unfold endResult
  simp only
  split
  · rfl
  · split <;> rfl

/-- creation of the thread for `thread l` (same instance) -/
def spawnSame (s : State) (t : Nat) (th : Th) (l : Nat) : State :=
  { s with nextTid := s.nextTid + 1,
           threads := s.threads ++ [(s.nextTid, ({ label := l, inst := th.inst, params := bindLoop (s.progParams.getD l 0) 0 [], parent := t } : Th))],
           insts := s.insts.map (fun (e : Nat × List Nat) => if e.1 == th.inst then (e.1, s.nextTid :: e.2) else e) }

/-- creation of the thread for `waitthread l` (new instance) -/
def spawnNew (s : State) (t : Nat) (l : Nat) : State :=
  { s with nextTid := s.nextTid + 1, nextInst := s.nextInst + 1,
           threads := s.threads ++ [(s.nextTid, ({ label := l, inst := s.nextInst, params := bindLoop (s.progParams.getD l 0) 0 [], parent := t } : Th))],
           insts := (s.nextInst, [s.nextTid]) :: s.insts }

theorem exec_zero (s : State) (t : Nat) (th : Th) (ins : Instr) :
    exec 0 s t th ins = { s with outOfFuel := true } := by unfold exec; rfl

theorem exec_mark (fuel : Nat) (s : State) (t : Nat) (th : Th) (k : Nat) :
    exec (fuel + 1) s t th (.mark k) = s.emit s!"m{k}" := by unfold exec; rfl
theorem exec_pparam (fuel : Nat) (s : State) (t : Nat) (th : Th) (i : Nat) :
    exec (fuel + 1) s t th (.pparam i) = s.emit s!"p_{(th.params.getD i .nil).show}" := by unfold exec; rfl
theorem exec_wait (fuel : Nat) (s : State) (t : Nat) (th : Th) (ms : Nat) :
    exec (fuel + 1) s t th (.wait ms) = waitOn (stop fuel) s t ms := by unfold exec; rfl
theorem exec_waittill (fuel : Nat) (s : State) (t : Nat) (th : Th) (o : Nat) (names : List Nat) :
    exec (fuel + 1) s t th (.waittill o names) =
      if !s.objAlive o then s else
      match s.cur with
      | none => s
      | some c => names.foldl (fun s n => regWait (stop fuel) s o n c) s := by unfold exec; rfl
theorem exec_waittillTimeout (fuel : Nat) (s : State) (t : Nat) (th : Th) (o n ms : Nat) :
    exec (fuel + 1) s t th (.waittillTimeout o n ms) =
      if !s.objAlive o then s else
      match s.cur with
      | none => s
      | some c => postEvent (regWait (stop fuel) s o n c) c ((regWait (stop fuel) s o n c).clock + ms) := by unfold exec; rfl
theorem exec_notify (fuel : Nat) (s : State) (t : Nat) (th : Th) (o n : Nat) :
    exec (fuel + 1) s t th (.notify o n) = if !s.objAlive o then s else unregister fuel s o n := by unfold exec; rfl
theorem exec_endon (fuel : Nat) (s : State) (t : Nat) (th : Th) (o n : Nat) :
    exec (fuel + 1) s t th (.endon o n) =
      if !s.objAlive o then s else
      match s.cur with
      | none => s
      | some c => { s with endOn := Tbl.pushUnique s.endOn (o, n) c } := by unfold exec; rfl
theorem exec_delete (fuel : Nat) (s : State) (t : Nat) (th : Th) (o : Nat) :
    exec (fuel + 1) s t th (.delete o) =
      if !s.objs.contains o then s else
      { (listenerEnd fuel s o) with objs := (listenerEnd fuel s o).objs.erase o } := by
  unfold exec; rfl
theorem exec_spawn (fuel : Nat) (s : State) (t : Nat) (th : Th) (o : Nat) :
    exec (fuel + 1) s t th (.spawn o) = if s.objs.contains o then s else { s with objs := s.objs ++ [o] } := by unfold exec; rfl
theorem exec_thread (fuel : Nat) (s : State) (t : Nat) (th : Th) (l : Nat) :
    exec (fuel + 1) s t th (.thread l) =
      if l ≥ s.prog.length then s else scriptExecuteInternal fuel (spawnSame s t th l) s.nextTid := by unfold exec; rfl
theorem exec_waitthread (fuel : Nat) (s : State) (t : Nat) (th : Th) (l : Nat) :
    exec (fuel + 1) s t th (.waitthread l) =
      if l ≥ s.prog.length then s else
      match s.cur with
      | none => scriptExecuteInternal fuel (spawnNew s t l) s.nextTid
      | some c => scriptExecuteInternal fuel (regWait (stop fuel) (spawnNew s t l) s.nextTid 0 c) s.nextTid := by
  unfold exec; rfl
theorem exec_pause (fuel : Nat) (s : State) (t : Nat) (th : Th) :
    exec (fuel + 1) s t th .pause = vmSuspend (stop fuel s t) t := by unfold exec; rfl
theorem exec_waitParent (fuel : Nat) (s : State) (t : Nat) (th : Th) (ms : Nat) :
    exec (fuel + 1) s t th (.waitParent ms) =
      if th.parent == 0 || !s.alive th.parent || !s.hasVM th.parent then s
      else waitOnGuarded (stop fuel) s th.parent ms := by unfold exec; rfl
theorem exec_waittillParent (fuel : Nat) (s : State) (t : Nat) (th : Th) (names : List Nat) :
    exec (fuel + 1) s t th (.waittillParent names) =
      if th.parent == 0 || !s.alive th.parent then s else
      match s.cur with
      | none => s
      | some c => names.foldl (fun s n => regWait (stop fuel) s th.parent n c) s := by unfold exec; rfl
theorem exec_notifyParent (fuel : Nat) (s : State) (t : Nat) (th : Th) (n : Nat) :
    exec (fuel + 1) s t th (.notifyParent n) =
      if th.parent == 0 || !s.alive th.parent then s else unregister fuel s th.parent n := by unfold exec; rfl
theorem exec_end (fuel : Nat) (s : State) (t : Nat) (th : Th) (ev : EndV) :
    exec (fuel + 1) s t th (.end_ ev) =
      deleteThread fuel ((endResult s th ev).setTh t (fun th => { th with call := none })) t := by
  cases ev <;> unfold exec <;> rfl

end Morfuse.Sched
