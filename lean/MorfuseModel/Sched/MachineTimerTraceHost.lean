import MorfuseModel.Sched.MachineTimerTrace
import MorfuseModel.Sched.MachineHost
/-!
# The timer history through a driver command

`IsLedger s ops`: `ops` is a history of timer operations — the ghost ledger — that, replayed from the empty timer, gives the
machine's timer; every `add` in it has a due time not before the timer's `m_time` at that moment (`AddsLate`:
`due = scaledTime + d` and `m_time ≤ scaledTime` whenever script code runs; `=` as long as no snapshot is loaded).
`IsLedger.apply`: a state with a history has one after every driver command, built by appending the operations of the
call (`TT`: no `setTime` among them) after one `setTime` for `execute` / `step`; how many `setTime`s the history of a
state contains is not stated.
-/
namespace Morfuse.Sched

theorem TT.hostMoves : HostMoves TT :=
  (HostSteps.of_all TT.steps.toSteps (ttAll defaultFuel) fun _ _ _ _ => TT.of_eq rfl rfl).moves
    (fun _ _ _ => TT.of_eq rfl rfl) TT.blind.calls

theorem HostOp.apply_tt (s : State) (op : HostOp) (hne : op ≠ .reset) :
    TT s (op.apply s) ∨ ∃ k, TT (frameSetTime { s with clock := s.clock + k }) (op.apply s) := by
  obtain ⟨k, r | r⟩ := HostOp.apply_rel_clock TT.hostMoves (fun _ _ _ => TT.of_eq rfl rfl) s op hne
  · exact Or.inl ((TT.of_eq rfl rfl : TT s { s with clock := s.clock + k }).trans r)
  · exact Or.inr ⟨k, r⟩

/-- the machine's timer with its ledger -/
def IsLedger (s : State) (ops : List TOp) : Prop :=
  (TRun.run {} ops).t = s.timer ∧ AddsLate {} ops

theorem IsLedger.run {s : State} {ops : List TOp} (h : IsLedger s ops) : timerRun {} ops = s.timer := h.1

theorem IsLedger.step {s s' : State} {ops : List TOp} (h : IsLedger s ops) (hm : s.timer.mtime ≤ s.scaled)
    (r : TT s s') : ∃ ops', IsLedger s' (ops ++ ops') := by
  obtain ⟨o, hr, hn, ha⟩ := r.run
  refine ⟨o, ?_, AddsLate.append _ _ _ h.2 ?_⟩
  · show timerRun {} (ops ++ o) = s'.timer
    rw [timerRun_append, h.run, hr]
  · rw [h.run]
    exact addsLate_of o _ s.scaled hn ha hm

theorem IsLedger.apply {s : State} {ops : List TOp} (h : IsLedger s ops) (hm : s.timer.mtime ≤ s.scaled)
    (hs : s.scaled = s.lastClock) (op : HostOp) : ∃ ops', IsLedger (op.apply s) ops' := by
  by_cases hne : op = .reset
  · subst hne; exact ⟨[], rfl, trivial⟩
  · rcases HostOp.apply_tt s op hne with r | ⟨k, r⟩
    · obtain ⟨o, h'⟩ := h.step hm r
      exact ⟨_, h'⟩
    · have hf : IsLedger (frameSetTime { s with clock := s.clock + k }) (ops ++ [.setTime (s.clock + k)]) := by
        refine ⟨?_, AddsLate.append _ _ _ h.2 ⟨trivial, trivial⟩⟩
        show timerRun {} (ops ++ [.setTime (s.clock + k)]) = _
        rw [timerRun_append, h.run]; rfl
      obtain ⟨o, h'⟩ := hf.step (by show s.clock + k ≤ s.scaled + (s.clock + k - s.lastClock); omega) r
      exact ⟨_, h'⟩

end Morfuse.Sched
