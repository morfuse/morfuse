import MorfuseModel.Sched.MachineInvPres
/-!
# More fuel does not change a completed run

`Agr a b`: `a` (the result with less fuel) has the fuel flag up, or `b = a`.  `fmAll`: for every function of the machine,
`Agr (f fuel s x) (f (fuel + 1) s x)`.  `fuel_mono`: a call that completes with fuel `f` returns the same state with any
`f' ≥ f`.  So the constant `defaultFuel` only decides *whether* a run completes, never *what* a completed run returns.
-/
namespace Morfuse.Sched
open State

def Agr (a b : State) : Prop := a.outOfFuel = true ∨ b = a

theorem Agr.refl (a : State) : Agr a a := Or.inr rfl

theorem Agr.bind {a b : State} (F F' : State → State) (h : Agr a b)
    (hst : a.outOfFuel = true → (F a).outOfFuel = true) (hF : Agr (F a) (F' a)) : Agr (F a) (F' b) := by
  rcases h with h | h
  · exact Or.inl (hst h)
  · subst h; exact hF

theorem Agr.map {a b : State} (K : State → State) (h : Agr a b)
    (hK : a.outOfFuel = true → (K a).outOfFuel = true) : Agr (K a) (K b) := Agr.bind K K h hK (Agr.refl _)

theorem Agr.ite {c : Prop} [Decidable c] {a a' b b' : State} (ht : c → Agr a a') (he : ¬ c → Agr b b') :
    Agr (if c then a else b) (if c then a' else b') := by
  by_cases h : c
  · rw [if_pos h, if_pos h]; exact ht h
  · rw [if_neg h, if_neg h]; exact he h

def A1 (g g' : State → Nat → State) : Prop := ∀ s x, Agr (g s x) (g' s x)
def A3 (g g' : State → Nat → Nat → Bool → State) : Prop := ∀ s x y z, Agr (g s x y z) (g' s x y z)

theorem foldl_agr {α : Type} (f f' : State → α → State)
    (hpr : ∀ s x, s.outOfFuel = true → (f s x).outOfFuel = true) (h : ∀ s x, Agr (f s x) (f' s x)) :
    ∀ (L : List α) (a b : State), Agr a b → Agr (L.foldl f a) (L.foldl f' b)
  | [], _, _, hab => hab
  | x :: L, a, _, hab =>
    foldl_agr f f' hpr h L _ _ (Agr.bind (fun s => f s x) (fun s => f' s x) hab (hpr a x) (h a x))

theorem stopStep_agr {cw cw' : State → Nat → State} (h : A1 cw cw') (s : State) (t : Nat) (th : Th) :
    Agr (stopStep cw s t th) (stopStep cw' s t th) := by
  unfold stopStep
  exact Agr.ite (fun _ => Agr.refl _) (fun _ => Agr.ite (fun _ => h _ _) (fun _ => Agr.refl _))

theorem aliveFold_agr {α : Type} (al : State → α → Bool) {f f' : State → α → State} (hpr : ∀ s a, Pres s (f s a))
    (h : ∀ s a, Agr (f s a) (f' s a)) (L : List α) (s : State) :
    Agr (L.foldl (fun s a => if al s a then f s a else s) s) (L.foldl (fun s a => if al s a then f' s a else s) s) := by
  refine foldl_agr _ _ (fun s x ho => ?_) (fun s x => ?_) _ _ _ (Agr.refl s)
  · split
    · exact (hpr s x).oof ho
    · exact ho
  · exact Agr.ite (fun _ => h s x) (fun _ => Agr.refl _)

theorem notifyLoop_agr {sn sn' : State → Nat → State} (hpr : Pres1 sn) (h : A1 sn sn') (s : State) (stopped : List Nat) :
    Agr (notifyLoop sn s stopped) (notifyLoop sn' s stopped) :=
  aliveFold_agr (fun s l => s.alive l) hpr h _ s

theorem wakeLoop_agr {swf swf' : State → Nat → Nat → Bool → State} (hpr : Pres3 swf) (h : A3 swf swf') (s : State)
    (name : Nat) (stopped : List Nat) : Agr (wakeLoop swf s name stopped) (wakeLoop swf' s name stopped) :=
  aliveFold_agr (fun s l => s.alive l) (fun s l => hpr s l name false) (fun s l => h s l name false) _ s

theorem killLoop_agr {swf swf' : State → Nat → Nat → Bool → State} (hpr : Pres3 swf) (h : A3 swf swf') (s : State)
    (stopped : List (Nat × Nat)) : Agr (killLoop swf s stopped) (killLoop swf' s stopped) :=
  aliveFold_agr (fun s (ln : Nat × Nat) => s.alive ln.1) (fun s ln => hpr s ln.1 ln.2 true)
    (fun s ln => h s ln.1 ln.2 true) _ s

theorem cwaZero_agr {swf swf' : State → Nat → Nat → Bool → State} {sn sn' : State → Nat → State}
    (hprsn : Pres1 sn) (hswf : A3 swf swf') (hsn : A1 sn sn') (s : State) (w : Nat) :
    Agr (cwaZero swf sn s w) (cwaZero swf' sn' s w) := by
  unfold cwaZero
  split
  · exact Agr.refl _
  · simp only
    refine Agr.bind (fun r => notifyLoop sn r _) (fun r => notifyLoop sn' r _) ?_
      (fun ho => (notifyLoop_pres hprsn _ _).oof ho) (notifyLoop_agr hprsn hsn _ _)
    exact Agr.ite (fun _ => hswf _ _ _ _) (fun _ => Agr.refl _)

theorem cwaRest_agr {swf swf' : State → Nat → Nat → Bool → State} {sn sn' : State → Nat → State}
    (hprsn : Pres1 sn) (hswf : A3 swf swf') (hsn : A1 sn sn') (s : State) (w : Nat) :
    Agr (cwaRest swf sn s w) (cwaRest swf' sn' s w) := by
  unfold cwaRest
  split
  · exact Agr.refl _
  · simp only
    exact Agr.bind (fun r => notifyLoop sn r _) (fun r => notifyLoop sn' r _) (hswf _ _ _ _)
      (fun ho => (notifyLoop_pres hprsn _ _).oof ho) (notifyLoop_agr hprsn hsn _ _)

theorem startTiming_agr {stp stp' : State → Nat → State} (h : A1 stp stp') (s : State) (t : Nat) :
    Agr (startTiming stp s t) (startTiming stp' s t) := by
  unfold startTiming
  refine Agr.map (fun r => if !r.alive t then r else addTiming (r.setTh t (fun th => { th with ts := .timing })) t 0)
    (h s t) (fun ho => ?_)
  split
  · exact ho
  · exact ho

def AgrP (a b : State × Bool) : Prop := a.1.outOfFuel = true ∨ b = a

theorem endOnLoop_agr {dt dt' : State → Nat → State} (hpr : Pres1 dt) (h : A1 dt dt') (s : State) (src name : Nat)
    (listeners : List Nat) : AgrP (endOnLoop dt s src name listeners) (endOnLoop dt' s src name listeners) := by
  unfold endOnLoop
  generalize listeners.reverse = L
  suffices hs : ∀ (L : List Nat) (acc acc' : State × Bool), AgrP acc acc' →
      AgrP (L.foldl (endOnStep dt src name) acc) (L.foldl (endOnStep dt' src name) acc')
    from hs L (s, false) (s, false) (Or.inr rfl)
  intro L
  induction L with
  | nil => intro acc acc' h; exact h
  | cons l L ih =>
    intro acc acc' hacc
    simp only [List.foldl_cons]
    apply ih
    unfold endOnStep
    rcases hacc with ho | he
    · left
      split
      · split
        · exact ho
        · exact (hpr _ _).oof ho
      · exact ho
    · subst he
      split
      · split
        · exact Or.inr rfl
        · rcases h acc'.1 l with ho | he
          · exact Or.inl ho
          · right; rw [he]
      · exact Or.inr rfl

theorem unregEndOn_agr {dt dt' : State → Nat → State} (hpr : Pres1 dt) (h : A1 dt dt') (s : State) (src name : Nat) :
    AgrP (unregEndOn dt s src name) (unregEndOn dt' s src name) := by
  unfold unregEndOn
  split
  · exact Or.inr rfl
  · split
    · exact Or.inr rfl
    · exact endOnLoop_agr hpr h _ _ _ _

theorem unregNotify_agr {swf swf' : State → Nat → Nat → Bool → State} {sn sn' : State → Nat → State}
    (hprswf : Pres3 swf) (hswf : A3 swf swf') (hsn : A1 sn sn') (s : State) (src name : Nat) :
    Agr (unregNotify swf sn s src name) (unregNotify swf' sn' s src name) := by
  unfold unregNotify
  split
  · exact Agr.refl _
  · split
    · exact Agr.refl _
    · simp only
      refine Agr.bind (fun r => wakeLoop swf r name _) (fun r => wakeLoop swf' r name _) ?_
        (fun ho => (wakeLoop_rel presSteps.toPre (hprswf · · name false) _ _).oof ho) (wakeLoop_agr hprswf hswf _ _ _)
      exact Agr.ite (fun _ => hsn _ _) (fun _ => Agr.refl _)

theorem uaRest_agr {swf swf' : State → Nat → Nat → Bool → State} {sn sn' : State → Nat → State}
    (hprswf : Pres3 swf) (hswf : A3 swf swf') (hsn : A1 sn sn') (s : State) (src : Nat) :
    Agr (uaRest swf sn s src) (uaRest swf' sn' s src) := by
  unfold uaRest
  split
  · exact Agr.refl _
  · simp only
    exact Agr.bind (fun r => killLoop swf r _) (fun r => killLoop swf' r _) (hsn _ _)
      (fun ho => (killLoop_rel presSteps.toPre (hprswf · · · true) _ _).oof ho) (killLoop_agr hprswf hswf _ _)

theorem regWait_agr {stp stp' : State → Nat → State} (h : A1 stp stp') (s : State) (o n c : Nat) :
    Agr (regWait stp s o n c) (regWait stp' s o n c) := by
  unfold regWait
  simp only
  split
  · refine Agr.map (fun r => ({ (vmSuspend (r.setTh c (fun th => { th with ts := .waiting })) c) with
      waitFor := Tbl.push (vmSuspend (r.setTh c (fun th => { th with ts := .waiting })) c).waitFor (c, n) o } : State))
      (h _ c) (fun ho => ho)
  · exact Agr.refl _

theorem waitOn_agr {stp stp' : State → Nat → State} (h : A1 stp stp') (s : State) (p ms : Nat) :
    Agr (waitOn stp s p ms) (waitOn stp' s p ms) := by
  unfold waitOn
  exact Agr.map (fun r => vmSuspend (addTiming (r.setTh p (fun th => { th with ts := .timing })) p ms) p) (h s p)
    (fun ho => ho)

theorem waitOnGuarded_agr {stp stp' : State → Nat → State} (h : A1 stp stp') (s : State) (p ms : Nat) :
    Agr (waitOnGuarded stp s p ms) (waitOnGuarded stp' s p ms) := by
  unfold waitOnGuarded waitOn
  refine Agr.map (fun r => if !r.alive p then r
    else vmSuspend (addTiming (r.setTh p (fun th => { th with ts := .timing })) p ms) p) (h s p) (fun ho => ?_)
  split
  · exact ho
  · exact ho

theorem execIfAlive_agr {ev ev' : State → Nat → State} (h : A1 ev ev') (s : State) (t : Nat) :
    Agr (execIfAlive ev s t) (execIfAlive ev' s t) := by
  unfold execIfAlive
  exact Agr.ite (fun _ => h s t) (fun _ => Agr.refl _)

/-- one more unit of fuel does not change a completed call -/
structure FMAll (n : Nat) : Prop where
  dt : A1 (deleteThread n) (deleteThread (n + 1))
  sn : A1 (stoppedNotify n) (stoppedNotify (n + 1))
  stp : A1 (stop n) (stop (n + 1))
  cwa : A1 (cancelWaitingAll n) (cancelWaitingAll (n + 1))
  swf : A3 (stoppedWaitFor n) (stoppedWaitFor (n + 1))
  ur : ∀ s src name, Agr (unregister n s src name) (unregister (n + 1) s src name)
  ua : A1 (unregisterAll n) (unregisterAll (n + 1))
  sei : A1 (scriptExecuteInternal n) (scriptExecuteInternal (n + 1))
  er : ∀ s, Agr (executeRunning n s) (executeRunning (n + 1) s)
  dr : ∀ s, Agr (drain n s) (drain (n + 1) s)
  ev : A1 (execVM n) (execVM (n + 1))
  pr : A1 (process n) (process (n + 1))
  ex : ∀ s t th ins, Agr (exec n s t th ins) (exec (n + 1) s t th ins)

theorem fmAll_zero : FMAll 0 where
  dt := fun s t => by rw [deleteThread_zero]; exact Or.inl rfl
  sn := fun s t => by rw [stoppedNotify_zero]; exact Or.inl rfl
  stp := fun s t => by rw [stop_zero]; exact Or.inl rfl
  cwa := fun s t => by rw [cancelWaitingAll_zero]; exact Or.inl rfl
  swf := fun s t n d => by rw [stoppedWaitFor_zero]; exact Or.inl rfl
  ur := fun s t n => by rw [unregister_zero]; exact Or.inl rfl
  ua := fun s t => by rw [unregisterAll_zero]; exact Or.inl rfl
  sei := fun s t => by rw [scriptExecuteInternal_zero]; exact Or.inl rfl
  er := fun s => by rw [executeRunning_zero]; exact Or.inl rfl
  dr := fun s => by rw [drain_zero]; exact Or.inl rfl
  ev := fun s t => by rw [execVM_zero]; exact Or.inl rfl
  pr := fun s t => by rw [process_zero]; exact Or.inl rfl
  ex := fun s t th ins => by rw [exec_zero]; exact Or.inl rfl

theorem FMAll.listenerEnd {n : Nat} (ih : FMAll n) {a b : State} (h : Agr a b) (o : Nat) :
    Agr (listenerEnd n a o) (listenerEnd (n + 1) b o) := by
  have hpr := presAll n
  have h1 := Agr.bind (fun r => unregister n r o nameDelete) (fun r => unregister (n + 1) r o nameDelete) h
    (fun ho => (hpr.ur _ _ _).oof ho) (ih.ur _ _ _)
  have h2 := Agr.bind (fun r => unregister n r o nameRemove) (fun r => unregister (n + 1) r o nameRemove) h1
    (fun ho => (hpr.ur _ _ _).oof ho) (ih.ur _ _ _)
  have h3 := Agr.bind (fun r => unregisterAll n r o) (fun r => unregisterAll (n + 1) r o) h2
    (fun ho => (hpr.ua _ _).oof ho) (ih.ua _ _)
  exact Agr.bind (fun r => cancelWaitingAll n r o) (fun r => cancelWaitingAll (n + 1) r o) h3
    (fun ho => (hpr.cwa _ _).oof ho) (ih.cwa _ _)

theorem exec_fm_succ {n : Nat} (ih : FMAll n) (s : State) (t : Nat) (th : Th) (ins : Instr) :
    Agr (exec (n + 1) s t th ins) (exec (n + 1 + 1) s t th ins) := by
  have hpr := presAll n
  cases ins with
  | mark k => rw [exec_mark, exec_mark]; exact Agr.refl _
  | pparam i => rw [exec_pparam, exec_pparam]; exact Agr.refl _
  | wait ms => rw [exec_wait, exec_wait]; exact waitOn_agr ih.stp _ _ _
  | waittill o names =>
    rw [exec_waittill, exec_waittill]
    split
    · exact Agr.refl _
    · split
      · exact Agr.refl _
      · exact foldl_agr _ _ (fun s x ho => (regWait_pres hpr.stp _ _ _ _).oof ho) (fun s x => regWait_agr ih.stp _ _ _ _) _ _ _
          (Agr.refl _)
  | waittillTimeout o m ms =>
    rw [exec_waittillTimeout, exec_waittillTimeout]
    split
    · exact Agr.refl _
    · split
      · exact Agr.refl _
      · rename_i c _
        exact Agr.map (fun r => postEvent r c (r.clock + ms)) (regWait_agr ih.stp _ _ _ _) (fun ho => ho)
  | notify o m =>
    rw [exec_notify, exec_notify]
    exact Agr.ite (fun _ => Agr.refl _) (fun _ => ih.ur _ _ _)
  | endon o m => rw [exec_endon, exec_endon]; exact Agr.refl _
  | delete o =>
    rw [exec_delete, exec_delete]
    exact Agr.ite (fun _ => Agr.refl _) (fun _ =>
      Agr.map (fun r => ({ r with objs := r.objs.erase o } : State)) (ih.listenerEnd (Agr.refl s) o) (fun ho => ho))
  | thread l =>
    rw [exec_thread, exec_thread]
    exact Agr.ite (fun _ => Agr.refl _) (fun _ => ih.sei _ _)
  | waitthread l =>
    rw [exec_waitthread, exec_waitthread]
    split
    · exact Agr.refl _
    · split
      · exact ih.sei _ _
      · exact Agr.bind (fun r => scriptExecuteInternal n r s.nextTid) (fun r => scriptExecuteInternal (n + 1) r s.nextTid)
          (regWait_agr ih.stp _ _ _ _) (fun ho => (hpr.sei _ _).oof ho) (ih.sei _ _)
  | pause =>
    rw [exec_pause, exec_pause]
    exact Agr.map (fun r => vmSuspend r t) (ih.stp _ _) (fun ho => ho)
  | waitParent ms =>
    rw [exec_waitParent, exec_waitParent]
    exact Agr.ite (fun _ => Agr.refl _) (fun _ => waitOnGuarded_agr ih.stp _ _ _)
  | waittillParent names =>
    rw [exec_waittillParent, exec_waittillParent]
    split
    · exact Agr.refl _
    · split
      · exact Agr.refl _
      · exact foldl_agr _ _ (fun s x ho => (regWait_pres hpr.stp _ _ _ _).oof ho) (fun s x => regWait_agr ih.stp _ _ _ _) _ _ _
          (Agr.refl _)
  | notifyParent m =>
    rw [exec_notifyParent, exec_notifyParent]
    exact Agr.ite (fun _ => Agr.refl _) (fun _ => ih.ur _ _ _)
  | end_ ev => rw [exec_end, exec_end]; exact ih.dt _ _
  | spawn o => rw [exec_spawn, exec_spawn]; exact Agr.refl _

theorem fmAll_succ {n : Nat} (ih : FMAll n) : FMAll (n + 1) where
  dt := fun s t => by
    rw [deleteThread_succ (n + 1), deleteThread_succ n]
    split
    · exact Agr.refl _
    · rename_i th _
      split
      · exact Agr.refl _
      · have h1 := Agr.map (fun r => cancelEvents (notifyDelete r t) t)
          (stopStep_agr ih.cwa (s.setTh t (fun th => { th with hasVM := false })) t th)
          (fun ho => ((notifyDelete_pres _ t).trans (cancelEvents_pres _ t)).oof ho)
        exact Agr.map (fun r => finishDelete r t) (ih.listenerEnd h1 t) (fun ho => (finishDelete_pres _ t).oof ho)
  sn := fun s l => by
    rw [stoppedNotify_succ (n + 1), stoppedNotify_succ n]
    exact Agr.ite (fun _ => Agr.ite (fun _ => ih.dt _ _) (fun _ => Agr.refl _)) (fun _ => Agr.refl _)
  stp := fun s t => by
    rw [stop_succ (n + 1), stop_succ n]
    split
    · exact Agr.refl _
    · exact stopStep_agr ih.cwa _ _ _
  cwa := fun s w => by
    have hpr := presAll n
    rw [cancelWaitingAll_succ (n + 1), cancelWaitingAll_succ n]
    exact Agr.bind (fun r => cwaRest (stoppedWaitFor n) (stoppedNotify n) r w)
      (fun r => cwaRest (stoppedWaitFor (n + 1)) (stoppedNotify (n + 1)) r w)
      (cwaZero_agr hpr.sn ih.swf ih.sn s w) (fun ho => (cwaRest_pres hpr.swf hpr.sn _ _).oof ho)
      (cwaRest_agr hpr.sn ih.swf ih.sn _ _)
  swf := fun s t name d => by
    rw [stoppedWaitFor_succ (n + 1), stoppedWaitFor_succ n]
    -- the two bodies branch on the same tests: decide each test once (a `split` of the pair of bodies is dear)
    by_cases h1 : (!isThread t) = true
    · simp only [h1, if_true]; exact Agr.refl _
    simp only [h1]
    cases hf : thFind s.threads t with
    | none => exact Agr.refl _
    | some th =>
      simp only
      by_cases h2 : (!th.hasVM) = true
      · simp only [h2, if_true]; exact Agr.refl _
      simp only [h2]
      by_cases h3 : d = true
      · simp only [h3, if_true]; exact ih.dt _ _
      simp only [h3]
      by_cases h4 : (th.ts == .waiting) = true
      · simp only [h4, if_true]
        by_cases h5 : (name != 0) = true
        · simp only [h5, if_true]
          by_cases h6 : (th.vm == .idling) = true
          · simp only [h6, if_true]; exact ih.sei _ _
          · simp only [h6]; exact Agr.refl _
        · simp only [h5]; exact startTiming_agr ih.stp _ _
      · simp only [h4]; exact Agr.refl _
  ur := fun s src name => by
    have hpr := presAll n
    rw [unregister_succ (n + 1), unregister_succ n]
    rcases unregEndOn_agr hpr.dt ih.dt s src name with ho | he
    · left
      split
      · exact ho
      · exact (unregNotify_pres hpr.swf hpr.sn _ _ _).oof ho
    · rw [he]
      split
      · exact Agr.refl _
      · exact unregNotify_agr hpr.swf ih.swf ih.sn _ _ _
  ua := fun s src => by
    have hpr := presAll n
    rw [unregisterAll_succ (n + 1), unregisterAll_succ n]
    exact Agr.bind
      (fun r => uaRest (stoppedWaitFor n) (stoppedNotify n) { r with endOn := Tbl.removeOwner r.endOn src } src)
      (fun r => uaRest (stoppedWaitFor (n + 1)) (stoppedNotify (n + 1)) { r with endOn := Tbl.removeOwner r.endOn src } src)
      (ih.ur s src 0) (fun ho => (uaRest_pres hpr.swf hpr.sn _ _).oof ho) (uaRest_agr hpr.swf ih.swf ih.sn _ _)
  sei := fun s t => by
    have hpr := presAll n
    rw [scriptExecuteInternal_succ (n + 1), scriptExecuteInternal_succ n]
    have h1 := ih.stp { s with cur := some t } t
    have h2 := Agr.bind (fun r => execIfAlive (execVM n) r t) (fun r => execIfAlive (execVM (n + 1)) r t) h1
      (fun ho => (execIfAlive_pres hpr.ev _ _).oof ho) (execIfAlive_agr ih.ev _ _)
    exact Agr.bind (fun r => executeRunning n (restoreCur r s.cur)) (fun r => executeRunning (n + 1) (restoreCur r s.cur)) h2
      (fun ho => (hpr.er _).oof ho) (ih.er _)
  er := fun s => by
    rw [executeRunning_succ (n + 1), executeRunning_succ n]
    exact Agr.ite (fun _ => Agr.refl _) (fun _ => Agr.ite (fun _ => Agr.refl _) (fun _ => ih.dr _))
  dr := fun s => by
    have hpr := presAll n
    rw [drain_succ (n + 1), drain_succ n]
    split
    · exact Agr.refl _
    · exact Agr.bind (fun r => drain n r) (fun r => drain (n + 1) r) (ih.ev _ _) (fun ho => (hpr.dr _).oof ho) (ih.dr _)
  ev := fun s t => by
    rw [execVM_succ (n + 1), execVM_succ n]
    exact Agr.map (fun r => vmEpilogue { r with depth := r.depth - 1 } t) (ih.pr _ _)
      (fun ho => (vmEpilogue_pres _ t).oof ho)
  pr := fun s t => by
    have hpr := presAll n
    rw [process_succ (n + 1), process_succ n]
    split
    · exact Agr.refl _
    · split
      · exact Agr.refl _
      · exact Agr.bind (fun r => process n r t) (fun r => process (n + 1) r t) (ih.ex _ _ _ _)
          (fun ho => (hpr.pr _ _).oof ho) (ih.pr _ _)
  ex := exec_fm_succ ih

theorem fmAll : ∀ n, FMAll n
  | 0 => fmAll_zero
  | n + 1 => fmAll_succ (fmAll n)

theorem mono_of_step_le (g : Nat → State) (h : ∀ n, Agr (g n) (g (n + 1))) {n m : Nat} (hnm : n ≤ m)
    (hn : (g n).outOfFuel = false) : g m = g n := by
  induction hnm with
  | refl => rfl
  | step _ ih =>
    rcases h _ with ho | he
    · rw [ih, hn] at ho; cases ho
    · rw [← ih]; exact he

/-- **`fuel_mono`**, for every function of the machine: if the call with fuel `n` did not run out of fuel, the call with
    any fuel `m ≥ n` returns exactly the same state (same output, same tables, flag down). -/
theorem fuel_mono {n m : Nat} (hnm : n ≤ m) :
    (∀ s t, (deleteThread n s t).outOfFuel = false → deleteThread m s t = deleteThread n s t) ∧
    (∀ s t, (stoppedNotify n s t).outOfFuel = false → stoppedNotify m s t = stoppedNotify n s t) ∧
    (∀ s t, (stop n s t).outOfFuel = false → stop m s t = stop n s t) ∧
    (∀ s t, (cancelWaitingAll n s t).outOfFuel = false → cancelWaitingAll m s t = cancelWaitingAll n s t) ∧
    (∀ s t a d, (stoppedWaitFor n s t a d).outOfFuel = false → stoppedWaitFor m s t a d = stoppedWaitFor n s t a d) ∧
    (∀ s o a, (unregister n s o a).outOfFuel = false → unregister m s o a = unregister n s o a) ∧
    (∀ s o, (unregisterAll n s o).outOfFuel = false → unregisterAll m s o = unregisterAll n s o) ∧
    (∀ s t, (scriptExecuteInternal n s t).outOfFuel = false → scriptExecuteInternal m s t = scriptExecuteInternal n s t) ∧
    (∀ s, (executeRunning n s).outOfFuel = false → executeRunning m s = executeRunning n s) ∧
    (∀ s, (drain n s).outOfFuel = false → drain m s = drain n s) ∧
    (∀ s t, (execVM n s t).outOfFuel = false → execVM m s t = execVM n s t) ∧
    (∀ s t, (process n s t).outOfFuel = false → process m s t = process n s t) ∧
    (∀ s t th ins, (exec n s t th ins).outOfFuel = false → exec m s t th ins = exec n s t th ins) :=
  ⟨fun s t => mono_of_step_le (fun k => deleteThread k s t) (fun k => (fmAll k).dt s t) hnm,
   fun s t => mono_of_step_le (fun k => stoppedNotify k s t) (fun k => (fmAll k).sn s t) hnm,
   fun s t => mono_of_step_le (fun k => stop k s t) (fun k => (fmAll k).stp s t) hnm,
   fun s t => mono_of_step_le (fun k => cancelWaitingAll k s t) (fun k => (fmAll k).cwa s t) hnm,
   fun s t a d => mono_of_step_le (fun k => stoppedWaitFor k s t a d) (fun k => (fmAll k).swf s t a d) hnm,
   fun s o a => mono_of_step_le (fun k => unregister k s o a) (fun k => (fmAll k).ur s o a) hnm,
   fun s o => mono_of_step_le (fun k => unregisterAll k s o) (fun k => (fmAll k).ua s o) hnm,
   fun s t => mono_of_step_le (fun k => scriptExecuteInternal k s t) (fun k => (fmAll k).sei s t) hnm,
   fun s => mono_of_step_le (fun k => executeRunning k s) (fun k => (fmAll k).er s) hnm,
   fun s => mono_of_step_le (fun k => drain k s) (fun k => (fmAll k).dr s) hnm,
   fun s t => mono_of_step_le (fun k => execVM k s t) (fun k => (fmAll k).ev s t) hnm,
   fun s t => mono_of_step_le (fun k => process k s t) (fun k => (fmAll k).pr s t) hnm,
   fun s t th ins => mono_of_step_le (fun k => exec k s t th ins) (fun k => (fmAll k).ex s t th ins) hnm⟩

/-- the host call's execution: if it completes with `defaultFuel`, any larger constant returns the same state -/
theorem fuel_mono_default (s : State) (t : Nat) (m : Nat) (hm : defaultFuel ≤ m)
    (h : (scriptExecuteInternal defaultFuel s t).outOfFuel = false) :
    scriptExecuteInternal m s t = scriptExecuteInternal defaultFuel s t :=
  (fuel_mono hm).2.2.2.2.2.2.2.1 s t h

def fuelDemo : State :=
  { prog := [[.mark 1, .waitthread 1, .mark 2], [.wait 5, .end_ (.lit 7)]], progParams := [0, 0], threads := [(100, { label := 0, inst := 1 })], insts := [(1, [100])], nextTid := 101, nextInst := 2 }

/-- non-vacuity: the two-thread `waitthread` demo started by hand needs 10 units of fuel (9 are not enough), and with 10
    it returns the output and the timer that `defaultFuel = 4000` returns -/
example :
    (scriptExecuteInternal 9 fuelDemo 100).outOfFuel = true ∧ (scriptExecuteInternal 10 fuelDemo 100).outOfFuel = false ∧
      (scriptExecuteInternal 10 fuelDemo 100).out = (scriptExecuteInternal defaultFuel fuelDemo 100).out ∧
      (scriptExecuteInternal 10 fuelDemo 100).timer = (scriptExecuteInternal defaultFuel fuelDemo 100).timer := by
  decide +kernel

example : scriptExecuteInternal defaultFuel fuelDemo 100 = scriptExecuteInternal 10 fuelDemo 100 :=
  (fuel_mono (by decide : 10 ≤ defaultFuel)).2.2.2.2.2.2.2.1 fuelDemo 100 (by decide +kernel)

end Morfuse.Sched
