import MorfuseModel.Sched.TimerLemmas
/-!
# Histories of timer operations and their ledger

`TOp` = the four operations of `con::timer`; `TRun` = a timer together with the ledger of everything that ever
happened to it (added, returned with the `m_time` of the moment, removed).  The theorems about every history are
in `Props/C06.lean`; `Sched/MachineTimerTrace.lean` shows that the scheduler machine's timer is the result of such a
history.  Between two `SetTime`s the machine's histories have no `setTime` (`NoSet`) and every `add` not before a bound
(`AddsFrom`), hence not before the `m_time` of the moment (`AddsLate`, `addsLate_of`).
-/
namespace Morfuse.Sched

inductive TOp
  | add (e due : Nat)        -- `AddElement` (a thread executed `wait`, or was re-timed)
  | remove (e : Nat)         -- `RemoveElement` (`Stop()` of a timing thread, thread destruction)
  | setTime (t : Nat)        -- `SetTime` (host frame)
  | next                     -- one iteration of the `ExecuteRunning` loop
  deriving Repr, DecidableEq

/-- a timer together with the ledger of everything that ever happened to it -/
structure TRun where
  t : Timer := {}
  added : List (Nat × Nat) := []
  returned : List ((Nat × Nat) × Nat) := []     -- element and `m_time` at the moment it was returned
  removed : List (Nat × Nat) := []

def TRun.step (r : TRun) : TOp → TRun
  | .add e d => { r with t := r.t.add e d, added := (e, d) :: r.added }
  | .remove e =>
    match Timer.lastIdxOf r.t.elems e with
    | some i => { r with t := r.t.remove e, removed := r.t.elems.getD i (0, 0) :: r.removed }
    | none => r
  | .setTime time => { r with t := r.t.setTime time }
  | .next =>
    match r.t.next with
    | (some ed, t') => { r with t := t', returned := (ed, r.t.mtime) :: r.returned }
    | (none, t') => { r with t := t' }

def TRun.run (r : TRun) (ops : List TOp) : TRun := ops.foldl TRun.step r

theorem TRun.run_induction {P : TRun → Prop} (hstep : ∀ r op, P r → P (r.step op)) :
    ∀ (ops : List TOp) (r : TRun), P r → P (r.run ops)
  | [], _, h => h
  | op :: ops, r, h => TRun.run_induction hstep ops _ (hstep r op h)

/-- the timer after a history (the ledger forgotten) -/
def timerRun (tm : Timer) (ops : List TOp) : Timer := (TRun.run { t := tm } ops).t

def TOp.apply (tm : Timer) : TOp → Timer
  | .add e d => tm.add e d
  | .remove e => tm.remove e
  | .setTime time => tm.setTime time
  | .next => tm.next.2

theorem TRun.step_t (r : TRun) (op : TOp) : (r.step op).t = TOp.apply r.t op := by
  cases op with
  | add e d => rfl
  | remove e => simp only [TRun.step, TOp.apply, Timer.remove]; split <;> simp [*]
  | setTime T => rfl
  | next => simp only [TRun.step, TOp.apply]; split <;> simp [*]

/-- the ledger does not influence the timer: a history acts on it operation by operation -/
theorem TRun.run_t : ∀ (ops : List TOp) (r : TRun), (r.run ops).t = ops.foldl TOp.apply r.t
  | [], _ => rfl
  | op :: ops, r => by
    simp only [TRun.run, List.foldl_cons]
    exact (TRun.run_t ops _).trans (by rw [TRun.step_t])

theorem timerRun_eq (tm : Timer) (ops : List TOp) : timerRun tm ops = ops.foldl TOp.apply tm := TRun.run_t ops _

theorem timerRun_of_run (r : TRun) (ops : List TOp) : (r.run ops).t = timerRun r.t ops := by
  rw [TRun.run_t, timerRun_eq]

theorem timerRun_nil (tm : Timer) : timerRun tm [] = tm := rfl

theorem timerRun_append (tm : Timer) (a b : List TOp) : timerRun tm (a ++ b) = timerRun (timerRun tm a) b := by
  simp only [timerRun_eq, List.foldl_append]

theorem timerRun_cons (tm : Timer) (op : TOp) (ops : List TOp) :
    timerRun tm (op :: ops) = timerRun (timerRun tm [op]) ops := timerRun_append tm [op] ops

theorem timerRun_one (tm : Timer) (op : TOp) : timerRun tm [op] = TOp.apply tm op := timerRun_eq tm [op]

theorem timerRun_add (tm : Timer) (e d : Nat) : timerRun tm [.add e d] = tm.add e d := rfl
theorem timerRun_setTime (tm : Timer) (T : Nat) : timerRun tm [.setTime T] = tm.setTime T := rfl
theorem timerRun_next (tm : Timer) : timerRun tm [.next] = tm.next.2 := timerRun_one tm .next
theorem timerRun_remove (tm : Timer) (e : Nat) : timerRun tm [.remove e] = tm.remove e := timerRun_one tm (.remove e)

theorem timerRun_one_mtime (tm : Timer) (op : TOp) (h : ∀ T, op ≠ .setTime T) : (timerRun tm [op]).mtime = tm.mtime := by
  cases op with
  | add e d => rfl
  | remove e => rw [timerRun_remove, Timer.remove_mtime]
  | setTime T => exact absurd rfl (h T)
  | next => rw [timerRun_next, Timer.next_mtime]

def NoSet (ops : List TOp) : Prop := ∀ op ∈ ops, ∀ T, op ≠ .setTime T
def AddsFrom (b : Nat) (ops : List TOp) : Prop := ∀ e due, TOp.add e due ∈ ops → b ≤ due

/-- every `add` of the history carries a due time `≥` the timer's `m_time` at that moment -/
def AddsLate : Timer → List TOp → Prop
  | _, [] => True
  | tm, op :: ops =>
    (match op with
      | .add _ due => tm.mtime ≤ due
      | _ => True) ∧ AddsLate (timerRun tm [op]) ops

theorem AddsLate.append : ∀ (a b : List TOp) (tm : Timer), AddsLate tm a → AddsLate (timerRun tm a) b →
    AddsLate tm (a ++ b)
  | [], _, _, _, hb => hb
  | op :: a, b, tm, ha, hb => by
    refine ⟨ha.1, AddsLate.append a b _ ha.2 ?_⟩
    rw [← timerRun_cons]; exact hb

theorem addsLate_of : ∀ (ops : List TOp) (tm : Timer) (b : Nat), NoSet ops → AddsFrom b ops → tm.mtime ≤ b →
    AddsLate tm ops
  | [], _, _, _, _, _ => trivial
  | op :: ops, tm, b, hn, ha, hb => by
    refine ⟨?_, addsLate_of ops _ b (fun o ho => hn o (List.mem_cons_of_mem _ ho))
      (fun e d hm => ha e d (List.mem_cons_of_mem _ hm)) ?_⟩
    · cases op with
      | add e due => exact Nat.le_trans hb (ha e due List.mem_cons_self)
      | _ => trivial
    · rw [timerRun_one_mtime tm op (hn op List.mem_cons_self)]; exact hb

end Morfuse.Sched
