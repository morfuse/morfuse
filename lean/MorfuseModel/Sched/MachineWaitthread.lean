import MorfuseModel.Sched.MachineSteps
/-!
# A `waitthread` caller is released only by the end of the callee

Fixed: a listener `c0` and a thread id `t0 ≥ 100`.  `WTR c0 t0 s s'`: under the program side condition `WTSafe s.prog`
(no `local.p0 notify 0`; the object literals of `notify` / `delete` are object ids `< 100`) and `t0 < s.nextTid`:
the program is kept, the fuel flag stays set, `t0` does not get a live VM back, and **if `c0` is registered on channel 0 of `t0`
before, then afterwards it still is, or `t0` has no live VM any more (no record / VM gone / destroyed), or the fuel ran out**.
`wtrAll`: every function of the machine satisfies it — nested executions, cascades, wake loops included.  Unconditional in
the state (no invariant).  `WTR` satisfies `Steps` but not `Steps.Full`: whether a removal from the notify table is
harmless depends on where it happens, which is the induction of this file.

Why it holds: `c0` leaves entry `(t0, 0)` through
* `Unregister(0)` / `UnregisterAll` on `t0` — reached only from `t0`'s destructor (after `hasVM := false`), the script
  instructions `o notify n` / `delete o` (objects, `o < 100 ≤ t0`) and `local.p0 notify n` (`n ≠ 0` by `WTSafe`);
* `CancelWaiting` of `c0` (its own `Stop()`: destruction, re-timing, `Wait(d)` sent to it, a `waittill_timeout` event):
  `CancelWaitingSources` puts `t0` on the stopped list and the loop after it calls `t0->StoppedNotify()`, which **deletes the
  thread `t0`** — a thread nobody waits for any more deletes itself.  So even `local.p0 wait d` (the generator's `hub`
  family) ends the callee; the side condition does not need to exclude it.
-/
namespace Morfuse.Sched
open State

/-- program side condition of the `waitthread` clause -/
def Instr.wtSafe : Instr → Prop
  | .notifyParent n => n ≠ 0
  | .notify o _ => o < 100
  | .delete o => o < 100
  | _ => True

def WTSafe (p : List (List Instr)) : Prop := ∀ body ∈ p, ∀ ins ∈ body, ins.wtSafe

instance (i : Instr) : Decidable i.wtSafe := by
  cases i <;> unfold Instr.wtSafe <;> infer_instance

instance (p : List (List Instr)) : Decidable (WTSafe p) := by unfold WTSafe; infer_instance

theorem WTSafe.fetch {p : List (List Instr)} (h : WTSafe p) (l pc : Nat) :
    ((p.getD l []).getD pc (.end_ .none)).wtSafe := fetch_of_forall h trivial l pc

theorem LiveVM.congr {s s' : State} {u : Nat} (h : s'.threads = s.threads) (l : LiveVM s' u) : LiveVM s u := by
  obtain ⟨th, h1, h2, h3⟩ := l
  exact ⟨th, by rw [← h]; exact h1, h2, h3⟩

theorem LiveVM.of_setTh {s : State} {t : Nat} {f : Th → Th} {u : Nat}
    (hf : ∀ x, (f x).hasVM = true → (f x).dead = false → x.hasVM = true ∧ x.dead = false)
    (l : LiveVM (s.setTh t f) u) : LiveVM s u := by
  obtain ⟨th', h, hv, hd⟩ := l
  rcases thFind_setTh_some h with ⟨rfl, th, hth, rfl⟩ | ⟨_, hth⟩
  · exact ⟨th, hth, hf th hv hd⟩
  · exact ⟨th', hth, hv, hd⟩

theorem not_live_of_not_alive {s : State} {u : Nat} (hu : 100 ≤ u) (h : ¬ (s.alive u = true)) : ¬ LiveVM s u := by
  rintro ⟨th, h1, _, h3⟩
  apply h
  unfold State.alive
  have : isThread u = true := by unfold isThread; simpa using hu
  rw [if_pos this, List.any_eq_true]
  exact ⟨(u, th), thFind_some_mem h1, by simp [h3]⟩

theorem not_live_of_noVM {s : State} {u : Nat} (h : ¬ (s.hasVM u = true)) : ¬ LiveVM s u := by
  rintro ⟨th, h1, h2, _⟩
  apply h
  rw [State.hasVM_eq, h1]; exact h2

section
variable (c0 t0 : Nat)

/-- the callee has ended (or the run is out of fuel) -/
def Ended (s : State) : Prop := ¬ LiveVM s t0 ∨ s.outOfFuel = true

structure WTR0 (s s' : State) : Prop where
  prog : s'.prog = s.prog
  nt : s.nextTid ≤ s'.nextTid
  lv : LiveVM s' t0 → LiveVM s t0
  oof : s.outOfFuel = true → s'.outOfFuel = true
  core : c0 ∈ Tbl.getD s.notify (t0, 0) → c0 ∈ Tbl.getD s'.notify (t0, 0) ∨ Ended t0 s'

def WTR (s s' : State) : Prop := WTSafe s.prog → t0 < s.nextTid → WTR0 c0 t0 s s'
end

variable {c0 t0 : Nat}

theorem WTR0.gone {a b : State} (r : WTR0 c0 t0 a b) (g : Ended t0 a) : Ended t0 b := by
  rcases g with g | g
  · exact Or.inl (fun l => g (r.lv l))
  · exact Or.inr (r.oof g)

theorem WTR0.pw {a b : State} (r : WTR0 c0 t0 a b) (h : WTSafe a.prog) : WTSafe b.prog := by rw [r.prog]; exact h
theorem WTR0.lt {a b : State} (r : WTR0 c0 t0 a b) (h : t0 < a.nextTid) : t0 < b.nextTid := Nat.lt_of_lt_of_le h r.nt

theorem WTR0.trans {a b c : State} (h1 : WTR0 c0 t0 a b) (h2 : WTR0 c0 t0 b c) : WTR0 c0 t0 a c := by
  refine ⟨h2.prog.trans h1.prog, Nat.le_trans h1.nt h2.nt, fun l => h1.lv (h2.lv l), fun h => h2.oof (h1.oof h), fun hc => ?_⟩
  rcases h1.core hc with h | g
  · exact h2.core h
  · exact Or.inr (h2.gone g)

theorem WTR.refl (s : State) : WTR c0 t0 s s := fun _ _ => ⟨rfl, Nat.le_refl _, fun l => l, fun h => h, fun h => Or.inl h⟩

theorem WTR.trans {a b c : State} (h1 : WTR c0 t0 a b) (h2 : WTR c0 t0 b c) : WTR c0 t0 a c := fun hp hlt =>
  (h1 hp hlt).trans (h2 ((h1 hp hlt).pw hp) ((h1 hp hlt).lt hlt))

theorem WTR.step {s s' : State} (h1 : s'.threads = s.threads) (h2 : s'.nextTid = s.nextTid) (h3 : s'.prog = s.prog)
    (h5 : s'.outOfFuel = s.outOfFuel)
    (hn : c0 ∈ Tbl.getD s.notify (t0, 0) → c0 ∈ Tbl.getD s'.notify (t0, 0) ∨ Ended t0 s') : WTR c0 t0 s s' := fun _ _ =>
  ⟨h3, by rw [h2]; exact Nat.le_refl _, fun l => l.congr h1, fun h => by rw [h5]; exact h, hn⟩

theorem WTR.of_eq {s s' : State} (h1 : s'.threads = s.threads) (h2 : s'.nextTid = s.nextTid) (h3 : s'.prog = s.prog)
    (h4 : s'.notify = s.notify) (h5 : s'.outOfFuel = s.outOfFuel) : WTR c0 t0 s s' :=
  WTR.step h1 h2 h3 h5 (fun h => Or.inl (by rw [h4]; exact h))

theorem WTR.fuel (s : State) : WTR c0 t0 s { s with outOfFuel := true } := fun _ _ =>
  ⟨rfl, Nat.le_refl _, fun l => l.congr rfl, fun _ => rfl, fun _ => Or.inr (Or.inr rfl)⟩

theorem WTR.setTh (s : State) (t : Nat) (f : Th → Th)
    (hf : ∀ x, (f x).hasVM = true → (f x).dead = false → x.hasVM = true ∧ x.dead = false := by
      intro x h1 h2; first | exact ⟨h1, h2⟩ | cases h2 | cases h1) : WTR c0 t0 s (s.setTh t f) := fun _ _ =>
  ⟨rfl, Nat.le_refl _, fun l => l.of_setTh hf, fun h => h, fun h => Or.inl h⟩

theorem WTR.filter (s : State) (t : Nat) : WTR c0 t0 s { s with threads := s.threads.filter (fun e => !(e.1 == t)) } :=
  fun _ _ => ⟨rfl, Nat.le_refl _, fun ⟨th', h, hv, hd⟩ => ⟨th', (thFind_filter_some h).2, hv, hd⟩, fun h => h, fun h => Or.inl h⟩

theorem WTR.append (s s' : State) (r : Th) (h1 : s'.threads = s.threads ++ [(s.nextTid, r)])
    (h2 : s'.nextTid = s.nextTid + 1) (h3 : s'.prog = s.prog) (h4 : s'.notify = s.notify)
    (h5 : s'.outOfFuel = s.outOfFuel) : WTR c0 t0 s s' := fun _ hlt => by
  refine ⟨h3, by rw [h2]; exact Nat.le_succ _, fun l => ?_, fun h => by rw [h5]; exact h, fun h => Or.inl (by rw [h4]; exact h)⟩
  obtain ⟨th', h, hv, hd⟩ := l
  rw [h1] at h
  rcases thFind_append_some h with h | ⟨_, h, _⟩
  · exact ⟨th', h, hv, hd⟩
  · exact absurd h (Nat.ne_of_lt hlt)

theorem WTR.removeFromInst (s : State) (t i : Nat) : WTR c0 t0 s (removeFromInst s t i) := by
  rw [removeFromInst_frame]; exact WTR.of_eq rfl rfl rfl rfl rfl

def WTR1 (c0 t0 : Nat) (f : State → Nat → State) : Prop := ∀ s a, WTR c0 t0 s (f s a)
def WTR2 (c0 t0 : Nat) (f : State → Nat → Nat → State) : Prop := ∀ s a b, WTR c0 t0 s (f s a b)
def WTR3 (c0 t0 : Nat) (f : State → Nat → Nat → Bool → State) : Prop := ∀ s a b c, WTR c0 t0 s (f s a b c)

theorem WTR.register (s : State) (o n c : Nat) :
    WTR c0 t0 s { s with notify := Tbl.push s.notify (o, n) c } :=
  WTR.step rfl rfl rfl rfl (fun hc => Or.inl (by
    show c0 ∈ Tbl.getD (Tbl.push s.notify (o, n) c) (t0, 0)
    rw [Tbl.getD_push]
    split
    · rename_i hk; rw [← hk]; exact List.mem_append_left _ hc
    · exact hc))

theorem WTR.steps : Steps (WTR c0 t0) where
  refl := WTR.refl
  trans := WTR.trans
  frame := fun _ _ _ _ _ _ => WTR.of_eq rfl rfl rfl rfl rfl
  fuel := WTR.fuel
  setTh := fun s t f hf => WTR.setTh s t f fun x h1 h2 => ⟨hf.hasVM x h1, hf.dead x h2⟩
  dropThread := fun s t _ _ => WTR.filter s t
  unlinkVM := WTR.removeFromInst
  timerRemove := fun _ _ => WTR.of_eq rfl rfl rfl rfl rfl
  addTimer := fun _ _ _ => WTR.of_eq rfl rfl rfl rfl rfl
  timerNext := fun _ => WTR.of_eq rfl rfl rfl rfl rfl
  sameInst := fun s t th l => WTR.append s (spawnSame s t th l) _ rfl rfl rfl rfl rfl
  newInst := fun s t l => WTR.append s (spawnNew s t l) _ rfl rfl rfl rfl rfl
  register := WTR.register

theorem WTR.blind : Blind (WTR c0 t0) :=
  ⟨fun _ _ => WTR.of_eq rfl rfl rfl rfl rfl, fun _ _ => WTR.of_eq rfl rfl rfl rfl rfl, fun _ _ => WTR.of_eq rfl rfl rfl rfl rfl⟩

/-- `StoppedNotify` on the callee ends it -/
def SnE (t0 : Nat) (sn : State → Nat → State) : Prop := ∀ s, WTSafe s.prog → t0 < s.nextTid → Ended t0 (sn s t0)

theorem notifyFold_gone {sn : State → Nat → State} (hsn : WTR1 c0 t0 sn) (hsnE : SnE t0 sn) (ht0 : 100 ≤ t0) :
    ∀ (L : List Nat) (s : State), WTSafe s.prog → t0 < s.nextTid → t0 ∈ L →
      Ended t0 (L.foldl (fun s src => if s.alive src then sn s src else s) s)
  | [], _, _, _, h => by cases h
  | a :: L, s, hp, hlt, h => by
    simp only [List.foldl_cons]
    have step := ifAlive_rel (WTR.steps (c0 := c0) (t0 := t0)).toPre (fun s l => s.alive l) hsn
    have r := step s a hp hlt
    by_cases ha : a = t0
    · have g : Ended t0 (if s.alive a then sn s a else s) := by
        rw [ha]
        split
        · exact hsnE s hp hlt
        · rename_i hal; exact Or.inl (not_live_of_not_alive ht0 hal)
      exact (foldl_rel WTR.steps.toPre _ step L _ (r.pw hp) (r.lt hlt)).gone g
    · have hm : t0 ∈ L := by
        rcases List.mem_cons.1 h with e | e
        · exact absurd e.symm ha
        · exact e
      exact notifyFold_gone hsn hsnE ht0 L _ (r.pw hp) (r.lt hlt) hm

/-- the pattern of `CancelWaiting`: purge the notify table (`s → s1`), something in between (`s1 → s2`), then
    `StoppedNotify` on every stopped source: if the purge removed `c0` from `(t0, 0)`, `t0` is among the stopped -/
theorem purgeThenLoop_wtr {sn : State → Nat → State} (hsn : WTR1 c0 t0 sn) (hsnE : SnE t0 sn) (ht0 : 100 ≤ t0)
    (s s1 s2 : State) (stopped : List Nat)
    (e1 : s1.threads = s.threads) (e2 : s1.nextTid = s.nextTid) (e3 : s1.prog = s.prog)
    (e5 : s1.outOfFuel = s.outOfFuel)
    (hkeep : c0 ∈ Tbl.getD s.notify (t0, 0) → c0 ∈ Tbl.getD s1.notify (t0, 0) ∨ t0 ∈ stopped)
    (h12 : WTR c0 t0 s1 s2) : WTR c0 t0 s (notifyLoop sn s2 stopped) := fun hp hlt => by
  have hp1 : WTSafe s1.prog := by rw [e3]; exact hp
  have hlt1 : t0 < s1.nextTid := by rw [e2]; exact hlt
  have r12 := h12 hp1 hlt1
  have rl := notifyLoop_rel WTR.steps.toPre hsn s2 stopped (r12.pw hp1) (r12.lt hlt1)
  have r := r12.trans rl
  refine ⟨r.prog.trans e3, by rw [← e2]; exact r.nt, fun l => (r.lv l).congr e1, fun h => r.oof (by rw [e5]; exact h),
    fun hc => ?_⟩
  rcases hkeep hc with h | h
  · exact r.core h
  · right
    unfold notifyLoop
    exact notifyFold_gone hsn hsnE ht0 _ s2 (r12.pw hp1) (r12.lt hlt1) (List.mem_reverse.2 h)

theorem cwaZero_wtr {swf : State → Nat → Nat → Bool → State} {sn : State → Nat → State}
    (hswf : WTR3 c0 t0 swf) (hsn : WTR1 c0 t0 sn) (hsnE : SnE t0 sn) (ht0 : 100 ≤ t0) (s : State) (w : Nat) :
    WTR c0 t0 s (cwaZero swf sn s w) := by
  unfold cwaZero
  split
  · exact WTR.refl s
  · rename_i list _
    simp only [cancelWaitingSources_eq_purge]
    refine purgeThenLoop_wtr hsn hsnE ht0 s
      { s with notify := (Tbl.purge s.alive s.notify w 0 list []).1, waitFor := Tbl.removeKey s.waitFor (w, 0) } _ _
      rfl rfl rfl rfl (fun hc => Tbl.purge_keeps _ _ _ _ _ _ _ _ _ hc) ?_
    split
    · exact hswf _ _ _ _
    · exact WTR.refl _

theorem cwaRest_wtr {swf : State → Nat → Nat → Bool → State} {sn : State → Nat → State}
    (hswf : WTR3 c0 t0 swf) (hsn : WTR1 c0 t0 sn) (hsnE : SnE t0 sn) (ht0 : 100 ≤ t0) (s : State) (w : Nat) :
    WTR c0 t0 s (cwaRest swf sn s w) := by
  unfold cwaRest
  split
  · exact WTR.refl s
  · simp only [cwaSources_frame]
    exact purgeThenLoop_wtr hsn hsnE ht0 s
      { s with notify := (Tbl.multiPurge s.alive s.notify w (Tbl.keysOf s.waitFor w) []).1, waitFor := Tbl.removeOwner s.waitFor w } _ _
      rfl rfl rfl rfl (fun hc => Tbl.multiPurge_keeps _ _ _ _ _ _ _ _ hc) (hswf _ _ _ _)

theorem unregNotify_wtr {swf : State → Nat → Nat → Bool → State} {sn : State → Nat → State}
    (hswf : WTR3 c0 t0 swf) (hsn : WTR1 c0 t0 sn) (s : State) (src name : Nat)
    (hpre : src = t0 ∧ name = 0 → Ended t0 s) :
    WTR c0 t0 s (unregNotify swf sn s src name) := by
  refine unregNotify_rel WTR.steps.toPre (fun list => ?_) (hswf · · name false) (hsn · src)
  refine WTR.step rfl rfl rfl rfl (fun hc => ?_)
  show c0 ∈ Tbl.getD (Tbl.removeKey s.notify (src, name)) (t0, 0) ∨ _
  rw [Tbl.getD_removeKey]
  by_cases hkk : (t0, 0) = (src, name)
  · right
    simp only [Prod.mk.injEq] at hkk
    exact hpre ⟨hkk.1.symm, hkk.2.symm⟩
  · left; rw [if_neg hkk]; exact hc

theorem uaRest_wtr {swf : State → Nat → Nat → Bool → State} {sn : State → Nat → State}
    (hswf : WTR3 c0 t0 swf) (hsn : WTR1 c0 t0 sn) (s : State) (src : Nat) (hpre : src = t0 → Ended t0 s) :
    WTR c0 t0 s (uaRest swf sn s src) := by
  refine uaRest_rel WTR.steps.toPre ?_ (hswf · · · true) (hsn · src)
  refine WTR.step rfl rfl rfl rfl (fun hc => ?_)
  show c0 ∈ Tbl.getD (Tbl.removeOwner s.notify src) (t0, 0) ∨ _
  rw [Tbl.getD_removeOwner]
  by_cases hkk : t0 = src
  · right; exact hpre hkk.symm
  · left; rw [if_neg hkk]; exact hc

structure WTRAll (c0 t0 : Nat) (fuel : Nat) : Prop where
  dt : WTR1 c0 t0 (deleteThread fuel)
  dtE : SnE t0 (deleteThread fuel)
  sn : WTR1 c0 t0 (stoppedNotify fuel)
  snE : SnE t0 (stoppedNotify fuel)
  stp : WTR1 c0 t0 (stop fuel)
  cwa : WTR1 c0 t0 (cancelWaitingAll fuel)
  swf : WTR3 c0 t0 (stoppedWaitFor fuel)
  ur : ∀ s src name, (src = t0 ∧ name = 0 → Ended t0 s) → WTR c0 t0 s (unregister fuel s src name)
  ua : ∀ s src, (src = t0 → Ended t0 s) → WTR c0 t0 s (unregisterAll fuel s src)
  sei : WTR1 c0 t0 (scriptExecuteInternal fuel)
  er : ∀ s, WTR c0 t0 s (executeRunning fuel s)
  dr : ∀ s, WTR c0 t0 s (drain fuel s)
  ev : WTR1 c0 t0 (execVM fuel)
  pr : WTR1 c0 t0 (process fuel)
  ex : ∀ s t th ins, ins.wtSafe → WTR c0 t0 s (exec fuel s t th ins)

theorem wtrAll_zero : WTRAll c0 t0 0 where
  dt := fun s t => by rw [deleteThread_zero]; exact WTR.fuel s
  dtE := fun s _ _ => by rw [deleteThread_zero]; exact Or.inr rfl
  sn := fun s t => by rw [stoppedNotify_zero]; exact WTR.fuel s
  snE := fun s _ _ => by rw [stoppedNotify_zero]; exact Or.inr rfl
  stp := fun s t => by rw [stop_zero]; exact WTR.fuel s
  cwa := fun s t => by rw [cancelWaitingAll_zero]; exact WTR.fuel s
  swf := fun s t n d => by rw [stoppedWaitFor_zero]; exact WTR.fuel s
  ur := fun s t n _ => by rw [unregister_zero]; exact WTR.fuel s
  ua := fun s t _ => by rw [unregisterAll_zero]; exact WTR.fuel s
  sei := fun s t => by rw [scriptExecuteInternal_zero]; exact WTR.fuel s
  er := fun s => by rw [executeRunning_zero]; exact WTR.fuel s
  dr := fun s => by rw [drain_zero]; exact WTR.fuel s
  ev := fun s t => by rw [execVM_zero]; exact WTR.fuel s
  pr := fun s t => by rw [process_zero]; exact WTR.fuel s
  ex := fun s t th ins _ => by rw [exec_zero]; exact WTR.fuel s

theorem WTR.trans_gone {a b c : State} {P : Prop} (hpre : P → Ended t0 a) (h1 : WTR c0 t0 a b)
    (h2 : (P → Ended t0 b) → WTR c0 t0 b c) : WTR c0 t0 a c := fun hp hlt =>
  (WTR.trans h1 (h2 (fun p => (h1 hp hlt).gone (hpre p)))) hp hlt

theorem not_live_setTh_noVM (s : State) (t : Nat) :
    ¬ LiveVM (s.setTh t (fun th => { th with hasVM := false })) t := by
  rintro ⟨th', h, hv, _⟩
  rcases thFind_setTh_some h with ⟨_, th, _, rfl⟩ | ⟨hne, _⟩
  · cases hv
  · exact hne rfl

/-- `~ScriptThread` after `m_ScriptVM = nullptr` -/
theorem deleteChain_wtr {fuel : Nat} (ih : WTRAll c0 t0 fuel) (s : State) (t : Nat) (th : Th) :
    WTR c0 t0 (s.setTh t (fun th => { th with hasVM := false }))
      (finishDelete (listenerEnd fuel (cancelEvents (notifyDelete (stopStep (cancelWaitingAll fuel)
        (s.setTh t (fun th => { th with hasVM := false })) t th) t) t) t) t) := by
  have g0 : t = t0 → Ended t0 (s.setTh t (fun th => { th with hasVM := false })) := by
    intro h; subst h; exact Or.inl (not_live_setTh_noVM s t)
  have h := WTR.steps (c0 := c0) (t0 := t0)
  have l1 := ((stopStep_rel h.toPre (h.setTs · t .running) (h.timerRemove · t) (ih.cwa · t)
      (s.setTh t (fun th => { th with hasVM := false })) th).trans
    (notifyDelete_rel h _ t)).trans (cancelEvents_rel h _ t)
  have l2 := (l1.trans (ih.ur _ t nameDelete (fun h => by cases h.2))).trans (ih.ur _ t nameRemove (fun h => by cases h.2))
  exact WTR.trans_gone g0 l2 (fun g => ((ih.ua _ t g).trans (ih.cwa _ t)).trans (finishDelete_rel h _ t))

theorem wtrAll_succ {fuel : Nat} (ih : WTRAll c0 t0 fuel) (ht0 : 100 ≤ t0) : WTRAll c0 t0 (fuel + 1) where
  dt := fun s t => by
    rw [deleteThread_succ]
    split
    · exact WTR.refl s
    · rename_i th _
      split
      · exact WTR.refl s
      · exact (WTR.steps.noVM s t).trans (deleteChain_wtr ih s t th)
  dtE := fun s hp hlt => by
    rw [deleteThread_succ]
    split
    · rename_i h; exact Or.inl (not_live_of_noVM (by rw [State.hasVM_eq, h]; simp))
    · rename_i th h
      split
      · rename_i hv; exact Or.inl (not_live_of_noVM (by rw [State.hasVM_eq, h]; simpa using hv))
      · exact (deleteChain_wtr (c0 := c0) ih s t0 th hp hlt).gone (Or.inl (not_live_setTh_noVM s t0))
  sn := stoppedNotify_rel WTR.steps.toPre ih.dt
  snE := fun s hp hlt => by
    rw [stoppedNotify_succ]
    split
    · split
      · exact ih.dtE s hp hlt
      · rename_i h; exact Or.inl (not_live_of_noVM h)
    · rename_i h; exact absurd (by unfold isThread; simpa using ht0) h
  stp := stop_rel WTR.steps ih.cwa
  cwa := fun s w => by
    rw [cancelWaitingAll_succ]
    exact (cwaZero_wtr ih.swf ih.sn ih.snE ht0 _ _).trans (cwaRest_wtr ih.swf ih.sn ih.snE ht0 _ _)
  swf := stoppedWaitFor_rel WTR.steps ih.dt ih.stp ih.sei
  ur := fun s src name hpre => by
    rw [unregister_succ]
    have h1 := unregEndOn_rel WTR.steps.toPre (setEndOn_rel WTR.steps s _) ih.dt (src := src) (name := name)
    split
    · exact h1
    · exact WTR.trans_gone hpre h1 (fun g => unregNotify_wtr ih.swf ih.sn _ _ _ g)
  ua := fun s src hpre => by
    rw [unregisterAll_succ]
    exact WTR.trans_gone hpre ((ih.ur s src 0 (fun h => hpre h.1)).trans (setEndOn_rel WTR.steps _ _))
      (fun g => uaRest_wtr ih.swf ih.sn _ _ g)
  sei := scriptExecuteInternal_rel WTR.steps WTR.blind.cur ih.stp ih.ev ih.er
  er := executeRunning_rel WTR.steps.toPre ih.dr
  dr := drain_rel WTR.steps WTR.blind.cur ih.ev ih.dr
  ev := execVM_rel WTR.steps WTR.blind.depth ih.pr
  pr := fun s t => by
    rw [process_succ]
    split
    · exact WTR.refl s
    · split
      · exact WTR.refl s
      · intro hp hlt
        exact (((WTR.steps.incPc s t).trans (ih.ex _ _ _ _ (hp.fetch _ _))).trans (ih.pr _ _)) hp hlt
  ex := fun s t th ins hins =>
    exec_rel WTR.steps ih.dt ih.stp ih.sei s t th ins
      (fun o n e => ih.ur _ _ _ (fun hh => by subst e; have : o < 100 := hins; omega))
      (fun n e => ih.ur _ _ _ (fun hh => by subst e; exact absurd hh.2 hins))
      (fun o e => by
        subst e
        have ho : o < 100 := hins
        exact (((ih.ur _ _ _ (fun hh => by omega)).trans (ih.ur _ _ _ (fun hh => by omega))).trans
          (ih.ua _ _ (fun hh => by omega))).trans (ih.cwa _ _))
      (fun ev _ => endStep_rel WTR.steps WTR.blind.calls s t th ev)

theorem wtrAll (ht0 : 100 ≤ t0) : ∀ fuel, WTRAll c0 t0 fuel
  | 0 => wtrAll_zero
  | fuel + 1 => wtrAll_succ (wtrAll ht0 fuel) ht0

end Morfuse.Sched
