import MorfuseModel.Sched.MachineInvExec
/-!
# `Inv` through `Process` and `ScriptVM::Execute`
-/
namespace Morfuse.Sched

variable {P : List Nat → State → Prop}

theorem process_inv_succ {fuel : Nat} (L : ExecKept P) (hex : IEx P (exec fuel)) (hpr : IPr P (process fuel)) :
    IPr P (process (fuel + 1)) := by
  intro W s t h hcur hvmhv
  rw [process_succ]
  cases hf : thFind s.threads t with
  | none =>
    exact Ok.pure ⟨h, G.refl s, fun th' h' => (by rw [hf] at h'; cases h'), fun _ j => j⟩
  | some th =>
    simp only
    split
    · rename_i hv
      refine Ok.pure ⟨h, G.refl s, fun th' h' => ?_, fun _ j => j⟩
      rw [hf] at h'; cases h'
      simpa using hv
    · rename_i hv
      have hvm : th.vm = .running := by simpa using hv
      have hhv := hvmhv th hf hvm
      have hts : th.ts = .running := (h.th t th hf).f3 hvm
      have i0 : Inv [] W none s :=
        h.dropTop (fun th1 h1 hw => by rw [hf] at h1; cases h1; rw [hts] at hw; cases hw)
      have i1 : Inv [] W none (s.setTh t fun th => { th with pc := th.pc + 1 }) :=
        i0.setTh_keepTs t _ (fun _ => rfl) (fun _ => rfl) (fun _ => rfl)
          (fun th0 h0 => by have r := i0.th t th0 h0; exact ⟨r.f1, r.f2, r.f3, r.f5⟩) (fun _ => Or.inl rfl)
      have g1 : G s (s.setTh t fun th => { th with pc := th.pc + 1 }) :=
        (G0.setTh s t (fun th => { th with pc := th.pc + 1 }) (fun _ => rfl) (fun _ => rfl) (fun _ _ hi => hi)).withCur (Or.inl rfl)
      have hfind1 : thFind (s.setTh t fun th => { th with pc := th.pc + 1 }).threads t =
          some { th with pc := th.pc + 1 } := thFind_setTh_self _ hf
      refine (hex W _ t _ th _ i1 ⟨hfind1, hvm, hhv⟩ (h.n.prog.fetch _ _) hcur rfl).bind
        ((presAll fuel).pr _ _) (fun p => ?_)
      refine (hpr W _ t p.1 (p.2.1.cur_of hcur) ?_).map (fun q =>
        ⟨q.1, G.trans h.n g1 (G.trans i1.n p.2.1 q.2.1), q.2.2.1,
          fun A j => q.2.2.2 A (p.2.2 A (L.setTh t _ (fun _ => ⟨rfl, rfl, rfl, rfl, rfl⟩) j))⟩)
      intro th' hth' hvm'
      rcases p.2.1.hasVM_or_dead hfind1 hhv hth' with e2 | e2
      · exact e2
      · have := ((p.1.th t th' hth').f2 e2).2
        rw [hvm'] at this; cases this

theorem vmEpilogue_none {X : State} {t : Nat} (h : thFind X.threads t = none) : vmEpilogue X t = X := by
  unfold vmEpilogue; rw [h]

theorem vmEpilogue_some {X : State} {t : Nat} {th : Th} (h : thFind X.threads t = some th) :
    vmEpilogue X t =
      match th.vm with
      | .suspended => X.setTh t (fun th => { th with vm := .idling })
      | .destroyed => { X with threads := X.threads.filter (fun e => !(e.1 == t)) }
      | _ => X := by
  unfold vmEpilogue; rw [h]; rfl

theorem vmEpilogue_inv {W : List Nat} {X : State} {t : Nat} (i2 : Inv [] W (some t) X)
    (hne : ∀ th1, thFind X.threads t = some th1 → th1.vm ≠ .running)
    (hdead : ∀ th1, thFind X.threads t = some th1 → th1.vm = .destroyed → th1.dead = true) :
    Inv [] W none (vmEpilogue X t) ∧ G0 X (vmEpilogue X t) ∧
      (∀ th3, thFind (vmEpilogue X t).threads t = some th3 → th3.vm = .idling) ∧
      (vmEpilogue X t).cur = X.cur := by
  cases hf : thFind X.threads t with
  | none =>
    rw [vmEpilogue_none hf]
    exact ⟨i2.dropTop (fun th1 h1 => by rw [hf] at h1; cases h1), G0.of_eq rfl rfl rfl,
      fun th3 h3 => (by rw [hf] at h3; cases h3), rfl⟩
  | some th1 =>
    have r1 := i2.th t th1 hf
    rw [vmEpilogue_some hf]
    cases hv1 : th1.vm with
    | running => exact absurd hv1 (hne th1 hf)
    | idling =>
      dsimp only
      exact ⟨i2.dropTop (fun th2 h2 _ hv2 => by rw [hf] at h2; cases h2; exact absurd hv1 hv2),
        G0.of_eq rfl rfl rfl, fun th3 h3 => (by rw [hf] at h3; cases h3; exact hv1), rfl⟩
    | suspended =>
      dsimp only
      have i3 := i2.setTh_keepTs t (fun th => { th with vm := .idling }) (fun _ => rfl) (fun _ => rfl) (fun _ => rfl)
        (fun th0 h0 => by
          rw [hf] at h0; cases h0
          exact ⟨r1.f1, fun hdd => (by have := (r1.f2 hdd).2; rw [hv1] at this; cases this), fun hv => (by cases hv),
            fun hv => (by cases hv)⟩)
        (fun _ => Or.inr (Or.inr (Or.inr rfl)))
      refine ⟨i3.dropTop (fun th2 h2 _ hv2 => ?_), ?_, fun th3 h3 => ?_, rfl⟩
      · rw [thFind_setTh_self _ hf] at h2
        cases h2; exact absurd rfl hv2
      · exact G0.setTh X t (fun th => { th with vm := .idling }) (fun _ => rfl) (fun _ => rfl)
          (fun _ _ _ => Or.inl rfl)
      · rw [thFind_setTh_self _ hf] at h3
        cases h3; rfl
    | destroyed =>
      dsimp only
      have hnv : th1.hasVM = false := r1.f5 hv1
      have hdd : th1.dead = true := hdead th1 hf hv1
      have hnot : aliveTh X.threads t = false := by
        rw [Bool.eq_false_iff]
        intro ha
        obtain ⟨th2, h2, hd2⟩ := (aliveTh_iff i2.n.nodup t).1 ha
        rw [hf] at h2; cases h2; rw [hdd] at hd2; cases hd2
      have ht100 : 100 ≤ t := (i2.n.range t th1 hf).1
      have hnm : ∀ o n x, x ∈ Tbl.getD X.notify (o, n) → o ≠ t ∧ x ≠ t := by
        intro o n x hx
        obtain ⟨a1, a2⟩ := i2.tab.aN o n x hx
        constructor
        · intro e; subst e
          rw [State.alive_ge _ ht100, hnot] at a1; cases a1
        · intro e; subst e; rw [hnot] at a2; cases a2
      have i3 := i2.remove t th1 hf hnv hnm
      refine ⟨i3.dropTop (fun th2 h2 => ?_), G0.remove X t, fun th3 h3 => ?_, rfl⟩
      · rw [thFind_filter_self] at h2; cases h2
      · rw [thFind_filter_self] at h3; cases h3

theorem execVM_inv_succ {fuel : Nat} (L : ExecKept P) (hpr : IPr P (process fuel)) : IEv P (execVM (fuel + 1)) := by
  intro W s t th h hth hhv hts hcur
  rw [execVM_succ]
  have r := h.th t th hth
  have hd : th.dead = false := r.not_dead hhv
  have i0' : Inv [] W none { (s.setTh t fun th => { th with vm := .running }) with timer := s.timer } :=
    h.setTh_awake t (fun th => { th with vm := .running }) th s.timer hth (fun _ => rfl)
      ⟨fun hv => (by simp only at hv; rw [hhv] at hv; cases hv), fun hdd => (by simp only at hdd; rw [hd] at hdd; cases hdd),
        fun _ => hts, fun hv => (by cases hv)⟩
      (fun _ => rfl) (h.tim.setTh_same t _ (fun _ => rfl)) (by simp only; rw [hts]; simp) (fun x m => m)
      (fun x m _ => m) (fun hw0 => by rw [hts] at hw0; cases hw0)
  have i0 : Inv [] W none (vmPrologue s t) := i0'.congr rfl rfl rfl rfl rfl rfl rfl rfl rfl
  have hfind0 : thFind (vmPrologue s t).threads t = some { th with vm := .running } :=
    thFind_setTh_self (fun th => { th with vm := .running }) hth
  refine (hpr W _ t (i0.toTop t) hcur (fun th' h' _ => by rw [hfind0] at h'; cases h'; exact hhv)).bind
    ((Pres.of_eq rfl rfl rfl : Pres (process fuel (vmPrologue s t) t)
      { (process fuel (vmPrologue s t) t) with depth := (process fuel (vmPrologue s t) t).depth - 1 }).trans
      (vmEpilogue_pres _ _)) (fun p => ?_)
  obtain ⟨p1, p2, p3, pj⟩ := p
  generalize process fuel (vmPrologue s t) t = X at p1 p2 p3 pj ⊢
  have i2 : Inv [] W (some t) { X with depth := X.depth - 1 } := p1.congr rfl rfl rfl rfl rfl rfl rfl rfl rfl
  have hd1 : ∀ th1, thFind X.threads t = some th1 → th1.hasVM = true ∨ th1.dead = true :=
    fun th1 h1 => p2.hasVM_or_dead hfind0 hhv h1
  obtain ⟨e1, e2, e3, e4⟩ := vmEpilogue_inv i2 (fun th1 h1 => p3 th1 h1) (fun th1 h1 hv1 => by
    rcases hd1 th1 h1 with e2 | e2
    · rw [(p1.th t th1 h1).f5 hv1] at e2; cases e2
    · exact e2)
  refine Ok.pure ⟨e1, ?_, fun A j => L.epilogue t (fun th1 h1 => ⟨p3 th1 h1, fun hnd =>
    (hd1 th1 h1).resolve_right (fun e2 => hnd ((p1.th t th1 h1).f2 e2).2)⟩)
    (L.congr (pj A (L.prologue t j)) rfl rfl rfl rfl)⟩
  -- history relation from the state with the VM marked running (same depth as `s`)
  have hdep : ({ X with depth := X.depth - 1 } : State).depth = s.depth := by
    show X.depth - 1 = s.depth
    rw [p2.depth]; show s.depth + 1 - 1 = s.depth; omega
  have gA2 : G0 (s.setTh t fun th => { th with vm := .running }) { X with depth := X.depth - 1 } :=
    p2.g0.congr' rfl rfl rfl rfl hdep
  have g := (G0.trans (h.n.setTh t _) gA2 e2).of_setTh (fun _ => rfl) (fun _ => rfl) (fun thu hu hiu => by
    cases hf3 : thFind (vmEpilogue { X with depth := X.depth - 1 } t).threads t with
    | none => exact Or.inl rfl
    | some th3 => exact Or.inr ⟨th3, rfl, Or.inl (e3 th3 hf3)⟩)
  refine g.withCur ?_
  rw [e4]
  exact p2.cur

end Morfuse.Sched
