import MorfuseModel.Sched.MachineSteps
import MorfuseModel.Sched.TimerLemmas
/-!
# Host-level frame facts of the machine: clocks, `m_time`, the dirty flag, the native stack depth

`HR s s'` relates the state before and after any function of the mutual block:

* the injected clock, `scaledTime` and the host's last-frame clock are not touched (only the host moves them);
* `m_time` of the timer is not touched (only `SetTime` in `ScriptContext::Execute` moves it);
* **the dirty flag is sound**: if "not dirty ⇒ no element is due" held before, it holds after
  (`AddElement` raises the flag exactly when the new element is already due, `GetNextElement` lowers it
  only after a scan that found nothing, `RemoveElement` leaves it alone);
* the execution-stack depth is restored; a call made with no current thread leaves no current thread.
-/
namespace Morfuse.Sched

def State.clk (s : State) : Nat × Nat × Nat × Nat × Bool := (s.clock, s.scaled, s.lastClock, s.depth, s.outOfFuel)

/-- the part of `HR` that also holds between the intermediate states of `ScriptExecuteInternal`,
    the timer loop and `ScriptVM::Execute` -/
structure HT (s s' : State) : Prop where
  c3 : (s'.clock, s'.scaled, s'.lastClock) = (s.clock, s.scaled, s.lastClock)
  mtime : s'.timer.mtime = s.timer.mtime
  td : TD s.timer → TD s'.timer

theorem HT.clock {s s' : State} (h : HT s s') : s'.clock = s.clock := congrArg (·.1) h.c3
theorem HT.scaled {s s' : State} (h : HT s s') : s'.scaled = s.scaled := congrArg (·.2.1) h.c3
theorem HT.lastClock {s s' : State} (h : HT s s') : s'.lastClock = s.lastClock := congrArg (·.2.2) h.c3

theorem HT.refl (s : State) : HT s s := ⟨rfl, rfl, id⟩
theorem HT.trans {a b c : State} (h1 : HT a b) (h2 : HT b c) : HT a c :=
  ⟨h2.c3.trans h1.c3, h2.mtime.trans h1.mtime, fun h => h2.td (h1.td h)⟩
theorem HT.of_eq {s s' : State} (h1 : s'.timer = s.timer)
    (h2 : (s'.clock, s'.scaled, s'.lastClock) = (s.clock, s.scaled, s.lastClock)) : HT s s' :=
  ⟨h2, by rw [h1], fun h => by rw [h1]; exact h⟩

theorem fuel_left_before {a b : State} (hp : a.outOfFuel = true → b.outOfFuel = true)
    (hb : b.outOfFuel = false) : a.outOfFuel = false :=
  Bool.eq_false_iff.2 fun ha => by rw [hp ha] at hb; cases hb

structure HR (s s' : State) : Prop where
  ht : HT s s'
  depth : s'.depth = s.depth
  oof : s.outOfFuel = true → s'.outOfFuel = true
  cur : s.cur = none → s'.outOfFuel = false → s'.cur = none

theorem HR.refl (s : State) : HR s s := ⟨HT.refl s, rfl, id, fun h _ => h⟩
theorem HR.trans {a b c : State} (h1 : HR a b) (h2 : HR b c) : HR a c :=
  ⟨h1.ht.trans h2.ht, h2.depth.trans h1.depth, fun h => h2.oof (h1.oof h),
    fun h hc => h2.cur (h1.cur h (fuel_left_before h2.oof hc)) hc⟩

theorem HR.of_eq {s s' : State} (h1 : s'.timer = s.timer) (h2 : s'.clk = s.clk)
    (h3 : s'.cur = s.cur) : HR s s' := by
  unfold State.clk at h2
  simp only [Prod.mk.injEq] at h2
  exact ⟨HT.of_eq h1 (by rw [h2.1, h2.2.1, h2.2.2.1]), h2.2.2.2.1, fun h => by rw [h2.2.2.2.2]; exact h,
    fun h _ => by rw [h3]; exact h⟩

theorem HR.of_timer {s : State} (tm : Timer) (h1 : tm.mtime = s.timer.mtime) (h2 : TD s.timer → TD tm) :
    HR s { s with timer := tm } := ⟨⟨rfl, h1, h2⟩, rfl, id, fun h _ => h⟩

theorem drain_cur_none : ∀ (fuel : Nat) (s : State), (drain fuel s).outOfFuel = false → (drain fuel s).cur = none
  | 0, s, h => by rw [drain_zero] at h; cases h
  | fuel + 1, s, h => by
    rw [drain_succ] at h ⊢
    split
    · rfl
    · rename_i t d tm hn
      rw [hn] at h
      exact drain_cur_none fuel _ h

theorem HR.fuel (s : State) : HR s { s with outOfFuel := true } :=
  ⟨HT.of_eq rfl rfl, rfl, fun _ => rfl, fun _ h => by cases h⟩

theorem HR.removeFromInst (s : State) (t i : Nat) : HR s (removeFromInst s t i) := by
  rw [removeFromInst_frame]; exact HR.of_eq rfl rfl rfl

theorem hrSteps : Steps.Full HR where
  refl := HR.refl
  trans := HR.trans
  frame := fun _ _ _ _ _ _ => HR.of_eq rfl rfl rfl
  fuel := HR.fuel
  setTh := fun _ _ _ _ => HR.of_eq rfl rfl rfl
  dropThread := fun _ _ _ _ => HR.of_eq rfl rfl rfl
  unlinkVM := HR.removeFromInst
  timerRemove := fun _ _ => HR.of_timer _ (Timer.remove_mtime _ _) (fun h => TD.remove h _)
  addTimer := fun _ _ _ => HR.of_timer _ (Timer.add_mtime _ _ _) (fun h => TD.add h _ _)
  timerNext := fun _ => HR.of_timer _ (Timer.next_mtime _) TD.next
  sameInst := fun _ _ _ _ => HR.of_eq rfl rfl rfl
  newInst := fun _ _ _ => HR.of_eq rfl rfl rfl
  register := fun _ _ _ _ => HR.of_eq rfl rfl rfl
  cancelKey := fun _ _ _ _ => HR.of_eq rfl rfl rfl
  cancelOwner := fun _ _ => HR.of_eq rfl rfl rfl
  unregKey := fun _ _ _ _ => HR.of_eq rfl rfl rfl
  unregOwner := fun _ _ => HR.of_eq rfl rfl rfl

theorem restoreCur_ht (s : State) (c : Option Nat) : HT s (restoreCur s c) := HT.of_eq rfl rfl

theorem vmPrologue_ht (s : State) (t : Nat) : HT s (vmPrologue s t) := HT.of_eq rfl rfl

theorem hrAll : ∀ fuel, All HR fuel := by
  refine all_of_steps hrSteps
    (fun s t th ev _ => endStep_rel hrSteps.toSteps (fun _ _ => HR.of_eq rfl rfl rfl) s t th ev) ?_ ?_ ?_
  · intro fuel ih s t
    rw [scriptExecuteInternal_succ]
    have h1 := ih.stp { s with cur := some t } t
    have h2 := execIfAlive_rel hrSteps.toPre ih.ev (stop fuel { s with cur := some t } t) t
    have h4 := ih.er (restoreCur (execIfAlive (execVM fuel) (stop fuel { s with cur := some t } t) t) s.cur)
    refine ⟨?_, ?_, ?_, ?_⟩
    · exact (((HT.of_eq (s := s) (s' := { s with cur := some t }) rfl rfl).trans h1.ht).trans h2.ht).trans
        ((restoreCur_ht _ _).trans h4.ht)
    · rw [h4.depth]; show (execIfAlive (execVM fuel) (stop fuel { s with cur := some t } t) t).depth = s.depth
      rw [h2.depth, h1.depth]
    · intro ho
      exact h4.oof (h2.oof (h1.oof ho))
    · intro hc
      apply h4.cur
      unfold restoreCur
      rw [hc]; rfl
  · intro fuel ih s
    rw [drain_succ]
    have hnm := Timer.next_mtime s.timer
    have hnd : TD s.timer → TD s.timer.next.2 := TD.next
    split
    · rename_i tm hn
      rw [hn] at hnm hnd
      exact ⟨⟨rfl, hnm, hnd⟩, rfl, id, fun _ _ => rfl⟩
    · rename_i t d tm hn
      rw [hn] at hnm hnd
      have h1 := ih.ev (({ s with timer := tm, cur := some t } : State).setTh t (fun th => { th with ts := .running })) t
      have h2 := ih.dr (execVM fuel (({ s with timer := tm, cur := some t } : State).setTh t
        (fun th => { th with ts := .running })) t)
      have h0 : HT s (({ s with timer := tm, cur := some t } : State).setTh t (fun th => { th with ts := .running })) :=
        ⟨rfl, hnm, hnd⟩
      refine ⟨(h0.trans h1.ht).trans h2.ht, ?_, ?_, ?_⟩
      · rw [h2.depth, h1.depth]; rfl
      · intro ho; exact h2.oof (h1.oof ho)
      · intro _
        exact drain_cur_none fuel _
  · intro fuel ih s t
    rw [execVM_succ]
    have h1 := ih.pr (vmPrologue s t) t
    refine HR.trans ?_ (vmEpilogue_rel hrSteps.toSteps _ _)
    refine ⟨?_, ?_, ?_, ?_⟩
    · exact ((vmPrologue_ht s t).trans h1.ht).trans (HT.of_eq rfl rfl)
    · show (process fuel (vmPrologue s t) t).depth - 1 = s.depth
      rw [h1.depth]; show s.depth + 1 - 1 = s.depth; omega
    · exact h1.oof
    · intro hc
      exact h1.cur hc

end Morfuse.Sched
