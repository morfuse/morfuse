import MorfuseModel.Sched.MachineNoVMBack
import MorfuseModel.Sched.MachineInvAll
import MorfuseModel.Sched.MachineQuietDelete
/-!
# What happens inside one call: `endon` lists and removed sources

Call-level theorems (the statement ties a particular `Unregister(name)` / `UnregisterAll` to what happens inside
*that* call):
* `unregister_endon_destroys`: every thread listed under `endon (src, name)` when `Unregister(name)` is called (and
  that is not the notifying object itself) has no VM when the call returns — the `endon` loop destroys it, and nothing
  that runs afterwards inside the call (later iterations, the woken waiters' nested executions) gives a VM back;
* `uaRest_destroys_waiters`: every waiter registered on the source when the main part of `UnregisterAll` starts has no VM
  when it returns (`StoppedWaitFor(name, true)` = `delete`).
Loop invariant: processed ⇒ no VM; kept by what follows through `hvAll`.
-/
namespace Morfuse.Sched

theorem NoVM.of_hv {s s' : State} (r : HV s s') {l : Nat} (hl : l < s.nextTid) (h : NoVM s l) : NoVM s' l := by
  intro th' hf
  cases hv : th'.hasVM with
  | false => rfl
  | true =>
    rcases r.hv l th' hf hv with ⟨th, h1, h2⟩ | hge
    · rw [h th h1] at h2; cases h2
    · omega

theorem Inv.not_alive_noVM {C W : List Nat} {top : Option Nat} {s : State} (h : Inv C W top s) {l : Nat}
    (ha : ¬ s.alive l = true) : NoVM s l := by
  intro th hth
  cases hd : th.dead with
  | true => exact ((h.th l th hth).f2 hd).1
  | false => exact absurd ((h.n.alive_iff (h.n.range l th hth).1).2 ⟨th, hth, hd⟩) ha

theorem endOnFold_hv {dt : State → Nat → State} (hp : ∀ s t, HV s (dt s t)) (src name : Nat) (L : List Nat)
    (acc : State × Bool) : HV acc.1 (L.foldl (endOnStep dt src name) acc).1 :=
  endOnFold_rel HV.steps.toPre hp src name L acc

theorem endOnFold_noVM (fuel : Nat) (C W : List Nat) (src name : Nat) :
    ∀ (L : List Nat) (acc : State × Bool), Inv C W none acc.1 →
      Ok (L.foldl (endOnStep (deleteThread (fuel + 1)) src name) acc).1
        (Inv C W none (L.foldl (endOnStep (deleteThread (fuel + 1)) src name) acc).1 ∧
          ∀ l ∈ L, l ≠ src → l < acc.1.nextTid →
            NoVM (L.foldl (endOnStep (deleteThread (fuel + 1)) src name) acc).1 l)
  | [], _, h => Ok.pure ⟨h, fun l hl => by cases hl⟩
  | l :: L, acc, h => by
    simp only [List.foldl_cons]
    have P := presAll (fuel + 1)
    have I := iAll (fuel + 1)
    have hv1 : HV acc.1 (endOnStep (deleteThread (fuel + 1)) src name acc l).1 :=
      endOnFold_hv (hvAll (fuel + 1)).dt src name [l] acc
    have i1 : Ok (endOnStep (deleteThread (fuel + 1)) src name acc l).1
        (Inv C W none (endOnStep (deleteThread (fuel + 1)) src name acc l).1) :=
      endOnFold_rel (Pre.imp fun s => Ok s (Inv C W none s)) (IDt.kept P.dt I.dt C W) src name [l] acc (Ok.pure h)
    refine i1.bind (endOnFold_rel presSteps.toPre P.dt src name L _) (fun p => ?_)
    refine (endOnFold_noVM fuel C W src name L _ p).map (fun q => ⟨q.1, ?_⟩)
    intro x hx hne hxl
    rcases List.mem_cons.1 hx with hx | hx
    · subst hx
      -- processed now: no VM; kept by the later iterations
      have hnow : NoVM (endOnStep (deleteThread (fuel + 1)) src name acc x).1 x := by
        unfold endOnStep
        split
        · have hb : (x == src) = false := by simpa using hne
          simp only [hb, Bool.false_and, Bool.false_eq_true, if_false]
          exact deleteThread_noVM fuel h.n x
        · rename_i ha
          exact h.not_alive_noVM ha
      exact hnow.of_hv (endOnFold_hv (hvAll (fuel + 1)).dt src name L _) (Nat.lt_of_lt_of_le hxl hv1.nt)
    · exact q.2 x hx hne (Nat.lt_of_lt_of_le hxl hv1.nt)

theorem unregister_endon_destroys (fuel : Nat) {C W : List Nat} {s : State} (h : Inv C W none s) (src name : Nat)
    (listeners : List Nat) (he : Tbl.hasOwner s.endOn src = true)
    (hf : Tbl.find s.endOn (src, name) = some listeners) :
    Ok (unregister (fuel + 2) s src name)
      (∀ l ∈ listeners, l ≠ src → (∃ th, thFind s.threads l = some th) → NoVM (unregister (fuel + 2) s src name) l) := by
  have P := presAll (fuel + 1)
  rw [unregister_succ]
  rw [unregEndOn_of_some _ he hf, endOnLoop]
  have h0 : Inv C W none ({ s with endOn := Tbl.removeKey s.endOn (src, name) } : State) :=
    h.setEndOn _ (fun o ho => Or.inl (Tbl.hasOwner_removeKey ho))
  have hfold := endOnFold_noVM fuel C W src name listeners.reverse
    (({ s with endOn := Tbl.removeKey s.endOn (src, name) } : State), false) h0
  have hclaim : ∀ S : State, HV (listeners.reverse.foldl (endOnStep (deleteThread (fuel + 1)) src name)
        (({ s with endOn := Tbl.removeKey s.endOn (src, name) } : State), false)).1 S →
      (∀ l ∈ listeners.reverse, l ≠ src → l < s.nextTid →
        NoVM (listeners.reverse.foldl (endOnStep (deleteThread (fuel + 1)) src name)
          (({ s with endOn := Tbl.removeKey s.endOn (src, name) } : State), false)).1 l) →
      ∀ l ∈ listeners, l ≠ src → (∃ th, thFind s.threads l = some th) → NoVM S l := by
    intro S hS hq l hl hne ⟨th, hth⟩
    have hlt : l < s.nextTid := (h.n.range l th hth).2
    have hmid := hq l (List.mem_reverse.2 hl) hne hlt
    have hnt := (endOnFold_hv (hvAll (fuel + 1)).dt src name listeners.reverse
      (({ s with endOn := Tbl.removeKey s.endOn (src, name) } : State), false)).nt
    exact hmid.of_hv hS (Nat.lt_of_lt_of_le hlt hnt)
  split
  · exact hfold.map (fun q => hclaim _ (HV.refl _) q.2)
  · refine hfold.bind (unregNotify_pres P.swf P.sn _ _ _) (fun q => Ok.pure ?_)
    exact hclaim _ (unregNotify_rel HV.steps.toPre (HV.steps.unregKey _ src name) ((hvAll (fuel + 1)).swf · · name false) ((hvAll (fuel + 1)).sn · src)) q.2

/-- `StoppedWaitFor(name, true)` = `delete` -/
theorem swf_deleting_noVM (fuel : Nat) {s : State} (hn : NInv s) (l n : Nat) :
    NoVM (stoppedWaitFor (fuel + 2) s l n true) l := by
  refine stoppedWaitFor_split (P := fun r => NoVM r l) (fuel + 1) s l n true (fun h0 th hth => ?_)
    (fun _ _ _ _ _ => deleteThread_noVM fuel hn l) (fun _ _ _ _ hd => nomatch hd) (fun _ _ _ _ hd => nomatch hd)
    (fun _ _ _ _ hd => nomatch hd) (fun _ _ _ _ hd => nomatch hd)
  rw [hth] at h0
  rcases h0 with h0 | h0 | ⟨_, e, hv⟩
  · have := (hn.range l th hth).1
    simp only [State.isThread, decide_eq_false_iff_not] at h0
    omega
  · cases h0
  · cases e; exact hv

theorem killFold_hv {swf : State → Nat → Nat → Bool → State} (hp : ∀ s l n d, HV s (swf s l n d))
    (L : List (Nat × Nat)) (s : State) :
    HV s (L.foldl (fun s (ln : Nat × Nat) => if s.alive ln.1 then swf s ln.1 ln.2 true else s) s) :=
  foldl_rel HV.steps.toPre _
    (ifAlive_rel HV.steps.toPre (fun s (ln : Nat × Nat) => s.alive ln.1) (fun s ln => hp s ln.1 ln.2 true)) L s

theorem killFold_noVM (fuel : Nat) (C W : List Nat) :
    ∀ (L : List (Nat × Nat)) (s : State), Inv C (L.map (·.1) ++ W) none s →
      Ok (L.foldl (fun s (ln : Nat × Nat) => if s.alive ln.1 then stoppedWaitFor (fuel + 2) s ln.1 ln.2 true else s) s)
        (∀ ln ∈ L, ln.1 < s.nextTid →
          NoVM (L.foldl (fun s (ln : Nat × Nat) => if s.alive ln.1 then stoppedWaitFor (fuel + 2) s ln.1 ln.2 true else s) s) ln.1)
  | [], _, _ => Ok.pure (fun ln h => by cases h)
  | ln :: L, s, h => by
    simp only [List.foldl_cons]
    have P := presAll (fuel + 2)
    have I := iAll (fuel + 2)
    have H := hvAll (fuel + 2)
    have hrest : ∀ s1 : State, Pres s1 (L.foldl (fun s (ln : Nat × Nat) =>
        if s.alive ln.1 then stoppedWaitFor (fuel + 2) s ln.1 ln.2 true else s) s1) :=
      fun s1 => Pres.foldlIf _ (fun s (ln : Nat × Nat) => P.swf s ln.1 ln.2 true) L s1
    by_cases ha : s.alive ln.1 = true
    · simp only [ha, if_true]
      have hv1 : HV s (stoppedWaitFor (fuel + 2) s ln.1 ln.2 true) := H.swf _ _ _ _
      refine (I.swf C (L.map (·.1) ++ W) s ln.1 ln.2 true h (fun _ hd => by cases hd)).bind (hrest _) (fun p => ?_)
      refine (killFold_noVM fuel C W L _ p.1).map (fun q => ?_)
      intro x hx hxl
      rcases List.mem_cons.1 hx with hx | hx
      · subst hx
        exact (swf_deleting_noVM fuel h.n x.1 x.2).of_hv (killFold_hv H.swf L _) (Nat.lt_of_lt_of_le hxl hv1.nt)
      · exact q x hx (Nat.lt_of_lt_of_le hxl hv1.nt)
    · simp only [ha]
      refine (killFold_noVM fuel C W L s (h.dropW_not_alive ha)).map (fun q => ?_)
      intro x hx hxl
      rcases List.mem_cons.1 hx with hx | hx
      · subst hx
        exact (h.not_alive_noVM ha).of_hv (killFold_hv H.swf L _) hxl
      · exact q x hx hxl

/-- **a removed source destroys its waiters, inside the removal's own call**: the main part of `UnregisterAll`
    (after `Unregister(0)` and the removal of the `endon` lists) run in a state satisfying the machine invariant
    returns — unless out of fuel — with every listener that was registered on the source, under any name, without a
    VM: they were deleted (`StoppedWaitFor(name, true)`), none was executed. -/
theorem uaRest_destroys_waiters (fuel : Nat) {C W : List Nat} {s : State} (h : Inv C W none s) (src : Nat) :
    Ok (uaRest (stoppedWaitFor (fuel + 2)) (stoppedNotify (fuel + 2)) s src)
      (∀ n x, x ∈ Tbl.getD s.notify (src, n) →
        NoVM (uaRest (stoppedWaitFor (fuel + 2)) (stoppedNotify (fuel + 2)) s src) x) := by
  unfold uaRest
  split
  · rename_i hno
    refine Ok.pure (fun n x hx => ?_)
    exfalso
    have : Tbl.hasOwner s.notify src = true := (h.n.wfN.hasOwner_iff src).2 ⟨n, List.ne_nil_of_mem hx⟩
    simp [this] at hno
  · simp only [killLoop]
    have h1 := uaRest_mid h src
    have hfr := uaTargets_frame s src
    have P := presAll (fuel + 2)
    have I := iAll (fuel + 2)
    rw [hfr]
    refine (I.sn C _ _ src h1).bind ?_ (fun p2 => ?_)
    · exact Pres.foldlIf _ (fun s (ln : Nat × Nat) => P.swf s ln.1 ln.2 true) _ _
    refine (killFold_noVM fuel C W _ _ p2).map (fun q n x hx => ?_)
    have hal := h.waiters_alive src n x hx
    have hsx := (h.tab.mir.mem_iff src n x).1 hx
    have hmem := uaTargets_complete s src h.n.wfN n x hx hal hsx
    obtain ⟨th, hth, _⟩ := (h.n.alive_iff (h.n.nMem _ _ hx)).1 hal
    have hlt : x < s.nextTid := (h.n.range x th hth).2
    have hq := ((qAll (fuel + 2)).sn [] _ src h1.n).tid
    exact q (x, n) (List.mem_reverse.2 hmem) (by rw [hq]; exact hlt)

theorem deleteThread_not_alive (fuel : Nat) (s : State) (t : Nat) (th : Th) (hth : thFind s.threads t = some th)
    (hv : th.hasVM = true) :
    (thFind (deleteThread (fuel + 1) s t).threads t = none) ∨
      ∃ th', thFind (deleteThread (fuel + 1) s t).threads t = some th' ∧ th'.dead = true := by
  rw [deleteThread_succ, hth]
  simp only [hv, Bool.not_true, Bool.false_eq_true, if_false]
  exact finishDelete_gone _ t

/-- **the callee's destruction releases the `waitthread` caller, inside that call**: `delete thread` of `t` (which had
    its VM) called in a state satisfying the machine invariant returns — unless out of fuel — with `t` without VM,
    nothing registered on `t` any more, and every thread that was registered *only* on channel 0 of `t` (a `waitthread`
    caller) no longer `waiting`: it was re-timed by `Unregister(0)` in `t`'s destructor (or destroyed). -/
theorem deleteThread_releases_callers (fuel : Nat) {C : List Nat} {s : State} {t : Nat} {th : Th}
    (h : Inv C [t] none s) (hth : thFind s.threads t = some th) (hv : th.hasVM = true) :
    Ok (deleteThread (fuel + 1) s t)
      (NoVM (deleteThread (fuel + 1) s t) t ∧
       (∀ n, Tbl.getD (deleteThread (fuel + 1) s t).notify (t, n) = []) ∧
       (∀ c, (∀ n o, o ∈ Tbl.getD s.waitFor (c, n) → n = 0 ∧ o = t) →
          ∀ th', thFind (deleteThread (fuel + 1) s t).threads c = some th' → th'.ts ≠ .waiting)) := by
  have q := (qAll (fuel + 1)).dt [] s t h.n
  refine ((iAll (fuel + 1)).dt C [] s t h).map (fun i' => ?_)
  have ht100 : 100 ≤ t := (h.n.range t th hth).1
  have hnv := deleteThread_noVM fuel h.n t
  -- `t` is dead or gone: its weak references read null
  have hal : (deleteThread (fuel + 1) s t).alive t = false := by
    refine Bool.eq_false_iff.2 fun ha => ?_
    obtain ⟨th2, h2, hd2⟩ := (i'.n.alive_iff ht100).1 ha
    rcases deleteThread_not_alive fuel s t th hth hv with hg | ⟨th', hg, hd⟩
    · rw [hg] at h2; cases h2
    · rw [hg] at h2; cases h2
      rw [hd] at hd2; cases hd2
  have hempty : ∀ n, Tbl.getD (deleteThread (fuel + 1) s t).notify (t, n) = [] := by
    intro n
    apply List.eq_nil_iff_forall_not_mem.2
    intro x hx
    have := (i'.tab.aN t n x hx).1
    rw [hal] at this; cases this
  refine ⟨hnv, hempty, ?_⟩
  intro c honly th' hf hw
  rcases i'.lnk.linkW c th' hf hw with m | ho
  · cases m
  · obtain ⟨n, hne⟩ := (i'.n.wfW.hasOwner_iff c).1 ho
    obtain ⟨o, hmem⟩ := List.exists_mem_of_ne_nil _ hne
    obtain ⟨hn0, hot⟩ := honly n o (q.subW (c, n) o hmem)
    subst hn0; subst hot
    have hx : c ∈ Tbl.getD (deleteThread (fuel + 1) s o).notify (o, 0) := (i'.tab.mir.mem_iff o 0 c).2 hmem
    rw [hempty 0] at hx; cases hx

end Morfuse.Sched
