import MorfuseModel.Sched.MachineInstKeys
import MorfuseModel.Sched.MachineInstHost
import MorfuseModel.Sched.MachineHostProps
/-!
# `Reset` / recompile leave no script instance and no thread with a VM

`killAllInsts` destroys every instance that is listed when it starts; the destruction cascades list no new
instance (`iqAll`), so the list is empty afterwards; with the instance-list invariant no record has a VM
then, hence the timer and the listener tables are empty.
-/
namespace Morfuse.Sched

theorem killInst_keys {s : State} (hn : NInv s) (i : Nat) :
    ∀ e' ∈ (killInst s i).insts, e'.1 ≠ i ∧ ∃ e ∈ s.insts, e.1 = e'.1 := by
  unfold killInst
  cases hfd : s.insts.find? (·.1 == i) with
  | none =>
    intro e' he'
    have := List.find?_eq_none.1 hfd e' he'
    exact ⟨by simpa using this, e', he', rfl⟩
  | some e0 =>
    simp only
    intro e' he'
    have hn1 : NInv ({ s with insts := s.insts.filter (fun e => !(e.1 == i)) } : State) :=
      hn.congr rfl rfl rfl rfl rfl rfl rfl rfl rfl
    obtain ⟨e1, h1, h2⟩ := ikQuiet.killFold iqAll (fun X s t => IK.setTh X s t _) [] e0.2 _ hn1 e' he'
    obtain ⟨hm, hk⟩ := List.mem_filter.1 h1
    exact ⟨by rw [← h2]; simpa using hk, e1, hm, h2⟩

theorem killAll_insts_nil : ∀ (ids : List Nat) (S : State), NInv S → J [] S → (∀ e ∈ S.insts, e.1 ∈ ids) →
    (ids.foldl (fun s i => killInst s i) S).insts = []
  | [], S, _, _, hk => List.eq_nil_iff_forall_not_mem.2 (fun e he => by have := hk e he; cases this)
  | i :: ids, S, hn, j, hk => by
    simp only [List.foldl_cons]
    apply killAll_insts_nil ids _ (killInst_ninv hn i) (killInst_j hn j i)
    intro e' he'
    obtain ⟨hne, e, hm, h2⟩ := killInst_keys hn i e' he'
    have := hk e hm
    rw [h2] at this
    rcases List.mem_cons.1 this with h3 | h3
    · exact absurd h3 hne
    · exact h3

theorem killAllInsts_insts {s : State} (hn : NInv s) (j : J [] s) : (killAllInsts s).insts = [] := by
  unfold killAllInsts
  exact killAll_insts_nil _ s hn j (fun e he => List.mem_map.2 ⟨e, he, rfl⟩)

theorem clean_of_no_insts {s : State} (h : Inv [] [] none s) (j : J [] s) (hI : s.insts = []) :
    (∀ t th, thFind s.threads t = some th → th.hasVM = false) ∧ s.timer.elems = [] ∧ s.notify = [] ∧ s.waitFor = [] := by
  have hv : ∀ t th, thFind s.threads t = some th → th.hasVM = false := by
    intro t th hf
    cases hvm : th.hasVM with
    | false => rfl
    | true =>
      rcases j.a t th hf hvm with m | m
      · cases m
      · rw [hI] at m; simp [instChain] at m
  exact ⟨hv, h.empty_of_no_live (fun t th hf => Or.inr (hv t th hf))⟩

end Morfuse.Sched
