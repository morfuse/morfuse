/-!
# Ledgers of creations and destructions of numbered objects

A pool hands out fresh ids (`new`: the next number) and frees them (`del i`, valid only for an id that is present).
For every valid history from a good pool (distinct ids, all below the counter): ids are never reused, an id is
freed at most once, the ids present at the end are exactly the old and the created ones that were not freed — so
when nothing is left every created id was freed exactly once.
-/
namespace Morfuse.Sched

structure Pool where
  ids : List Nat
  next : Nat
  deriving DecidableEq

inductive POp
  | new
  | del (i : Nat)
  deriving DecidableEq

def pStep (P : Pool) : POp → Option Pool
  | .new => some ⟨P.ids ++ [P.next], P.next + 1⟩
  | .del i => if i ∈ P.ids then some ⟨P.ids.filter (fun x => !(x == i)), P.next⟩ else none

def pRun : Pool → List POp → Option Pool
  | P, [] => some P
  | P, op :: ops => (pStep P op).bind (fun P1 => pRun P1 ops)

theorem pRun_new (P : Pool) (ops : List POp) : pRun P (.new :: ops) = pRun ⟨P.ids ++ [P.next], P.next + 1⟩ ops := rfl

theorem pRun_del_mem {P : Pool} {i : Nat} (h : i ∈ P.ids) (ops : List POp) :
    pRun P (.del i :: ops) = pRun ⟨P.ids.filter (fun x => !(x == i)), P.next⟩ ops := by
  simp only [pRun, pStep, h, if_true, Option.bind_some]

theorem pRun_del {P P' : Pool} {i : Nat} {ops : List POp} (h : pRun P (.del i :: ops) = some P') :
    i ∈ P.ids ∧ pRun ⟨P.ids.filter (fun x => !(x == i)), P.next⟩ ops = some P' := by
  by_cases hi : i ∈ P.ids
  · rw [pRun_del_mem hi] at h; exact ⟨hi, h⟩
  · simp [pRun, pStep, hi] at h

theorem pRun_append : ∀ (a b : List POp) (P P1 P2 : Pool), pRun P a = some P1 → pRun P1 b = some P2 →
    pRun P (a ++ b) = some P2
  | [], _, _, _, _, h1, h2 => by cases h1; exact h2
  | .new :: a, b, _, P1, P2, h1, h2 => pRun_append a b _ P1 P2 h1 h2
  | .del i :: a, b, _, P1, P2, h1, h2 => by
    obtain ⟨hi, h1⟩ := pRun_del h1
    rw [List.cons_append, pRun_del_mem hi]
    exact pRun_append a b _ P1 P2 h1 h2

/-- the ids handed out during the history -/
def created : Pool → List POp → List Nat
  | _, [] => []
  | P, .new :: ops => P.next :: created ⟨P.ids ++ [P.next], P.next + 1⟩ ops
  | P, .del i :: ops => created ⟨P.ids.filter (fun x => !(x == i)), P.next⟩ ops

structure PGood (P : Pool) : Prop where
  nodup : P.ids.Nodup
  lt : ∀ i ∈ P.ids, i < P.next

theorem PGood.new {P : Pool} (h : PGood P) : PGood ⟨P.ids ++ [P.next], P.next + 1⟩ := by
  refine ⟨List.nodup_append.2 ⟨h.nodup, List.nodup_cons.2 ⟨List.not_mem_nil, List.nodup_nil⟩, ?_⟩, ?_⟩
  · intro a ha b hb
    have := h.lt a ha
    have : b = P.next := List.mem_singleton.1 hb
    omega
  · intro i hi
    show i < P.next + 1
    rcases List.mem_append.1 hi with hi | hi
    · exact Nat.lt_succ_of_lt (h.lt i hi)
    · rw [List.mem_singleton.1 hi]; exact Nat.lt_succ_self _

theorem PGood.del {P : Pool} (h : PGood P) (i : Nat) : PGood ⟨P.ids.filter (fun x => !(x == i)), P.next⟩ :=
  ⟨h.nodup.filter _, fun j hj => h.lt j (List.mem_filter.1 hj).1⟩

theorem PGood.run : ∀ (ops : List POp) {P P' : Pool}, PGood P → pRun P ops = some P' → PGood P'
  | [], _, _, h, hr => by cases hr; exact h
  | .new :: ops, _, _, h, hr => PGood.run ops h.new hr
  | .del i :: ops, _, _, h, hr => PGood.run ops (h.del i) (pRun_del hr).2

theorem pRun_next_le : ∀ (ops : List POp) {P P' : Pool}, pRun P ops = some P' → P.next ≤ P'.next
  | [], _, _, hr => by cases hr; exact Nat.le_refl _
  | .new :: ops, P, _, hr => Nat.le_trans (Nat.le_succ P.next) (pRun_next_le ops (P := ⟨_, P.next + 1⟩) hr)
  | .del i :: ops, P, _, hr => pRun_next_le ops (P := ⟨P.ids.filter (fun x => !(x == i)), P.next⟩) (pRun_del hr).2

theorem created_eq : ∀ (ops : List POp) (P : Pool), created P ops = List.range' P.next (ops.count .new)
  | [], _ => rfl
  | .new :: ops, _ => by rw [created, created_eq ops, List.count_cons_self, List.range'_succ]
  | .del i :: ops, _ => by rw [created, created_eq ops, List.count_cons_of_ne (show POp.del i ≠ .new from nofun)]

/-- **ids are never reused**: the ids handed out are fresh (not below the counter at the start) and, `created_nodup`, distinct -/
theorem created_fresh (ops : List POp) (P : Pool) : ∀ c ∈ created P ops, P.next ≤ c := fun _ h =>
  (List.mem_range'_1.1 (created_eq ops P ▸ h)).1

theorem created_nodup (ops : List POp) (P : Pool) : (created P ops).Nodup := created_eq ops P ▸ List.nodup_range'

theorem no_del_of_absent : ∀ (ops : List POp) {P P' : Pool} (i : Nat), i ∉ P.ids → i < P.next →
    pRun P ops = some P' → POp.del i ∉ ops
  | [], _, _, _, _, _, _ => List.not_mem_nil
  | .new :: ops, P, _, i, hn, hl, hr => by
    have ih := no_del_of_absent ops (P := ⟨P.ids ++ [P.next], P.next + 1⟩) i
      (fun hm => by
        rcases List.mem_append.1 hm with hm | hm
        · exact hn hm
        · exact Nat.lt_irrefl _ (List.mem_singleton.1 hm ▸ hl))
      (Nat.lt_succ_of_lt hl) hr
    intro hm
    rcases List.mem_cons.1 hm with e | hm
    · cases e
    · exact ih hm
  | .del j :: ops, P, _, i, hn, hl, hr => by
    obtain ⟨hj, hr⟩ := pRun_del hr
    have ih := no_del_of_absent ops (P := ⟨P.ids.filter (fun x => !(x == j)), P.next⟩) i
      (fun hm => hn (List.mem_filter.1 hm).1) hl hr
    intro hm
    rcases List.mem_cons.1 hm with e | hm
    · cases e; exact hn hj
    · exact ih hm

/-- **freed at most once** -/
theorem del_count_le_one : ∀ (ops : List POp) {P P' : Pool} (i : Nat), PGood P → pRun P ops = some P' →
    ops.count (POp.del i) ≤ 1
  | [], _, _, _, _, _ => Nat.zero_le _
  | .new :: ops, _, _, i, hg, hr => by
    rw [List.count_cons_of_ne (fun e => by cases e)]
    exact del_count_le_one ops i hg.new hr
  | .del j :: ops, P, _, i, hg, hr => by
    obtain ⟨hj, hr⟩ := pRun_del hr
    by_cases hij : j = i
    · subst hij
      have := no_del_of_absent ops (P := ⟨P.ids.filter (fun x => !(x == j)), P.next⟩) j
        (fun hm => by simpa using (List.mem_filter.1 hm).2) (hg.lt j hj) hr
      rw [List.count_cons_self, List.count_eq_zero.2 this]
      exact Nat.le_refl _
    · rw [List.count_cons_of_ne (fun e => hij (POp.del.inj e))]
      exact del_count_le_one ops i (hg.del j) hr

/-- **the ids present at the end are the old and the created ones that were not freed** -/
theorem mem_after : ∀ (ops : List POp) {P P' : Pool} (i : Nat), PGood P → pRun P ops = some P' →
    (i ∈ P'.ids ↔ (i ∈ P.ids ∨ i ∈ created P ops) ∧ POp.del i ∉ ops)
  | [], _, _, i, _, hr => by cases hr; simp [created]
  | .new :: ops, P, _, i, hg, hr => by
    rw [mem_after ops i hg.new hr]
    simp only [created, List.mem_append, List.mem_cons, List.not_mem_nil, or_false, reduceCtorEq, false_or, or_assoc]
  | .del j :: ops, P, _, i, hg, hr => by
    obtain ⟨hj, hr⟩ := pRun_del hr
    rw [mem_after ops i (hg.del j) hr]
    simp only [created, List.mem_cons, not_or, List.mem_filter, POp.del.injEq]
    by_cases hij : i = j
    · subst hij
      constructor
      · rintro ⟨h1 | h1, _⟩
        · simp at h1
        · exact absurd (created_fresh ops _ i h1) (Nat.not_le_of_lt (hg.lt i hj))
      · rintro ⟨_, h2, _⟩; exact absurd rfl h2
    · constructor
      · rintro ⟨h1 | h1, h2⟩
        · exact ⟨Or.inl h1.1, hij, h2⟩
        · exact ⟨Or.inr h1, hij, h2⟩
      · rintro ⟨h1 | h1, _, h2⟩
        · exact ⟨Or.inl ⟨h1, by simpa using hij⟩, h2⟩
        · exact ⟨Or.inr h1, h2⟩

/-- **all destroyed exactly once**: when nothing is left, every id that was present or created has exactly one
    destruction record -/
theorem all_freed_exactly_once {ops : List POp} {P P' : Pool} (hg : PGood P) (hr : pRun P ops = some P')
    (he : P'.ids = []) (i : Nat) (hi : i ∈ P.ids ∨ i ∈ created P ops) : ops.count (POp.del i) = 1 := by
  have h1 := del_count_le_one ops i hg hr
  have h2 : POp.del i ∈ ops := by
    apply Classical.byContradiction
    intro hn
    have := (mem_after ops i hg hr).2 ⟨hi, hn⟩
    rw [he] at this; cases this
  have := List.count_pos_iff.2 h2
  omega

end Morfuse.Sched
