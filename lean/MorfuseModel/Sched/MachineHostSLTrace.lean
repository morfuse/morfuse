import MorfuseModel.Sched.MachineHostSL
import MorfuseModel.Sched.MachineTimerTraceHost
import MorfuseModel.Sched.MachineNotifyTraceHost
import MorfuseModel.Sched.MachineLifeTraceHost
/-!
# The ledgers over all driver commands (`save` / `load` included)

`Ledgers s`: the four ghost ledgers of a state exist — a history of timer operations, of notify-table operations, of
thread-record creations/destructions, of instance creations/unlinkings, each replaying from the empty structure to the
state's; `Traced s`: the same with the timer's history chosen with `AddsLate`.  `reachableSL_traced`: every state reachable
with any driver commands is `Traced`, and so is the state in which the held snapshot was taken; a `load` restarts the
history from the snapshot's history (the loaded timer, notify table, record ids and instance ids are the snapshot's).
`reachableSL_clocks`: `m_time ≤ lastClock = scaledTime ≤ clock` with all commands.  No fuel condition.
-/
namespace Morfuse.Sched

/-- induction over all driver commands, for a property of states that does not depend on the fuel: it holds of `s`, and
    the held snapshot was taken in a state of which it holds -/
theorem reachableSL_induction {C : State → Prop} (init : C {})
    (apply : ∀ {s : State} {k : Option Snap} (op : HostOp), ReachableSL s k → op ≠ .reset → C s → C (op.apply s))
    (load : ∀ (X : State) {s0 : State}, C s0 → C (load X (save s0))) {s : State} {k : Option Snap}
    (h : ReachableSL s k) : C s ∧ ∀ k0, k = some k0 → ∃ s0, C s0 ∧ k0 = save s0 := by
  induction h with
  | init => exact ⟨init, nofun⟩
  | @step s k op hr _ ih =>
    by_cases hne : op = .reset
    · subst hne; exact ⟨init, nofun⟩
    · exact ⟨apply op hr hne ih.1, (keepSnap_of_ne hne k).symm ▸ ih.2⟩
  | save _ _ ih => exact ⟨ih.1, fun _ e => Option.some.inj e ▸ ⟨_, ih.1, rfl⟩⟩
  | load _ _ _ ih =>
    obtain ⟨s0, h0, rfl⟩ := ih.2 _ rfl
    exact ⟨load _ h0, ih.2⟩

structure Ledgers (s : State) : Prop where
  timer : ∃ ops : List TOp, timerRun {} ops = s.timer
  notify : ∃ ops : List NOp, nRun [] ops = s.notify
  threads : ∃ ops : List POp, pRun pool0T ops = some (absT s)
  insts : ∃ ops : List POp, pRun pool0I ops = some (absI s)

theorem absT_load_save (X s0 : State) : absT (load X (save s0)) = absT s0 := by
  simp [absT, load, save, Function.comp_def]

/-! ### the clocks and `AddsLate` with `save` / `load`

A `load` puts back the snapshot's timer with the snapshot's `m_time`, which is the frame clock of the moment of the
`save`, hence `≤` (not `=`) the present frame clock: the clock is the host's and keeps running (`reset` starts a new
context with clock 0, and drops the snapshot).  So `m_time = lastClock` (`reachable_mtime`) becomes `m_time ≤ lastClock`;
a loaded element may be overdue (due `<` the present frame time: it is resumed by the next drain) but every `add` of the
history — the snapshot's history followed by what happened since the load — still has due `≥ m_time` of its moment. -/

structure SLClocks (s : State) (k : Option Snap) : Prop where
  sc : s.scaled = s.lastClock
  lc : s.lastClock ≤ s.clock
  mt : s.timer.mtime ≤ s.lastClock
  snap : ∀ k0, k = some k0 → k0.timer.mtime ≤ s.lastClock

theorem SLClocks.hr {a b : State} {k : Option Snap} (h : SLClocks a k) (hr : HR a b) : SLClocks b k := by
  refine ⟨?_, ?_, ?_, ?_⟩
  · rw [hr.ht.scaled, hr.ht.lastClock]; exact h.sc
  · rw [hr.ht.clock, hr.ht.lastClock]; exact h.lc
  · rw [hr.ht.mtime, hr.ht.lastClock]; exact h.mt
  · intro k0 hk; rw [hr.ht.lastClock]; exact h.snap k0 hk

theorem SLClocks.frameSetTime {a : State} {k : Option Snap} (h : SLClocks a k) : SLClocks (frameSetTime a) k :=
  ⟨frameSetTime_scaled h.sc h.lc, Nat.le_refl _, Nat.le_refl _, fun k0 hk => Nat.le_trans (h.snap k0 hk) h.lc⟩

theorem reachableSL_clocks {s : State} {k : Option Snap} (h : ReachableSL s k) : SLClocks s k := by
  induction h with
  | init => exact ⟨rfl, Nat.le_refl _, Nat.le_refl _, fun _ hk => by cases hk⟩
  | @step s0 k0 op _ _ ih =>
    by_cases hne : op = .reset
    · subst hne; exact ⟨rfl, Nat.le_refl _, Nat.le_refl _, fun _ hk => by cases hk⟩
    · rw [keepSnap_of_ne hne]
      exact HostOp.apply_of_hr (C := fun s => SLClocks s k0) (fun r h => h.hr r)
        (fun _ _ h => ⟨h.sc, Nat.le_trans h.lc (Nat.le_add_right _ _), h.mt, h.snap⟩) (fun _ h => h.frameSetTime) op hne ih
  | save _ _ ih => exact ⟨ih.sc, ih.lc, ih.mt, fun k0 hk => by cases hk; exact ih.mt⟩
  | @load s0 k0 _ _ _ ih =>
    have h1 := ih.hr (killAllInsts_hr s0)
    exact ⟨h1.sc, h1.lc, h1.snap k0 rfl, h1.snap⟩

structure Traced (s : State) : Prop where
  timer : ∃ ops, IsLedger s ops
  notify : ∃ ops : List NOp, nRun [] ops = s.notify
  threads : ∃ ops : List POp, pRun pool0T ops = some (absT s)
  insts : ∃ ops : List POp, pRun pool0I ops = some (absI s)

theorem Traced.ledgers {s : State} (h : Traced s) : Ledgers s :=
  ⟨h.timer.imp fun _ hh => hh.run, h.notify, h.threads, h.insts⟩

theorem reachableSL_traced {s : State} {k : Option Snap} (h : ReachableSL s k) :
    Traced s ∧ ∀ k0, k = some k0 → ∃ s0, Traced s0 ∧ k0 = save s0 := by
  refine reachableSL_induction ⟨⟨[], rfl, trivial⟩, ⟨[], rfl⟩, ⟨[], rfl⟩, ⟨[], rfl⟩⟩ (fun {s} _ op hr hne t => ?_) (fun X s0 t => ?_) h
  · obtain ⟨ops, hh⟩ := t.timer
    have hc := reachableSL_clocks hr
    have hl := HostOp.apply_ll s op hne
    exact ⟨hh.apply (hc.sc ▸ hc.mt) hc.sc op, NN.extend t.notify (HostOp.apply_nn s op hne),
      pRun_extend t.threads hl.th, pRun_extend t.insts hl.inst⟩
  · -- the loaded timer, notify table, record ids and instance ids are the snapshot's
    exact ⟨t.timer, t.notify, absT_load_save X s0 ▸ t.threads, t.insts⟩

theorem reachable_traced {s : State} (h : Reachable s) : Traced s := (reachableSL_traced h.toSL).1

end Morfuse.Sched
