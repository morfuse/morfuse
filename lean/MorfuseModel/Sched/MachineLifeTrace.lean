import MorfuseModel.Sched.MachineInst
import MorfuseModel.Sched.PoolLedger
/-!
# Thread records and script instances are created and freed like pool objects

`LL s s'`: there is a history of `new` / `del` operations leading from the pool of thread ids of `s`
(`(ids of the records, nextTid)`) to that of `s'`, and one for the pool of instance ids
(`(ids of the listed instances, nextInst)`) — the ghost ledgers of this call.  A `del t` is emitted exactly where a
record is removed (end of `~ScriptThread` with the VM already freed; `ScriptVM::Execute`'s epilogue for a destroyed
VM), a `del i` where an instance is unlinked (`ScriptClass::RemoveThread` of the last thread; `~ScriptClass`), a
`new` where a thread / an instance is created (`thread`, `waitthread`, host call).  Every function of the machine
satisfies it, unconditionally (`llAll`).
-/
namespace Morfuse.Sched

def absT (s : State) : Pool := ⟨s.threads.map (·.1), s.nextTid⟩
def absI (s : State) : Pool := ⟨(s.insts.map (·.1)).reverse, s.nextInst⟩

theorem mem_absT_ids {s : State} {t : Nat} : t ∈ (absT s).ids ↔ ∃ th, thFind s.threads t = some th := by
  rw [← Option.ne_none_iff_exists', Ne, thFind_none_iff, Classical.not_not]; rfl

theorem mem_absI_ids {s : State} {i : Nat} : i ∈ (absI s).ids ↔ s.insts.any (·.1 == i) = true := by
  simp [absI]

structure LL (s s' : State) : Prop where
  th : ∃ ops, pRun (absT s) ops = some (absT s')
  inst : ∃ ops, pRun (absI s) ops = some (absI s')

theorem LL.refl (s : State) : LL s s := ⟨⟨[], rfl⟩, ⟨[], rfl⟩⟩
theorem pRun_extend {P P1 P2 : Pool} (h1 : ∃ ops, pRun P ops = some P1) (h2 : ∃ ops, pRun P1 ops = some P2) :
    ∃ ops, pRun P ops = some P2 := by
  obtain ⟨o1, r1⟩ := h1
  obtain ⟨o2, r2⟩ := h2
  exact ⟨o1 ++ o2, pRun_append _ _ _ _ _ r1 r2⟩
theorem LL.trans {a b c : State} (h1 : LL a b) (h2 : LL b c) : LL a c :=
  ⟨pRun_extend h1.th h2.th, pRun_extend h1.inst h2.inst⟩

theorem LL.of_abs {s s' : State} (h1 : absT s' = absT s) (h2 : absI s' = absI s) : LL s s' :=
  ⟨⟨[], by rw [h1]; rfl⟩, ⟨[], by rw [h2]; rfl⟩⟩

theorem LL.keys {s s' : State} (h1 : s'.threads.map (·.1) = s.threads.map (·.1)) (h2 : s'.nextTid = s.nextTid)
    (h3 : s'.insts = s.insts) (h4 : s'.nextInst = s.nextInst) : LL s s' :=
  LL.of_abs (by unfold absT; rw [h1, h2]) (by unfold absI; rw [h3, h4])

theorem LL.of_eq {s s' : State} (h1 : s'.threads = s.threads) (h2 : s'.nextTid = s.nextTid) (h3 : s'.insts = s.insts)
    (h4 : s'.nextInst = s.nextInst) : LL s s' := LL.keys (by rw [h1]) h2 h3 h4

theorem LL.setTh (s : State) (t : Nat) (f : Th → Th) : LL s (s.setTh t f) :=
  LL.keys (by rw [State.setTh_threads, map_upd_keys]) rfl rfl rfl

theorem absT_del {s s' : State} {t : Nat} (hm : t ∈ s.threads.map (·.1))
    (h1 : s'.threads = s.threads.filter (fun e => !(e.1 == t))) (h2 : s'.nextTid = s.nextTid) :
    pRun (absT s) [.del t] = some (absT s') := by
  rw [pRun_del_mem hm]
  show some (Pool.mk ((s.threads.map (·.1)).filter (fun x => !(x == t))) s.nextTid) = some ⟨s'.threads.map (·.1), s'.nextTid⟩
  rw [h1, h2, List.filter_map]
  rfl

theorem absT_new {s s' : State} {r : Th} (h1 : s'.threads = s.threads ++ [(s.nextTid, r)])
    (h2 : s'.nextTid = s.nextTid + 1) : pRun (absT s) [.new] = some (absT s') := by
  show some (Pool.mk (s.threads.map (·.1) ++ [s.nextTid]) (s.nextTid + 1)) = some ⟨s'.threads.map (·.1), s'.nextTid⟩
  rw [h1, h2, List.map_append]
  rfl

theorem absI_del {s s' : State} {i : Nat} (hm : i ∈ s.insts.map (·.1))
    (h1 : s'.insts = s.insts.filter (fun e => !(e.1 == i))) (h2 : s'.nextInst = s.nextInst) :
    pRun (absI s) [.del i] = some (absI s') := by
  rw [pRun_del_mem (List.mem_reverse.2 hm)]
  show some (Pool.mk ((s.insts.map (·.1)).reverse.filter (fun x => !(x == i))) s.nextInst) =
    some ⟨(s'.insts.map (·.1)).reverse, s'.nextInst⟩
  rw [h1, h2, List.filter_reverse, List.filter_map]
  rfl

theorem absI_new {s s' : State} {c : List Nat} (h1 : s'.insts = (s.nextInst, c) :: s.insts)
    (h2 : s'.nextInst = s.nextInst + 1) : pRun (absI s) [.new] = some (absI s') := by
  show some (Pool.mk ((s.insts.map (·.1)).reverse ++ [s.nextInst]) (s.nextInst + 1)) =
    some ⟨(s'.insts.map (·.1)).reverse, s'.nextInst⟩
  rw [h1, h2, List.map_cons, List.reverse_cons]

theorem mem_keys_of_find {L : List (Nat × List Nat)} {i : Nat} {e : Nat × List Nat}
    (h : L.find? (·.1 == i) = some e) : i ∈ L.map (·.1) :=
  List.mem_map.2 ⟨e, List.mem_of_find?_eq_some h, by simpa using List.find?_some h⟩

theorem LL.filter (s : State) (t : Nat) (th : Th) (h : thFind s.threads t = some th) :
    LL s { s with threads := s.threads.filter (fun e => !(e.1 == t)) } :=
  ⟨⟨[.del t], absT_del (List.mem_map.2 ⟨(t, th), thFind_some_mem h, rfl⟩) rfl rfl⟩, ⟨[], rfl⟩⟩

theorem LL.append (s s' : State) (r : Th) (h1 : s'.threads = s.threads ++ [(s.nextTid, r)])
    (h2 : s'.nextTid = s.nextTid + 1) (h3 : absI s' = absI s) : LL s s' :=
  ⟨⟨[.new], absT_new h1 h2⟩, ⟨[], by rw [h3]; rfl⟩⟩

theorem LL.spawnFresh (s s' : State) (r : Th) (h1 : s'.threads = s.threads ++ [(s.nextTid, r)])
    (h2 : s'.nextTid = s.nextTid + 1) (h3 : s'.insts = (s.nextInst, [s.nextTid]) :: s.insts)
    (h4 : s'.nextInst = s.nextInst + 1) : LL s s' :=
  ⟨⟨[.new], absT_new h1 h2⟩, ⟨[.new], absI_new h3 h4⟩⟩

theorem LL.unlink {s s' : State} {i : Nat} {e : Nat × List Nat} (hfd : s.insts.find? (·.1 == i) = some e)
    (h1 : absT s' = absT s) (h2 : s'.insts = s.insts.filter (fun e => !(e.1 == i)))
    (h3 : s'.nextInst = s.nextInst) : LL s s' :=
  ⟨⟨[], by rw [h1]; rfl⟩, ⟨[.del i], absI_del (mem_keys_of_find hfd) h2 h3⟩⟩

theorem LL.rfi (s : State) (t i : Nat) : LL s (Morfuse.Sched.removeFromInst s t i) := by
  have hT : absT (Morfuse.Sched.removeFromInst s t i) = absT s := by rw [removeFromInst_frame]; rfl
  have hN : (Morfuse.Sched.removeFromInst s t i).nextInst = s.nextInst := by rw [removeFromInst_frame]
  have hI := removeFromInst_insts s t i
  unfold riInsts at hI
  cases hfd : s.insts.find? (·.1 == i) with
  | none => rw [hfd] at hI; exact LL.of_abs hT (by unfold absI; rw [hI, hN])
  | some e =>
    rw [hfd] at hI
    simp only at hI
    split at hI
    · exact LL.of_abs hT (by unfold absI; rw [hI, hN])
    · split at hI
      · exact LL.unlink hfd hT hI hN
      · exact LL.of_abs hT (by unfold absI; rw [hI, hN, Assoc.keys_map_at])

theorem LL.steps : Steps.Full LL where
  refl := LL.refl
  trans := LL.trans
  frame := fun _ _ _ _ _ _ => LL.of_eq rfl rfl rfl rfl
  fuel := fun _ => LL.of_eq rfl rfl rfl rfl
  setTh := fun s t _ _ => LL.setTh s t _
  dropThread := LL.filter
  unlinkVM := LL.rfi
  timerRemove := fun _ _ => LL.of_eq rfl rfl rfl rfl
  addTimer := fun _ _ _ => LL.of_eq rfl rfl rfl rfl
  timerNext := fun _ => LL.of_eq rfl rfl rfl rfl
  sameInst := fun s t th l =>
    LL.append s (spawnSame s t th l) _ rfl rfl (by unfold absI spawnSame; simp only [Assoc.keys_map_at])
  newInst := fun s t l => LL.spawnFresh s (spawnNew s t l) _ rfl rfl rfl rfl
  register := fun _ _ _ _ => LL.of_eq rfl rfl rfl rfl
  cancelKey := fun _ _ _ _ => LL.of_eq rfl rfl rfl rfl
  cancelOwner := fun _ _ => LL.of_eq rfl rfl rfl rfl
  unregKey := fun _ _ _ _ => LL.of_eq rfl rfl rfl rfl
  unregOwner := fun _ _ => LL.of_eq rfl rfl rfl rfl

theorem LL.blind : Blind LL :=
  ⟨fun _ _ => LL.of_eq rfl rfl rfl rfl, fun _ _ => LL.of_eq rfl rfl rfl rfl, fun _ _ => LL.of_eq rfl rfl rfl rfl⟩

theorem llAll : ∀ fuel, All LL fuel := all_of_blind LL.steps LL.blind

end Morfuse.Sched
