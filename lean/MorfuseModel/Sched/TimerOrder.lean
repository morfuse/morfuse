import MorfuseModel.Sched.TimerRun
/-!
# Resumption order over a whole drain / a whole frame

`chronDues tm ops`: the due times of the elements returned by the `next` operations of a history, in chronological
order.  For a history without `setTime` in which every `add` carries a due time `≥ m_time` (what the machine does
between two `SetTime`s: `due = scaledTime + d`, `scaledTime = m_time`), the returned due times are **nondecreasing**:
elements present at the start come out by increasing due time, elements registered meanwhile (`wait 0`, re-timed
`waitthread` callers: due `= m_time`) come after every element that was due earlier.
-/
namespace Morfuse.Sched

def chronDues : Timer → List TOp → List Nat
  | _, [] => []
  | tm, .next :: ops =>
    match tm.next with
    | (some (_, d), tm') => d :: chronDues tm' ops
    | (none, tm') => chronDues tm' ops
  | tm, op :: ops => chronDues (timerRun tm [op]) ops

/-- every due element of the timer is not before `lb` -/
def LowerBound (tm : Timer) (lb : Nat) : Prop := ∀ e ∈ tm.elems, e.2 ≤ tm.mtime → lb ≤ e.2

theorem chronDues_sorted : ∀ (ops : List TOp) (tm : Timer) (lb : Nat), NoSet ops → AddsLate tm ops →
    LowerBound tm lb → lb ≤ tm.mtime →
    (∀ d ∈ chronDues tm ops, lb ≤ d) ∧ (chronDues tm ops).Pairwise (· ≤ ·)
  | [], _, _, _, _, _, _ => ⟨(fun d h => by cases h), List.Pairwise.nil⟩
  | op :: ops, tm, lb, hn, ha, hl, hm => by
    have hn' : NoSet ops := fun o ho => hn o (List.mem_cons_of_mem _ ho)
    cases op with
    | add e due =>
      have hdue : tm.mtime ≤ due := ha.1
      have hl' : LowerBound (timerRun tm [.add e due]) lb := by
        intro x hx hxd
        rw [timerRun_add] at hx hxd
        simp only [Timer.add, List.mem_append, List.mem_singleton] at hx
        rcases hx with hx | hx
        · exact hl x hx hxd
        · subst hx
          have : due ≤ tm.mtime := hxd
          show lb ≤ due
          omega
      exact chronDues_sorted ops _ lb hn' ha.2 hl' (by rw [timerRun_add]; exact hm)
    | remove e =>
      have hl' : LowerBound (timerRun tm [.remove e]) lb := by
        intro x hx hxd
        rw [timerRun_remove] at hx hxd
        rw [Timer.remove_mtime] at hxd
        exact hl x (Timer.remove_sub tm e x hx) hxd
      exact chronDues_sorted ops _ lb hn' ha.2 hl'
        (by rw [timerRun_one_mtime tm (.remove e) (fun T h => by cases h)]; exact hm)
    | setTime T => exact absurd rfl (hn (.setTime T) List.mem_cons_self T)
    | next =>
      have ha2 : AddsLate tm.next.2 ops := by have := ha.2; rw [timerRun_next] at this; exact this
      simp only [chronDues]
      cases hnx : tm.next with
      | mk r tm' =>
        rw [hnx] at ha2
        cases r with
        | none =>
          simp only
          obtain ⟨_, h2⟩ := Timer.next_none hnx
          subst h2
          exact chronDues_sorted ops _ lb hn' ha2 (fun x hx hxd => hl x hx hxd) hm
        | some ed =>
          obtain ⟨e, d⟩ := ed
          simp only
          obtain ⟨i, hi, hd, hmin, h2⟩ := Timer.next_some hnx
          subst h2
          have hmem : (e, d) ∈ tm.elems := List.mem_of_getElem? hi
          have hlbd : lb ≤ d := hl (e, d) hmem hd
          have hl' : LowerBound ({ tm with elems := tm.elems.eraseIdx i } : Timer) d := by
            intro x hx hxd
            have hx' : x ∈ tm.elems := (List.eraseIdx_sublist _ _).subset hx
            obtain ⟨j, hj⟩ := List.mem_iff_getElem?.1 hx'
            exact (hmin j x.1 x.2 hj hxd).1
          obtain ⟨r1, r2⟩ := chronDues_sorted ops _ d hn' ha2 hl' hd
          refine ⟨?_, List.Pairwise.cons (fun y hy => r1 y hy) r2⟩
          intro y hy
          rcases List.mem_cons.1 hy with hy | hy
          · rw [hy]; exact hlbd
          · exact Nat.le_trans hlbd (r1 y hy)

end Morfuse.Sched
