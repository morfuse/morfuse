import MorfuseModel.Sched.MachineInvUpd
import MorfuseModel.Sched.MachineInvRider
/-!
# `Inv` through `Stop`, `CancelWaitingAll`, `~Listener` and `~ScriptThread`

Each step lemma takes the statements about the functions it calls (at the lower fuel) as hypotheses.

How to read the contracts (`ICwa` … `IUa` here, `ISei`, `IEr` … `IEx` later): the thread at the head of `C` or `W` in a
precondition is exempt because of what the caller has just done to it; the function makes the exempted clause true again,
so the postcondition has the list without it.  A caller with nothing to close adds the exemption for nothing (`Inv.consC`,
`Inv.consW`).  `top` is `none` except in `IPr` and `IEx`: that exemption arises when an instruction suspends its own
thread and ends when `ScriptVM::Execute` returns.

Where a composition keeps the exemptions, the control-flow lemmas of `MachineSteps` apply to `fun s => Ok s (Inv C W none s)`
(`Ok.kept`); the four table scans open exemptions at the removal and close them in the loop that follows, so they are
followed step by step.
-/
namespace Morfuse.Sched

variable {P : List Nat → State → Prop}

/-- `Stop()` sets `w` to `running` and then calls `CancelWaitingAll`, which removes the entries `w` still owns -/
def ICwa (f : State → Nat → State) : Prop :=
  ∀ C W s w, Inv (w :: C) W none s →
    Ok (f s w) (Inv C W none (f s w) ∧ Tbl.hasOwner (f s w).waitFor w = false)

/-- the loop of `UnregisterAll` destroys waiters (`StoppedWaitFor(…, bDeleting)`) whose entries it has already removed -/
def IDt (f : State → Nat → State) : Prop :=
  ∀ C W s t, Inv C (t :: W) none s → Ok (f s t) (Inv C W none (f s t))

def ISn (f : State → Nat → State) : Prop :=
  ∀ C W s l, Inv C W none s → Ok (f s l) (Inv C W none (f s l))

/-- `StoppedWaitFor` re-times a woken `t` by `StartTiming`, which begins with `Stop()`; a `running` thread needs no entry -/
def IStp (f : State → Nat → State) : Prop :=
  ∀ C W s t, Inv C (t :: W) none s →
    Ok (f s t) (Inv C W none (f s t) ∧ ∀ th', thFind (f s t).threads t = some th' → th'.ts = .running)

/-- Every caller of `StoppedWaitFor` has just removed entries of `t`, perhaps its last; what is then done to `t` ends its
    waiting.  The branch that executes `t` (name ≠ 0, not `bDeleting`) needs `t` idle, which the caller has from `f4`, and
    `C = []`: script code is followed with no `CancelWaitingAll` in progress.  `P` is the rider (`MachineInvRider`). -/
def ISwf (P : List Nat → State → Prop) (f : State → Nat → Nat → Bool → State) : Prop :=
  ∀ C W s t name d, Inv C (t :: W) none s →
    (name ≠ 0 → d = false → C = [] ∧ ∀ th, thFind s.threads t = some th → th.ts = .waiting → th.vm = .idling) →
    Ok (f s t name d) (Inv C W none (f s t name d) ∧ G s (f s t name d) ∧ ∀ A, P A s → P A (f s t name d))

/-- `Unregister(name)` while a `CancelWaitingAll` is in progress is one of the calls the cascades make (`quietAll`):
    channel 0, or a thread as source under one of the two destruction names, where nobody waits -/
def IUr (P : List Nat → State → Prop) (f : State → Nat → Nat → State) : Prop :=
  ∀ C W s src name, Inv C W none s → (C = [] ∨ name = 0 ∨ QSrc src name) →
    Ok (f s src name) (Inv C W none (f s src name) ∧ G s (f s src name) ∧ ∀ A, P A s → P A (f s src name))

def IUa (f : State → Nat → State) : Prop :=
  ∀ C W s src, Inv C W none s →
    Ok (f s src) (Inv C W none (f s src) ∧ Tbl.hasOwner (f s src).notify src = false)

theorem recOK_running {th : Th} (r : RecOK th) : RecOK { th with ts := .running } :=
  ⟨fun _ => rfl, r.f2, fun _ => rfl, r.f5⟩

theorem ts_cases (x : TS) : x = .running ∨ x = .timing ∨ x = .waiting := by cases x <;> simp

/-- `Stop()` of `t` once its record has been updated by `g` (`~ScriptThread` takes the VM away first; for `Stop()` alone
    `g` is the identity) -/
theorem stopStep_inv {cw : State → Nat → State} (hq : Quiet1 Q cw) (hcw : ICwa cw) {C W : List Nat} {s : State}
    {t : Nat} {th : Th} (h : Inv C (t :: W) none s) (hth : thFind s.threads t = some th) (g : Th → Th)
    (hpar : ∀ x, (g x).parent = x.parent) (hts : ∀ x, (g x).ts = x.ts) (hdead : ∀ x, (g x).dead = x.dead)
    (hok0 : th.ts = .running → RecOK (g th)) (hok : RecOK { g th with ts := .running }) :
    Ok (stopStep cw (s.setTh t g) t th) (Inv C W none (stopStep cw (s.setTh t g) t th) ∧
      ∀ th', thFind (stopStep cw (s.setTh t g) t th).threads t = some th' →
        th'.ts = .running ∧ ((g th).hasVM = false → th'.hasVM = false)) := by
  have hW : ∀ x ∈ t :: W, x ≠ t → x ∈ W := fun x m hx => List.mem_of_ne_of_mem hx m
  have hrun : ∀ th', thFind (s.setTh t fun th => { g th with ts := .running }).threads t = some th' →
      th'.ts = .running ∧ ((g th).hasVM = false → th'.hasVM = false) := fun th' hf => by
    rw [thFind_setTh_self _ hth] at hf
    cases hf; exact ⟨rfl, id⟩
  unfold stopStep
  rcases ts_cases th.ts with h0 | h1 | h2
  · have e1 : (TS.running == TS.timing) = false := rfl
    have e2 : (TS.running == TS.waiting) = false := rfl
    simp only [h0, e1, e2, Bool.false_eq_true, if_false]
    refine Ok.pure ⟨?_, fun th' hf => ?_⟩
    · exact h.setTh_awake t g th s.timer hth hpar (hok0 h0) hdead (h.tim.setTh_same t g hts)
        (by rw [hts, h0]; simp) (fun x m => m) hW (fun hw => by rw [h0] at hw; cases hw)
    · rw [thFind_setTh_self g hth] at hf
      cases hf; exact ⟨by rw [hts]; exact h0, id⟩
  · simp only [h1, beq_self_eq_true, if_true]
    rw [State.setTh_setTh]
    refine Ok.pure ⟨?_, hrun⟩
    exact h.setTh_awake t (fun th => { g th with ts := .running }) th (s.timer.remove t) hth hpar hok hdead
      (h.tim.stopTiming t th hth h1 _ (fun _ => by simp)) (by simp) (fun x m => m) hW
      (fun hw => by rw [h1] at hw; cases hw)
  · have hne : (TS.waiting == TS.timing) = false := rfl
    simp only [h2, hne, beq_self_eq_true, if_true, Bool.false_eq_true, if_false]
    rw [State.setTh_setTh]
    have h1' : Inv (t :: C) W none (s.setTh t fun th => { g th with ts := .running }) :=
      h.setTh_awake t (fun th => { g th with ts := .running }) th s.timer hth hpar hok hdead
        (h.tim.setTh_off t _ (fun th0 h0 => by rw [hth] at h0; cases h0; rw [h2]; simp) (fun _ => by simp))
        (by simp) (fun x m => List.mem_cons_of_mem _ m) hW (fun _ => List.mem_cons_self)
    refine (hcw C W _ t h1').map (fun p => ⟨p.1, fun th' hf => ?_⟩)
    -- `CancelWaitingAll` leaves the record of `t` as it is, or `t` was destroyed on the way
    obtain ⟨th1, hf1, q⟩ := (hq [] _ t h1'.n).th t th' hf
    obtain ⟨r1, r2⟩ := hrun th1 hf1
    constructor
    · rcases q.ts with e | e | ⟨e, _⟩
      · rw [e]; exact r1
      · exact e
      · rw [r1] at e; cases e
    · intro hg
      cases hv : th'.hasVM with
      | false => rfl
      | true => have := q.hasVM hv; rw [r2 hg] at this; cases this

theorem stop_inv_succ {fuel : Nat} (hq : Quiet1 Q (cancelWaitingAll fuel)) (hcw : ICwa (cancelWaitingAll fuel)) :
    IStp (stop (fuel + 1)) := by
  intro C W s t h
  rw [stop_succ]
  cases hf : thFind s.threads t with
  | none =>
    simp only
    apply Ok.pure
    exact ⟨h.dropW_none hf, fun th' h' => by rw [hf] at h'; cases h'⟩
  | some th =>
    simp only
    have hrec := h.th t th hf
    have key := stopStep_inv hq hcw h hf (fun th => th) (fun _ => rfl) (fun _ => rfl) (fun _ => rfl)
      (fun _ => hrec) (recOK_running hrec)
    rw [State.setTh_id] at key
    exact key.map (fun p => ⟨p.1, fun th' hf' => (p.2 th' hf').1⟩)

/-- `~ScriptThread` of any thread, which need not be exempt -/
theorem IDt.kept {dt : State → Nat → State} (hp : Pres1 dt) (hdt : IDt dt) (C W : List Nat) (s : State) (t : Nat) :
    Ok s (Inv C W none s) → Ok (dt s t) (Inv C W none (dt s t)) :=
  Ok.kept (hp s t) fun h => hdt C W s t (h.consW t)

theorem notifyLoop_inv {sn : State → Nat → State} (hp : Pres1 sn) (hsn : ISn sn) {C W : List Nat} {s : State}
    (h : Inv C W none s) (stopped : List Nat) :
    Ok (notifyLoop sn s stopped) (Inv C W none (notifyLoop sn s stopped)) :=
  notifyLoop_rel (Pre.imp fun s => Ok s (Inv C W none s)) (fun s l => Ok.kept (hp s l) (hsn C W s l)) s stopped (Ok.pure h)

theorem Inv.sources_alive {C W : List Nat} {top : Option Nat} {s : State} (h : Inv C W top s) (w n : Nat) :
    ∀ l ∈ Tbl.getD s.waitFor (w, n), s.alive l = true := by
  intro l hl
  have := (h.tab.mir.mem_iff l n w).2 hl
  exact (h.tab.aN l n w this).1

theorem Inv.waiters_alive {C W : List Nat} {top : Option Nat} {s : State} (h : Inv C W top s) (o n : Nat) :
    ∀ l ∈ Tbl.getD s.notify (o, n), s.alive l = true := by
  intro l hl
  have h1 := (h.tab.aN o n l hl).2
  have h2 := h.n.nMem _ l hl
  rw [State.alive_ge _ h2]
  exact h1

theorem cwaZero_inv {fuel : Nat} (hswf : ISwf P (stoppedWaitFor fuel)) (hsn : ISn (stoppedNotify fuel))
    {C W : List Nat} {s : State} {w : Nat} (h : Inv (w :: C) W none s) :
    Ok (cwaZero (stoppedWaitFor fuel) (stoppedNotify fuel) s w)
      (Inv (w :: C) W none (cwaZero (stoppedWaitFor fuel) (stoppedNotify fuel) s w)) := by
  unfold cwaZero
  cases hf : Tbl.find s.waitFor (w, 0) with
  | none => exact Ok.pure h
  | some list =>
    simp only [cancelWaitingSources_eq_purge]
    have hg : Tbl.getD s.waitFor (w, 0) = list := Tbl.find_eq_getD_of_some hf
    have hmir : TblMirror (Tbl.purge s.alive s.notify w 0 list []).1 (Tbl.removeKey s.waitFor (w, 0)) := by
      have := h.tab.mir.symm.purge_removeKey s.alive w 0 [] (by rw [hg]; exact fun l hl => h.sources_alive w 0 l (by rw [hg]; exact hl))
      rw [hg] at this
      exact this.symm
    have h1 := h.setTables (Wl' := w :: W) (Tbl.purge s.alive s.notify w 0 list []).1 (Tbl.removeKey s.waitFor (w, 0))
      (Tbl.purge_WF _ h.n.wfN _ _ _ _) (h.n.wfW.removeKey _) (Tbl.Sub.purge _ _ _ _ _ _) (Tbl.Sub.removeKey _ _) hmir
      (fun x m => List.mem_cons_of_mem _ m) (fun x th hx hw ho => by
        by_cases hxw : x = w
        · left; rw [hxw]; exact List.mem_cons_self
        · right; exact Tbl.hasOwner_removeKey_ne h.n.wfW (k := (w, 0)) hxw ho)
    have hloop : ∀ s2 : State, Inv (w :: C) W none s2 →
        Ok (notifyLoop (stoppedNotify fuel) s2 (Tbl.purge s.alive s.notify w 0 list []).2)
          (Inv (w :: C) W none (notifyLoop (stoppedNotify fuel) s2 (Tbl.purge s.alive s.notify w 0 list []).2)) :=
      fun s2 h2 => notifyLoop_inv (presAll fuel).sn hsn h2 _
    split
    · refine (hswf (w :: C) W _ w 0 false h1 (fun hne => absurd rfl hne)).bind
        (notifyLoop_pres (presAll fuel).sn _ _) (fun p => hloop _ p.1)
    · rename_i hno
      have ho : Tbl.hasOwner (Tbl.removeKey s.waitFor (w, 0)) w = true := by simpa using hno
      exact hloop _ (h1.dropW_of (fun _ _ _ => ho))

theorem cwaRest_inv {fuel : Nat} (hswf : ISwf P (stoppedWaitFor fuel)) (hsn : ISn (stoppedNotify fuel))
    {C W : List Nat} {s : State} {w : Nat} (h : Inv (w :: C) W none s) :
    Ok (cwaRest (stoppedWaitFor fuel) (stoppedNotify fuel) s w)
      (Inv C W none (cwaRest (stoppedWaitFor fuel) (stoppedNotify fuel) s w) ∧
        Tbl.hasOwner (cwaRest (stoppedWaitFor fuel) (stoppedNotify fuel) s w).waitFor w = false) := by
  unfold cwaRest
  split
  · rename_i hno
    have ho : Tbl.hasOwner s.waitFor w = false := by simpa using hno
    exact Ok.pure ⟨h.dropC ho, ho⟩
  · simp only [cwaSources_frame]
    have hmir : TblMirror (Tbl.multiPurge s.alive s.notify w (Tbl.keysOf s.waitFor w) []).1 (Tbl.removeOwner s.waitFor w) :=
      (h.tab.mir.symm.multiPurge_removeOwner h.n.wfW s.alive w [] (fun n l hl => h.sources_alive w n l hl)).symm
    have h1 := h.setTables (Wl' := w :: W) (Tbl.multiPurge s.alive s.notify w (Tbl.keysOf s.waitFor w) []).1
      (Tbl.removeOwner s.waitFor w) (Tbl.multiPurge_WF _ _ _ _ _ h.n.wfN) (h.n.wfW.removeOwner _)
      (Tbl.Sub.multiPurge _ _ _ _ _) (Tbl.Sub.removeOwner _ _) hmir (fun x m => List.mem_cons_of_mem _ m)
      (fun x th hx hw ho => by
        by_cases hxw : x = w
        · left; rw [hxw]; exact List.mem_cons_self
        · right; exact Tbl.hasOwner_removeOwner_ne h.n.wfW hxw ho)
    have hown1 : Tbl.hasOwner (Tbl.removeOwner s.waitFor w) w = false := Tbl.hasOwner_removeOwner_self _ w
    refine (hswf (w :: C) W _ w 0 false h1 (fun hne => absurd rfl hne)).bind
      (notifyLoop_pres (presAll fuel).sn _ _) (fun p => ?_)
    refine (notifyLoop_inv (presAll fuel).sn hsn p.1 _).map (fun p3 => ?_)
    -- the cascade after the removal only shrinks the wait-for table
    have q2 := (qAll fuel).swf [] _ w 0 false h1.n (Or.inl rfl)
    have q3 := qQuiet.notifyLoop (nAll fuel).sn (qAll fuel).sn [] p.1.n (Tbl.multiPurge s.alive s.notify w (Tbl.keysOf s.waitFor w) []).2
    have hown3 := Tbl.hasOwner_false_of_sub h1.n.wfW p3.n.wfW (q2.trans q3).subW hown1
    exact ⟨p3.dropC hown3, hown3⟩

theorem cancelWaitingAll_inv_succ {fuel : Nat} (hswf : ISwf P (stoppedWaitFor fuel)) (hsn : ISn (stoppedNotify fuel)) :
    ICwa (cancelWaitingAll (fuel + 1)) := by
  intro C W s w h
  rw [cancelWaitingAll_succ]
  exact (cwaZero_inv hswf hsn h).bind (cwaRest_pres (presAll fuel).swf (presAll fuel).sn _ _)
    (fun p => cwaRest_inv hswf hsn p)

theorem notifyDelete_inv {C W : List Nat} {s : State} {t : Nat} (h : Inv C W none s) (hv : NoVM s t) :
    Inv C W none (notifyDelete s t) ∧ Gone (notifyDelete s t) t := by
  rw [notifyDelete_eq]
  cases hf : thFind s.threads t with
  | none =>
    exact ⟨h, fun th' h' => by rw [hf] at h'; cases h'⟩
  | some th =>
    have hrec := h.th t th hf
    have hvm := hv th hf
    have h1 : Inv C W none (s.setTh t (ndRec (th.vm == .idling))) :=
      h.setTh_keepTs t _ (fun _ => rfl) (fun _ => rfl) (fun _ => rfl)
        (fun th0 h0 => by
          rw [hf] at h0; cases h0
          exact ⟨hrec.f1, fun hd => ⟨hvm, rfl⟩, fun hr => (by cases hr), fun _ => hvm⟩)
        (fun _ => Or.inr (Or.inl rfl))
    have g1 : Gone (s.setTh t (ndRec (th.vm == .idling))) t := fun th' h' => by
      rw [thFind_setTh_self _ hf] at h'
      cases h'; exact ⟨hvm, rfl⟩
    simp only
    split
    · exact ⟨removeFromInst_inv h1 _ _, by rw [removeFromInst_frame]; exact g1⟩
    · exact ⟨h1, g1⟩

theorem finishDelete_inv {C W : List Nat} {s : State} {t : Nat} (h : Inv C W none s) (hg : Gone s t)
    (h1 : Tbl.hasOwner s.notify t = false) (h2 : Tbl.hasOwner s.waitFor t = false) :
    Inv C W none (finishDelete s t) := by
  unfold finishDelete
  cases hf : thFind s.threads t with
  | none => exact h
  | some th =>
    obtain ⟨g1, g2⟩ := hg th hf
    simp only
    split
    · exact h.die t th hf g1 g2 h1 h2
    · exact h.remove t th hf g1 (notMentioned h.tab.mir h.n.wfN h.n.wfW h1 h2)

/-- `hside`: while a `CancelWaitingAll` is in progress only a thread is destroyed -/
theorem listenerEnd_inv {fuel : Nat} (L : ExecKept P) (hur : IUr P (unregister fuel)) (hua : IUa (unregisterAll fuel))
    (hcw : ICwa (cancelWaitingAll fuel)) {C W : List Nat} {s : State} (h : Inv C W none s) (x : Nat)
    (hside : C = [] ∨ 100 ≤ x) :
    Ok (listenerEnd fuel s x)
      (Inv C W none (listenerEnd fuel s x) ∧ Tbl.hasOwner (listenerEnd fuel s x).notify x = false ∧
        Tbl.hasOwner (listenerEnd fuel s x).waitFor x = false ∧ G s (listenerEnd fuel s x) ∧
        ∀ A, P A s → P A (listenerEnd fuel s x)) := by
  unfold listenerEnd
  have Pr := presAll fuel
  have hq : ∀ name, name = nameDelete ∨ name = nameRemove → C = [] ∨ name = 0 ∨ QSrc x name :=
    fun name hn => hside.imp id (fun hx => Or.inr ⟨hx, hn⟩)
  refine (hur C W s x nameDelete h (hq _ (Or.inl rfl))).bind
    (((Pr.ur _ x nameRemove).trans (Pr.ua _ x)).trans (Pr.cwa _ x)) (fun p1 => ?_)
  refine (hur C W _ x nameRemove p1.1 (hq _ (Or.inr rfl))).bind ((Pr.ua _ x).trans (Pr.cwa _ x)) (fun p2 => ?_)
  refine (hua C W _ x p2.1).bind (Pr.cwa _ x) (fun p3 => ?_)
  refine (hcw C W _ x (p3.1.consC x)).map (fun p4 => ?_)
  have q3 := (qAll fuel).ua [] _ x p2.1.n
  have q4 := (qAll fuel).cwa [] _ x p3.1.n
  exact ⟨p4.1, Tbl.hasOwner_false_of_sub p3.1.n.wfN p4.1.n.wfN q4.subN p3.2, p4.2,
    G.trans h.n p1.2.1 (G.trans p1.1.n p2.2.1 (G.trans p2.1.n q3.toG q4.toG)),
    fun A j => (L.quietAll fuel).cwa A _ x p3.1.n ((L.quietAll fuel).ua A _ x p2.1.n (p2.2.2 A (p1.2.2 A j)))⟩

theorem deleteThread_inv_succ {fuel : Nat} (L : ExecKept P) (hcw : ICwa (cancelWaitingAll fuel)) (hur : IUr P (unregister fuel))
    (hua : IUa (unregisterAll fuel)) : IDt (deleteThread (fuel + 1)) := by
  intro C W s t h
  rw [deleteThread_succ]
  cases hf : thFind s.threads t with
  | none =>
    exact Ok.pure (h.dropW_none hf)
  | some th =>
    have ht : 100 ≤ t := (h.n.range t th hf).1
    have hrec := h.th t th hf
    simp only
    split
    · rename_i hv
      have hv' : th.hasVM = false := by simpa using hv
      exact Ok.pure (h.dropW_awake hf (by rw [hrec.f1 hv']; simp))
    · have Pr := presAll fuel
      have Qq := qAll fuel
      refine (stopStep_inv Qq.cwa hcw h hf (fun th => { th with hasVM := false }) (fun _ => rfl) (fun _ => rfl)
        (fun _ => rfl) (fun h0 => ⟨fun _ => h0, fun hd => ⟨rfl, (hrec.f2 hd).2⟩, hrec.f3, fun _ => rfl⟩)
        ⟨fun _ => rfl, fun hd => ⟨rfl, (hrec.f2 hd).2⟩, fun _ => rfl, fun _ => rfl⟩).bind ?_ (fun p1 => ?_)
      · exact (((notifyDelete_pres _ _).trans (cancelEvents_pres _ _)).trans (Pr.listenerEnd presSteps.toSteps _ t)).trans
          (finishDelete_pres _ _)
      obtain ⟨i2, g2⟩ := notifyDelete_inv p1.1 (fun th' hf' => (p1.2 th' hf').2 rfl)
      have i3 := cancelEvents_inv i2 t
      have g3 : Gone (cancelEvents _ t) t := g2
      refine (listenerEnd_inv L hur hua hcw i3 t (Or.inr ht)).bind (finishDelete_pres _ _) (fun p => ?_)
      exact Ok.pure (finishDelete_inv p.1 (g3.of_q (Qq.listenerEnd qQuiet [] i3.n ht)) p.2.1 p.2.2.1)

theorem stoppedNotify_inv_succ {fuel : Nat} (hdt : IDt (deleteThread fuel)) : ISn (stoppedNotify (fuel + 1)) :=
  fun C W s l h => stoppedNotify_rel (Pre.imp fun s => Ok s (Inv C W none s)) (IDt.kept (presAll fuel).dt hdt C W) s l (Ok.pure h)

end Morfuse.Sched
