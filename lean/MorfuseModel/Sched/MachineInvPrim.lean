import MorfuseModel.Sched.MachineInvDefs
/-!
# The primitive updates of the machine and the components of `Inv`
-/
namespace Morfuse.Sched

theorem ThInv.setTh {ths : List (Nat × Th)} (h : ThInv ths) (t : Nat) (f : Th → Th)
    (hf : ∀ th, thFind ths t = some th → RecOK (f th)) : ThInv (ths.map (thUpd t f)) := by
  intro u th' hu
  rcases thFind_upd_some hu with ⟨_, th, hth, e⟩ | ⟨_, hu'⟩
  · rw [e]; exact hf th hth
  · exact h u th' hu'

theorem ThInv.filter {ths : List (Nat × Th)} (h : ThInv ths) (t : Nat) :
    ThInv (ths.filter (fun e => !(e.1 == t))) := by
  exact fun u th' hu => h u th' (thFind_filter_some hu).2

theorem ThInv.append {ths : List (Nat × Th)} (h : ThInv ths) (t' : Nat) (th : Th) (hok : RecOK th) :
    ThInv (ths ++ [(t', th)]) := by
  intro u th' hu
  rcases thFind_append_some hu with hu' | ⟨_, _, e⟩
  · exact h u th' hu'
  · rw [e]; exact hok

theorem TimInv.congr_elems {tm tm' : Timer} {ths : List (Nat × Th)} (h : TimInv tm ths)
    (e : tm'.elems = tm.elems) : TimInv tm' ths := ⟨by rw [e]; exact h.t1, by rw [e]; exact h.t2, by rw [e]; exact h.t3⟩

theorem TimInv.mem_iff {tm : Timer} {ths : List (Nat × Th)} (h : TimInv tm ths) (t : Nat) :
    t ∈ tm.elems.map (·.1) ↔ ∃ th, thFind ths t = some th ∧ th.ts = .timing :=
  ⟨fun hm => by obtain ⟨e, he, rfl⟩ := List.mem_map.1 hm; exact h.t1 e he, fun ⟨th, h1, h2⟩ => h.t3 t th h1 h2⟩

theorem TimInv.setTh {tm tm' : Timer} {ths : List (Nat × Th)} (h : TimInv tm ths) (t : Nat) (f : Th → Th)
    (hn : (tm'.elems.map (·.1)).Nodup)
    (hoth : ∀ u, u ≠ t → (u ∈ tm'.elems.map (·.1) ↔ u ∈ tm.elems.map (·.1)))
    (ht : t ∈ tm'.elems.map (·.1) ↔ ∃ th, thFind ths t = some th ∧ (f th).ts = .timing) :
    TimInv tm' (ths.map (thUpd t f)) := by
  refine ⟨fun e he => ?_, hn, fun u th' hu hts => ?_⟩
  · have hm : e.1 ∈ tm'.elems.map (·.1) := List.mem_map.2 ⟨e, he, rfl⟩
    by_cases hut : e.1 = t
    · obtain ⟨th, h1, h2⟩ := ht.1 (hut ▸ hm)
      exact ⟨f th, by rw [hut]; exact thFind_upd_self f h1, h2⟩
    · rw [thFind_upd_ne ths f hut]
      exact (h.mem_iff e.1).1 ((hoth e.1 hut).1 hm)
  · rcases thFind_upd_some hu with ⟨hut, th, hth, e⟩ | ⟨hut, hu'⟩
    · exact hut ▸ ht.2 ⟨th, hth, e ▸ hts⟩
    · exact (hoth u hut).2 (h.t3 u th' hu' hts)

theorem TimInv.setTh_same {tm : Timer} {ths : List (Nat × Th)} (h : TimInv tm ths) (t : Nat) (f : Th → Th)
    (hf : ∀ th, (f th).ts = th.ts) : TimInv tm (ths.map (thUpd t f)) :=
  h.setTh t f h.t2 (fun _ _ => Iff.rfl) ((h.mem_iff t).trans (by simp only [hf]))

theorem TimInv.setTh_off {tm : Timer} {ths : List (Nat × Th)} (h : TimInv tm ths) (t : Nat) (f : Th → Th)
    (hold : ∀ th, thFind ths t = some th → th.ts ≠ .timing) (hnew : ∀ th, (f th).ts ≠ .timing) :
    TimInv tm (ths.map (thUpd t f)) :=
  h.setTh t f h.t2 (fun _ _ => Iff.rfl)
    ⟨fun hm => by obtain ⟨th, h1, h2⟩ := (h.mem_iff t).1 hm; exact absurd h2 (hold th h1),
      fun ⟨th, _, h2⟩ => absurd h2 (hnew th)⟩

theorem TimInv.erase {tm : Timer} {ths : List (Nat × Th)} (h : TimInv tm ths) (i t d : Nat)
    (hi : tm.elems[i]? = some (t, d)) (f : Th → Th) (hnew : ∀ th, (f th).ts ≠ .timing) (tm' : Timer)
    (he : tm'.elems = tm.elems.eraseIdx i) : TimInv tm' (ths.map (thUpd t f)) := by
  refine h.setTh t f (by rw [he]; exact nodup_map_eraseIdx h.t2 i) (fun u hut => ?_)
    ⟨fun hm => absurd (he ▸ hm) (not_mem_eraseIdx_of_nodup h.t2 hi), fun ⟨th, _, h2⟩ => absurd h2 (hnew th)⟩
  rw [he]
  refine ⟨fun hm => ((List.eraseIdx_sublist _ _).map _).subset hm, fun hm => ?_⟩
  obtain ⟨y, hy, rfl⟩ := List.mem_map.1 hm
  exact List.mem_map.2 ⟨y, mem_eraseIdx_of_ne hy hi hut, rfl⟩

/-- `Stop()` of a `timing` thread, with any record update that leaves `timing` -/
theorem TimInv.stopTiming {tm : Timer} {ths : List (Nat × Th)} (h : TimInv tm ths) (t : Nat) (th : Th)
    (hth : thFind ths t = some th) (hts : th.ts = .timing) (f : Th → Th) (hnew : ∀ th, (f th).ts ≠ .timing) :
    TimInv (tm.remove t) (ths.map (thUpd t f)) := by
  unfold Timer.remove
  cases hl : Timer.lastIdxOf tm.elems t with
  | none =>
    exact absurd (h.t3 t th hth hts) (lastIdxOf_none hl)
  | some i =>
    obtain ⟨d, hd⟩ := lastIdxOf_spec hl
    exact h.erase i t d hd f hnew _ rfl

/-- `AddTiming` together with any record update that sets the state to `timing` -/
theorem TimInv.start {tm : Timer} {ths : List (Nat × Th)} (h : TimInv tm ths) (t due : Nat) (th : Th)
    (hth : thFind ths t = some th) (hts : th.ts ≠ .timing) (f : Th → Th) (hf : ∀ x, (f x).ts = .timing) :
    TimInv (tm.add t due) (ths.map (thUpd t f)) := by
  have hnot : t ∉ tm.elems.map (·.1) := fun hm => by
    obtain ⟨th0, h1, h2⟩ := (h.mem_iff t).1 hm
    rw [hth] at h1; cases h1; exact hts h2
  have hk : (tm.add t due).elems.map (·.1) = tm.elems.map (·.1) ++ [t] := by simp [Timer.add]
  refine h.setTh t f ?_ (fun u hut => ?_) ⟨fun _ => ⟨th, hth, hf th⟩, fun _ => ?_⟩ <;> rw [hk]
  · exact List.nodup_append.2 ⟨h.t2, by simp, fun a ha b hb => by simp at hb; subst hb; exact fun e => hnot (e ▸ ha)⟩
  · simp [hut]
  · simp

theorem TimInv.filter {tm : Timer} {ths : List (Nat × Th)} (h : TimInv tm ths) (t : Nat)
    (hold : ∀ th, thFind ths t = some th → th.ts ≠ .timing) :
    TimInv tm (ths.filter (fun e => !(e.1 == t))) := by
  refine ⟨?_, h.t2, ?_⟩
  · intro e he
    obtain ⟨th, h1, h2⟩ := h.t1 e he
    by_cases hut : e.1 = t
    · rw [hut] at h1; exact absurd h2 (hold th h1)
    · exact ⟨th, by rw [thFind_filter_of_ne ths hut]; exact h1, h2⟩
  · exact fun u th' hu hts => h.t3 u th' (thFind_filter_some hu).2 hts

theorem TimInv.append {tm : Timer} {ths : List (Nat × Th)} (h : TimInv tm ths) (t' : Nat) (th : Th)
    (hts : th.ts ≠ .timing) : TimInv tm (ths ++ [(t', th)]) := by
  refine ⟨?_, h.t2, ?_⟩
  · intro e he
    obtain ⟨th0, h1, h2⟩ := h.t1 e he
    exact ⟨th0, thFind_append_of_some t' th h1, h2⟩
  · intro u th' hu hts'
    rcases thFind_append_some hu with hu' | ⟨_, _, e⟩
    · exact h.t3 u th' hu' hts'
    · rw [e] at hts'; exact absurd hts' hts

end Morfuse.Sched
