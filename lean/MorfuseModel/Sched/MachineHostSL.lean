import MorfuseModel.Sched.MachineIdleHost
import MorfuseModel.Sched.MachineInstUnreached
import MorfuseModel.Sched.Snapshot
/-!
# `save` / `load` at the host level

`ReachableSL s k`: `s` is the machine state and `k` the snapshot held by the host after any list of driver
commands **including `save` and `load`**, under the explicit side conditions
* `save` is taken in a state that has not run out of fuel (a snapshot of an exhausted run is garbage);
* `load` happens when `Reset()` (`killAllInsts`) of the present state does not run out of fuel (`load` clears the
  flag), and every *object* that is a wait source in the snapshot still exists in the present context (the host
  owns its objects; the model does not archive them).
`reachableSL_hinv3`: every such state has run out of fuel or satisfies all host-level invariants (`HInv3`), and the
snapshot held was taken from a state satisfying them.  The timer's `m_time` after a `load` is the one of the
snapshot (`≤` the present frame clock, not `=`): that clause is not part of `HInv` (`reachable_mtime` is the
statement without `load`).
-/
namespace Morfuse.Sched

theorem presHost : HostSteps Pres :=
  .of_all presSteps.toSteps (presAll defaultFuel) fun _ _ _ _ => Pres.of_eq rfl rfl rfl

theorem killAllInsts_pres (s : State) : Pres s (killAllInsts s) := killAllInsts_rel presHost s

theorem Inv.setProgObjs {C W : List Nat} {top : Option Nat} {s : State} (h : Inv C W top s)
    (p : List (List Instr)) (ps : List Nat) (objs : List Nat) (hp : ProgOK p) (ho : ∀ o ∈ objs, o < 100)
    (hal : ∀ o n x, x ∈ Tbl.getD s.notify (o, n) → o < 100 →
      ({ s with prog := p, progParams := ps, objs := objs } : State).objAlive o = true) :
    Inv C W top { s with prog := p, progParams := ps, objs := objs } := by
  refine ⟨{ h.n with prog := hp, objs := ho }, h.th, h.tim, ⟨h.tab.mir, ?_⟩, ⟨h.lnk.linkC, h.lnk.linkW, h.lnk.f4⟩⟩
  intro o n x hx
  obtain ⟨a1, a2⟩ := h.tab.aN o n x hx
  refine ⟨?_, a2⟩
  by_cases hth : State.isThread o = true
  · rw [State.alive_thread _ hth] at a1 ⊢
    exact a1
  · have hth' : State.isThread o = false := by simpa using hth
    rw [State.alive_obj _ hth']
    apply hal o n x hx
    simpa [State.isThread] using hth'

theorem load_hinv3 {X s0 : State} (hX : HInv3 X) (hXe : X.events = []) (h0 : HInv3 s0)
    (hobj : ∀ o n x, x ∈ Tbl.getD s0.notify (o, n) → o < 100 → X.objAlive o = true) :
    HInv3 (load X (save s0)) := by
  have i1 := h0.inv.mapTh (fun x => { x with call := none }) (fun _ => rfl) fun _ => ⟨rfl, rfl, rfl, rfl, rfl⟩
  have i2 := i1.setProgObjs X.prog X.progParams X.objs hX.n.prog hX.n.objs hobj
  have i3 := i2.setCur none (fun x hx => by cases hx)
  have inv : Inv [] [] none (load X (save s0)) := i3.congr rfl rfl rfl rfl rfl rfl rfl rfl rfl
  have j1 := (jKept []).mapTh (A := []) h0.j (fun x => { x with call := none }) (fun _ => rfl) fun _ => ⟨rfl, rfl, rfl, rfl, rfl⟩
  have w1 := wKept.mapTh h0.w (fun x => { x with call := none }) (fun _ => rfl) fun _ => ⟨rfl, rfl, rfl, rfl, rfl⟩
  refine ⟨⟨⟨inv, rfl, rfl, h0.h.td, hX.h.ck1, hX.h.ck2⟩, ⟨j1.a, j1.b, j1.c, j1.d, ?_⟩⟩, w1.congr rfl⟩
  intro ev he
  have he' : ev ∈ X.events := he
  rw [hXe] at he'; cases he'

/-- the driver's `reset` starts a new context: the snapshot is forgotten -/
def keepSnap : HostOp → Option Snap → Option Snap
  | .reset, _ => none
  | _, k => k

theorem keepSnap_of_ne {op : HostOp} (hne : op ≠ .reset) (k : Option Snap) : keepSnap op k = k := by
  cases op <;> first | exact absurd rfl hne | rfl

inductive ReachableSL : State → Option Snap → Prop
  | init : ReachableSL {} none
  | step {s : State} {k : Option Snap} (op : HostOp) : ReachableSL s k → op.ok →
      ReachableSL (op.apply s) (keepSnap op k)
  | save {s : State} {k : Option Snap} : ReachableSL s k → s.outOfFuel = false → ReachableSL s (some (save s))
  | load {s : State} {k : Snap} : ReachableSL s (some k) → (killAllInsts s).outOfFuel = false →
      (∀ o n x, x ∈ Tbl.getD k.notify (o, n) → o < 100 → s.objAlive o = true) →
      ReachableSL (load (killAllInsts s) k) (some k)

/-- the snapshot held by the host was taken in a state with all the host-level invariants -/
def SnapOK : Option Snap → Prop
  | none => True
  | some k => ∃ s0, HInv3 s0 ∧ k = save s0

theorem SnapOK.keep {k : Option Snap} (h : SnapOK k) (op : HostOp) : SnapOK (keepSnap op k) := by
  cases op <;> first | exact h | trivial

theorem reachableSL_hinv3 {s : State} {k : Option Snap} (h : ReachableSL s k) : Ok s (HInv3 s) ∧ SnapOK k := by
  induction h with
  | init => exact ⟨Ok.pure hinv3_init, trivial⟩
  | step op _ hok ih => exact ⟨HostOp.apply_hinv3 ih.1 op hok, ih.2.keep op⟩
  | save _ ho ih => exact ⟨ih.1, _, ih.1.get ho, rfl⟩
  | @load s k _ ho hobj ih =>
    obtain ⟨s0, h0, hk⟩ := ih.2
    subst hk
    have hs : s.outOfFuel = false := fuel_left_before (killAllInsts_hr s).oof ho
    have hi := ih.1.get hs
    have hX := (killAllInsts_hinv3 hi).get ho
    have hXe := (hX.empty (killAllInsts_insts hi.n hi.j)).2.2.1
    refine ⟨Ok.pure (load_hinv3 hX hXe h0 (fun o n x hx ho' => ?_)), s0, h0, rfl⟩
    unfold State.objAlive
    rw [killAllInsts_objs hi.n]
    exact hobj o n x hx ho'

/-- the machine-level invariant in every state reached by driver commands, `save` / `load` under their side conditions
    included, that has not run out of fuel -/
theorem reachableSL_inv {s : State} {k : Option Snap} (h : ReachableSL s k) : s.outOfFuel = true ∨ Inv [] [] none s :=
  (reachableSL_hinv3 h).1.map (fun hi => hi.inv)

theorem Reachable.toSL {s : State} (h : Reachable s) : ReachableSL s none := by
  induction h with
  | init => exact .init
  | step op _ hok ih =>
    have := ReachableSL.step op ih hok
    cases op <;> exact this

end Morfuse.Sched
