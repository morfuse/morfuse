import MorfuseModel.Sched.MachineLifeTrace
import MorfuseModel.Sched.MachineHost
/-!
# The creation / destruction ledgers of one driver command

`HostOp.apply_ll`: every driver command but `reset` changes the ids of the thread records and of the listed script
instances by two histories of `new` / `del` operations; `pool0T`, `pool0I`: the empty pools (`nextTid = 100`,
`nextInst = 1`) from which the ledgers of a reachable state replay (`reachableSL_traced`).
-/
namespace Morfuse.Sched

theorem LL.hostMoves : HostMoves LL :=
  (HostSteps.of_all LL.steps.toSteps (llAll defaultFuel) fun _ _ _ hfd => LL.unlink hfd rfl rfl rfl).moves
    (fun s label args => LL.spawnFresh s (callSetup s label args) _ rfl rfl rfl rfl) LL.blind.calls

theorem HostOp.apply_ll (s : State) (op : HostOp) (hne : op ≠ .reset) : LL s (op.apply s) :=
  HostOp.apply_rel LL.hostMoves (fun _ _ => LL.of_eq rfl rfl rfl rfl) (fun _ => LL.of_eq rfl rfl rfl rfl) s op hne
    fun _ _ _ _ => LL.of_eq rfl rfl rfl rfl

/-- the empty pools of a new context -/
def pool0T : Pool := ⟨[], 100⟩
def pool0I : Pool := ⟨[], 1⟩

theorem pool0T_good : PGood pool0T := ⟨List.nodup_nil, fun _ h => by cases h⟩
theorem pool0I_good : PGood pool0I := ⟨List.nodup_nil, fun _ h => by cases h⟩

end Morfuse.Sched
