import MorfuseModel.Sched.Tables
import MorfuseModel.Common.Assoc
/-!
# The listener tables seen as functions `key ↦ list`

Under `Tbl.WF` (distinct keys, no empty list) `find`, `hasOwner`, `keysOf` are determined by the function view `Tbl.getD`.
-/
namespace Morfuse.Sched

namespace Tbl

theorem find_eq_none_getD {t : Tbl} {k : Key} (h : find t k = none) : getD t k = [] := by
  simp [getD, h]

theorem getD_nil (k : Key) : getD [] k = [] := by simp [getD, find]

theorem getD_cons (e : Key × List Nat) (t : Tbl) (k : Key) :
    getD (e :: t) k = if e.1 = k then e.2 else getD t k := by
  unfold getD find; rw [Assoc.find_cons]; split <;> rfl

theorem any_key_iff (t : Tbl) (k : Key) : t.any (·.1 == k) = true ↔ ∃ e ∈ t, e.1 = k := by
  simp [List.any_eq_true]

theorem getD_of_not_any {t : Tbl} {k : Key} (h : ¬ (t.any (·.1 == k) = true)) : getD t k = [] := by
  induction t with
  | nil => exact getD_nil k
  | cons e t ih =>
    rw [getD_cons]
    have he : ¬ e.1 = k := by
      intro e'; apply h; simp [e']
    simp only [he, if_false]
    apply ih
    intro h'; apply h
    simp only [List.any_cons, h', Bool.or_true]

theorem getD_map_upd (t : Tbl) (k : Key) (f : List Nat → List Nat) (k' : Key) :
    getD (t.map (fun e => if e.1 == k then (e.1, f e.2) else e)) k' =
      if k' = k then (if t.any (·.1 == k) then f (getD t k) else []) else getD t k' := by
  unfold getD find
  rw [Assoc.find_map_at t k (fun e => f e.2), ← List.isSome_find?]
  split
  · cases t.find? (·.1 == k) <;> rfl
  · rfl

theorem getD_append (t u : Tbl) (k : Key) :
    getD (t ++ u) k = if t.any (·.1 == k) then getD t k else getD u k := by
  unfold getD find
  rw [Assoc.find_append, ← List.isSome_find?]
  cases t.find? (·.1 == k) <;> rfl

theorem getD_push (t : Tbl) (k : Key) (x : Nat) (k' : Key) :
    getD (push t k x) k' = if k' = k then getD t k ++ [x] else getD t k' := by
  unfold push
  split
  · rename_i h
    rw [getD_map_upd t k (· ++ [x]) k']
    simp [h]
  · rename_i h
    rw [getD_append, getD_cons, getD_nil]
    by_cases hk' : k' = k
    · subst hk'
      simp [h, getD_of_not_any h]
    · have hk : ¬ k = k' := fun e => hk' e.symm
      by_cases ha : t.any (·.1 == k') = true
      · simp [ha, hk']
      · simp [ha, hk', hk, getD_of_not_any ha]

theorem mem_getD_push {t : Tbl} {k k' : Key} {x y : Nat} (h : y ∈ getD (push t k x) k') :
    y ∈ getD t k' ∨ (k' = k ∧ y = x) := by
  rw [getD_push] at h
  split at h
  · rename_i hk
    rcases List.mem_append.1 h with h | h
    · left; rw [hk]; exact h
    · right; exact ⟨hk, by simpa using h⟩
  · exact Or.inl h

theorem getD_push_ne_nil {t : Tbl} {k k' : Key} {x : Nat} (h : getD (push t k x) k' ≠ []) :
    getD t k' ≠ [] ∨ k' = k := by
  rw [getD_push] at h
  split at h
  · rename_i hk; exact Or.inr hk
  · exact Or.inl h

theorem getD_filter_key (t : Tbl) (p : Key → Bool) (k : Key) :
    getD (t.filter (fun e => p e.1)) k = (getD t k).filter fun _ => p k := by
  unfold getD find; rw [Assoc.find_filter]
  cases p k
  · exact (List.filter_eq_nil_iff.2 fun _ _ => Bool.false_ne_true).symm
  · exact (List.filter_eq_self.2 fun _ _ => rfl).symm

theorem getD_removeKey (t : Tbl) (k k' : Key) :
    getD (removeKey t k) k' = if k' = k then [] else getD t k' := by
  rw [removeKey, getD_filter_key t (fun k0 => !(k0 == k))]
  by_cases h : k' = k <;> simp [h]

theorem getD_removeOwner (t : Tbl) (o : Nat) (k' : Key) :
    getD (removeOwner t o) k' = if k'.1 = o then [] else getD t k' := by
  rw [removeOwner, getD_filter_key t (fun k0 => !(k0.1 == o))]
  by_cases h : k'.1 = o <;> simp [h]

theorem getD_foldl_filter {σ α : Type} (tbl : σ → Tbl) (step : σ → α → σ) (keep : α → Key → Nat → Bool)
    (hstep : ∀ s a k, getD (tbl (step s a)) k = (getD (tbl s) k).filter (keep a k)) (k : Key) :
    ∀ (L : List α) (s : σ), getD (tbl (L.foldl step s)) k = (getD (tbl s) k).filter fun y => L.all (keep · k y)
  | [], _ => (List.filter_eq_self.2 fun _ _ => rfl).symm
  | a :: L, s => by
    rw [List.foldl_cons, getD_foldl_filter tbl step keep hstep k L, hstep, List.filter_filter]
    congr 1; funext y; simp [Bool.and_comm]

theorem find_some_any {t : Tbl} {k : Key} {l : List Nat} (h : find t k = some l) : t.any (·.1 == k) = true := by
  unfold find at h
  cases hf : t.find? (·.1 == k) with
  | none => simp [hf] at h
  | some e =>
    have := List.mem_of_find?_eq_some hf
    have hk := List.find?_some hf
    simp only [List.any_eq_true]
    exact ⟨e, this, hk⟩

theorem getD_removeAll (t : Tbl) (k : Key) (x : Nat) (k' : Key) :
    getD (removeAll t k x).1 k' = if k' = k then (getD t k).filter (· != x) else getD t k' := by
  unfold removeAll
  cases hf : find t k with
  | none =>
    by_cases hk' : k' = k
    · subst hk'; simp [find_eq_none_getD hf]
    · simp [hk']
  | some l =>
    have hg : getD t k = l := by simp [getD, hf]
    simp only
    split
    · rename_i he
      rw [getD_removeKey]
      by_cases hk' : k' = k
      · simp only [hk', if_true, hg]
        exact (List.isEmpty_iff.1 he).symm
      · simp [hk']
    · rw [getD_map_upd t k (fun _ => l.filter (· != x)) k']
      simp [find_some_any hf, hg]

theorem removeAll_found (t : Tbl) (k : Key) (x : Nat) :
    (removeAll t k x).2 = (getD t k).contains x := by
  unfold removeAll
  cases hf : find t k with
  | none => simp [find_eq_none_getD hf]
  | some l =>
    have hg : getD t k = l := by simp [getD, hf]
    simp only
    split <;> simp [hg]

theorem mem_keysOf {t : Tbl} {o n : Nat} {l : List Nat} (h : (n, l) ∈ keysOf t o) : ((o, n), l) ∈ t := by
  unfold keysOf at h
  simp only [List.mem_map, List.mem_filter] at h
  obtain ⟨e, ⟨he, ho⟩, heq⟩ := h
  have ho' : e.1.1 = o := by simpa using ho
  have : e = ((o, n), l) := by
    cases e with | mk k v => cases k with | mk a b =>
    simp at heq ho'; simp [heq, ho']
  rw [← this]; exact he

/-- distinct keys, no empty list -/
structure WF (t : Tbl) : Prop where
  nodup : (t.map (·.1)).Nodup
  nonempty : ∀ e ∈ t, e.2 ≠ []

theorem WF.nil : WF [] := ⟨by simp, by simp⟩

theorem find_eq_getD_of_some {t : Tbl} {k : Key} {l : List Nat} (h : find t k = some l) : getD t k = l := by
  simp [getD, h]

theorem mem_of_find {t : Tbl} {k : Key} {l : List Nat} (h : find t k = some l) : (k, l) ∈ t :=
  Assoc.mem_of_find h

theorem find_of_mem {t : Tbl} (hn : (t.map (·.1)).Nodup) {k : Key} {l : List Nat} (h : (k, l) ∈ t) :
    find t k = some l := Assoc.find_of_mem hn h

theorem find_none_iff {t : Tbl} {k : Key} : find t k = none ↔ k ∉ t.map (·.1) := Assoc.find_eq_none_iff

theorem WF.find_ne_nil {t : Tbl} (h : WF t) {k : Key} {l : List Nat} (hf : find t k = some l) : l ≠ [] :=
  h.nonempty _ (mem_of_find hf)

theorem WF.exists_mem_of_ne_nil {T : Tbl} (h : WF T) (hne : T ≠ []) : ∃ k x, x ∈ getD T k := by
  cases T with
  | nil => exact absurd rfl hne
  | cons e T =>
    have hm : e ∈ e :: T := List.mem_cons_self
    obtain ⟨x, hx⟩ := List.exists_mem_of_ne_nil _ (h.nonempty e hm)
    exact ⟨e.1, x, find_eq_getD_of_some (find_of_mem h.nodup (k := e.1) (l := e.2) hm) ▸ hx⟩

theorem WF.getD_eq_nil_iff {t : Tbl} (h : WF t) (k : Key) : getD t k = [] ↔ find t k = none := by
  constructor
  · intro hg
    cases hf : find t k with
    | none => rfl
    | some l =>
      exfalso
      have := find_eq_getD_of_some hf
      exact h.find_ne_nil hf (by rw [← this]; exact hg)
  · intro hf; exact find_eq_none_getD hf

theorem WF.find_iff {t : Tbl} (h : WF t) (k : Key) (l : List Nat) :
    find t k = some l ↔ getD t k = l ∧ l ≠ [] := by
  constructor
  · intro hf; exact ⟨find_eq_getD_of_some hf, h.find_ne_nil hf⟩
  · rintro ⟨hg, hne⟩
    cases hf : find t k with
    | none => exfalso; apply hne; rw [← hg]; exact find_eq_none_getD hf
    | some l' => rw [← hg, find_eq_getD_of_some hf]

theorem WF.hasOwner_iff {t : Tbl} (h : WF t) (o : Nat) :
    hasOwner t o = true ↔ ∃ n, getD t (o, n) ≠ [] := by
  unfold hasOwner
  simp only [List.any_eq_true, beq_iff_eq]
  constructor
  · rintro ⟨e, hm, ho⟩
    refine ⟨e.1.2, ?_⟩
    have hk : e.1 = (o, e.1.2) := by rw [← ho]
    have hf : find t (o, e.1.2) = some e.2 := find_of_mem h.nodup (by rw [← hk]; exact hm)
    rw [find_eq_getD_of_some hf]
    exact h.nonempty e hm
  · rintro ⟨n, hn⟩
    cases hf : find t (o, n) with
    | none => exact absurd (find_eq_none_getD hf) hn
    | some l => exact ⟨((o, n), l), mem_of_find hf, rfl⟩

theorem WF.hasOwner_false_iff {t : Tbl} (h : WF t) (o : Nat) :
    hasOwner t o = false ↔ ∀ n, getD t (o, n) = [] := by
  rw [← Bool.not_eq_true, h.hasOwner_iff]
  simp

theorem WF.mem_keysOf_iff {t : Tbl} (h : WF t) (o n : Nat) (l : List Nat) :
    (n, l) ∈ keysOf t o ↔ getD t (o, n) = l ∧ l ≠ [] := by
  rw [← h.find_iff]
  constructor
  · intro hm; exact find_of_mem h.nodup (mem_keysOf hm)
  · intro hf
    unfold keysOf
    simp only [List.mem_map, List.mem_filter, beq_iff_eq]
    exact ⟨((o, n), l), ⟨mem_of_find hf, rfl⟩, rfl⟩

theorem WF.filter {t : Tbl} (h : WF t) (p : Key × List Nat → Bool) : WF (t.filter p) :=
  ⟨(List.filter_sublist.map _).nodup h.nodup, fun e he => h.nonempty e (List.mem_filter.1 he).1⟩

theorem WF.removeKey {t : Tbl} (h : WF t) (k : Key) : WF (removeKey t k) := h.filter _

theorem WF.removeOwner {t : Tbl} (h : WF t) (o : Nat) : WF (removeOwner t o) := h.filter _

theorem map_upd_keys (t : Tbl) (k : Key) (f : List Nat → List Nat) :
    (t.map (fun e => if e.1 == k then (e.1, f e.2) else e)).map (·.1) = t.map (·.1) :=
  Assoc.keys_map_at t k fun e => f e.2

theorem WF.map_at {t : Tbl} (h : WF t) (k : Key) (f : List Nat → List Nat) (hf : ∀ e ∈ t, f e.2 ≠ []) :
    WF (t.map fun e => if e.1 == k then (e.1, f e.2) else e) := by
  refine ⟨by rw [map_upd_keys]; exact h.nodup, fun e he => ?_⟩
  obtain ⟨e0, hm, rfl⟩ := List.mem_map.1 he
  split
  · exact hf e0 hm
  · exact h.nonempty e0 hm

theorem WF.push {t : Tbl} (h : WF t) (k : Key) (x : Nat) : WF (push t k x) := by
  unfold Tbl.push
  split
  · exact h.map_at k (· ++ [x]) fun _ _ => by simp
  · rename_i hk
    refine ⟨?_, ?_⟩
    · rw [List.map_append, List.nodup_append]
      refine ⟨h.nodup, by simp, ?_⟩
      intro a ha b hb
      simp at hb; subst hb
      intro e; subst e
      apply hk
      simp only [List.any_eq_true, beq_iff_eq]
      obtain ⟨e, hm, he⟩ := List.mem_map.1 ha
      exact ⟨e, hm, he⟩
    · intro e he
      rcases List.mem_append.1 he with he | he
      · exact h.nonempty e he
      · simp at he; subst he; simp

theorem WF.pushUnique {t : Tbl} (h : WF t) (k : Key) (x : Nat) : WF (pushUnique t k x) := by
  unfold Tbl.pushUnique; split
  · exact h
  · exact h.push k x

theorem WF.removeAll {t : Tbl} (h : WF t) (k : Key) (x : Nat) : WF (removeAll t k x).1 := by
  unfold Tbl.removeAll
  split
  · exact h
  · simp only
    split
    · exact h.removeKey k
    · rename_i l _ hne
      exact h.map_at k (fun _ => l.filter (· != x)) fun _ _ hnil => hne (by rw [hnil]; rfl)

/-- every list of `a` is contained in the list of `b` under the same key -/
def Sub (a b : Tbl) : Prop := ∀ k x, x ∈ getD a k → x ∈ getD b k

theorem Sub.refl (a : Tbl) : Sub a a := fun _ _ h => h
theorem Sub.trans {a b c : Tbl} (h1 : Sub a b) (h2 : Sub b c) : Sub a c := fun k x h => h2 k x (h1 k x h)

theorem Sub.of_filter {a b : Tbl} {p : Key → Nat → Bool} (h : ∀ k, getD b k = (getD a k).filter (p k)) : Sub b a :=
  fun k _ hx => (List.mem_filter.1 (h k ▸ hx)).1

theorem Sub.removeKey (a : Tbl) (k : Key) : Sub (removeKey a k) a :=
  Sub.of_filter (getD_filter_key a fun k' => !(k' == k))

theorem Sub.removeOwner (a : Tbl) (o : Nat) : Sub (removeOwner a o) a :=
  Sub.of_filter (getD_filter_key a fun k' => !(k'.1 == o))

theorem Sub.ne_nil {a b : Tbl} (h : Sub a b) {k : Key} (hn : getD a k ≠ []) : getD b k ≠ [] := by
  obtain ⟨x, hx⟩ := List.exists_mem_of_ne_nil _ hn
  exact List.ne_nil_of_mem (h k x hx)

theorem hasOwner_filter {t : Tbl} {p : Key × List Nat → Bool} {o : Nat} (h : hasOwner (t.filter p) o = true) :
    hasOwner t o = true := by
  unfold hasOwner at *
  simp only [List.any_eq_true, List.mem_filter] at *
  obtain ⟨e, ⟨hm, _⟩, he⟩ := h
  exact ⟨e, hm, he⟩

theorem hasOwner_removeKey {t : Tbl} {k : Key} {o : Nat} (h : hasOwner (Tbl.removeKey t k) o = true) :
    hasOwner t o = true := hasOwner_filter h

theorem hasOwner_removeOwner {t : Tbl} {o' o : Nat} (h : hasOwner (Tbl.removeOwner t o') o = true) :
    hasOwner t o = true := hasOwner_filter h

theorem hasOwner_push {t : Tbl} {k : Key} {x o : Nat} (h : hasOwner (Tbl.push t k x) o = true) :
    hasOwner t o = true ∨ o = k.1 := by
  unfold Tbl.push at h
  split at h
  · left
    unfold hasOwner at *
    simp only [List.any_eq_true, List.mem_map] at *
    obtain ⟨e, ⟨e0, hm, rfl⟩, he⟩ := h
    refine ⟨e0, hm, ?_⟩
    split at he <;> exact he
  · unfold hasOwner at *
    simp only [List.any_append, Bool.or_eq_true, List.any_cons, List.any_nil, Bool.or_false, beq_iff_eq] at h
    rcases h with h | h
    · left; exact h
    · right; exact h.symm

theorem hasOwner_pushUnique {t : Tbl} {k : Key} {x o : Nat} (h : hasOwner (Tbl.pushUnique t k x) o = true) :
    hasOwner t o = true ∨ o = k.1 := by
  unfold Tbl.pushUnique at h
  split at h
  · exact Or.inl h
  · exact hasOwner_push h

theorem hasOwner_of_sub {T T' : Tbl} (hT : WF T) (hT' : WF T') (hs : Sub T' T) {o : Nat}
    (h : hasOwner T' o = true) : hasOwner T o = true := by
  rw [hT'.hasOwner_iff] at h
  rw [hT.hasOwner_iff]
  obtain ⟨n, hn⟩ := h
  exact ⟨n, hs.ne_nil hn⟩

theorem hasOwner_removeKey_ne {T : Tbl} (hT : WF T) {k : Key} {x : Nat} (hx : x ≠ k.1)
    (h : hasOwner T x = true) : hasOwner (removeKey T k) x = true := by
  rw [(hT.removeKey k).hasOwner_iff]
  rw [hT.hasOwner_iff] at h
  obtain ⟨n, hn⟩ := h
  refine ⟨n, ?_⟩
  rw [getD_removeKey]
  have : ¬ (x, n) = k := by intro e; apply hx; rw [← e]
  simp only [this, if_false]; exact hn

theorem hasOwner_removeOwner_ne {T : Tbl} (hT : WF T) {o x : Nat} (hx : x ≠ o)
    (h : hasOwner T x = true) : hasOwner (removeOwner T o) x = true := by
  rw [(hT.removeOwner o).hasOwner_iff]
  rw [hT.hasOwner_iff] at h
  obtain ⟨n, hn⟩ := h
  refine ⟨n, ?_⟩
  rw [getD_removeOwner]
  simp only [hx, if_false]; exact hn

theorem hasOwner_removeOwner_self (T : Tbl) (o : Nat) : hasOwner (removeOwner T o) o = false := by
  simp [hasOwner, removeOwner]

theorem hasOwner_false_of_sub {T T' : Tbl} (hT : WF T) (hT' : WF T') (hs : Sub T' T) {o : Nat}
    (h : hasOwner T o = false) : hasOwner T' o = false := by
  rw [Bool.eq_false_iff]
  intro h'
  rw [hasOwner_of_sub hT hT' hs h'] at h; cases h

theorem lost_owner {T T' : Tbl} (hT : WF T) (hT' : WF T') {x : Nat} (ho : hasOwner T x = true)
    (hno : ¬ hasOwner T' x = true) : ∃ n, getD T (x, n) ≠ [] ∧ getD T' (x, n) = [] := by
  obtain ⟨n0, hn0⟩ := (hT.hasOwner_iff x).1 ho
  exact ⟨n0, hn0, (hT'.hasOwner_false_iff x).1 (by simpa using hno) n0⟩

theorem hasOwner_push_self (T : Tbl) (k : Key) (x : Nat) : hasOwner (push T k x) k.1 = true := by
  unfold push hasOwner
  split
  · rename_i h
    obtain ⟨e, he, hk⟩ := List.any_eq_true.1 h
    exact List.any_eq_true.2 ⟨_, List.mem_map_of_mem he, by simp at hk; simp [hk]⟩
  · simp

theorem hasOwner_push_of {T : Tbl} (hT : WF T) (k : Key) (x : Nat) {o : Nat} (h : hasOwner T o = true) :
    hasOwner (push T k x) o = true := by
  rw [(hT.push k x).hasOwner_iff]
  obtain ⟨n, hn⟩ := (hT.hasOwner_iff o).1 h
  refine ⟨n, ?_⟩
  rw [getD_push]
  split
  · simp
  · exact hn

end Tbl

def dstep (acc : List Nat) (x : Nat) : List Nat := if acc.contains x then acc else acc ++ [x]
/-- keep the first occurrence of every element -/
def dedup (l : List Nat) : List Nat := l.foldl dstep []

theorem dstep_fold_spec : ∀ (P acc : List Nat), acc.Nodup →
    (P.foldl dstep acc).Nodup ∧ ∀ x, x ∈ P.foldl dstep acc ↔ x ∈ acc ∨ x ∈ P
  | [], acc, h => by simp [h]
  | a :: P, acc, h => by
    simp only [List.foldl_cons]
    have hn : (dstep acc a).Nodup := by
      unfold dstep; split
      · exact h
      · rename_i hc
        rw [List.nodup_append]
        refine ⟨h, by simp, ?_⟩
        intro x hx y hy; simp at hy; subst hy
        intro e; subst e; exact hc (by simpa using hx)
    have hm : ∀ x, x ∈ dstep acc a ↔ x ∈ acc ∨ x = a := by
      intro x; unfold dstep; split
      · rename_i hc
        have : a ∈ acc := by simpa using hc
        constructor
        · intro h; exact Or.inl h
        · intro h; rcases h with h | h
          · exact h
          · rw [h]; exact this
      · simp
    obtain ⟨h1, h2⟩ := dstep_fold_spec P (dstep acc a) hn
    refine ⟨h1, ?_⟩
    intro x; rw [h2 x, hm x]; simp [or_assoc]

theorem dedup_nodup (l : List Nat) : (dedup l).Nodup := (dstep_fold_spec l [] (by simp)).1
theorem mem_dedup (l : List Nat) (x : Nat) : x ∈ dedup l ↔ x ∈ l := by
  have := (dstep_fold_spec l [] (by simp)).2 x
  simpa [dedup] using this
theorem dedup_append_singleton (P : List Nat) (l : Nat) : dedup (P ++ [l]) = dstep (dedup P) l := by
  simp [dedup, List.foldl_append]

theorem dstep_fold_nodup : ∀ (P acc : List Nat), (∀ x ∈ P, x ∉ acc) → P.Nodup →
    P.foldl dstep acc = acc ++ P
  | [], acc, _, _ => by simp
  | a :: P, acc, h, hn => by
    simp only [List.foldl_cons]
    have ha : a ∉ acc := h a (by simp)
    have hd : dstep acc a = acc ++ [a] := by
      unfold dstep
      simp [ha]
    rw [hd, dstep_fold_nodup P (acc ++ [a])]
    · simp
    · intro x hx hm
      rcases List.mem_append.1 hm with hm | hm
      · exact h x (List.mem_cons_of_mem _ hx) hm
      · simp at hm; subst hm; exact (List.nodup_cons.1 hn).1 hx
    · exact (List.nodup_cons.1 hn).2

theorem dedup_of_nodup (l : List Nat) (h : l.Nodup) : dedup l = l := by
  have := dstep_fold_nodup l [] (by simp) h
  simpa [dedup] using this

end Morfuse.Sched
