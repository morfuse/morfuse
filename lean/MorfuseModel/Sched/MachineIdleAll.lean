import MorfuseModel.Sched.MachineIdleQuiet
import MorfuseModel.Sched.MachineInvAll
/-!
# Complete idle threads through the executing half of the machine

`W A s`: every record outside the active set `A` is a complete idle thread.  `ScriptVM::Execute` of `t` is left with `t`
complete idle or gone; at the host level the active set is empty.
-/
namespace Morfuse.Sched

theorem W.setTh_active {A : List Nat} {s : State} (h : W A s) (t : Nat) (f : Th → Th) (ht : t ∈ A) :
    W A (s.setTh t f) := by
  intro u th' hu
  by_cases hut : u = t
  · right; rw [hut]; exact ht
  · rw [thFind_setTh_ne s f hut] at hu; exact h u th' hu

theorem vmSuspend_w (A : List Nat) (s : State) (p : Nat) (h : W A s) : W A (vmSuspend s p) := by
  intro u th' hu
  unfold vmSuspend at hu
  rcases thFind_setTh_some hu with ⟨rfl, th, h1, rfl⟩ | ⟨_, h1⟩
  · rcases h u th h1 with ⟨c1, c2⟩ | m
    · left
      rw [if_neg (by rw [c2]; simp)]
      exact ⟨c1, c2⟩
    · exact Or.inr m
  · exact h u _ h1

theorem W.spawn {A : List Nat} {s : State} (h : W A s) (r : Th) (t' : Nat) :
    W (t' :: A) ({ s with threads := s.threads ++ [(t', r)] } : State) := by
  intro u th hu
  rcases thFind_append_some hu with hf | ⟨_, hut, _⟩
  · exact (h u th hf).imp id (List.mem_cons_of_mem _)
  · right; rw [hut]; exact List.mem_cons_self

theorem thFind_vmEpilogue_ne (X : State) (t u : Nat) (h : u ≠ t) :
    thFind (vmEpilogue X t).threads u = thFind X.threads u := by
  cases hf : thFind X.threads t with
  | none => rw [vmEpilogue_none hf]
  | some th =>
    rw [vmEpilogue_some hf]
    split
    · rw [thFind_setTh]; simp [h]
    · simp only; rw [thFind_filter_ne]; simp [h]
    · rfl

theorem W.epilogue {A : List Nat} {s : State} (t : Nat)
    (hf : ∀ th, thFind s.threads t = some th → th.vm ≠ .running ∧ (th.vm ≠ .destroyed → th.hasVM = true))
    (w : W (t :: A) s) : W A (vmEpilogue s t) := by
  intro u thu hu
  by_cases hut : u = t
  · subst hut
    left
    cases hP : thFind s.threads u with
    | none => rw [vmEpilogue_none hP, hP] at hu; cases hu
    | some th1 =>
      obtain ⟨hnr, hv1⟩ := hf th1 hP
      rw [vmEpilogue_some hP] at hu
      cases hv : th1.vm with
      | running => exact absurd hv hnr
      | suspended =>
        rw [hv] at hu
        simp only at hu
        rw [thFind_setTh, if_pos rfl, hP] at hu
        cases hu
        exact ⟨hv1 (by rw [hv]; simp), rfl⟩
      | idling =>
        rw [hv] at hu
        simp only at hu
        rw [hP] at hu; cases hu
        exact ⟨hv1 (by rw [hv]; simp), hv⟩
      | destroyed =>
        rw [hv] at hu
        simp only at hu
        rw [thFind_filter_ne, if_pos rfl] at hu
        cases hu
  · rw [thFind_vmEpilogue_ne _ t u hut] at hu
    rcases w u thu hu with c | m
    · exact Or.inl c
    · rcases List.mem_cons.1 m with m | m
      · exact absurd m hut
      · exact Or.inr m

theorem wKept : ExecKept W where
  mono := fun w hs => w.mono hs
  congr := fun w e1 _ _ _ => w.congr e1
  quietAll := fun fuel => (wqAll fuel).imp (fun _ _ _ h => h.1)
  setTh := fun t f hf w => w.setTh t f (fun x => (hf x).2.2.2.1) (fun x => (hf x).2.2.2.2)
  cancelEvents := fun _ w => w.congr rfl
  vmSuspend := fun p w => vmSuspend_w _ _ p w
  postEvent := fun _ _ _ w => w.congr rfl
  spawnSame := fun _ _ _ _ w => (w.spawn _ _).congr rfl
  spawnNew := fun _ _ _ w => (w.spawn _ _).congr rfl
  prologue := fun t w => (w.setTh_active t (fun th => { th with vm := .running }) List.mem_cons_self).congr rfl
  epilogue := W.epilogue
  idleActive := fun {_ _ t th} hth hhv hidle w u thu hu => by
    by_cases hut : u = t
    · subst hut
      rw [hth] at hu; cases hu
      exact Or.inl ⟨hhv, hidle⟩
    · exact (w u thu hu).imp id (fun m => (List.mem_cons.1 m).resolve_left hut)

theorem wAll : ∀ fuel, IAll W fuel := execAll wKept

end Morfuse.Sched
