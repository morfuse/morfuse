import MorfuseModel.Sched.MachineSteps
/-!
# A thread never gets its VM back

`HV s s'`: `nextTid` does not decrease, and a record that has its VM afterwards either had it before or is a new
thread (`id ≥` the old `nextTid`).  So "no record, or no VM" (`NoVM`-style facts about an existing id) survives every
function of the machine, nested executions included (`hvAll`, unconditional).
-/
namespace Morfuse.Sched

structure HV (s s' : State) : Prop where
  nt : s.nextTid ≤ s'.nextTid
  hv : ∀ u th', thFind s'.threads u = some th' → th'.hasVM = true →
    (∃ th, thFind s.threads u = some th ∧ th.hasVM = true) ∨ s.nextTid ≤ u

theorem HV.refl (s : State) : HV s s := ⟨Nat.le_refl _, fun _ th' h hv => Or.inl ⟨th', h, hv⟩⟩

theorem HV.trans {a b c : State} (h1 : HV a b) (h2 : HV b c) : HV a c := by
  refine ⟨Nat.le_trans h1.nt h2.nt, fun u th' h hv => ?_⟩
  rcases h2.hv u th' h hv with ⟨thb, hb, hvb⟩ | hge
  · exact h1.hv u thb hb hvb
  · exact Or.inr (Nat.le_trans h1.nt hge)

theorem HV.of_eq {s s' : State} (h1 : s'.threads = s.threads) (h2 : s'.nextTid = s.nextTid) : HV s s' :=
  ⟨by rw [h2]; exact Nat.le_refl _, fun u th' h hv => Or.inl ⟨th', by rw [← h1]; exact h, hv⟩⟩

theorem HV.setTh (s : State) (t : Nat) (f : Th → Th)
    (hf : ∀ x, (f x).hasVM = true → x.hasVM = true := by intro x h; exact h) : HV s (s.setTh t f) := by
  refine ⟨Nat.le_refl _, fun u th' h hv => Or.inl ?_⟩
  rcases thFind_setTh_some h with ⟨rfl, th, hth, rfl⟩ | ⟨_, hth⟩
  · exact ⟨th, hth, hf th hv⟩
  · exact ⟨th', hth, hv⟩

theorem HV.filter (s : State) (t : Nat) : HV s { s with threads := s.threads.filter (fun e => !(e.1 == t)) } :=
  ⟨Nat.le_refl _, fun _ th' h hv => Or.inl ⟨th', (thFind_filter_some h).2, hv⟩⟩

theorem HV.append (s s' : State) (r : Th) (h1 : s'.threads = s.threads ++ [(s.nextTid, r)])
    (h2 : s'.nextTid = s.nextTid + 1) : HV s s' := by
  refine ⟨by rw [h2]; exact Nat.le_succ _, fun u th' h hv => ?_⟩
  rw [h1] at h
  rcases thFind_append_some h with h | ⟨_, h, _⟩
  · exact Or.inl ⟨th', h, hv⟩
  · exact Or.inr (by rw [h]; exact Nat.le_refl _)

theorem HV.removeFromInst (s : State) (t i : Nat) : HV s (removeFromInst s t i) := by
  rw [removeFromInst_frame]; exact HV.of_eq rfl rfl

theorem HV.steps : Steps.Full HV where
  refl := HV.refl
  trans := HV.trans
  frame := fun _ _ _ _ _ _ => HV.of_eq rfl rfl
  fuel := fun _ => HV.of_eq rfl rfl
  setTh := fun s t f hf => HV.setTh s t f hf.hasVM
  dropThread := fun s t _ _ => HV.filter s t
  unlinkVM := HV.removeFromInst
  timerRemove := fun _ _ => HV.of_eq rfl rfl
  addTimer := fun _ _ _ => HV.of_eq rfl rfl
  timerNext := fun _ => HV.of_eq rfl rfl
  sameInst := fun s t th l => HV.append s (spawnSame s t th l) _ rfl rfl
  newInst := fun s t l => HV.append s (spawnNew s t l) _ rfl rfl
  register := fun _ _ _ _ => HV.of_eq rfl rfl
  cancelKey := fun _ _ _ _ => HV.of_eq rfl rfl
  cancelOwner := fun _ _ => HV.of_eq rfl rfl
  unregKey := fun _ _ _ _ => HV.of_eq rfl rfl
  unregOwner := fun _ _ => HV.of_eq rfl rfl

theorem HV.blind : Blind HV := ⟨fun _ _ => HV.of_eq rfl rfl, fun _ _ => HV.of_eq rfl rfl, fun _ _ => HV.of_eq rfl rfl⟩

theorem hvAll : ∀ fuel, All HV fuel := all_of_blind HV.steps HV.blind

end Morfuse.Sched
