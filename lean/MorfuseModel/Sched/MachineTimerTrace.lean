import MorfuseModel.Sched.MachineSteps
import MorfuseModel.Sched.TimerOrder
/-!
# The machine's timer is the result of a history of timer operations

`TT s s'`: there is a list of timer operations (the ghost ledger of this call) — `add` (only with a due time
`≥ scaledTime`), `remove`, `next`, never `setTime` — that leads from the timer of `s` to the timer of `s'`; and
`scaledTime` is untouched.  Every function of the machine satisfies it, unconditionally (`ttAll`): the three places
that touch the timer are `Stop()` (`remove`), `AddTiming` (`add`) and the timer loop (`next`).  With `TimerOrder`: the due
times resumed within one call are nondecreasing (`tt_dues_sorted`).
-/
namespace Morfuse.Sched

structure TT (s s' : State) : Prop where
  run : ∃ ops : List TOp, timerRun s.timer ops = s'.timer ∧ NoSet ops ∧ AddsFrom s.scaled ops
  scaled : s'.scaled = s.scaled

theorem TT.refl (s : State) : TT s s :=
  ⟨⟨[], rfl, (fun _ h => by cases h), (fun _ _ h => by cases h)⟩, rfl⟩

theorem TT.trans {a b c : State} (h1 : TT a b) (h2 : TT b c) : TT a c := by
  obtain ⟨o1, r1, n1, a1⟩ := h1.run
  obtain ⟨o2, r2, n2, a2⟩ := h2.run
  refine ⟨⟨o1 ++ o2, by rw [timerRun_append, r1, r2], ?_, ?_⟩, h2.scaled.trans h1.scaled⟩
  · intro op hop T
    rcases List.mem_append.1 hop with h | h
    · exact n1 op h T
    · exact n2 op h T
  · intro e due hm
    rcases List.mem_append.1 hm with h | h
    · exact a1 e due h
    · have := a2 e due h; rw [h1.scaled] at this; exact this

theorem TT.of_eq {s s' : State} (h1 : s'.timer = s.timer) (h2 : s'.scaled = s.scaled) : TT s s' :=
  ⟨⟨[], by rw [timerRun_nil, h1], (fun _ h => by cases h), (fun _ _ h => by cases h)⟩, h2⟩

theorem TT.of_op {s s' : State} (op : TOp) (h1 : s'.timer = timerRun s.timer [op]) (h2 : s'.scaled = s.scaled)
    (hn : ∀ T, op ≠ .setTime T) (ha : ∀ e due, op = .add e due → s.scaled ≤ due) : TT s s' :=
  ⟨⟨[op], h1.symm, fun o ho T => by simp at ho; rw [ho]; exact hn T,
    fun e due hm => by simp at hm; exact ha e due hm.symm⟩, h2⟩

theorem TT.removeFromInst (s : State) (t i : Nat) : TT s (removeFromInst s t i) := by
  rw [removeFromInst_frame]; exact TT.of_eq rfl rfl

theorem TT.steps : Steps.Full TT where
  refl := TT.refl
  trans := TT.trans
  frame := fun _ _ _ _ _ _ => TT.of_eq rfl rfl
  fuel := fun _ => TT.of_eq rfl rfl
  setTh := fun _ _ _ _ => TT.of_eq rfl rfl
  dropThread := fun _ _ _ _ => TT.of_eq rfl rfl
  unlinkVM := TT.removeFromInst
  timerRemove := fun s t =>
    TT.of_op (.remove t) (by rw [timerRun_remove]) rfl (fun T h => by cases h) (fun e d h => by cases h)
  addTimer := fun s t d =>
    TT.of_op (.add t (s.scaled + d)) (by rw [timerRun_add]; rfl) rfl (fun T h => by cases h)
      (fun e due h => by cases h; exact Nat.le_add_right _ _)
  timerNext := fun s =>
    TT.of_op .next (by rw [timerRun_next]) rfl (fun T h => by cases h) (fun e d h => by cases h)
  sameInst := fun _ _ _ _ => TT.of_eq rfl rfl
  newInst := fun _ _ _ => TT.of_eq rfl rfl
  register := fun _ _ _ _ => TT.of_eq rfl rfl
  cancelKey := fun _ _ _ _ => TT.of_eq rfl rfl
  cancelOwner := fun _ _ => TT.of_eq rfl rfl
  unregKey := fun _ _ _ _ => TT.of_eq rfl rfl
  unregOwner := fun _ _ => TT.of_eq rfl rfl

theorem TT.blind : Blind TT := ⟨fun _ _ => TT.of_eq rfl rfl, fun _ _ => TT.of_eq rfl rfl, fun _ _ => TT.of_eq rfl rfl⟩

theorem ttAll : ∀ fuel, All TT fuel := all_of_blind TT.steps TT.blind

/-- **one call: the resumed due times are nondecreasing** (from a state whose `m_time` is not ahead of
    `scaledTime`, as between host operations and after `SetTime`) -/
theorem tt_dues_sorted {s s' : State} (r : TT s s') (hm : s.timer.mtime ≤ s.scaled) :
    ∃ ops : List TOp, timerRun s.timer ops = s'.timer ∧ NoSet ops ∧ AddsLate s.timer ops ∧
      (chronDues s.timer ops).Pairwise (· ≤ ·) := by
  obtain ⟨ops, hr, hn, ha⟩ := r.run
  have hl := addsLate_of ops s.timer s.scaled hn ha hm
  exact ⟨ops, hr, hn, hl, (chronDues_sorted ops s.timer 0 hn hl (fun _ _ _ => Nat.zero_le _) (Nat.zero_le _)).2⟩

end Morfuse.Sched
