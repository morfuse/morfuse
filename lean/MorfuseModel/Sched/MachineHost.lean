import MorfuseModel.Sched.MachineInvAll
import MorfuseModel.Sched.MachineHostFrame
import MorfuseModel.Sched.MachineStepsHost
import MorfuseModel.Sched.HostOps
/-!
# The machine at the host level: every host operation keeps the machine-level invariant

`HostOp` / `HostOp.apply` (`Sched/HostOps.lean`) are the commands of the driver (`lean/Driver/Sched.lean`) and
what the driver does to the machine state for each of them (the driver calls `HostOp.apply`).  `HInv` is the
invariant between two host operations:

* `Inv [] [] none` — the machine-level invariant of `MachineInvDefs` with no exemption;
* no current thread, execution-stack depth 0;
* the timer's dirty flag is sound (`TD`);
* the clock discipline: `lastClock ≤ clock`, `scaledTime = lastClock` (the clock moves only between two
  `Execute` calls, time scale 1); `m_time = lastClock` as well as long as no snapshot is loaded
  (`reachable_mtime`, unconditional).

Programs must be `ProgOK` (object ids < 100; `local.p0 waittill n` on a thread object only with names other than the
engine's `delete` / `remove` events); `ProgOK` is decidable and every generator family of tools/vlib/schedgen.py
satisfies it.

`save` / `load` are not `HostOp`s (they involve the snapshot held by the host); they are added, with their side
conditions, in `Sched/MachineHostSL.lean` (`ReachableSL`, `reachableSL_hinv3`, `reachableSL_inv`).
`reachable_inv_partial` is the statement for histories without them.
-/
namespace Morfuse.Sched

instance (i : Instr) : Decidable i.ok := by
  cases i <;> unfold Instr.ok <;> infer_instance

instance (p : List (List Instr)) : Decidable (ProgOK p) := by
  unfold ProgOK; infer_instance

theorem hrHostSteps : HostSteps HR := .of_all hrSteps.toSteps (hrAll defaultFuel) fun _ _ _ _ => HR.of_eq rfl rfl rfl

theorem hrHost : HostMoves HR := hrHostSteps.moves (fun _ _ _ => HR.of_eq rfl rfl rfl) (fun _ _ => HR.of_eq rfl rfl rfl)

theorem killAllInsts_hr (s : State) : HR s (killAllInsts s) := hrHost.kill s

theorem hostCall_status (s : State) (label : Nat) (args : List V) :
    (hostCall s label args).2 = hostCallStatus s label := by
  unfold hostCall hostCallStatus
  split <;> rfl

/-- the side condition of an operation: compiled programs are of class `ProgOK` -/
def HostOp.ok : HostOp → Prop
  | .script p _ => ProgOK p
  | _ => True

instance (op : HostOp) : Decidable op.ok := by
  cases op <;> unfold HostOp.ok <;> infer_instance

def runOps (s : State) (ops : List HostOp) : State := ops.foldl HostOp.apply s

/-- reachable from the initial state by host operations (programs of class `ProgOK`) -/
inductive Reachable : State → Prop
  | init : Reachable {}
  | step {s : State} (op : HostOp) : Reachable s → op.ok → Reachable (op.apply s)

theorem reachable_iff (s : State) : Reachable s ↔ ∃ ops : List HostOp, (∀ op ∈ ops, op.ok) ∧ s = runOps {} ops := by
  constructor
  · intro h
    induction h with
    | init => exact ⟨[], by simp, rfl⟩
    | step op _ hok ih =>
      obtain ⟨ops, h1, h2⟩ := ih
      refine ⟨ops ++ [op], ?_, ?_⟩
      · intro o ho
        rcases List.mem_append.1 ho with ho | ho
        · exact h1 o ho
        · simp at ho; subst ho; exact hok
      · rw [h2]; simp [runOps]
  · rintro ⟨ops, h1, h2⟩
    subst h2
    suffices hs : ∀ (ops : List HostOp) (s : State), Reachable s → (∀ op ∈ ops, op.ok) → Reachable (runOps s ops) from
      hs ops {} .init h1
    intro ops
    induction ops with
    | nil => intro s h _; exact h
    | cons op ops ih =>
      intro s h hok
      exact ih _ (.step op h (hok op List.mem_cons_self)) (fun o ho => hok o (List.mem_cons_of_mem _ ho))

theorem Reachable.induction {C : State → Prop} (init : C {})
    (step : ∀ {s : State} (op : HostOp), Reachable s → op.ok → op ≠ .reset → C s → C (op.apply s)) {s : State}
    (h : Reachable s) : C s := by
  induction h with
  | init => exact init
  | step op hs hok ih =>
    by_cases hne : op = .reset
    · subst hne; exact init
    · exact step op hs hok hne ih

variable {R : State → State → Prop}

/-- Every driver command but `reset`: the clock moves by some `k` (`0` unless `advance` or `step`); `Frame()` / `SetTime()`
    run or not; then an `R` step to some `X`; then the program is replaced or not. -/
theorem HostOp.apply_form (h : HostMoves R) (s : State) (op : HostOp) (hne : op ≠ .reset) :
    ∃ k X, (R { s with clock := s.clock + k } X ∨ R (frameSetTime { s with clock := s.clock + k }) X) ∧
      (op.apply s = X ∨ ∃ p ps, (op.ok → ProgOK p) ∧ op.apply s = { X with prog := p, progParams := ps }) := by
  cases op with
  | reset => exact absurd rfl hne
  | script p ps =>
    refine ⟨0, if s.prog.isEmpty then s else killAllInsts s, Or.inl ?_, Or.inr ⟨p, ps, id, rfl⟩⟩
    split
    · exact h.refl s
    · exact h.kill s
  | call l args => exact ⟨0, _, Or.inl (h.call s l args), Or.inl rfl⟩
  | callv l => exact ⟨0, _, Or.inl (h.trans (h.call s l []) (h.dropLink _ s.nextCall)), Or.inl rfl⟩
  | advance k => exact ⟨k, _, Or.inl (h.refl _), Or.inl rfl⟩
  | resetDirector => exact ⟨0, _, Or.inl (h.kill s), Or.inr ⟨[], [], fun _ _ hb => (nomatch hb), rfl⟩⟩
  | execute => exact ⟨0, _, Or.inr (h.run s), Or.inl rfl⟩
  | step k => exact ⟨k, _, Or.inr (h.run _), Or.inl rfl⟩
  | takeOut => exact ⟨0, _, Or.inl (h.takeOut s), Or.inl rfl⟩

theorem HostOp.apply_rel_clock (h : HostMoves R) (setProg : ∀ (s : State) p ps, R s { s with prog := p, progParams := ps })
    (s : State) (op : HostOp) (hne : op ≠ .reset) :
    ∃ k, R { s with clock := s.clock + k } (op.apply s) ∨
      R (frameSetTime { s with clock := s.clock + k }) (op.apply s) := by
  obtain ⟨k, X, r, e | ⟨p, ps, _, e⟩⟩ := HostOp.apply_form h s op hne
  · exact ⟨k, e ▸ r⟩
  · exact ⟨k, e ▸ r.imp (h.trans · (setProg X p ps)) (h.trans · (setProg X p ps))⟩

theorem HostOp.apply_rel (h : HostMoves R) (advance : ∀ (s : State) k, R s { s with clock := s.clock + k })
    (setTime : ∀ s, R s (frameSetTime s)) (s : State) (op : HostOp) (hne : op ≠ .reset)
    (setProg : ∀ (s : State) p ps, (op.ok → ProgOK p) → R s { s with prog := p, progParams := ps }) : R s (op.apply s) := by
  obtain ⟨k, X, r, e⟩ := HostOp.apply_form h s op hne
  have r' : R s X := r.elim (h.trans (advance s k)) (h.trans (h.trans (advance s k) (setTime _)))
  rcases e with e | ⟨p, ps, hp, e⟩
  · exact e ▸ r'
  · exact e ▸ h.trans r' (setProg X p ps hp)

theorem HostOp.apply_of_hr {C : State → Prop} (hr : ∀ {a b : State}, HR a b → C a → C b)
    (hadv : ∀ (s : State) (k : Nat), C s → C { s with clock := s.clock + k })
    (hfr : ∀ s : State, C s → C (frameSetTime s)) {s : State} (op : HostOp) (hne : op ≠ .reset) (h : C s) :
    C (op.apply s) := by
  obtain ⟨k, r | r⟩ := HostOp.apply_rel_clock hrHost (fun _ _ _ => HR.of_eq rfl rfl rfl) s op hne
  · exact hr r (hadv s k h)
  · exact hr r (hfr _ (hadv s k h))

theorem HostOp.apply_oof {s : State} (op : HostOp) (hne : op ≠ .reset) (ho : s.outOfFuel = true) :
    (op.apply s).outOfFuel = true :=
  HostOp.apply_of_hr (C := fun s => s.outOfFuel = true) (fun hr h => hr.oof h) (fun _ _ h => h) (fun _ h => h) op hne ho

theorem reachable_of_hr {C : State → Prop} (init : C {}) (hr : ∀ {a b : State}, HR a b → C a → C b)
    (hadv : ∀ (s : State) (k : Nat), C s → C { s with clock := s.clock + k })
    (hfr : ∀ s : State, C s → C (frameSetTime s)) {s : State} (h : Reachable s) : C s :=
  h.induction (C := C) init fun op _ _ hne ih => HostOp.apply_of_hr hr hadv hfr op hne ih

structure HInv (s : State) : Prop where
  inv : Inv [] [] none s
  cur : s.cur = none
  depth : s.depth = 0
  td : TD s.timer
  ck1 : s.lastClock ≤ s.clock
  ck2 : s.scaled = s.lastClock

theorem hinv_init : HInv ({} : State) :=
  ⟨inv_init, rfl, rfl, fun _ e he => by simp at he, Nat.le_refl _, rfl⟩

theorem frameSetTime_hinv {s : State} (h : HInv s) : HInv (frameSetTime s) := by
  refine ⟨?_, h.cur, h.depth, TD.setTime _ _, Nat.le_refl _, ?_⟩
  · exact (h.inv.setTimerSame (s.timer.setTime s.clock) rfl).congr rfl rfl rfl rfl rfl rfl rfl rfl rfl
  · exact frameSetTime_scaled h.ck2 h.ck1

theorem HInv.advance {s : State} (h : HInv s) (k : Nat) : HInv { s with clock := s.clock + k } :=
  ⟨h.inv.congr rfl rfl rfl rfl rfl rfl rfl rfl rfl, h.cur, h.depth, h.td, Nat.le_trans h.ck1 (Nat.le_add_right _ _), h.ck2⟩

theorem HInv.step {P : State → Prop} {s s' : State} (hr : HR s s')
    (k : Inv [] [] none s → P s → Ok s' (Inv [] [] none s' ∧ P s')) (q : Ok s (HInv s ∧ P s)) : Ok s' (HInv s' ∧ P s') :=
  q.bind' hr.oof fun ⟨h, p⟩ => ok_cases _ _ fun ho =>
    have r := (k h.inv p).get ho
    ⟨⟨r.1, hr.cur h.cur ho, hr.depth.trans h.depth, hr.ht.td h.td, hr.ht.clock ▸ hr.ht.lastClock ▸ h.ck1,
      hr.ht.scaled ▸ hr.ht.lastClock ▸ h.ck2⟩, r.2⟩

theorem killStep_inv {s : State} (h : Inv [] [] none s) (t : Nat) :
    Ok (killStep s t) (Inv [] [] none (killStep s t)) :=
  (iAll defaultFuel).dt [] [] _ t
    ((h.setTh_frame t (fun th => { th with attached := false }) fun _ => ⟨rfl, rfl, rfl, rfl, rfl⟩).consW t)

theorem killAllInsts_inv {s : State} (h : Inv [] [] none s) :
    Ok (killAllInsts s) (Inv [] [] none (killAllInsts s)) :=
  killAllInsts_pre (Pre.imp fun s => Ok s (Inv [] [] none s))
    (fun s _ => killInst_pre (Pre.imp fun s => Ok s (Inv [] [] none s))
      (fun _ _ _ q => q.map (·.congr rfl rfl rfl rfl rfl rfl rfl rfl rfl))
      (fun s t q => q.bind' ((hrHostSteps.detach s t).trans (hrHostSteps.dt _ t)).oof (killStep_inv · t)) s)
    s (Ok.pure h)

theorem callSetup_inv {s : State} (h : Inv [] [] none s) (label : Nat) (args : List V) :
    Inv [] [s.nextTid] none (callSetup s label args) ∧
      thFind (callSetup s label args).threads s.nextTid = some (callThread s label args) :=
  ⟨((h.spawn (callThread s label args) (Or.inl rfl) rfl rfl rfl rfl).congr (s' := callSetup s label args)
      rfl rfl rfl rfl rfl rfl rfl rfl rfl).consW _,
    thFind_spawned _ (fresh_none h.n)⟩

/-- a rider of the executing half that also survives what only the host does; the thread of a host call is active until
    its first `Execute` returns -/
structure HostKept (P : List Nat → State → Prop) : Prop extends ExecKept P where
  init : P [] {}
  pop : ∀ {s : State} {t due : Nat} {rest : List (Nat × Nat)}, s.events = (t, due) :: rest → P [] s →
    P [] { s with events := rest }
  kill : ∀ {s : State}, NInv s → P [] s → P [] (killAllInsts s)
  setup : ∀ {s : State} (label : Nat) (args : List V), NInv s → P [] s → P [s.nextTid] (callSetup s label args)

theorem HostKept.trivial : HostKept (fun _ _ => True) :=
  { ExecKept.trivial with init := ⟨⟩, pop := fun _ _ => ⟨⟩, kill := fun _ _ => ⟨⟩, setup := fun _ _ _ _ => ⟨⟩ }

namespace HostKept
variable {P : List Nat → State → Prop} (L : HostKept P)
include L

theorem hostCall {s : State} (h : Inv [] [] none s) (p : P [] s) (label : Nat) (args : List V) :
    Ok (hostCall s label args).1 (Inv [] [] none (hostCall s label args).1 ∧ P [] (hostCall s label args).1) :=
  hostCall_pre (Pre.imp fun s => Ok s (Inv [] [] none s ∧ P [] s))
    (fun _ => ((execAll L.toExecKept defaultFuel).sei [] _ s.nextTid _ (callSetup_inv h label args).1
      (callSetup_inv h label args).2 rfl).map fun q => ⟨q.1, q.2.2 [] (Or.inr rfl) (L.setup label args h.n p)⟩)
    (fun _ _ _ q => q.map fun b => ⟨b.1.congr rfl rfl rfl rfl rfl rfl rfl rfl rfl, L.congr b.2 rfl rfl rfl rfl⟩)
    (Ok.pure ⟨h, p⟩)

theorem deliver {s : State} (h : Inv [] [] none s) (p : P [] s) (t : Nat) :
    Ok (deliver s t) (Inv [] [] none (deliver s t) ∧ P [] (deliver s t)) :=
  deliver_elim (C := fun s' => Ok s' (Inv [] [] none s' ∧ P [] s')) (Ok.pure ⟨h, p⟩)
    (((iAll defaultFuel).cwa [] [] s t (h.consC t)).map fun q => ⟨q.1, (L.quietAll defaultFuel).cwa [] s t h.n p⟩)

theorem processEvents (fuel : Nat) {s : State} (h : Inv [] [] none s) (p : P [] s) :
    Ok (processEvents fuel s) (Inv [] [] none (processEvents fuel s) ∧ P [] (processEvents fuel s)) :=
  processEvents_pre (Pre.imp fun s => Ok s (Inv [] [] none s ∧ P [] s)) (fun _ _ => Or.inl rfl)
    (fun _ _ _ _ hev q => q.map fun b => ⟨b.1.congr rfl rfl rfl rfl rfl rfl rfl rfl rfl, L.pop hev b.2⟩)
    (fun s t q => q.bind' (deliver_rel hrHostSteps s t).oof fun b => L.deliver b.1 b.2 t) fuel s (Ok.pure ⟨h, p⟩)

theorem moves : HostMoves (fun s s' => Ok s (HInv s ∧ P [] s) → Ok s' (HInv s' ∧ P [] s')) where
  toPre := Pre.imp _
  takeOut := fun _ => HInv.step (HR.of_eq rfl rfl rfl) fun i p =>
    Ok.pure ⟨i.congr rfl rfl rfl rfl rfl rfl rfl rfl rfl, L.congr p rfl rfl rfl rfl⟩
  kill := fun s => HInv.step (hrHost.kill s) fun i p => (killAllInsts_inv i).map (⟨·, L.kill i.n p⟩)
  call := fun s label args => HInv.step (hrHost.call s label args) fun i p => L.hostCall i p label args
  dropLink := fun s c => HInv.step (hrHost.dropLink s c) fun i p =>
    Ok.pure ⟨i.mapTh _ (dropCall_idem c) fun _ => by unfold dropCall; split <;> exact ⟨rfl, rfl, rfl, rfl, rfl⟩,
      L.mapTh p _ (dropCall_idem c) fun _ => by unfold dropCall; split <;> exact ⟨rfl, rfl, rfl, rfl, rfl⟩⟩
  run := fun s => HInv.step (hrHost.run s) fun i p =>
    (L.processEvents defaultFuel i p).bind' ((hrAll defaultFuel).er _).oof fun b =>
      ((execAll L.toExecKept defaultFuel).er [] _ b.1).map fun q => ⟨q.1, q.2.2 [] b.2⟩

theorem apply (op : HostOp) (hok : op.ok) {s : State} (q : Ok s (HInv s ∧ P [] s)) :
    Ok (op.apply s) (HInv (op.apply s) ∧ P [] (op.apply s)) := by
  by_cases hne : op = .reset
  · subst hne; exact Ok.pure ⟨hinv_init, L.init⟩
  · exact HostOp.apply_rel L.moves
      (fun _ k q => q.map fun b => ⟨b.1.advance k, L.congr b.2 rfl rfl rfl rfl⟩)
      (fun _ q => q.map fun b => ⟨frameSetTime_hinv b.1, L.congr b.2 rfl rfl rfl rfl⟩) s op hne
      (fun _ p ps hp => HInv.step (HR.of_eq rfl rfl rfl) fun i r =>
        Ok.pure ⟨i.setProg p ps (hp hok), L.congr r rfl rfl rfl rfl⟩) q

theorem reachable {s : State} (h : Reachable s) : Ok s (HInv s ∧ P [] s) := by
  induction h with
  | init => exact Ok.pure ⟨hinv_init, L.init⟩
  | step op _ hok ih => exact L.apply op hok ih

end HostKept

theorem reachable_hinv {s : State} (h : Reachable s) : Ok s (HInv s) := (HostKept.trivial.reachable h).map (·.1)

/-- the machine-level invariant, with no exemption, in every reachable state that has not run out of fuel -/
theorem reachable_inv_partial {s : State} (h : Reachable s) : s.outOfFuel = true ∨ Inv [] [] none s :=
  (reachable_hinv h).map (fun hi => hi.inv)

/-- `scaledTime` is the clock of the last frame, which is not ahead of the clock — with or without fuel -/
theorem reachable_scaled {s : State} (h : Reachable s) : s.scaled = s.lastClock ∧ s.lastClock ≤ s.clock := by
  refine reachable_of_hr (C := fun s => s.scaled = s.lastClock ∧ s.lastClock ≤ s.clock) ⟨rfl, Nat.le_refl _⟩ ?_ ?_ ?_ h
  · intro a b hr e
    rw [hr.ht.clock, hr.ht.scaled, hr.ht.lastClock]; exact e
  · exact fun s k e => ⟨e.1, Nat.le_trans e.2 (Nat.le_add_right _ _)⟩
  · exact fun s e => ⟨frameSetTime_scaled e.1 e.2, Nat.le_refl _⟩

/-- the timer's `m_time` is the clock of the last frame — without `save`/`load`, with or without fuel -/
theorem reachable_mtime {s : State} (h : Reachable s) : s.timer.mtime = s.lastClock := by
  refine reachable_of_hr (C := fun s => s.timer.mtime = s.lastClock) rfl ?_ (fun _ _ e => e) (fun _ _ => rfl) h
  intro a b hr e
  rw [hr.ht.mtime, hr.ht.lastClock]; exact e

end Morfuse.Sched
