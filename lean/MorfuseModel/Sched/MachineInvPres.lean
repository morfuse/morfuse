import MorfuseModel.Sched.MachineInvTables
import MorfuseModel.Sched.MachineSteps
/-!
# What no function of the machine ever changes

`Pres s s'`: running out of fuel is sticky and the compiled program is untouched.
-/
namespace Morfuse.Sched

structure Pres (s s' : State) : Prop where
  oof : s.outOfFuel = true → s'.outOfFuel = true
  prog : s'.prog = s.prog
  params : s'.progParams = s.progParams

theorem Pres.refl (s : State) : Pres s s := ⟨id, rfl, rfl⟩
theorem Pres.trans {a b c : State} (h1 : Pres a b) (h2 : Pres b c) : Pres a c :=
  ⟨fun h => h2.oof (h1.oof h), h2.prog.trans h1.prog, h2.params.trans h1.params⟩

theorem Pres.of_eq {s s' : State} (h1 : s'.outOfFuel = s.outOfFuel) (h2 : s'.prog = s.prog)
    (h3 : s'.progParams = s.progParams) : Pres s s' := ⟨fun h => by rw [h1]; exact h, h2, h3⟩

theorem Pres.fuel (s : State) : Pres s { s with outOfFuel := true } := ⟨fun _ => rfl, rfl, rfl⟩

theorem Pres.setTh (s : State) (t : Nat) (f : Th → Th) : Pres s (s.setTh t f) := Pres.of_eq rfl rfl rfl

theorem Pres.removeFromInst (s : State) (t i : Nat) : Pres s (removeFromInst s t i) := by
  rw [removeFromInst_frame]; exact Pres.of_eq rfl rfl rfl

theorem presSteps : Steps.Full Pres where
  refl := Pres.refl
  trans := Pres.trans
  frame := fun _ _ _ _ _ _ => Pres.of_eq rfl rfl rfl
  fuel := Pres.fuel
  setTh := fun s t _ _ => Pres.setTh s t _
  dropThread := fun _ _ _ _ => Pres.of_eq rfl rfl rfl
  unlinkVM := Pres.removeFromInst
  timerRemove := fun _ _ => Pres.of_eq rfl rfl rfl
  addTimer := fun _ _ _ => Pres.of_eq rfl rfl rfl
  timerNext := fun _ => Pres.of_eq rfl rfl rfl
  sameInst := fun _ _ _ _ => Pres.of_eq rfl rfl rfl
  newInst := fun _ _ _ => Pres.of_eq rfl rfl rfl
  register := fun _ _ _ _ => Pres.of_eq rfl rfl rfl
  cancelKey := fun _ _ _ _ => Pres.of_eq rfl rfl rfl
  cancelOwner := fun _ _ => Pres.of_eq rfl rfl rfl
  unregKey := fun _ _ _ _ => Pres.of_eq rfl rfl rfl
  unregOwner := fun _ _ => Pres.of_eq rfl rfl rfl

def Pres1 (f : State → Nat → State) : Prop := ∀ s a, Pres s (f s a)
def Pres3 (f : State → Nat → Nat → Bool → State) : Prop := ∀ s a b c, Pres s (f s a b c)

theorem Pres.foldl {α : Type} (f : State → α → State) (hf : ∀ s a, Pres s (f s a)) (l : List α) (s : State) :
    Pres s (l.foldl f s) := foldl_rel presSteps.toPre f hf l s

theorem Pres.foldlIf {α : Type} (c : State → α → Bool) {f : State → α → State} (hf : ∀ s a, Pres s (f s a))
    (l : List α) (s : State) : Pres s (l.foldl (fun s a => if c s a then f s a else s) s) :=
  foldl_rel presSteps.toPre _ (ifAlive_rel presSteps.toPre c hf) l s

theorem notifyDelete_pres (s : State) (t : Nat) : Pres s (notifyDelete s t) := notifyDelete_rel presSteps.toSteps s t
theorem finishDelete_pres (s : State) (t : Nat) : Pres s (finishDelete s t) := finishDelete_rel presSteps.toSteps s t
theorem cancelEvents_pres (s : State) (t : Nat) : Pres s (cancelEvents s t) := Pres.of_eq rfl rfl rfl
theorem postEvent_pres (s : State) (t d : Nat) : Pres s (postEvent s t d) := Pres.of_eq rfl rfl rfl
theorem addTiming_pres (s : State) (t d : Nat) : Pres s (addTiming s t d) := Pres.of_eq rfl rfl rfl
theorem restoreCur_pres (s : State) (c : Option Nat) : Pres s (restoreCur s c) := Pres.of_eq rfl rfl rfl
theorem vmEpilogue_pres (s : State) (t : Nat) : Pres s (vmEpilogue s t) := vmEpilogue_rel presSteps.toSteps s t

theorem notifyLoop_pres {sn : State → Nat → State} (hsn : Pres1 sn) (s : State) (stopped : List Nat) :
    Pres s (notifyLoop sn s stopped) := notifyLoop_rel presSteps.toPre hsn s stopped

theorem cwaRest_pres {swf : State → Nat → Nat → Bool → State} {sn : State → Nat → State}
    (hswf : Pres3 swf) (hsn : Pres1 sn) (s : State) (w : Nat) : Pres s (cwaRest swf sn s w) :=
  cwaRest_rel presSteps.toPre (presSteps.cancelOwner s w) (hswf · w 0 false) hsn

theorem unregNotify_pres {swf : State → Nat → Nat → Bool → State} {sn : State → Nat → State}
    (hswf : Pres3 swf) (hsn : Pres1 sn) (s : State) (src name : Nat) :
    Pres s (unregNotify swf sn s src name) := unregNotify_rel presSteps.toPre (presSteps.unregKey s src name) (hswf · · name false) (hsn · src)

theorem uaRest_pres {swf : State → Nat → Nat → Bool → State} {sn : State → Nat → State}
    (hswf : Pres3 swf) (hsn : Pres1 sn) (s : State) (src : Nat) : Pres s (uaRest swf sn s src) :=
  uaRest_rel presSteps.toPre (presSteps.unregOwner s src) (hswf · · · true) (hsn · src)

theorem regWait_pres {stp : State → Nat → State} (h : Pres1 stp) (s : State) (o n c : Nat) :
    Pres s (regWait stp s o n c) := regWait_rel presSteps.toSteps h s o n c

theorem execIfAlive_pres {ev : State → Nat → State} (h : Pres1 ev) (s : State) (t : Nat) :
    Pres s (execIfAlive ev s t) := execIfAlive_rel presSteps.toPre h s t

theorem presBlind : Blind Pres :=
  ⟨fun _ _ => Pres.of_eq rfl rfl rfl, fun _ _ => Pres.of_eq rfl rfl rfl, fun _ _ => Pres.of_eq rfl rfl rfl⟩

theorem presAll : ∀ fuel, All Pres fuel := all_of_blind presSteps presBlind

end Morfuse.Sched
