import MorfuseModel.Sched.MachineQuiet
/-!
# The destruction cascades never execute script code (program class `ProgOK`)

`Q D s s'` ("quiet step"): no thread is created, no registration is added, a thread's state only moves
towards `running` (or from `waiting` to `timing`: re-timed by `StartTiming`), a VM only becomes
`destroyed`; a thread that had a VM before still has it, or is dead / gone — or is one of the threads
`D` whose destructor is in progress.

Proved for `deleteThread`, `stoppedNotify`, `stop`, `cancelWaitingAll`, `unregisterAll`, and for
`stoppedWaitFor` / `unregister` in the calls the cascades make (channel 0, or `bDeleting`, or a thread
as source): under `NInv` a thread is a source under neither `delete` nor `remove` and owns no `endon` list, so the only
branch that runs script code (`StoppedWaitFor(name ≠ 0, false)` of an idle waiter) is never taken.
-/
namespace Morfuse.Sched

/-- allowed change of one thread record in a quiet step -/
structure QT (th th' : Th) : Prop where
  ts : th'.ts = th.ts ∨ th'.ts = .running ∨ (th.ts = .waiting ∧ th'.ts = .timing)
  vm : th'.vm = th.vm ∨ th'.vm = .destroyed
  hasVM : th'.hasVM = true → th.hasVM = true
  dead : th.dead = true → th'.dead = true
  inst : th'.inst = th.inst
  attached : th'.attached = true → th.attached = true

theorem QT.refl (th : Th) : QT th th := ⟨Or.inl rfl, Or.inl rfl, id, id, rfl, id⟩

theorem QT.trans {a b c : Th} (h1 : QT a b) (h2 : QT b c) : QT a c := by
  refine ⟨?_, ?_, fun h => h1.hasVM (h2.hasVM h), fun h => h2.dead (h1.dead h), h2.inst.trans h1.inst,
    fun h => h1.attached (h2.attached h)⟩
  · rcases h2.ts with e | e | ⟨e1, e2⟩
    · rw [e]; exact h1.ts
    · exact Or.inr (Or.inl e)
    · rcases h1.ts with f | f | ⟨f1, f2⟩
      · right; right; exact ⟨by rw [← f]; exact e1, e2⟩
      · rw [f] at e1; cases e1
      · rw [f2] at e1; cases e1
  · rcases h2.vm with e | e
    · rw [e]; exact h1.vm
    · exact Or.inr e

structure Q (D : List Nat) (s s' : State) : Prop where
  objs : s'.objs = s.objs
  tid : s'.nextTid = s.nextTid
  cur : s'.cur = s.cur
  depth : s'.depth = s.depth
  th : ∀ u th', thFind s'.threads u = some th' → ∃ th, thFind s.threads u = some th ∧ QT th th'
  lost : ∀ u th, thFind s.threads u = some th → th.hasVM = true →
    thFind s'.threads u = none ∨
      ∃ th', thFind s'.threads u = some th' ∧ (th'.hasVM = true ∨ th'.dead = true ∨ u ∈ D)
  subN : Tbl.Sub s'.notify s.notify
  subW : Tbl.Sub s'.waitFor s.waitFor
  subE : ∀ o, Tbl.hasOwner s'.endOn o = true → Tbl.hasOwner s.endOn o = true

namespace Q

theorem refl (D : List Nat) (s : State) : Q D s s where
  objs := rfl
  tid := rfl
  cur := rfl
  depth := rfl
  th := fun _ th' h => ⟨th', h, QT.refl _⟩
  lost := fun _ th h hv => Or.inr ⟨th, h, Or.inl hv⟩
  subN := Tbl.Sub.refl _
  subW := Tbl.Sub.refl _
  subE := fun _ h => h

theorem trans {D : List Nat} {a b c : State} (h1 : Q D a b) (h2 : Q D b c) : Q D a c where
  objs := h2.objs.trans h1.objs
  tid := h2.tid.trans h1.tid
  cur := h2.cur.trans h1.cur
  depth := h2.depth.trans h1.depth
  th := fun u th'' h => by
    obtain ⟨th', hb, q2⟩ := h2.th u th'' h
    obtain ⟨th, ha, q1⟩ := h1.th u th' hb
    exact ⟨th, ha, q1.trans q2⟩
  lost := fun u th h hv => by
    rcases h1.lost u th h hv with hb | ⟨th', hb, hc⟩
    · left
      cases hcn : thFind c.threads u with
      | none => rfl
      | some th'' =>
        obtain ⟨th', hb', _⟩ := h2.th u th'' hcn
        rw [hb] at hb'; cases hb'
    · cases hcn : thFind c.threads u with
      | none => left; rfl
      | some th'' =>
        right
        refine ⟨th'', rfl, ?_⟩
        rcases hc with hc | hc | hc
        · rcases h2.lost u th' hb hc with h3 | ⟨th3, h3, h4⟩
          · rw [h3] at hcn; cases hcn
          · rw [hcn] at h3; cases h3; exact h4
        · obtain ⟨th2, hb', q2⟩ := h2.th u th'' hcn
          rw [hb] at hb'; cases hb'
          exact Or.inr (Or.inl (q2.dead hc))
        · exact Or.inr (Or.inr hc)
  subN := h2.subN.trans h1.subN
  subW := h2.subW.trans h1.subW
  subE := fun o h => h1.subE o (h2.subE o h)

theorem mono {D D' : List Nat} {a b : State} (h : Q D a b) (hs : ∀ x ∈ D, x ∈ D') : Q D' a b := by
  refine ⟨h.objs, h.tid, h.cur, h.depth, h.th, ?_, h.subN, h.subW, h.subE⟩
  intro u th hf hv
  rcases h.lost u th hf hv with h1 | ⟨th', h1, h2⟩
  · exact Or.inl h1
  · refine Or.inr ⟨th', h1, ?_⟩
    rcases h2 with h2 | h2 | h2
    · exact Or.inl h2
    · exact Or.inr (Or.inl h2)
    · exact Or.inr (Or.inr (hs u h2))

theorem discharge {D : List Nat} {t : Nat} {a b : State} (h : Q (t :: D) a b)
    (hg : thFind b.threads t = none ∨ ∃ th', thFind b.threads t = some th' ∧ th'.dead = true) : Q D a b := by
  refine ⟨h.objs, h.tid, h.cur, h.depth, h.th, ?_, h.subN, h.subW, h.subE⟩
  intro u th hf hv
  rcases h.lost u th hf hv with h1 | ⟨th', h1, h2 | h2 | h2⟩
  · exact Or.inl h1
  · exact Or.inr ⟨th', h1, Or.inl h2⟩
  · exact Or.inr ⟨th', h1, Or.inr (Or.inl h2)⟩
  · rcases List.mem_cons.1 h2 with h2 | h2
    · subst h2
      rcases hg with g | ⟨th2, g1, g2⟩
      · exact Or.inl g
      · rw [h1] at g1; cases g1
        exact Or.inr ⟨th', h1, Or.inr (Or.inl g2)⟩
    · exact Or.inr ⟨th', h1, Or.inr (Or.inr h2)⟩

theorem of_eq {D : List Nat} {s s' : State} (e1 : s'.threads = s.threads) (e2 : s'.objs = s.objs)
    (e3 : s'.nextTid = s.nextTid) (e4 : s'.cur = s.cur) (e5 : s'.depth = s.depth)
    (e6 : s'.notify = s.notify) (e7 : s'.waitFor = s.waitFor) (e8 : s'.endOn = s.endOn) : Q D s s' where
  objs := e2
  tid := e3
  cur := e4
  depth := e5
  th := fun u th' h => ⟨th', by rw [← e1]; exact h, QT.refl _⟩
  lost := fun u th h hv => Or.inr ⟨th, by rw [e1]; exact h, Or.inl hv⟩
  subN := by rw [e6]; exact Tbl.Sub.refl _
  subW := by rw [e7]; exact Tbl.Sub.refl _
  subE := by rw [e8]; exact fun _ h => h

theorem setTh {D : List Nat} (s : State) (t : Nat) (f : Th → Th) (hf : ∀ th, QT th (f th))
    (hv : (∀ th, th.hasVM = true → (f th).hasVM = true) ∨ t ∈ D) : Q D s (s.setTh t f) where
  objs := rfl
  tid := rfl
  cur := rfl
  depth := rfl
  th := fun u th' h => by
    rcases thFind_setTh_some h with ⟨hut, th, hth, e⟩ | ⟨_, h'⟩
    · exact ⟨th, by rw [hut]; exact hth, by rw [e]; exact hf th⟩
    · exact ⟨th', h', QT.refl _⟩
  lost := fun u th h hvm => by
    right
    by_cases hut : u = t
    · subst hut
      exact ⟨f th, thFind_setTh_self f h, hv.elim (fun hv => Or.inl (hv th hvm)) (fun hv => Or.inr (Or.inr hv))⟩
    · exact ⟨th, by rw [thFind_setTh_ne s f hut]; exact h, Or.inl hvm⟩
  subN := Tbl.Sub.refl _
  subW := Tbl.Sub.refl _
  subE := fun _ h => h

theorem filterTh (D : List Nat) (s : State) (t : Nat) :
    Q D s { s with threads := s.threads.filter (fun e => !(e.1 == t)) } :=
  { Q.refl D s with
    th := fun u th' h => ⟨th', (thFind_filter_some h).2, QT.refl _⟩
    lost := fun u th h hvm => by
      by_cases hut : u = t
      · exact Or.inl (by rw [hut]; exact thFind_filter_self _ _)
      · exact Or.inr ⟨th, by rw [← h]; exact thFind_filter_of_ne _ hut, Or.inl hvm⟩ }

end Q

theorem Q.alive_hasVM {s s' : State} (q : Q [] s s') (hn : NInv s') {t : Nat} {th : Th}
    (hth : thFind s.threads t = some th) (hhv : th.hasVM = true) (ht : 100 ≤ t) (hal : s'.alive t = true) :
    LiveVM s' t := by
  rw [State.alive_ge _ ht] at hal
  obtain ⟨th1, hth1, hd1⟩ := (aliveTh_iff hn.nodup t).1 hal
  refine ⟨th1, hth1, ?_, hd1⟩
  rcases q.lost t th hth hhv with e | ⟨th', e, e2 | e2 | e2⟩
  · rw [e] at hth1; cases hth1
  · rw [hth1] at e; cases e; exact e2
  · rw [hth1] at e; cases e; rw [hd1] at e2; cases e2
  · cases e2

/-- the record of `t`, if any, has lost its VM (`Gone`: and `NotifyDelete` has run) -/
def NoVM (s : State) (t : Nat) : Prop := ∀ th', thFind s.threads t = some th' → th'.hasVM = false
def Gone (s : State) (t : Nat) : Prop :=
  ∀ th', thFind s.threads t = some th' → th'.hasVM = false ∧ th'.vm = .destroyed

theorem NoVM.of_q {D : List Nat} {a b : State} {t : Nat} (q : Q D a b) (h : NoVM a t) : NoVM b t := by
  intro th' hf
  obtain ⟨th, h1, qt⟩ := q.th t th' hf
  cases hv : th'.hasVM with
  | false => rfl
  | true => have := qt.hasVM hv; rw [h th h1] at this; cases this

theorem Gone.of_q {D : List Nat} {a b : State} {t : Nat} (q : Q D a b) (h : Gone a t) : Gone b t := by
  intro th' hf
  obtain ⟨th, h1, qt⟩ := q.th t th' hf
  obtain ⟨g1, g2⟩ := h th h1
  constructor
  · cases hv : th'.hasVM with
    | false => rfl
    | true => have := qt.hasVM hv; rw [g1] at this; cases this
  · rcases qt.vm with e | e
    · rw [e]; exact g2
    · exact e

theorem removeFromInst_q (D : List Nat) (s : State) (t i : Nat) : Q D s (removeFromInst s t i) := by
  rw [removeFromInst_frame]; exact Q.of_eq rfl rfl rfl rfl rfl rfl rfl rfl

theorem qt_running (th : Th) : QT th { th with ts := .running } :=
  ⟨Or.inr (Or.inl rfl), Or.inl rfl, id, id, rfl, id⟩

theorem notifyDelete_q (D : List Nat) (s : State) (t : Nat) : Q D s (notifyDelete s t) := by
  have q1 := fun b => Q.setTh (D := D) s t (ndRec b) (fun _ => ⟨Or.inl rfl, Or.inr rfl, id, id, rfl, id⟩)
    (Or.inl fun _ h => h)
  rw [notifyDelete_eq]
  split
  · exact Q.refl D s
  · split
    · exact (q1 _).trans (removeFromInst_q D _ _ _)
    · exact q1 _

theorem finishDelete_q (D : List Nat) (s : State) (t : Nat) : Q D s (finishDelete s t) := by
  unfold finishDelete
  split
  · exact Q.refl D s
  · split
    · exact Q.setTh s t _ (fun th => ⟨Or.inl rfl, Or.inl rfl, id, fun _ => rfl, rfl, id⟩) (Or.inl fun _ h => h)
    · exact Q.filterTh D s t

theorem finishDelete_gone (s : State) (t : Nat) :
    thFind (finishDelete s t).threads t = none ∨
      ∃ th', thFind (finishDelete s t).threads t = some th' ∧ th'.dead = true := by
  unfold finishDelete
  cases hf : thFind s.threads t with
  | none => left; simp only; exact hf
  | some th =>
    simp only
    split
    · exact Or.inr ⟨{ th with dead := true }, thFind_setTh_self _ hf, rfl⟩
    · exact Or.inl (thFind_filter_self _ _)

theorem cancelEvents_q (D : List Nat) (s : State) (t : Nat) : Q D s (cancelEvents s t) :=
  Q.of_eq rfl rfl rfl rfl rfl rfl rfl rfl

theorem Q.setTh_timing {D : List Nat} {s s1 : State} (hq : Q D s s1) (t : Nat)
    (hw : ∀ th, thFind s.threads t = some th → th.ts = .waiting) :
    Q D s (s1.setTh t (fun th => { th with ts := .timing })) := by
  refine ⟨hq.objs, hq.tid, hq.cur, hq.depth, ?_, ?_, hq.subN, hq.subW, hq.subE⟩
  · intro u th' h
    rcases thFind_setTh_some h with ⟨hut, th1, hf', e⟩ | ⟨_, h'⟩
    · subst hut
      obtain ⟨th, hth, q⟩ := hq.th u th1 hf'
      refine ⟨th, hth, ?_⟩
      rw [e]
      exact ⟨Or.inr (Or.inr ⟨hw th hth, rfl⟩), q.vm, q.hasVM, q.dead, q.inst, q.attached⟩
    · exact hq.th u th' h'
  · intro u th h hvm
    by_cases hut : u = t
    · subst hut
      rcases hq.lost u th h hvm with h1 | ⟨th1, h1, h2⟩
      · exact Or.inl (by rw [State.setTh_threads, map_thUpd_of_none _ h1]; exact h1)
      · exact Or.inr ⟨_, thFind_setTh_self _ h1, h2⟩
    · rw [thFind_setTh_ne _ _ hut]
      exact hq.lost u th h hvm

theorem qQuiet : QuietRel Q where
  refl := Q.refl
  trans := Q.trans
  frame := fun D s _ _ _ _ _ hN hW hE => { Q.refl D s with subN := hN, subW := hW, subE := hE }
  wake := fun _ s t => Q.setTh s t _ qt_running (Or.inl fun _ h => h)
  retime := fun _ _ _ t hq hw => hq.setTh_timing t hw
  cancelEvents := cancelEvents_q

/-- `~ScriptThread`: inside, `t` is one of the threads being destroyed -/
theorem deleteThread_q_succ {fuel : Nat} (ih : QuietAll Q fuel) : Quiet1 Q (deleteThread (fuel + 1)) := by
  intro D s t h
  rw [deleteThread_succ]
  cases hf : thFind s.threads t with
  | none => exact Q.refl D s
  | some th =>
    simp only
    split
    · exact Q.refl D s
    · have ht : 100 ≤ t := (h.range t th hf).1
      have h0 : NInv (s.setTh t fun th => { th with hasVM := false }) := h.setTh t _
      have q0 : Q (t :: D) s (s.setTh t fun th => { th with hasVM := false }) :=
        Q.setTh s t _ (fun th => ⟨Or.inl rfl, Or.inl rfl, fun h => (by cases h), id, rfl, id⟩)
          (Or.inr List.mem_cons_self)
      have q3 := ((q0.trans (qQuiet.stopStep ih.cwa (t :: D) h0 t th)).trans (notifyDelete_q (t :: D) _ t)).trans
        (cancelEvents_q (t :: D) _ t)
      exact ((q3.trans (ih.listenerEnd qQuiet (t :: D) (deleteThread_head_ninv fuel h t th) ht)).trans
        (finishDelete_q (t :: D) _ t)).discharge (finishDelete_gone _ t)

theorem qAll : ∀ fuel, QuietAll Q fuel := quietAll qQuiet fun _ ih => deleteThread_q_succ ih

end Morfuse.Sched
