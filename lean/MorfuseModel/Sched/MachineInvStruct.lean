import MorfuseModel.Sched.MachineSteps
import MorfuseModel.Sched.TimerLemmas
/-!
# Structural invariant of the machine (`NInv`), for every function of the mutual block

The program class: `ProgOK` = object ids are below 100 (ids from 100 on are threads) and a script that
waits on a thread object by name (`local.p0 waittill n`) does not use the two names the engine itself notifies
when a listener is destroyed (`delete`, `remove`), so that `~ScriptThread` never wakes anybody by execution.  `NInv`
holds at every call boundary of the machine, with no exception inside the cascades:

* thread ids are distinct, `≥ 100` and below `nextTid`; parents are threads or 0;
* the notify and wait-for tables have distinct keys and no empty list; waiters and wait-for owners are
  threads; a *thread* is a notify source under neither `delete` nor `remove`; `endon` lists belong to objects;
* the current thread and every timer element is a thread id.
-/
namespace Morfuse.Sched

/-- a name a script may wait on: not one of the two event names the engine itself notifies on destruction -/
def NameOK (n : Nat) : Prop := n ≠ nameDelete ∧ n ≠ nameRemove

instance (n : Nat) : Decidable (NameOK n) := by unfold NameOK; infer_instance

theorem nameOK_zero : NameOK 0 := by decide

/-- `src` is a thread and `name` is one of the engine's own destruction events: nobody waits there -/
def QSrc (src name : Nat) : Prop := 100 ≤ src ∧ (name = nameDelete ∨ name = nameRemove)

def Instr.ok : Instr → Prop
  | .spawn o => o < 100
  | .waittillParent names => ∀ n ∈ names, NameOK n
  | _ => True

def ProgOK (prog : List (List Instr)) : Prop := ∀ body ∈ prog, ∀ ins ∈ body, ins.ok

theorem ProgOK.fetch {prog : List (List Instr)} (h : ProgOK prog) (l pc : Nat) :
    ((prog.getD l []).getD pc (.end_ .none)).ok := fetch_of_forall h trivial l pc

structure NInv (s : State) : Prop where
  nodup : (s.threads.map (·.1)).Nodup
  range : ∀ t th, thFind s.threads t = some th → 100 ≤ t ∧ t < s.nextTid
  tid100 : 100 ≤ s.nextTid
  parent : ∀ t th, thFind s.threads t = some th → th.parent = 0 ∨ 100 ≤ th.parent
  wfN : Tbl.WF s.notify
  wfW : Tbl.WF s.waitFor
  prog : ProgOK s.prog
  objs : ∀ o ∈ s.objs, o < 100
  n1 : ∀ src n, 100 ≤ src → Tbl.getD s.notify (src, n) ≠ [] → NameOK n
  n2 : ∀ src, 100 ≤ src → Tbl.hasOwner s.endOn src = false
  nMem : ∀ k x, x ∈ Tbl.getD s.notify k → 100 ≤ x
  wOwn : ∀ o n, Tbl.getD s.waitFor (o, n) ≠ [] → 100 ≤ o
  cur : ∀ c, s.cur = some c → 100 ≤ c
  tim : ∀ e ∈ s.timer.elems, 100 ≤ e.1

namespace NInv

theorem alive_iff {s : State} (h : NInv s) {l : Nat} (hl : 100 ≤ l) :
    s.alive l = true ↔ ∃ th, thFind s.threads l = some th ∧ th.dead = false := by
  rw [State.alive_ge _ hl]
  exact aliveTh_iff h.nodup l

theorem congr {s s' : State} (h : NInv s) (e1 : s'.threads = s.threads) (e2 : s'.nextTid = s.nextTid)
    (e3 : s'.notify = s.notify) (e4 : s'.waitFor = s.waitFor) (e5 : s'.endOn = s.endOn)
    (e6 : s'.prog = s.prog) (e7 : s'.objs = s.objs) (e8 : s'.cur = s.cur) (e9 : s'.timer = s.timer) :
    NInv s' := by
  constructor
  · rw [e1]; exact h.nodup
  · rw [e1, e2]; exact h.range
  · rw [e2]; exact h.tid100
  · rw [e1]; exact h.parent
  · rw [e3]; exact h.wfN
  · rw [e4]; exact h.wfW
  · rw [e6]; exact h.prog
  · rw [e7]; exact h.objs
  · rw [e3]; exact h.n1
  · rw [e5]; exact h.n2
  · rw [e3]; exact h.nMem
  · rw [e4]; exact h.wOwn
  · rw [e8]; exact h.cur
  · rw [e9]; exact h.tim

theorem setTh {s : State} (h : NInv s) (t : Nat) (f : Th → Th)
    (hf : ∀ th, (f th).parent = th.parent := by intros; rfl) :
    NInv (s.setTh t f) := by
  have hfind : ∀ u th', thFind (s.setTh t f).threads u = some th' →
      ∃ th, thFind s.threads u = some th ∧ th'.parent = th.parent := by
    intro u th' hu
    rcases thFind_upd_some hu with ⟨hut, th, hth, e⟩ | ⟨_, hu'⟩
    · exact ⟨th, by rw [hut]; exact hth, by rw [e, hf]⟩
    · exact ⟨th', hu', rfl⟩
  refine { h with nodup := ?_, range := ?_, parent := ?_ }
  · rw [State.setTh_threads, map_upd_keys]; exact h.nodup
  · intro u th' hu
    obtain ⟨th, h1, _⟩ := hfind u th' hu
    exact h.range u th h1
  · intro u th' hu
    obtain ⟨th, h1, h2⟩ := hfind u th' hu
    rw [h2]; exact h.parent u th h1

theorem filterTh {s : State} (h : NInv s) (t : Nat) :
    NInv { s with threads := s.threads.filter (fun e => !(e.1 == t)) } := by
  refine { h with nodup := ?_, range := ?_, parent := ?_ }
  · exact (List.filter_sublist.map _).nodup h.nodup
  · exact fun u th hu => h.range u th (thFind_filter_some hu).2
  · exact fun u th hu => h.parent u th (thFind_filter_some hu).2

theorem timer {s : State} (h : NInv s) (tm : Timer) (hsub : ∀ e ∈ tm.elems, e ∈ s.timer.elems) :
    NInv { s with timer := tm } :=
  { h with tim := fun e he => h.tim e (hsub e he) }

theorem timerAdd {s : State} (h : NInv s) (t d : Nat) (ht : 100 ≤ t) : NInv (addTiming s t d) := by
  refine { h with tim := ?_ }
  intro e he
  simp only [addTiming, Timer.add, List.mem_append, List.mem_singleton] at he
  rcases he with he | he
  · exact h.tim e he
  · subst he; exact ht

theorem setCur {s : State} (h : NInv s) (c : Option Nat) (hc : ∀ x, c = some x → 100 ≤ x) :
    NInv { s with cur := c } := { h with cur := hc }

theorem setNotify {s : State} (h : NInv s) (T : Tbl) (hw : Tbl.WF T) (hs : Tbl.Sub T s.notify) :
    NInv { s with notify := T } :=
  { h with wfN := hw, n1 := fun src n h1 h2 => h.n1 src n h1 (hs.ne_nil h2),
           nMem := fun k x hx => h.nMem k x (hs k x hx) }

theorem setWaitFor {s : State} (h : NInv s) (T : Tbl) (hw : Tbl.WF T) (hs : Tbl.Sub T s.waitFor) :
    NInv { s with waitFor := T } :=
  { h with wfW := hw, wOwn := fun o n h2 => h.wOwn o n (hs.ne_nil h2) }

theorem setTables {s : State} (h : NInv s) {N W : Tbl} (wN : Tbl.WF N) (sN : Tbl.Sub N s.notify)
    (wW : Tbl.WF W) (sW : Tbl.Sub W s.waitFor) : NInv { s with notify := N, waitFor := W } :=
  (h.setNotify N wN sN).setWaitFor W wW sW

/-- the tables after the loop of `CancelWaiting(name)`; the next three: `CancelWaitingAll`, `Unregister(name)`,
    `UnregisterAll` -/
theorem cancelKey {s : State} (h : NInv s) (w name : Nat) (list : List Nat) :
    NInv { s with notify := (Tbl.purge s.alive s.notify w name list []).1,
                  waitFor := Tbl.removeKey s.waitFor (w, name) } :=
  h.setTables (Tbl.purge_WF _ h.wfN _ _ _ _) (Tbl.Sub.purge _ _ _ _ _ _) (h.wfW.removeKey _) (Tbl.Sub.removeKey _ _)

theorem cancelOwner {s : State} (h : NInv s) (w : Nat) :
    NInv { s with notify := (Tbl.multiPurge s.alive s.notify w (Tbl.keysOf s.waitFor w) []).1,
                  waitFor := Tbl.removeOwner s.waitFor w } :=
  h.setTables (Tbl.multiPurge_WF _ _ _ _ _ h.wfN) (Tbl.Sub.multiPurge _ _ _ _ _) (h.wfW.removeOwner _)
    (Tbl.Sub.removeOwner _ _)

theorem unregKey {s : State} (h : NInv s) (src name : Nat) (list : List Nat) :
    NInv { s with notify := Tbl.removeKey s.notify (src, name),
                  waitFor := (Tbl.purge s.alive s.waitFor src name list []).1 } :=
  h.setTables (h.wfN.removeKey _) (Tbl.Sub.removeKey _ _) (Tbl.purge_WF _ h.wfW _ _ _ _) (Tbl.Sub.purge _ _ _ _ _ _)

theorem unregOwner {s : State} (h : NInv s) (src : Nat) :
    NInv { s with notify := Tbl.removeOwner s.notify src,
                  waitFor := (Tbl.multiPurge s.alive s.waitFor src (Tbl.keysOf s.notify src) []).1 } :=
  h.setTables (h.wfN.removeOwner _) (Tbl.Sub.removeOwner _ _) (Tbl.multiPurge_WF _ _ _ _ _ h.wfW)
    (Tbl.Sub.multiPurge _ _ _ _ _)

theorem setEndOn {s : State} (h : NInv s) (T : Tbl)
    (hs : ∀ o, Tbl.hasOwner T o = true → Tbl.hasOwner s.endOn o = true ∨ o < 100) :
    NInv { s with endOn := T } := by
  refine { h with n2 := ?_ }
  intro src hsrc
  rw [Bool.eq_false_iff]
  intro ho
  rcases hs src ho with h1 | h1
  · rw [h.n2 src hsrc] at h1; cases h1
  · omega

end NInv

def N1 (f : State → Nat → State) : Prop := ∀ s a, NInv s → NInv (f s a)
def N3 (f : State → Nat → Nat → Bool → State) : Prop := ∀ s a b c, NInv s → NInv (f s a b c)
/-- `ScriptExecuteInternal` / `Execute` are only ever applied to thread ids -/
def N1t (f : State → Nat → State) : Prop := ∀ s a, 100 ≤ a → NInv s → NInv (f s a)

theorem NInv.fuel {s : State} (h : NInv s) : NInv { s with outOfFuel := true } :=
  h.congr rfl rfl rfl rfl rfl rfl rfl rfl rfl

theorem removeFromInst_ninv {s : State} (h : NInv s) (t i : Nat) : NInv (removeFromInst s t i) := by
  rw [removeFromInst_frame]; exact h.congr rfl rfl rfl rfl rfl rfl rfl rfl rfl

theorem stopStep_ninv {cw : State → Nat → State} (hcw : N1 cw) {s : State} (h : NInv s) (t : Nat) (th : Th) :
    NInv (stopStep cw s t th) :=
  stopStep_rel (Pre.imp NInv) (fun _ hn => hn.setTh t _) (fun _ hn => hn.timer _ (Timer.remove_sub _ _)) (hcw · t) s th h

theorem notifyDelete_ninv {s : State} (h : NInv s) (t : Nat) : NInv (notifyDelete s t) := by
  rw [notifyDelete_eq]
  split
  · exact h
  · split
    · exact removeFromInst_ninv (h.setTh t _) _ _
    · exact h.setTh t _

theorem finishDelete_ninv {s : State} (h : NInv s) (t : Nat) : NInv (finishDelete s t) := by
  unfold finishDelete
  split
  · exact h
  · split
    · exact h.setTh t _
    · exact h.filterTh t

theorem cancelEvents_ninv {s : State} (h : NInv s) (t : Nat) : NInv (cancelEvents s t) :=
  h.congr rfl rfl rfl rfl rfl rfl rfl rfl rfl
theorem postEvent_ninv {s : State} (h : NInv s) (t d : Nat) : NInv (postEvent s t d) :=
  h.congr rfl rfl rfl rfl rfl rfl rfl rfl rfl
theorem vmSuspend_ninv {s : State} (h : NInv s) (t : Nat) : NInv (vmSuspend s t) := by
  unfold vmSuspend; exact h.setTh _ _ (by intro th; split <;> rfl)
theorem vmResume_ninv {s : State} (h : NInv s) (t : Nat) : NInv (vmResume s t) := by
  unfold vmResume; exact h.setTh _ _ (by intro th; split <;> rfl)

theorem cwaZero_ninv {swf : State → Nat → Nat → Bool → State} {sn : State → Nat → State}
    (hswf : N3 swf) (hsn : N1 sn) {s : State} (h : NInv s) (w : Nat) : NInv (cwaZero swf sn s w) :=
  cwaZero_rel (Pre.imp NInv) (fun list hn => hn.cancelKey w 0 list) (hswf · w 0 false) hsn h

theorem cwaRest_ninv {swf : State → Nat → Nat → Bool → State} {sn : State → Nat → State}
    (hswf : N3 swf) (hsn : N1 sn) {s : State} (h : NInv s) (w : Nat) : NInv (cwaRest swf sn s w) :=
  cwaRest_rel (Pre.imp NInv) (fun hn => hn.cancelOwner w) (hswf · w 0 false) hsn h

theorem startTiming_ninv {stp : State → Nat → State} (hs : N1 stp) {s : State} (h : NInv s) (t : Nat)
    (ht : 100 ≤ t) : NInv (startTiming stp s t) := by
  unfold startTiming
  split
  · exact hs s t h
  · exact ((hs s t h).setTh t _).timerAdd t 0 ht

theorem unregEndOn_ninv {dt : State → Nat → State} (hd : N1 dt) {s : State} (h : NInv s) (src name : Nat) :
    NInv (unregEndOn dt s src name).1 :=
  unregEndOn_rel (Pre.imp NInv) (fun hn => hn.setEndOn _ (fun _ ho => Or.inl (Tbl.hasOwner_removeKey ho))) hd h

theorem unregNotify_ninv {swf : State → Nat → Nat → Bool → State} {sn : State → Nat → State}
    (hswf : N3 swf) (hsn : N1 sn) {s : State} (h : NInv s) (src name : Nat) :
    NInv (unregNotify swf sn s src name) :=
  unregNotify_rel (Pre.imp NInv) (fun list hn => hn.unregKey src name list) (hswf · · name false) (hsn · src) h

theorem uaRest_ninv {swf : State → Nat → Nat → Bool → State} {sn : State → Nat → State}
    (hswf : N3 swf) (hsn : N1 sn) {s : State} (h : NInv s) (src : Nat) : NInv (uaRest swf sn s src) :=
  uaRest_rel (Pre.imp NInv) (fun hn => hn.unregOwner src) (hswf · · · true) (hsn · src) h

/-- `RegisterSource`: the source is an object, or the name is one a thread may be waited on by; the waiter is a thread -/
theorem NInv.pushNotify {s : State} (h : NInv s) (o n c : Nat) (hc : 100 ≤ c) (ho : o < 100 ∨ NameOK n) :
    NInv { s with notify := Tbl.push s.notify (o, n) c } := by
  refine { h with wfN := h.wfN.push _ _, n1 := ?_, nMem := ?_ }
  · intro src n' hsrc hne
    rcases Tbl.getD_push_ne_nil hne with hne | hk
    · exact h.n1 src n' hsrc hne
    · rcases ho with ho | ho
      · have := (Prod.mk.inj hk).1
        omega
      · rw [(Prod.mk.inj hk).2]; exact ho
  · intro k x hx
    rcases Tbl.mem_getD_push hx with hx | ⟨_, hx⟩
    · exact h.nMem k x hx
    · rw [hx]; exact hc

/-- `RegisterTarget` -/
theorem NInv.pushWaitFor {s : State} (h : NInv s) (c n o : Nat) (hc : 100 ≤ c) :
    NInv { s with waitFor := Tbl.push s.waitFor (c, n) o } := by
  refine { h with wfW := h.wfW.push _ _, wOwn := ?_ }
  intro o' n' hne
  rcases Tbl.getD_push_ne_nil hne with hne | hk
  · exact h.wOwn o' n' hne
  · rw [(Prod.mk.inj hk).1]; exact hc

theorem regWait_ninv {stp : State → Nat → State} (hs : N1 stp) {s : State} (h : NInv s) (o n c : Nat)
    (hc : 100 ≤ c) (ho : o < 100 ∨ NameOK n) : NInv (regWait stp s o n c) := by
  unfold regWait
  simp only
  have h1 := h.pushNotify o n c hc ho
  split
  · exact (vmSuspend_ninv ((hs _ _ h1).setTh c _) c).pushWaitFor c n o hc
  · exact h1.pushWaitFor c n o hc

theorem waitOn_ninv {stp : State → Nat → State} (hs : N1 stp) {s : State} (h : NInv s) (p ms : Nat)
    (hp : 100 ≤ p) : NInv (waitOn stp s p ms) := by
  unfold waitOn
  apply vmSuspend_ninv
  exact ((hs s p h).setTh p _).timerAdd p ms hp

theorem waitOnGuarded_ninv {stp : State → Nat → State} (hs : N1 stp) {s : State} (h : NInv s) (p ms : Nat)
    (hp : 100 ≤ p) : NInv (waitOnGuarded stp s p ms) := by
  unfold waitOnGuarded
  split
  · exact hs s p h
  · exact waitOn_ninv hs h p ms hp

theorem endResult_ninv {s : State} (h : NInv s) (th : Th) (ev : EndV) : NInv (endResult s th ev) := by
  rw [endResult_frame]; exact h.congr rfl rfl rfl rfl rfl rfl rfl rfl rfl

theorem restoreCur_cur (s : State) (saved : Option Nat) :
    (restoreCur s saved).cur = saved ∨ (restoreCur s saved).cur = none := by
  unfold restoreCur
  cases saved with
  | none => left; rfl
  | some c =>
    simp only [Option.bind_some]
    split
    · left; rfl
    · right; rfl

theorem restoreCur_ninv {s : State} (h : NInv s) (c : Option Nat) (hc : ∀ x, c = some x → 100 ≤ x) :
    NInv (restoreCur s c) :=
  h.setCur _ (fun x hx => by
    have hx' : (restoreCur s c).cur = some x := hx
    rcases restoreCur_cur s c with e | e
    · exact hc x (e.symm.trans hx')
    · rw [e] at hx'; cases hx')

theorem execIfAlive_ninv {ev : State → Nat → State} (he : N1t ev) {s : State} (h : NInv s) (t : Nat)
    (ht : 100 ≤ t) : NInv (execIfAlive ev s t) := by
  unfold execIfAlive
  split
  · exact he s t ht h
  · exact h

theorem vmEpilogue_ninv {s : State} (h : NInv s) (t : Nat) : NInv (vmEpilogue s t) := by
  unfold vmEpilogue
  split
  · exact h
  · split
    · exact h.setTh t _
    · exact h.filterTh t
    · exact h

theorem vmPrologue_ninv {s : State} (h : NInv s) (t : Nat) : NInv (vmPrologue s t) := by
  unfold vmPrologue
  have h1 := h.setTh t (fun th => { th with vm := .running })
  exact h1.congr rfl rfl rfl rfl rfl rfl rfl rfl rfl

theorem fresh_none {s : State} (hn : NInv s) : thFind s.threads s.nextTid = none := by
  cases hf : thFind s.threads s.nextTid with
  | none => rfl
  | some th0 => have := (hn.range _ _ hf).2; omega

theorem spawn_ninv {s : State} (h : NInv s) (th : Th) (hp : th.parent = 0 ∨ 100 ≤ th.parent) :
    NInv { s with nextTid := s.nextTid + 1, threads := s.threads ++ [(s.nextTid, th)] } := by
  have hfresh := fresh_none h
  refine { h with nodup := ?_, range := ?_, tid100 := ?_, parent := ?_ }
  · simp only [List.map_append, List.map_cons, List.map_nil]
    rw [List.nodup_append]
    refine ⟨h.nodup, by simp, ?_⟩
    intro a ha b hb
    simp at hb; subst hb
    intro e; subst e
    exact (thFind_none_iff.1 hfresh) ha
  · intro u th' hu
    rcases thFind_append_some hu with h1 | ⟨_, h1, _⟩
    · have := h.range u th' h1
      simp only; omega
    · have := h.tid100
      simp only; omega
  · have := h.tid100; simp only; omega
  · intro u th' hu
    rcases thFind_append_some hu with h1 | ⟨_, _, h1⟩
    · exact h.parent u th' h1
    · rw [h1]; exact hp

theorem spawnSame_ninv {s : State} (h : NInv s) (t : Nat) (th : Th) (l : Nat) (ht : 100 ≤ t) :
    NInv (spawnSame s t th l) := by
  unfold spawnSame
  exact (spawn_ninv h _ (Or.inr ht)).congr rfl rfl rfl rfl rfl rfl rfl rfl rfl

theorem spawnNew_ninv {s : State} (h : NInv s) (t : Nat) (l : Nat) (ht : 100 ≤ t) :
    NInv (spawnNew s t l) := by
  unfold spawnNew
  exact (spawn_ninv h _ (Or.inr ht)).congr rfl rfl rfl rfl rfl rfl rfl rfl rfl

structure NAll (fuel : Nat) : Prop where
  dt : N1 (deleteThread fuel)
  sn : N1 (stoppedNotify fuel)
  stp : N1 (stop fuel)
  cwa : N1 (cancelWaitingAll fuel)
  swf : N3 (stoppedWaitFor fuel)
  ur : ∀ s src name, NInv s → NInv (unregister fuel s src name)
  ua : N1 (unregisterAll fuel)
  sei : N1t (scriptExecuteInternal fuel)
  er : ∀ s, NInv s → NInv (executeRunning fuel s)
  dr : ∀ s, NInv s → NInv (drain fuel s)
  ev : N1 (execVM fuel)
  pr : N1 (process fuel)
  ex : ∀ s t th ins, 100 ≤ t → (th.parent = 0 ∨ 100 ≤ th.parent) → Instr.ok ins → NInv s →
    NInv (exec fuel s t th ins)

theorem nAll_zero : NAll 0 where
  dt := fun s t h => by rw [deleteThread_zero]; exact h.fuel
  sn := fun s t h => by rw [stoppedNotify_zero]; exact h.fuel
  stp := fun s t h => by rw [stop_zero]; exact h.fuel
  cwa := fun s t h => by rw [cancelWaitingAll_zero]; exact h.fuel
  swf := fun s t n d h => by rw [stoppedWaitFor_zero]; exact h.fuel
  ur := fun s t n h => by rw [unregister_zero]; exact h.fuel
  ua := fun s t h => by rw [unregisterAll_zero]; exact h.fuel
  sei := fun s t _ h => by rw [scriptExecuteInternal_zero]; exact h.fuel
  er := fun s h => by rw [executeRunning_zero]; exact h.fuel
  dr := fun s h => by rw [drain_zero]; exact h.fuel
  ev := fun s t h => by rw [execVM_zero]; exact h.fuel
  pr := fun s t h => by rw [process_zero]; exact h.fuel
  ex := fun s t th ins _ _ _ h => by rw [exec_zero]; exact h.fuel

theorem NAll.listenerEnd {fuel : Nat} (ih : NAll fuel) : N1 (listenerEnd fuel) :=
  fun _ x h => ih.cwa _ x (ih.ua _ x (ih.ur _ x nameRemove (ih.ur _ x nameDelete h)))

theorem objAlive_lt {s : State} (h : NInv s) {o : Nat} (ho : s.objAlive o = true) : o < 100 := by
  unfold State.objAlive at ho
  simp only [Bool.or_eq_true, beq_iff_eq, List.contains_eq_mem, decide_eq_true_eq] at ho
  rcases ho with ho | ho
  · omega
  · exact h.objs o ho

theorem foldl_mem_inv {α : Type} (P : State → Prop) (f : State → α → State) (l : List α) (s : State)
    (hf : ∀ a ∈ l, ∀ s, P s → P (f s a)) (h : P s) : P (l.foldl f s) :=
  List.foldlRecOn l f h (fun s hs a ha => hf a ha s hs)

theorem objCur_elim {s : State} (o : Nat) (k : Nat → State) {C : State → Prop} (h0 : C s)
    (hk : ∀ c, s.cur = some c → s.objAlive o = true → C (k c)) :
    C (if !s.objAlive o then s else match s.cur with | none => s | some c => k c) := by
  split
  · exact h0
  · rename_i ho
    split
    · exact h0
    · rename_i c hc
      exact hk c hc (by simpa using ho)

theorem objCur_ninv {s : State} (h : NInv s) (o : Nat) (k : Nat → State)
    (hk : ∀ c, 100 ≤ c → o < 100 → NInv (k c)) :
    NInv (if !s.objAlive o then s else match s.cur with | none => s | some c => k c) :=
  objCur_elim o k h fun c hc ho => hk c (h.cur c hc) (objAlive_lt h ho)

theorem exec_ninv_succ {fuel : Nat} (ih : NAll fuel) (s : State) (t : Nat) (th : Th) (ins : Instr)
    (ht : 100 ≤ t) (hp : th.parent = 0 ∨ 100 ≤ th.parent) (hok : Instr.ok ins) (h : NInv s) :
    NInv (exec (fuel + 1) s t th ins) := by
  cases ins with
  | mark k => rw [exec_mark]; exact h.congr rfl rfl rfl rfl rfl rfl rfl rfl rfl
  | pparam i => rw [exec_pparam]; exact h.congr rfl rfl rfl rfl rfl rfl rfl rfl rfl
  | wait ms => rw [exec_wait]; exact waitOn_ninv ih.stp h _ _ ht
  | waittill o names =>
    rw [exec_waittill]
    exact objCur_ninv h o _ (fun c hc ho =>
      foldl_mem_inv NInv _ names s (fun n _ s hs => regWait_ninv ih.stp hs _ _ _ hc (Or.inl ho)) h)
  | waittillTimeout o n ms =>
    rw [exec_waittillTimeout]
    exact objCur_ninv h o _ (fun c hc ho => postEvent_ninv (regWait_ninv ih.stp h _ _ _ hc (Or.inl ho)) _ _)
  | notify o n =>
    rw [exec_notify]
    split
    · exact h
    · exact ih.ur _ _ _ h
  | endon o n =>
    rw [exec_endon]
    refine objCur_ninv h o _ (fun c _ ho => h.setEndOn _ (fun o' ho2 => ?_))
    rcases Tbl.hasOwner_pushUnique ho2 with h1 | h1
    · exact Or.inl h1
    · right; rw [h1]; exact ho
  | delete o =>
    rw [exec_delete]
    split
    · exact h
    · have h1 := ih.listenerEnd s o h
      refine { h1 with objs := ?_ }
      intro o' ho'
      exact h1.objs o' (List.mem_of_mem_erase ho')
  | thread l =>
    rw [exec_thread]
    split
    · exact h
    · exact ih.sei _ _ h.tid100 (spawnSame_ninv h t th l ht)
  | waitthread l =>
    rw [exec_waitthread]
    split
    · exact h
    · split
      · exact ih.sei _ _ h.tid100 (spawnNew_ninv h t l ht)
      · rename_i c hc
        apply ih.sei _ _ h.tid100
        have h1 := spawnNew_ninv h t l ht
        exact regWait_ninv ih.stp h1 _ _ _ (h.cur c hc) (Or.inr nameOK_zero)
  | pause => rw [exec_pause]; exact vmSuspend_ninv (ih.stp _ _ h) _
  | waitParent ms =>
    rw [exec_waitParent]
    split
    · exact h
    · rename_i hg
      have hp0 : th.parent ≠ 0 := by
        intro e; apply hg; simp [e]
      have hp' : 100 ≤ th.parent := by
        rcases hp with hp | hp
        · exact absurd hp hp0
        · exact hp
      exact waitOnGuarded_ninv ih.stp h _ _ hp'
  | waittillParent names =>
    rw [exec_waittillParent]
    split
    · exact h
    · split
      · exact h
      · rename_i c hc
        have hc' : 100 ≤ c := h.cur c hc
        exact foldl_mem_inv NInv _ names s
          (fun n hn s hs => regWait_ninv ih.stp hs _ _ _ hc' (Or.inr (hok n hn))) h
  | notifyParent n =>
    rw [exec_notifyParent]
    split
    · exact h
    · exact ih.ur _ _ _ h
  | end_ ev =>
    rw [exec_end]
    exact ih.dt _ _ ((endResult_ninv h th ev).setTh t _)
  | spawn o =>
    rw [exec_spawn]
    split
    · exact h
    · refine { h with objs := ?_ }
      intro o' ho'
      simp only [List.mem_append, List.mem_singleton] at ho'
      rcases ho' with ho' | ho'
      · exact h.objs o' ho'
      · rw [ho']; exact hok

theorem nAll_succ {fuel : Nat} (ih : NAll fuel) : NAll (fuel + 1) where
  dt := fun s t h => by
    rw [deleteThread_succ]
    split
    · exact h
    · split
      · exact h
      · apply finishDelete_ninv
        apply ih.listenerEnd
        apply cancelEvents_ninv
        apply notifyDelete_ninv
        apply stopStep_ninv ih.cwa
        exact h.setTh t _
  sn := stoppedNotify_rel (Pre.imp NInv) ih.dt
  stp := fun s t h => by
    rw [stop_succ]
    split
    · exact h
    · exact stopStep_ninv ih.cwa h _ _
  cwa := fun s w h => by
    rw [cancelWaitingAll_succ]
    exact cwaRest_ninv ih.swf ih.sn (cwaZero_ninv ih.swf ih.sn h w) w
  swf := fun s t name d h => by
    refine stoppedWaitFor_split (P := NInv) fuel s t name d (fun _ => h) (fun _ _ _ _ _ => ih.dt _ _ h) ?_ ?_ ?_ ?_
    · intro _ hthr _ _ _ _ _ _
      exact ih.sei _ _ ((State.isThread_iff t).1 hthr) (cancelEvents_ninv h t)
    · intro _ _ _ _ _ _ _ _
      exact vmResume_ninv (cancelEvents_ninv h t) t
    · intro _ hthr _ _ _ _ _
      exact startTiming_ninv ih.stp (cancelEvents_ninv h t) t ((State.isThread_iff t).1 hthr)
    · intro _ _ _ _ _ _
      exact cancelEvents_ninv h t
  ur := fun s src name h => by
    rw [unregister_succ]
    split
    · exact unregEndOn_ninv ih.dt h _ _
    · exact unregNotify_ninv ih.swf ih.sn (unregEndOn_ninv ih.dt h _ _) _ _
  ua := fun s src h => by
    rw [unregisterAll_succ]
    apply uaRest_ninv ih.swf ih.sn
    exact (ih.ur s src 0 h).setEndOn _ (fun o ho => Or.inl (Tbl.hasOwner_removeOwner ho))
  sei := fun s t ht h => by
    rw [scriptExecuteInternal_succ]
    apply ih.er
    apply restoreCur_ninv _ _ h.cur
    apply execIfAlive_ninv (fun s a _ hs => ih.ev s a hs) _ _ ht
    apply ih.stp
    exact h.setCur _ (fun x hx => by simp at hx; omega)
  er := executeRunning_rel (Pre.imp NInv) ih.dr
  dr := fun s h => by
    rw [drain_succ]
    split
    · rename_i tm hn
      have : tm = s.timer.next.2 := by rw [hn]
      exact (h.timer tm (by rw [this]; exact Timer.next_sub _)).setCur none (by simp)
    · rename_i t d tm hn
      have htm : tm = s.timer.next.2 := by rw [hn]
      have ht : 100 ≤ t := h.tim _ (Timer.next_some_mem _ hn)
      apply ih.dr; apply ih.ev
      have h1 : NInv ({ s with timer := tm, cur := some t } : State) :=
        (h.timer tm (by rw [htm]; exact Timer.next_sub _)).setCur (some t) (fun x hx => by simp at hx; omega)
      exact h1.setTh t _
  ev := fun s t h => by
    rw [execVM_succ]
    apply vmEpilogue_ninv
    have h1 := ih.pr _ t (vmPrologue_ninv h t)
    exact h1.congr rfl rfl rfl rfl rfl rfl rfl rfl rfl
  pr := fun s t h => by
    rw [process_succ]
    split
    · exact h
    · rename_i th hth
      split
      · exact h
      · apply ih.pr
        exact ih.ex _ _ _ _ (h.range t th hth).1 (h.parent t th hth) (h.prog.fetch _ _) (h.setTh t _)
  ex := exec_ninv_succ ih

theorem nAll : ∀ fuel, NAll fuel
  | 0 => nAll_zero
  | fuel + 1 => nAll_succ (nAll fuel)

/-- the state in which `~ScriptThread` calls `~Listener` -/
theorem deleteThread_head_ninv (fuel : Nat) {s : State} (h : NInv s) (t : Nat) (th : Th) :
    NInv (cancelEvents (notifyDelete (stopStep (cancelWaitingAll fuel)
      (s.setTh t fun th => { th with hasVM := false }) t th) t) t) :=
  cancelEvents_ninv (notifyDelete_ninv (stopStep_ninv (nAll fuel).cwa (h.setTh t _) t th) t) t

end Morfuse.Sched
