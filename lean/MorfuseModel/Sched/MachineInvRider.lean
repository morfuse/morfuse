import MorfuseModel.Sched.MachineInvDefs
/-!
# A further invariant carried along with `Inv` through the executing half of the machine

`P A s` is a family of state predicates indexed by an *active set* `A`: the threads whose `ScriptVM::Execute` or
destructor is on the native stack, and those just created (active until their first `Execute` returns).  If the
destruction cascades keep it (`quietAll`, under `NInv` alone) and so do the primitive steps of the executing half
(`ExecKept P`), the contracts `ISwf`, `IUr` and from `ISei` on conclude, beside `Inv` and `G`, that `P` before gives
`P` after.
-/
namespace Morfuse.Sched

/-- what `exec` knows about the executing thread -/
structure Running (s : State) (t : Nat) (th0 : Th) : Prop where
  find : thFind s.threads t = some th0
  vm : th0.vm = .running
  hasVM : th0.hasVM = true

/-- satisfied by the updates of `ts`, `pc` and `call`, the ones the executing half and the host make directly -/
def PlainUpd (f : Th → Th) : Prop :=
  ∀ x, (f x).inst = x.inst ∧ (f x).attached = x.attached ∧ (f x).dead = x.dead ∧ (f x).hasVM = x.hasVM ∧ (f x).vm = x.vm

structure ExecKept (P : List Nat → State → Prop) : Prop where
  mono : ∀ {A B : List Nat} {s : State}, P A s → (∀ x ∈ A, x ∈ B) → P B s
  congr : ∀ {A : List Nat} {s s' : State}, P A s → s'.threads = s.threads → s'.insts = s.insts →
    s'.nextInst = s.nextInst → s'.events = s.events → P A s'
  quietAll : ∀ fuel, QuietAll (fun A s s' => P A s → P A s') fuel
  setTh : ∀ {A : List Nat} {s : State} (t : Nat) (f : Th → Th), PlainUpd f → P A s → P A (s.setTh t f)
  cancelEvents : ∀ {A : List Nat} {s : State} (t : Nat), P A s → P A (cancelEvents s t)
  vmSuspend : ∀ {A : List Nat} {s : State} (p : Nat), P A s → P A (vmSuspend s p)
  /-- `CurrentThread()->PostEvent`: the thread has a record whose VM is not destroyed -/
  postEvent : ∀ {A : List Nat} {s : State} (c due : Nat),
    (∃ th, thFind s.threads c = some th ∧ th.vm ≠ .destroyed) → P A s → P A (postEvent s c due)
  /-- a created thread is active; `thread` puts it into the instance of the running thread `t`, which a rider that
      speaks of instances has to find there -/
  spawnSame : ∀ {A : List Nat} {s : State} {t : Nat} {th0 th : Th} (l : Nat), NInv s → Running s t th0 →
    th.inst = th0.inst → P (t :: A) s → P (s.nextTid :: t :: A) (spawnSame s t th l)
  spawnNew : ∀ {A : List Nat} {s : State} (t l : Nat), NInv s → P A s → P (s.nextTid :: A) (spawnNew s t l)
  prologue : ∀ {A : List Nat} {s : State} (t : Nat), P (t :: A) s → P (t :: A) (vmPrologue s t)
  /-- when `Process` has returned the VM is not running, and the thread has it unless it is destroyed -/
  epilogue : ∀ {A : List Nat} {s : State} (t : Nat),
    (∀ th, thFind s.threads t = some th → th.vm ≠ .running ∧ (th.vm ≠ .destroyed → th.hasVM = true)) →
    P (t :: A) s → P A (vmEpilogue s t)
  /-- a complete idle thread need not be active -/
  idleActive : ∀ {A : List Nat} {s : State} {t : Nat} {th : Th}, thFind s.threads t = some th → th.hasVM = true →
    th.vm = .idling → P (t :: A) s → P A s

theorem ExecKept.trivial : ExecKept (fun _ _ => True) where
  mono := fun _ _ => True.intro
  congr := fun _ _ _ _ _ => True.intro
  quietAll := fun _ =>
    ⟨fun _ _ _ _ => id, fun _ _ _ _ => id, fun _ _ _ _ => id, fun _ _ _ _ => id, fun _ _ _ _ _ _ _ => id,
      fun _ _ _ _ _ _ => id, fun _ _ _ _ => id⟩
  setTh := fun _ _ _ _ => True.intro
  cancelEvents := fun _ _ => True.intro
  vmSuspend := fun _ _ => True.intro
  postEvent := fun _ _ _ _ => True.intro
  spawnSame := fun _ _ _ _ _ => True.intro
  spawnNew := fun _ _ _ _ => True.intro
  prologue := fun _ _ => True.intro
  epilogue := fun _ _ _ => True.intro
  idleActive := fun _ _ _ _ => True.intro

namespace ExecKept
variable {P : List Nat → State → Prop} (L : ExecKept P)
include L

theorem setTs {A : List Nat} {s : State} (t : Nat) (v : TS) (p : P A s) :
    P A (s.setTh t fun th => { th with ts := v }) := L.setTh t _ (fun _ => ⟨rfl, rfl, rfl, rfl, rfl⟩) p

theorem quiet : QuietRel (fun A s s' => P A s → P A s') :=
  ⟨fun _ _ => id, fun h1 h2 p => h2 (h1 p), fun _ _ _ _ _ _ _ _ _ _ p => L.congr p rfl rfl rfl rfl,
    fun _ _ t p => L.setTs t _ p, fun _ _ _ t h _ p => L.setTs t _ (h p), fun _ _ t p => L.cancelEvents t p⟩

theorem regWait (fuel : Nat) (A : List Nat) {s : State} (h : NInv s) (o n c : Nat) (hc : 100 ≤ c)
    (ho : o < 100 ∨ NameOK n) (p : P A s) : P A (regWait (stop fuel) s o n c) := by
  unfold Sched.regWait
  simp only
  have h1 := h.pushNotify o n c hc ho
  have p1 : P A ({ s with notify := Tbl.push s.notify (o, n) c } : State) := L.congr p rfl rfl rfl rfl
  split
  · exact L.congr (L.vmSuspend c (L.setTs c .waiting ((L.quietAll fuel).stp A _ c h1 p1))) rfl rfl rfl rfl
  · exact L.congr p1 rfl rfl rfl rfl

theorem waitOn (fuel : Nat) (A : List Nat) {s : State} (h : NInv s) (p ms : Nat) (hp : P A s) :
    P A (waitOn (stop fuel) s p ms) := by
  unfold Sched.waitOn
  exact L.vmSuspend p (L.congr (s' := addTiming ((stop fuel s p).setTh p fun th => { th with ts := .timing }) p ms)
    (L.setTs p .timing ((L.quietAll fuel).stp A s p h hp)) rfl rfl rfl rfl)

theorem waitOnGuarded (fuel : Nat) (A : List Nat) {s : State} (h : NInv s) (p ms : Nat) (hp : P A s) :
    P A (waitOnGuarded (stop fuel) s p ms) := by
  unfold Sched.waitOnGuarded
  split
  · exact (L.quietAll fuel).stp A s p h hp
  · exact L.waitOn fuel A h p ms hp

theorem endResult (A : List Nat) (s : State) (th : Th) (ev : EndV) (p : P A s) : P A (endResult s th ev) := by
  rw [endResult_frame]
  exact L.congr p rfl rfl rfl rfl

theorem mapTh {A : List Nat} {s : State} (p : P A s) (g : Th → Th) (hg : ∀ x, g (g x) = g x) (hf : PlainUpd g) :
    P A { s with threads := s.threads.map (fun e => (e.1, g e.2)) } :=
  mapTh_rel (Pre.imp (P A)) g hg (fun _ t => L.setTh t g hf) s p

end ExecKept

end Morfuse.Sched
