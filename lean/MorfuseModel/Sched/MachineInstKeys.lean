import MorfuseModel.Sched.MachineInst
import MorfuseModel.Sched.MachineQuietDelete
/-!
# The destruction cascades never list a script instance

`IK s s'`: every instance listed in `s'` was listed in `s` (the cascades only call
`ScriptClass::RemoveThread`; they create no thread and no instance).  An instance of `quietAll`.
Used for `Reset` / recompile: after `~ScriptClass` of every listed instance the list is empty.
-/
namespace Morfuse.Sched

/-- instance ids listed after the step were listed before (`X` is a dummy, kept for the shape of `QuietRel`) -/
def IK (_X : List Nat) (s s' : State) : Prop := ∀ e' ∈ s'.insts, ∃ e ∈ s.insts, e.1 = e'.1

theorem IK.refl (X : List Nat) (s : State) : IK X s s := fun e he => ⟨e, he, rfl⟩
theorem IK.trans {X : List Nat} {a b c : State} (h1 : IK X a b) (h2 : IK X b c) : IK X a c := fun e he => by
  obtain ⟨e1, h3, h4⟩ := h2 e he
  obtain ⟨e0, h5, h6⟩ := h1 e1 h3
  exact ⟨e0, h5, h6.trans h4⟩
theorem IK.of_eq {X : List Nat} {s s' : State} (e2 : s'.insts = s.insts) : IK X s s' :=
  fun e he => ⟨e, by rw [← e2]; exact he, rfl⟩
theorem IK.setTh (X : List Nat) (s : State) (t : Nat) (f : Th → Th) : IK X s (s.setTh t f) := IK.of_eq rfl

theorem notifyDelete_ik (X : List Nat) (s : State) (t : Nat) : IK X s (notifyDelete s t) := by
  rw [notifyDelete_eq]
  split
  · exact IK.refl X s
  · split
    · intro e' he'
      rw [removeFromInst_insts] at he'
      exact riInsts_keys _ _ _ e' he'
    · exact IK.setTh X s t _

theorem ikQuiet : QuietRel IK :=
  ⟨IK.refl, IK.trans, fun _ _ _ _ _ _ _ _ _ _ => IK.of_eq rfl, fun X s t => IK.setTh X s t _,
    fun X _ _ t h _ => IK.trans h (IK.setTh X _ t _), fun _ _ _ => IK.of_eq rfl⟩

theorem iqAll : ∀ fuel, QuietAll IK fuel :=
  quietAll ikQuiet fun _ ih => ikQuiet.deleteThread_succ (fun X s t => IK.setTh X s t _)
    (fun X s t _ => (notifyDelete_ik X s t).trans (IK.of_eq rfl))
    (fun X s t _ => by
      obtain ⟨ths, e⟩ := finishDelete_frame s t
      rw [e]; exact IK.of_eq rfl) ih

end Morfuse.Sched
