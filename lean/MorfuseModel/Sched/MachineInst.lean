import MorfuseModel.Sched.MachineInvQuiet
/-!
# The instance-list invariant `J`: thread records ↔ chains of listed script instances

`J X s` (`X` = ids of script instances being destroyed by `~ScriptClass`, already unlinked from the
director's list while their threads are still being killed):

* `a` — every record that still has its VM belongs to an exempt instance or is in the chain of the
        *listed* instance `th.inst`;
* `b` — every listed instance has a non-empty, duplicate-free chain whose members are live records
        (not dead, VM not destroyed) of that very instance, attached;
* `c` — instance ids of records are below `nextInst`;
* `d` — exempt instances are old (`< nextInst`) and not listed;
* `e` — every queued `_cancelwaiting` event belongs to a thread record whose VM is not destroyed.

This file: the definition and its behaviour under the primitive steps (`removeFromInst`,
`NotifyDelete`, the end of `~ScriptThread`, `ScriptVM::Execute`'s epilogue, thread creation).
-/
namespace Morfuse.Sched

/-- the chain of instance `i` in the director's list, `[]` when it is not listed -/
def instChain (L : List (Nat × List Nat)) (i : Nat) : List Nat := ((L.find? (·.1 == i)).map (·.2)).getD []

structure J (X : List Nat) (s : State) : Prop where
  a : ∀ t th, thFind s.threads t = some th → th.hasVM = true → th.inst ∈ X ∨ t ∈ instChain s.insts th.inst
  b : ∀ e ∈ s.insts, e.2 ≠ [] ∧ e.2.Nodup ∧ ∀ t ∈ e.2, ∃ th, thFind s.threads t = some th ∧ th.dead = false ∧
        th.vm ≠ .destroyed ∧ th.inst = e.1 ∧ th.attached = true
  c : ∀ t th, thFind s.threads t = some th → th.inst < s.nextInst
  d : ∀ i ∈ X, i < s.nextInst ∧ ∀ e ∈ s.insts, e.1 ≠ i
  e : ∀ ev ∈ s.events, ∃ th, thFind s.threads ev.1 = some th ∧ th.vm ≠ .destroyed

theorem instChain_cons (e : Nat × List Nat) (L : List (Nat × List Nat)) (i : Nat) :
    instChain (e :: L) i = if e.1 = i then e.2 else instChain L i := by
  unfold instChain; rw [Assoc.find_cons]; split <;> rfl

theorem instChain_mem {L : List (Nat × List Nat)} {i u : Nat} (h : u ∈ instChain L i) :
    ∃ e ∈ L, e.1 = i ∧ instChain L i = e.2 := by
  induction L with
  | nil => simp [instChain] at h
  | cons e L ih =>
    rw [instChain_cons] at h ⊢
    split at h
    · rename_i he; exact ⟨e, List.mem_cons_self, he, by simp [he]⟩
    · rename_i he
      obtain ⟨e', hm, h1, h2⟩ := ih h
      exact ⟨e', List.mem_cons_of_mem _ hm, h1, by simp [he, h2]⟩

theorem instChain_filter_ne (L : List (Nat × List Nat)) (i j : Nat) (h : j ≠ i) :
    instChain (L.filter (fun e => !(e.1 == i))) j = instChain L j := by
  unfold instChain; rw [Assoc.find_erase, if_neg h]

theorem instChain_map_ne (L : List (Nat × List Nat)) (i j : Nat) (g : Nat × List Nat → List Nat) (h : j ≠ i) :
    instChain (L.map (fun e => if e.1 == i then (e.1, g e) else e)) j = instChain L j := by
  unfold instChain; rw [Assoc.find_map_at, if_neg h]

theorem instChain_map_self (L : List (Nat × List Nat)) (i : Nat) (f : List Nat → List Nat) :
    instChain (L.map (fun e => if e.1 == i then (e.1, f e.2) else e)) i =
      if L.any (·.1 == i) then f (instChain L i) else [] := by
  unfold instChain
  rw [Assoc.find_map_at L i (fun e => f e.2), if_pos rfl, ← List.isSome_find?]
  cases L.find? (·.1 == i) <;> rfl

theorem instChain_listed {L : List (Nat × List Nat)} {i u : Nat} (h : u ∈ instChain L i) :
    L.any (·.1 == i) = true := by
  unfold instChain at h
  rw [← List.isSome_find?]
  cases hf : L.find? (·.1 == i) with
  | none => rw [hf] at h; cases h
  | some e => rfl

/-- `ScriptClass::RemoveThread` in normal form: the chain loses `t` (`erase`), the instance goes when
    nothing is left -/
def riInsts (L : List (Nat × List Nat)) (t i : Nat) : List (Nat × List Nat) :=
  match L.find? (·.1 == i) with
  | none => L
  | some e =>
    if e.2 = [] then L
    else if e.2.erase t = [] then L.filter (fun e => !(e.1 == i))
    else L.map (fun e' => if e'.1 == i then (e'.1, e.2.erase t) else e')

theorem map_key_congr (L : List (Nat × List Nat)) (i : Nat) (c : List Nat) :
    L.map (fun e => if e.1 == i then (i, c) else e) = L.map (fun e' => if e'.1 == i then (e'.1, c) else e') := by
  apply List.map_congr_left
  intro e _
  by_cases he : e.1 = i
  · simp [he]
  · have : (e.1 == i) = false := by simpa using he
    simp [this]

theorem removeFromInst_insts (s : State) (t i : Nat) : (removeFromInst s t i).insts = riInsts s.insts t i := by
  unfold removeFromInst riInsts
  cases hf : s.insts.find? (·.1 == i) with
  | none => rfl
  | some e =>
    obtain ⟨k, chain⟩ := e
    cases chain with
    | nil => simp
    | cons h rest =>
      simp only
      by_cases hh : h = t
      · subst hh
        simp only [beq_self_eq_true, if_true, List.erase_cons_head]
        cases rest with
        | nil => simp
        | cons r rs =>
          simp only [List.isEmpty_cons, Bool.false_eq_true, if_false, reduceCtorEq]
          exact map_key_congr _ _ _
      · have hb : (h == t) = false := by simpa using hh
        have he : (h :: rest).erase t = h :: rest.erase t := by simp [hb]
        simp only [hb, Bool.false_eq_true, if_false, he, reduceCtorEq]
        exact map_key_congr _ _ _

theorem J.eventsSub {X : List Nat} {s s' : State} (h : J X s) (e1 : s'.threads = s.threads) (e2 : s'.insts = s.insts)
    (e3 : s'.nextInst = s.nextInst) (e4 : ∀ ev ∈ s'.events, ev ∈ s.events) : J X s' :=
  ⟨by rw [e1, e2]; exact h.a, by rw [e1, e2]; exact h.b, by rw [e1, e3]; exact h.c, by rw [e2, e3]; exact h.d,
    fun ev he => by rw [e1]; exact h.e ev (e4 ev he)⟩

theorem J.congr {X : List Nat} {s s' : State} (h : J X s) (e1 : s'.threads = s.threads) (e2 : s'.insts = s.insts)
    (e3 : s'.nextInst = s.nextInst) (e4 : s'.events = s.events := by rfl) : J X s' :=
  h.eventsSub e1 e2 e3 fun _ he => e4 ▸ he

def NoEv (s : State) (t : Nat) : Prop := ∀ ev ∈ s.events, ev.1 ≠ t

theorem J.noEv_of_destroyed {X : List Nat} {s : State} (h : J X s) {t : Nat}
    (hd : ∀ th, thFind s.threads t = some th → th.vm = .destroyed) : NoEv s t := by
  intro ev he hk
  obtain ⟨th, h1, h2⟩ := h.e ev he
  rw [hk] at h1
  exact h2 (hd th h1)

/-- Every record is rewritten or dropped on its own (`φ u th` = what becomes of the record `th` of `u`), the instance
    list stays.  `hall` is for the clauses `a`, `c` of `J`; the record of a chained thread or of a thread with a queued
    event has to stay, as live as it was (`b`, `e`). -/
theorem J.updTh {X : List Nat} {s : State} (h : J X s) {ths' : List (Nat × Th)} (φ : Nat → Th → Option Th)
    (hφ : ∀ u, thFind ths' u = (thFind s.threads u).bind (φ u))
    (hall : ∀ u th th', φ u th = some th' → th'.inst = th.inst ∧ (th'.hasVM = true → th.hasVM = true))
    (hchain : ∀ e ∈ s.insts, ∀ u ∈ e.2, ∀ th, thFind s.threads u = some th → ∃ th', φ u th = some th' ∧
      th'.dead = th.dead ∧ (th'.vm = .destroyed → th.vm = .destroyed) ∧ th'.attached = th.attached)
    (hev : ∀ ev ∈ s.events, ∀ th, thFind s.threads ev.1 = some th → ∃ th', φ ev.1 th = some th' ∧
      (th'.vm = .destroyed → th.vm = .destroyed)) :
    J X { s with threads := ths' } := by
  have back : ∀ u th', thFind ths' u = some th' → ∃ th, thFind s.threads u = some th ∧ φ u th = some th' :=
    fun u th' hu => Option.bind_eq_some_iff.1 (hφ u ▸ hu)
  refine ⟨fun u th' hu hv => ?_, fun e he => ?_, fun u th' hu => ?_, h.d, fun ev he => ?_⟩
  · obtain ⟨th, h1, h2⟩ := back u th' hu
    rw [(hall u th th' h2).1]; exact h.a u th h1 ((hall u th th' h2).2 hv)
  · obtain ⟨b1, b2, b3⟩ := h.b e he
    refine ⟨b1, b2, fun u hu => ?_⟩
    obtain ⟨th, h1, h2, h3, h4, h5⟩ := b3 u hu
    obtain ⟨th', k1, k2, k3, k4⟩ := hchain e he u hu th h1
    exact ⟨th', by simp only [hφ, h1, Option.bind_some, k1], k2 ▸ h2, fun e' => h3 (k3 e'),
      (hall u th th' k1).1 ▸ h4, k4 ▸ h5⟩
  · obtain ⟨th, h1, h2⟩ := back u th' hu
    rw [(hall u th th' h2).1]; exact h.c u th h1
  · obtain ⟨th, h1, h2⟩ := h.e ev he
    obtain ⟨th', k1, k2⟩ := hev ev he th h1
    exact ⟨th', by simp only [hφ, h1, Option.bind_some, k1], fun e' => h2 (k2 e')⟩

theorem J.setTh {X : List Nat} {s : State} (h : J X s) (t : Nat) (f : Th → Th)
    (hinst : ∀ x, (f x).inst = x.inst := by intros; rfl)
    (hatt : ∀ x, (f x).attached = x.attached := by intros; rfl)
    (hdead : ∀ x, (f x).dead = x.dead := by intros; rfl)
    (hhv : ∀ x, (f x).hasVM = true → x.hasVM = true := by intro x h; exact h)
    (hvm : ∀ x, (f x).vm = .destroyed → x.vm = .destroyed := by intro x h; exact h) :
    J X (s.setTh t f) :=
  h.updTh _ (thFind_setTh_bind s t f)
    (fun u th th' e => by cases e; split; exact ⟨hinst th, hhv th⟩; exact ⟨rfl, id⟩)
    (fun _ _ u _ th _ => ⟨_, rfl, by split; exact ⟨hdead th, hvm th, hatt th⟩; exact ⟨rfl, id, rfl⟩⟩)
    (fun ev _ th _ => ⟨_, rfl, by split; exact hvm th; exact id⟩)

def Unchained (s : State) (t : Nat) : Prop := ∀ e ∈ s.insts, t ∉ e.2

theorem Unchained.ne {s : State} {t u : Nat} (hu : Unchained s t) {e : Nat × List Nat} (he : e ∈ s.insts)
    (hm : u ∈ e.2) : u ≠ t := fun e' => hu e he (e' ▸ hm)

theorem J.unchained_of_destroyed {X : List Nat} {s : State} (h : J X s) {t : Nat}
    (hd : ∀ th, thFind s.threads t = some th → th.vm = .destroyed) : Unchained s t := by
  intro e he hm
  obtain ⟨th, h1, _, h3, _, _⟩ := (h.b e he).2.2 t hm
  exact h3 (hd th h1)

theorem J.setTh_unchained {X : List Nat} {s : State} (h : J X s) (t : Nat) (f : Th → Th) (hu : Unchained s t)
    (hinst : ∀ x, (f x).inst = x.inst) (hhv : ∀ x, (f x).hasVM = true → x.hasVM = true)
    (hev : NoEv s t ∨ ∀ x, (f x).vm = .destroyed → x.vm = .destroyed) :
    J X (s.setTh t f) :=
  h.updTh _ (thFind_setTh_bind s t f)
    (fun u th th' e => by cases e; split; exact ⟨hinst th, hhv th⟩; exact ⟨rfl, id⟩)
    (fun e he u hm th _ => ⟨_, rfl, by rw [if_neg (hu.ne he hm)]; exact ⟨rfl, id, rfl⟩⟩)
    (fun ev he th _ => ⟨_, rfl, by
      split
      · rename_i hut; exact hev.elim (fun hn => absurd hut (hn ev he)) (fun hvm => hvm th)
      · exact id⟩)

theorem J.filterTh {X : List Nat} {s : State} (h : J X s) (t : Nat) (hu : Unchained s t) (hev : NoEv s t) :
    J X { s with threads := s.threads.filter (fun e => !(e.1 == t)) } :=
  h.updTh _ (thFind_filter_bind s.threads t)
    (fun u th th' e => by split at e; cases e; cases e; exact ⟨rfl, id⟩)
    (fun e he u hm th _ => ⟨th, if_neg (hu.ne he hm), rfl, id, rfl⟩)
    (fun ev he th _ => ⟨th, if_neg (hev ev he), id⟩)

theorem riInsts_keys (L : List (Nat × List Nat)) (t i : Nat) (e' : Nat × List Nat) (h : e' ∈ riInsts L t i) :
    ∃ e ∈ L, e.1 = e'.1 := by
  unfold riInsts at h
  split at h
  · exact ⟨e', h, rfl⟩
  · split at h
    · exact ⟨e', h, rfl⟩
    · split at h
      · exact ⟨e', (List.mem_filter.1 h).1, rfl⟩
      · obtain ⟨e, hm, rfl⟩ := List.mem_map.1 h
        refine ⟨e, hm, ?_⟩
        split <;> rfl

theorem instChain_riInsts_ne (L : List (Nat × List Nat)) (t i j : Nat) (h : j ≠ i) :
    instChain (riInsts L t i) j = instChain L j := by
  unfold riInsts
  split
  · rfl
  · split
    · rfl
    · split
      · exact instChain_filter_ne L i j h
      · exact instChain_map_ne L i j _ h

theorem mem_riInsts {L : List (Nat × List Nat)} {t i : Nat} {e' : Nat × List Nat} (hne : ∀ e ∈ L, e.2 ≠ [])
    (h : e' ∈ riInsts L t i) :
    (e' ∈ L ∧ e'.1 ≠ i) ∨ ∃ e ∈ L, e.1 = i ∧ e'.1 = i ∧ e'.2 = e.2.erase t ∧ e'.2 ≠ [] := by
  unfold riInsts at h
  cases hfd : L.find? (·.1 == i) with
  | none =>
    rw [hfd] at h
    exact Or.inl ⟨h, by simpa using List.find?_eq_none.1 hfd e' h⟩
  | some e0 =>
    rw [hfd] at h
    have he0 : e0 ∈ L := List.mem_of_find?_eq_some hfd
    simp only [if_neg (hne e0 he0)] at h
    split at h
    · exact Or.inl ⟨(List.mem_filter.1 h).1, by simpa using (List.mem_filter.1 h).2⟩
    · rename_i hl
      obtain ⟨e, hm, rfl⟩ := List.mem_map.1 h
      by_cases hk : e.1 = i
      · have hb : (e.1 == i) = true := by simpa using hk
        simp only [hb, if_true]
        exact Or.inr ⟨e0, he0, by simpa using List.find?_some hfd, hk, rfl, hl⟩
      · have hb : (e.1 == i) = false := by simpa using hk
        simp only [hb, Bool.false_eq_true, if_false]
        exact Or.inl ⟨hm, hk⟩

theorem instChain_filter_self (L : List (Nat × List Nat)) (i : Nat) :
    instChain (L.filter (fun e => !(e.1 == i))) i = [] := by
  unfold instChain; rw [Assoc.find_erase, if_pos rfl]; rfl

theorem instChain_riInsts_self (L : List (Nat × List Nat)) (t i : Nat) :
    instChain (riInsts L t i) i = (instChain L i).erase t := by
  unfold riInsts
  cases hf : L.find? (·.1 == i) with
  | none => simp [instChain, hf]
  | some e =>
    have hc : instChain L i = e.2 := by simp [instChain, hf]
    rw [hc]
    simp only
    split
    · rename_i h0; rw [hc, h0]; rfl
    · split
      · rename_i h1; rw [h1]; exact instChain_filter_self L i
      · rw [instChain_map_self L i fun _ => e.2.erase t, ← List.isSome_find?, hf]; rfl

/-- a thread without VM leaves the chain of its instance: nothing refers to the chain entry -/
theorem J.unchain {X : List Nat} {s : State} (h : J X s) {t : Nat} {th : Th} (hf : thFind s.threads t = some th)
    (hv : th.hasVM = false) :
    J X { s with insts := riInsts s.insts t th.inst } ∧ Unchained { s with insts := riInsts s.insts t th.inst } t := by
  have hother : ∀ e ∈ s.insts, e.1 ≠ th.inst → t ∉ e.2 := by
    intro e he hk hm
    obtain ⟨th0, h0, _, _, h4, _⟩ := (h.b e he).2.2 t hm
    cases hf.symm.trans h0
    exact hk h4.symm
  refine ⟨⟨fun u th' hu hvm => ?_, fun e' he' => ?_, h.c, fun i hi => ⟨(h.d i hi).1, fun e' he' => ?_⟩, h.e⟩,
    fun e' he' hm => ?_⟩
  · have hut : u ≠ t := fun e => by subst e; cases hf.symm.trans hu; rw [hv] at hvm; cases hvm
    refine (h.a u th' hu hvm).imp id fun m => ?_
    show u ∈ instChain (riInsts s.insts t th.inst) th'.inst
    by_cases hi : th'.inst = th.inst
    · rw [hi, instChain_riInsts_self]
      exact (List.mem_erase_of_ne hut).2 (hi ▸ m)
    · rw [instChain_riInsts_ne _ _ _ _ hi]; exact m
  · rcases mem_riInsts (fun e he => (h.b e he).1) he' with ⟨hm, _⟩ | ⟨e0, he0, hk0, hk, h2, hne'⟩
    · exact h.b e' hm
    · obtain ⟨_, c2, c3⟩ := h.b e0 he0
      refine ⟨hne', h2 ▸ c2.erase t, fun u hu => ?_⟩
      rw [hk, ← hk0]
      exact c3 u (List.mem_of_mem_erase (h2 ▸ hu))
  · obtain ⟨e, hm, hk⟩ := riInsts_keys s.insts t th.inst e' he'
    rw [← hk]; exact (h.d i hi).2 e hm
  · rcases mem_riInsts (fun e he => (h.b e he).1) he' with ⟨hm', hk⟩ | ⟨e0, he0, _, _, h2, _⟩
    · exact hother e' hm' hk hm
    · exact ((h.b e0 he0).2.1.mem_erase_iff.1 (h2 ▸ hm)).1 rfl

theorem J.unlink {X : List Nat} {s : State} (h : J X s) {t : Nat} {th : Th}
    (hf : thFind s.threads t = some th) (hv : th.hasVM = false) (g : Th → Th)
    (hginst : ∀ x, (g x).inst = x.inst) (hghv : ∀ x, (g x).hasVM = true → x.hasVM = true) (hev : NoEv s t) :
    J X (removeFromInst (s.setTh t g) t th.inst) := by
  rw [removeFromInst_frame, removeFromInst_insts]
  exact (h.unchain hf hv).1.setTh_unchained t g (h.unchain hf hv).2 hginst hghv (Or.inl hev)

theorem J.ndel {X : List Nat} {s : State} (h : J X s) {t : Nat} (hv : NoVM s t) (hev : NoEv s t) :
    J X (notifyDelete s t) := by
  rw [notifyDelete_eq]
  cases hf : thFind s.threads t with
  | none => exact h
  | some th =>
    simp only
    split
    · exact h.unlink hf (hv th hf) _ (fun _ => rfl) (fun _ hx => hx) hev
    · rename_i hatt
      refine h.setTh_unchained t _ ?_ (fun _ => rfl) (fun _ hx => hx) (Or.inl hev)
      intro e he hm
      obtain ⟨th0, h0, _, _, _, h5⟩ := (h.b e he).2.2 t hm
      rw [hf] at h0; cases h0
      exact hatt h5

theorem J.fdel {X : List Nat} {s : State} (h : J X s) {t : Nat} (hg : Gone s t) : J X (finishDelete s t) := by
  have hu : Unchained s t := h.unchained_of_destroyed (fun th hf => (hg th hf).2)
  have hev : NoEv s t := h.noEv_of_destroyed (fun th hf => (hg th hf).2)
  unfold finishDelete
  split
  · exact h
  · split
    · exact h.setTh_unchained t (fun th => { th with dead := true }) hu (fun _ => rfl) (fun _ hx => hx) (Or.inl hev)
    · exact h.filterTh t hu hev

theorem J.epi {X : List Nat} {s : State} (h : J X s) (t : Nat) : J X (vmEpilogue s t) := by
  unfold vmEpilogue
  cases hf : thFind s.threads t with
  | none => exact h
  | some th =>
    simp only
    split
    · exact h.setTh t _ (fun _ => rfl) (fun _ => rfl) (fun _ => rfl) (fun _ hx => hx) (fun _ hx => by cases hx)
    · rename_i hd
      exact h.filterTh t (h.unchained_of_destroyed (fun th0 h0 => by rw [hf] at h0; cases h0; exact hd))
        (h.noEv_of_destroyed (fun th0 h0 => by rw [hf] at h0; cases h0; exact hd))
    · exact h

/-- creation of a thread `r` under the next id, in a new instance (`rest = []`) or in front of the chain of its own -/
theorem J.spawn {X : List Nat} {s : State} (h : J X s) (hn : NInv s) (r : Th) (insts' : List (Nat × List Nat)) (n' : Nat)
    (hd : r.dead = false) (hv : r.vm = .running) (ha : r.attached = true) (hle : s.nextInst ≤ n') (hlt : r.inst < n')
    (hold : ∀ j u, u ∈ instChain s.insts j → u ∈ instChain insts' j)
    (hnew : r.inst ∈ X ∨ s.nextTid ∈ instChain insts' r.inst)
    (hb : ∀ e' ∈ insts', e' ∈ s.insts ∨ (e'.1 = r.inst ∧ r.inst ∉ X ∧
      ∃ rest, e'.2 = s.nextTid :: rest ∧ (rest = [] ∨ (e'.1, rest) ∈ s.insts))) :
    J X { s with nextTid := s.nextTid + 1, nextInst := n', threads := s.threads ++ [(s.nextTid, r)], insts := insts' } := by
  have hfresh : thFind s.threads s.nextTid = none := fresh_none hn
  have keep : ∀ {u : Nat} {p : Th → Prop}, (∃ th, thFind s.threads u = some th ∧ p th) →
      ∃ th, thFind (s.threads ++ [(s.nextTid, r)]) u = some th ∧ p th :=
    fun ⟨th, k1, k⟩ => ⟨th, thFind_append_of_some _ r k1, k⟩
  refine ⟨fun u th hu hvm => ?_, fun e' he' => ?_, fun u th hu => ?_,
    fun i hi => ⟨Nat.lt_of_lt_of_le (h.d i hi).1 hle, fun e' he' => ?_⟩, fun ev he => keep (h.e ev he)⟩
  · rcases thFind_append_some hu with h1 | ⟨_, h1, h2⟩
    · exact (h.a u th h1 hvm).imp id (hold _ _)
    · subst h1; subst h2; exact hnew
  · rcases hb e' he' with hm | ⟨hk, _, rest, hr, hrest⟩
    · obtain ⟨b1, b2, b3⟩ := h.b e' hm
      exact ⟨b1, b2, fun u hu => keep (b3 u hu)⟩
    · show e'.2 ≠ [] ∧ e'.2.Nodup ∧ ∀ u ∈ e'.2, ∃ th, thFind (s.threads ++ [(s.nextTid, r)]) u = some th ∧ _
      rw [hr]
      have hrec : ∃ th, thFind (s.threads ++ [(s.nextTid, r)]) s.nextTid = some th ∧ th.dead = false ∧
          th.vm ≠ .destroyed ∧ th.inst = e'.1 ∧ th.attached = true :=
        ⟨r, thFind_spawned r hfresh, hd, by rw [hv]; simp, hk.symm, ha⟩
      rcases hrest with rfl | hm
      · exact ⟨by simp, by simp, fun u hu => by rw [List.mem_singleton.1 hu]; exact hrec⟩
      · obtain ⟨_, b2, b3⟩ := h.b _ hm
        refine ⟨by simp, List.nodup_cons.2 ⟨fun hm' => ?_, b2⟩, fun u hu => ?_⟩
        · obtain ⟨th, k1, _⟩ := b3 _ hm'
          rw [hfresh] at k1; cases k1
        · rcases List.mem_cons.1 hu with rfl | hu
          · exact hrec
          · exact keep (b3 u hu)
  · rcases thFind_append_some hu with h1 | ⟨_, _, h2⟩
    · exact Nat.lt_of_lt_of_le (h.c u th h1) hle
    · subst h2; exact hlt
  · rcases hb e' he' with hm | ⟨hk, hx, _⟩
    · exact (h.d i hi).2 e' hm
    · exact fun e => hx (hk ▸ e ▸ hi)

theorem J.spawnIn {X : List Nat} {s : State} (h : J X s) (hn : NInv s) (r : Th) (i : Nat) (hr : r.inst = i)
    (hd : r.dead = false) (hv : r.vm = .running) (ha : r.attached = true)
    (hi : i ∈ X ∨ ∃ u, u ∈ instChain s.insts i) (hlt : i < s.nextInst) :
    J X { s with nextTid := s.nextTid + 1, threads := s.threads ++ [(s.nextTid, r)],
                 insts := s.insts.map (fun e => if e.1 == i then (e.1, s.nextTid :: e.2) else e) } := by
  subst hr
  have hself := instChain_map_self s.insts r.inst (s.nextTid :: ·)
  refine h.spawn hn r _ s.nextInst hd hv ha (Nat.le_refl _) hlt (fun j u hu => ?_) (hi.imp id fun ⟨u0, hu0⟩ => ?_)
    (fun e' he' => ?_)
  · by_cases hj : j = r.inst
    · subst hj
      rw [hself, if_pos (instChain_listed hu)]
      exact List.mem_cons_of_mem _ hu
    · rw [instChain_map_ne _ _ _ _ hj]; exact hu
  · obtain ⟨e, hm, rfl⟩ := List.mem_map.1 he'
    by_cases hk : e.1 = r.inst
    · rw [if_pos (by simpa using hk)]
      exact Or.inr ⟨hk, fun hx => (h.d _ hx).2 e hm hk, e.2, rfl, Or.inr hm⟩
    · rw [if_neg (by simpa using hk)]; exact Or.inl hm
  · rw [hself, if_pos (instChain_listed hu0)]
    exact List.mem_cons_self

theorem J.spawnFresh {X : List Nat} {s : State} (h : J X s) (hn : NInv s) (r : Th) (hr : r.inst = s.nextInst)
    (hd : r.dead = false) (hv : r.vm = .running) (ha : r.attached = true) :
    J X { s with nextTid := s.nextTid + 1, nextInst := s.nextInst + 1, threads := s.threads ++ [(s.nextTid, r)],
                 insts := (s.nextInst, [s.nextTid]) :: s.insts } := by
  refine h.spawn hn r _ _ hd hv ha (Nat.le_succ _) (by omega) (fun j u hu => ?_) (Or.inr ?_) (fun e' he' => ?_)
  · rw [instChain_cons]
    split
    · rename_i hk
      obtain ⟨e, he, hej, hc⟩ := instChain_mem hu
      obtain ⟨th, k1, _, _, k4, _⟩ := (h.b e he).2.2 u (hc ▸ hu)
      have := h.c u th k1
      simp only at hk
      omega
    · exact hu
  · rw [hr, instChain_cons, if_pos rfl]; exact List.mem_singleton_self _
  · rcases List.mem_cons.1 he' with rfl | he'
    · exact Or.inr ⟨hr.symm, fun hx => by have := (h.d _ hx).1; omega, [], rfl, Or.inl rfl⟩
    · exact Or.inl he'

end Morfuse.Sched
