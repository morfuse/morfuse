import MorfuseModel.Sched.MachineSteps
import MorfuseModel.Sched.NotifyRun
/-!
# The machine's notify table is the result of a history of table operations

`NN s s'`: there is a list of table operations (`NOp`, `Sched/NotifyRun.lean`) — the ghost ledger of the call — leading
from the notify table of `s` to that of `s'`.  Every function of the machine satisfies it, unconditionally (`nnAll`).
-/
namespace Morfuse.Sched

def NN (s s' : State) : Prop := ∃ ops : List NOp, nRun s.notify ops = s'.notify

theorem NN.refl (s : State) : NN s s := ⟨[], rfl⟩
theorem NN.extend {T : Tbl} {a b : State} (h1 : ∃ ops, nRun T ops = a.notify) (h2 : NN a b) :
    ∃ ops, nRun T ops = b.notify := by
  obtain ⟨o1, r1⟩ := h1
  obtain ⟨o2, r2⟩ := h2
  exact ⟨o1 ++ o2, by rw [nRun_append, r1, r2]⟩
theorem NN.trans {a b c : State} (h1 : NN a b) (h2 : NN b c) : NN a c := NN.extend h1 h2
theorem NN.of_eq {s s' : State} (h : s'.notify = s.notify) : NN s s' := ⟨[], h.symm⟩
theorem NN.of_op {s s' : State} (op : NOp) (h : s'.notify = NOp.apply s.notify op) : NN s s' := ⟨[op], h.symm⟩
theorem NN.removeFromInst (s : State) (t i : Nat) : NN s (removeFromInst s t i) := by
  rw [removeFromInst_frame]; exact NN.of_eq rfl

theorem NN.steps : Steps.Full NN where
  refl := NN.refl
  trans := NN.trans
  frame := fun _ _ _ _ _ _ => NN.of_eq rfl
  fuel := fun _ => NN.of_eq rfl
  setTh := fun _ _ _ _ => NN.of_eq rfl
  dropThread := fun _ _ _ _ => NN.of_eq rfl
  unlinkVM := NN.removeFromInst
  timerRemove := fun _ _ => NN.of_eq rfl
  addTimer := fun _ _ _ => NN.of_eq rfl
  timerNext := fun _ => NN.of_eq rfl
  sameInst := fun _ _ _ _ => NN.of_eq rfl
  newInst := fun _ _ _ => NN.of_eq rfl
  register := fun _ o n c => NN.of_op (.reg o n c) rfl
  cancelKey := fun s w name list => NN.of_op (.purge s.alive w name list) rfl
  cancelOwner := fun s w => NN.of_op (.multiPurge s.alive w (Tbl.keysOf s.waitFor w)) rfl
  unregKey := fun _ src name _ => NN.of_op (.notify src name) rfl
  unregOwner := fun _ src => NN.of_op (.removeOwner src) rfl

theorem NN.blind : Blind NN := ⟨fun _ _ => NN.of_eq rfl, fun _ _ => NN.of_eq rfl, fun _ _ => NN.of_eq rfl⟩

theorem nnAll : ∀ fuel, All NN fuel := all_of_blind NN.steps NN.blind

end Morfuse.Sched
