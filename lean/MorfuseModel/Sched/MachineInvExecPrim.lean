import MorfuseModel.Sched.MachineInvUpd
/-!
# Building blocks for the executing half of the machine: registration, thread creation, object removal
-/
namespace Morfuse.Sched

theorem G0.setTh (s : State) (t : Nat) (f : Th → Th) (hv : ∀ x, (f x).hasVM = x.hasVM)
    (hd : ∀ x, (f x).dead = x.dead)
    (hvm : ∀ th, thFind s.threads t = some th → (th.vm = .idling ∨ th.vm = .destroyed) →
      ((f th).vm = .idling ∨ (f th).vm = .destroyed)) : G0 s (s.setTh t f) := by
  refine ⟨Nat.le_refl _, rfl, ?_, ?_, ?_⟩
  · intro u th' _ hu
    rcases thFind_setTh_some hu with ⟨hut, th, hth, e⟩ | ⟨_, hu'⟩
    · exact ⟨th, by rw [hut]; exact hth, by rw [e, hd]; exact id⟩
    · exact ⟨th', hu', id⟩
  · intro u th hu hvu
    by_cases hut : u = t
    · subst hut
      exact Or.inr ⟨f th, thFind_setTh_self f hu, Or.inl (by rw [hv]; exact hvu)⟩
    · exact Or.inr ⟨th, (thFind_setTh_ne s f hut).trans hu, Or.inl hvu⟩
  · intro u th hu hi
    by_cases hut : u = t
    · subst hut
      exact Or.inr ⟨f th, thFind_setTh_self f hu, hvm th hu hi⟩
    · exact Or.inr ⟨th, (thFind_setTh_ne s f hut).trans hu, hi⟩

theorem G0.of_setTh {s X : State} {t : Nat} {f : Th → Th} (g : G0 (s.setTh t f) X)
    (hv : ∀ x, (f x).hasVM = x.hasVM) (hd : ∀ x, (f x).dead = x.dead)
    (hidle : ∀ th, thFind s.threads t = some th → (th.vm = .idling ∨ th.vm = .destroyed) →
      thFind X.threads t = none ∨ ∃ th', thFind X.threads t = some th' ∧ (th'.vm = .idling ∨ th'.vm = .destroyed)) :
    G0 s X := by
  refine ⟨g.tid, g.depth, ?_, ?_, ?_⟩
  · intro u th' hu hf'
    obtain ⟨th0, h0, m0⟩ := g.mono u th' hu hf'
    rcases thFind_setTh_some h0 with ⟨hut, th, hth, e⟩ | ⟨_, h0'⟩
    · exact ⟨th, by rw [hut]; exact hth, fun hdd => m0 (by rw [e, hd]; exact hdd)⟩
    · exact ⟨th0, h0', m0⟩
  · intro u thu hu hvu
    by_cases hut : u = t
    · subst hut
      exact g.lost u _ (thFind_setTh_self f hu) (by rw [hv]; exact hvu)
    · exact g.lost u thu ((thFind_setTh_ne s f hut).trans hu) hvu
  · intro u thu hu hiu
    by_cases hut : u = t
    · subst hut; exact hidle thu hu hiu
    · exact g.idle u thu ((thFind_setTh_ne s f hut).trans hu) hiu

theorem G0.suspend (X : State) (p : Nat) : G0 X (vmSuspend X p) := by
  unfold vmSuspend
  apply G0.setTh X p _ (fun x => by split <;> rfl) (fun x => by split <;> rfl)
  intro th _ hi
  split
  · rename_i hv
    have hv' : th.vm = .running := by simpa using hv
    rcases hi with hi | hi <;> rw [hi] at hv' <;> cases hv'
  · exact hi

theorem G0.spawn (s : State) (th : Th) :
    G0 s { s with nextTid := s.nextTid + 1, threads := s.threads ++ [(s.nextTid, th)] } := by
  refine ⟨Nat.le_succ _, rfl, ?_, fun u th0 h0 hv => Or.inr ⟨th0, thFind_append_of_some _ th h0, Or.inl hv⟩,
    fun u th0 h0 hv => Or.inr ⟨th0, thFind_append_of_some _ th h0, hv⟩⟩
  intro u th' hu hf
  rcases thFind_append_some hf with hf' | ⟨_, hut, _⟩
  · exact ⟨th', hf', id⟩
  · omega

theorem G0.remove (s : State) (t : Nat) :
    G0 s { s with threads := s.threads.filter (fun e => !(e.1 == t)) } := by
  refine ⟨Nat.le_refl _, rfl, fun u th' _ hu => ⟨th', (thFind_filter_some hu).2, id⟩, ?_, ?_⟩
  · intro u th hu hv
    by_cases hut : u = t
    · exact Or.inl (by rw [hut]; exact thFind_filter_self _ _)
    · exact Or.inr ⟨th, (thFind_filter_of_ne _ hut).trans hu, Or.inl hv⟩
  · intro u th hu hv
    by_cases hut : u = t
    · exact Or.inl (by rw [hut]; exact thFind_filter_self _ _)
    · exact Or.inr ⟨th, (thFind_filter_of_ne _ hut).trans hu, hv⟩

/-- `Register(name, t)` on source `o` once `t` is `waiting`: discharges the wake-up exemption of `t` -/
theorem Inv.register {C W : List Nat} {top top' : Option Nat} {s : State} (h : Inv C (t :: W) top s)
    (o n : Nat) (th : Th) (hth : thFind s.threads t = some th) (hw : th.ts = .waiting) (hdead : th.dead = false)
    (ho : s.alive o = true) (hon : o < 100 ∨ NameOK n)
    (htop : top = none ∨ top = top' ∨ top = some t)
    (h4 : th.vm = .idling ∨ top' = some t ∨ (n = 0 ∧ Tbl.hasOwner s.waitFor t = false)) :
    Inv C W top' { s with notify := Tbl.push s.notify (o, n) t, waitFor := Tbl.push s.waitFor (t, n) o } := by
  have ht100 : 100 ≤ t := (h.n.range t th hth).1
  have halive : aliveTh s.threads t = true := (aliveTh_iff h.n.nodup t).2 ⟨th, hth, hdead⟩
  refine ⟨?_, h.th, h.tim, ?_, ?_⟩
  · exact (h.n.pushNotify o n t ht100 hon).pushWaitFor t n o ht100
  · refine ⟨h.tab.mir.push o n t, ?_⟩
    intro o' n' x hx
    rcases Tbl.mem_getD_push hx with hx | ⟨hk, hx⟩
    · exact h.tab.aN o' n' x hx
    · rw [(Prod.mk.inj hk).1, hx]; exact ⟨ho, halive⟩
  · refine ⟨?_, ?_, ?_⟩
    · intro u hu
      rcases Tbl.hasOwner_push hu with h1 | h1
      · exact h.lnk.linkC u h1
      · simp only at h1; subst h1
        exact Or.inr ⟨th, hth, hw⟩
    · intro u th0 h0 hw0
      by_cases hut : u = t
      · subst hut
        exact Or.inr (Tbl.hasOwner_push_self _ (u, n) o)
      · rcases h.lnk.linkW u th0 h0 hw0 with m | m
        · rcases List.mem_cons.1 m with m | m
          · exact absurd m hut
          · exact Or.inl m
        · exact Or.inr (Tbl.hasOwner_push_of h.n.wfW _ _ m)
    · intro u th0 h0 hw0 hv0
      by_cases hut : u = t
      · subst hut
        rw [hth] at h0; cases h0
        rcases h4 with e | e | ⟨e1, e2⟩
        · exact absurd e hv0
        · exact Or.inl e
        · right
          intro n' hne
          rcases Tbl.getD_push_ne_nil hne with hne | hk
          · exact absurd ((h.n.wfW.hasOwner_false_iff u).1 e2 n') hne
          · rw [(Prod.mk.inj hk).2, e1]
      · rcases h.lnk.f4 u th0 h0 hw0 hv0 with e | e
        · exact Or.inl (top_shift htop hut e)
        · right
          intro n' hne
          rcases Tbl.getD_push_ne_nil hne with hne | hk
          · exact e n' hne
          · exact absurd (Prod.mk.inj hk).1 hut

theorem Inv.spawn {C W : List Nat} {top : Option Nat} {s : State} (h : Inv C W top s) (th : Th)
    (hp : th.parent = 0 ∨ 100 ≤ th.parent) (hts : th.ts = .running) (hvm : th.hasVM = true)
    (hd : th.dead = false) (hv : th.vm = .running) :
    Inv C W top { s with nextTid := s.nextTid + 1, threads := s.threads ++ [(s.nextTid, th)] } := by
  have halive : ∀ l, aliveTh s.threads l = true → aliveTh (s.threads ++ [(s.nextTid, th)]) l = true := by
    intro l hl; rw [aliveTh_append, hl]; rfl
  refine ⟨spawn_ninv h.n th hp, ?_, ?_, ?_, ?_⟩
  · exact h.th.append _ th ⟨fun e => (by rw [hvm] at e; cases e), fun e => (by rw [hd] at e; cases e),
      fun _ => hts, fun e => (by rw [hv] at e; cases e)⟩
  · exact h.tim.append _ th (by rw [hts]; simp)
  · refine ⟨h.tab.mir, ?_⟩
    intro o n x hx
    obtain ⟨a1, a2⟩ := h.tab.aN o n x hx
    exact ⟨State.alive_mono (halive o) id a1, halive x a2⟩
  · refine ⟨?_, ?_, ?_⟩
    · intro u ho
      rcases h.lnk.linkC u ho with m | ⟨th0, h0, hw⟩
      · exact Or.inl m
      · exact Or.inr ⟨th0, thFind_append_of_some _ th h0, hw⟩
    · intro u th0 h0 hw
      rcases thFind_append_some h0 with h1 | ⟨_, _, h1⟩
      · exact h.lnk.linkW u th0 h1 hw
      · rw [h1, hts] at hw; cases hw
    · intro u th0 h0 hw hv0
      rcases thFind_append_some h0 with h1 | ⟨_, _, h1⟩
      · exact h.lnk.f4 u th0 h1 hw hv0
      · rw [h1, hts] at hw; cases hw

theorem alive_of_objs_sub {s s' : State} (e1 : s'.threads = s.threads) (hsub : ∀ o, o ∈ s.objs → o ∈ s'.objs)
    {l : Nat} (h : s.alive l = true) : s'.alive l = true := by
  refine State.alive_mono (by rw [e1]; exact id) (fun h => ?_) h
  unfold State.objAlive at *
  simp only [Bool.or_eq_true, beq_iff_eq, List.contains_eq_mem, decide_eq_true_eq] at *
  exact h.imp id (hsub l)

theorem Inv.addObj {C W : List Nat} {top : Option Nat} {s : State} (h : Inv C W top s) (o : Nat) (ho : o < 100) :
    Inv C W top { s with objs := s.objs ++ [o] } := by
  refine h.frame { h.n with objs := ?_ } rfl rfl rfl rfl
    (fun _ _ _ a => alive_of_objs_sub (s := s) (s' := { s with objs := s.objs ++ [o] }) rfl
      (fun _ h'' => List.mem_append_left _ h'') a)
  intro o' ho'
  simp only [List.mem_append, List.mem_singleton] at ho'
  rcases ho' with ho' | ho'
  · exact h.n.objs o' ho'
  · rw [ho']; exact ho

theorem Inv.eraseObj {C W : List Nat} {top : Option Nat} {s : State} (h : Inv C W top s) (o : Nat)
    (hown : Tbl.hasOwner s.notify o = false) : Inv C W top { s with objs := s.objs.erase o } := by
  refine h.frame { h.n with objs := fun o' ho' => h.n.objs o' (List.mem_of_mem_erase ho') } rfl rfl rfl rfl
    (fun o' n hne a => ?_)
  have hno : o' ≠ o := fun e => hne (by rw [e]; exact (h.n.wfN.hasOwner_false_iff o).1 hown n)
  refine State.alive_mono (s := s) id (fun h => ?_) a
  unfold State.objAlive at *
  simp only [Bool.or_eq_true, beq_iff_eq, List.contains_eq_mem, decide_eq_true_eq] at *
  exact h.imp id (List.mem_erase_of_ne hno).2

theorem Inv.dropTop {C W : List Nat} {s : State} {t : Nat} (h : Inv C W (some t) s)
    (ht : ∀ th, thFind s.threads t = some th → th.ts = .waiting → th.vm ≠ .idling →
      ∀ n, Tbl.getD s.waitFor (t, n) ≠ [] → n = 0) : Inv C W none s :=
  h.shift (fun _ m => Or.inl m) (fun _ m => Or.inl m) (fun _ e => Or.inr (Option.some.inj e ▸ ht))

theorem Inv.toTop {C W : List Nat} {s : State} (h : Inv C W none s) (t : Nat) : Inv C W (some t) s :=
  h.weaken (fun _ m => m) (fun _ m => m) (Or.inl rfl)

end Morfuse.Sched
