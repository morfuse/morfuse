import MorfuseModel.Sched.TablesPurge
/-!
# Histories of operations on the notify table, and what every history satisfies

`NOp` = the five ways the machine changes the notify table (`m_NotifyList` of all listeners); `nRun` replays a list of
them.  About every history: a listener is in an entry only because of a registration in the history (`nRun_mem`), and
leaves it only through one of four operations (`nRun_keeps`).
-/
namespace Morfuse.Sched

inductive NOp
  | reg (o n c : Nat)                                             -- `o.Register(n, c)`: `c` waits on `(o, n)`
  | notify (src name : Nat)                                       -- `src.Unregister(name)`
  | purge (al : Nat → Bool) (w name : Nat) (list : List Nat)      -- `w.CancelWaiting(name)`
  | multiPurge (al : Nat → Bool) (w : Nat) (keys : List (Nat × List Nat))   -- `w.CancelWaitingAll()`
  | removeOwner (src : Nat)                                       -- `src.UnregisterAll()`

def NOp.apply (T : Tbl) : NOp → Tbl
  | .reg o n c => Tbl.push T (o, n) c
  | .notify src name => Tbl.removeKey T (src, name)
  | .purge al w name list => (Tbl.purge al T w name list []).1
  | .multiPurge al w keys => (Tbl.multiPurge al T w keys []).1
  | .removeOwner src => Tbl.removeOwner T src

def nRun (T : Tbl) (ops : List NOp) : Tbl := ops.foldl NOp.apply T

theorem nRun_append (T : Tbl) (a b : List NOp) : nRun T (a ++ b) = nRun (nRun T a) b := by
  unfold nRun; rw [List.foldl_append]

theorem NOp.apply_mem (T : Tbl) (op : NOp) (k : Key) (x : Nat) (h : x ∈ Tbl.getD (NOp.apply T op) k) :
    x ∈ Tbl.getD T k ∨ op = .reg k.1 k.2 x := by
  cases op with
  | reg o n c =>
    rcases Tbl.mem_getD_push h with h | ⟨rfl, rfl⟩
    · exact Or.inl h
    · exact Or.inr rfl
  | notify src name => exact Or.inl (Tbl.Sub.removeKey T (src, name) k x h)
  | purge al w name list => exact Or.inl (Tbl.Sub.purge al T w name list [] k x h)
  | multiPurge al w keys => exact Or.inl (Tbl.Sub.multiPurge al T w keys [] k x h)
  | removeOwner src => exact Or.inl (Tbl.Sub.removeOwner T src k x h)

theorem nRun_mem : ∀ (ops : List NOp) (T : Tbl) (k : Key) (x : Nat), x ∈ Tbl.getD (nRun T ops) k →
    x ∈ Tbl.getD T k ∨ NOp.reg k.1 k.2 x ∈ ops
  | [], _, _, _, h => Or.inl h
  | op :: ops, T, k, x, h => by
    have h' : x ∈ Tbl.getD (nRun (NOp.apply T op) ops) k := h
    rcases nRun_mem ops _ k x h' with h1 | h1
    · rcases NOp.apply_mem T op k x h1 with h2 | h2
      · exact Or.inl h2
      · right; rw [h2]; exact List.mem_cons_self
    · exact Or.inr (List.mem_cons_of_mem _ h1)

theorem reg_of_mem_nRun {pre : List NOp} {src name x : Nat} (hx : x ∈ Tbl.getD (nRun [] pre) (src, name)) :
    NOp.reg src name x ∈ pre :=
  (nRun_mem pre [] (src, name) x hx).resolve_left (by simp [Tbl.getD_nil])

theorem reg_after_clearing {a b : List NOp} {o : NOp} {src name x : Nat}
    (hclear : ∀ T, Tbl.getD (nRun T [o]) (src, name) = [])
    (hx : x ∈ Tbl.getD (nRun [] (a ++ o :: b)) (src, name)) : NOp.reg src name x ∈ b := by
  rw [show a ++ o :: b = (a ++ [o]) ++ b by simp, nRun_append, nRun_append] at hx
  exact (nRun_mem b _ (src, name) x hx).resolve_left (by rw [hclear]; exact List.not_mem_nil)

theorem nRun_notify_clears (T : Tbl) (src name : Nat) : Tbl.getD (nRun T [.notify src name]) (src, name) = [] := by
  show Tbl.getD (Tbl.removeKey T (src, name)) (src, name) = []
  rw [Tbl.getD_removeKey]; simp

theorem nRun_removeOwner_clears (T : Tbl) (src n : Nat) : Tbl.getD (nRun T [.removeOwner src]) (src, n) = [] := by
  show Tbl.getD (Tbl.removeOwner T src) (src, n) = []
  rw [Tbl.getD_removeOwner]; simp

/-- the operations that can remove `c` from the entry `(t, n)` -/
def Releases (op : NOp) (c t n : Nat) : Prop :=
  op = .notify t n ∨ (∃ al list, op = .purge al c n list) ∨ (∃ al keys, op = .multiPurge al c keys) ∨
    op = .removeOwner t

theorem NOp.apply_keeps (T : Tbl) (op : NOp) (c t n : Nat) (h : c ∈ Tbl.getD T (t, n)) :
    c ∈ Tbl.getD (NOp.apply T op) (t, n) ∨ Releases op c t n := by
  cases op with
  | reg o m x =>
    left
    simp only [NOp.apply, Tbl.getD_push]
    split
    · rename_i hk
      have hk' : (t, n) = (o, m) := hk
      rw [← hk']
      exact List.mem_append_left _ h
    · exact h
  | notify src name =>
    simp only [NOp.apply, Tbl.getD_removeKey]
    split
    · rename_i hk
      right; left
      have : t = src ∧ n = name := by simpa using hk
      rw [this.1, this.2]
    · exact Or.inl h
  | purge al w name list =>
    by_cases hc : c = w ∧ n = name
    · obtain ⟨rfl, rfl⟩ := hc; exact Or.inr (Or.inr (Or.inl ⟨al, list, rfl⟩))
    · have hb : (c == w && n == name) = false := by simpa using hc
      simp only [NOp.apply, Tbl.purge_getD]
      exact Or.inl (List.mem_filter.2 ⟨h, by simp only [hb, Bool.false_and, Bool.not_false]⟩)
  | multiPurge al w keys =>
    by_cases hc : c = w
    · subst hc; exact Or.inr (Or.inr (Or.inr (Or.inl ⟨al, keys, rfl⟩)))
    · simp only [NOp.apply, Tbl.multiPurge_getD]
      exact Or.inl (List.mem_filter.2 ⟨h, by simp [hc]⟩)
  | removeOwner src =>
    simp only [NOp.apply, Tbl.getD_removeOwner]
    split
    · rename_i hk
      right; right; right; right
      have : t = src := hk
      rw [this]
    · exact Or.inl h

/-- **a listener leaves an entry only through `Unregister(name)` on the source, the source's `UnregisterAll`, or its own
    `CancelWaiting`** — in every history -/
theorem nRun_keeps : ∀ (ops : List NOp) (T : Tbl) (c t n : Nat), c ∈ Tbl.getD T (t, n) →
    c ∈ Tbl.getD (nRun T ops) (t, n) ∨ ∃ op ∈ ops, Releases op c t n
  | [], _, _, _, _, h => Or.inl h
  | op :: ops, T, c, t, n, h => by
    rcases NOp.apply_keeps T op c t n h with h1 | h1
    · rcases nRun_keeps ops _ c t n h1 with h2 | ⟨o, ho, hr⟩
      · exact Or.inl h2
      · exact Or.inr ⟨o, List.mem_cons_of_mem _ ho, hr⟩
    · exact Or.inr ⟨op, List.mem_cons_self, h1⟩

end Morfuse.Sched
