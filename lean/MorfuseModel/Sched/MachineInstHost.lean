import MorfuseModel.Sched.MachineInstAll
import MorfuseModel.Sched.MachineHost
/-!
# The instance-list invariant at the host level

`J [] s` (no exempt instance) holds in every state reachable by host operations (modulo fuel):
`reachable_hinv2`.  `~ScriptClass` (`killInst`) is where the exemption is used: the instance is unlinked
first (`J [i]`), its threads are destroyed one by one, and when the last one is gone no record with a VM
refers to the instance any more (`J []` again) — no `Ok` needed, because a destructor that has started has
given up its VM when it returns, whether or not the fuel ran out inside (`deleteThread_noVM`).
-/
namespace Morfuse.Sched

theorem killStep_ninv {s : State} (h : NInv s) (t : Nat) : NInv (killStep s t) :=
  (nAll defaultFuel).dt _ t (h.setTh t _)

theorem killInst_ninv {s : State} (hn : NInv s) (i : Nat) : NInv (killInst s i) :=
  killInst_pre (Pre.imp NInv) (fun _ _ _ h => h.congr rfl rfl rfl rfl rfl rfl rfl rfl rfl) (fun _ t h => killStep_ninv h t) s hn

namespace QuietRel
variable {R : List Nat → State → State → Prop} (hR : QuietRel R) (hall : ∀ fuel, QuietAll R fuel)
  (hatt : ∀ X s t, R X s (s.setTh t fun th => { th with attached := false }))
include hR hall hatt

theorem killStep (X : List Nat) (s : State) (t : Nat) : Kept NInv (R X) s (killStep s t) :=
  fun hn => ⟨killStep_ninv hn t, hR.trans (hatt X s t) ((hall defaultFuel).dt X _ t (hn.setTh t _))⟩

theorem killFold (X : List Nat) (L : List Nat) (S : State) (hn : NInv S) : R X S (L.foldl Sched.killStep S) :=
  (foldl_rel (hR.pre X) _ (hR.killStep hall hatt X) L S hn).2

variable (hunl : ∀ X (s : State) i, R X s { s with insts := s.insts.filter (fun e => !(e.1 == i)) })
include hunl

theorem killInst (X : List Nat) {s : State} (hn : NInv s) (i : Nat) : R X s (killInst s i) :=
  (killInst_pre (hR.pre X) (fun s _ _ h => ⟨h.congr rfl rfl rfl rfl rfl rfl rfl rfl rfl, hunl X s i⟩)
    (hR.killStep hall hatt X) s hn).2

theorem killAllInsts (X : List Nat) {s : State} (hn : NInv s) : R X s (killAllInsts s) :=
  (killAllInsts_pre (hR.pre X) (fun _ i h => ⟨killInst_ninv h i, hR.killInst hall hatt hunl X h i⟩) s hn).2

end QuietRel

theorem Unreached.killAllInsts {α : Type} {π : State → α} (hπ : Unreached π) {s : State} (hn : NInv s) :
    π (killAllInsts s) = π s :=
  hπ.quiet.killAllInsts hπ.quietAll (fun _ s t => hπ.setTh s t _)
    (fun _ s _ => hπ s s.timer s.threads _ s.notify s.waitFor s.endOn s.outOfFuel s.events) [] hn

theorem killStep_q {s : State} (h : NInv s) (t : Nat) : Q [] s (killStep s t) :=
  (qQuiet.killStep qAll (fun _ s t => Q.setTh s t _
    (fun th => ⟨Or.inl rfl, Or.inl rfl, id, id, rfl, fun hx => by cases hx⟩) (Or.inl fun _ hx => hx)) [] s t h).2

theorem J.unchained_of_exempt {X : List Nat} {s : State} (h : J X s) {t : Nat}
    (ht : ∀ th, thFind s.threads t = some th → th.inst ∈ X) : Unchained s t := by
  intro e he hm
  obtain ⟨th, h1, _, _, h4, _⟩ := (h.b e he).2.2 t hm
  exact (h.d _ (ht th h1)).2 e he h4.symm

theorem killStep_jx {X : List Nat} {s : State} (h : NInv s) (j : J X s) (t : Nat)
    (ht : ∀ th, thFind s.threads t = some th → th.inst ∈ X) : J X (killStep s t) :=
  (jqAll defaultFuel).dt X _ t (h.setTh t _)
    (j.setTh_unchained t (fun th => { th with attached := false }) (j.unchained_of_exempt ht) (fun _ => rfl)
      (fun _ hx => hx) (Or.inr fun _ hx => hx))

def Rm (i : Nat) (s : State) (L : List Nat) : Prop :=
  ∀ u th, thFind s.threads u = some th → th.hasVM = true → th.inst = i → u ∈ L

theorem killFold_j (i : Nat) : ∀ (L : List Nat) (S : State), NInv S → J [i] S →
    (∀ t ∈ L, ∀ th, thFind S.threads t = some th → th.inst = i) → Rm i S L →
    J [i] (L.foldl killStep S) ∧ Rm i (L.foldl killStep S) []
  | [], _, _, j, _, hr => ⟨j, hr⟩
  | t :: L, S, hn, j, hinst, hr => by
    simp only [List.foldl_cons]
    have q := killStep_q hn t
    have hn' := killStep_ninv hn t
    have j' := killStep_jx hn j t (fun th hf => by rw [hinst t List.mem_cons_self th hf]; simp)
    have hv : NoVM (killStep S t) t := deleteThread_noVM _ (hn.setTh t _) t
    apply killFold_j i L _ hn' j'
    · intro u hu th' hf'
      obtain ⟨th, h1, qt⟩ := q.th u th' hf'
      rw [qt.inst]; exact hinst u (List.mem_cons_of_mem _ hu) th h1
    · intro u th' hf' hvm hi
      obtain ⟨th, h1, qt⟩ := q.th u th' hf'
      have hm := hr u th h1 (qt.hasVM hvm) (by rw [← qt.inst]; exact hi)
      rcases List.mem_cons.1 hm with e | e
      · subst e
        rw [hv th' hf'] at hvm; cases hvm
      · exact e

theorem killInst_j {s : State} (hn : NInv s) (j : J [] s) (i : Nat) : J [] (killInst s i) := by
  unfold killInst
  cases hfd : s.insts.find? (·.1 == i) with
  | none => exact j
  | some e0 =>
    obtain ⟨k, chain⟩ := e0
    simp only
    have hk : k = i := by simpa using List.find?_some hfd
    have he0 : (k, chain) ∈ s.insts := List.mem_of_find?_eq_some hfd
    have hchain : instChain s.insts i = chain := by unfold instChain; rw [hfd]; rfl
    have hn1 : NInv ({ s with insts := s.insts.filter (fun e => !(e.1 == i)) } : State) :=
      hn.congr rfl rfl rfl rfl rfl rfl rfl rfl rfl
    have j1 : J [i] ({ s with insts := s.insts.filter (fun e => !(e.1 == i)) } : State) := by
      refine ⟨?_, ?_, j.c, ?_, j.e⟩
      · intro u th hf hv
        by_cases hi : th.inst = i
        · left; simp [hi]
        · right
          show u ∈ instChain (s.insts.filter _) th.inst
          rw [instChain_filter_ne _ _ _ hi]
          rcases j.a u th hf hv with m | m
          · cases m
          · exact m
      · intro e he
        exact j.b e (List.mem_filter.1 he).1
      · intro i' hi'
        have : i' = i := by simpa using hi'
        subst this
        obtain ⟨th, h1, _, _, h4, _⟩ := (j.b _ he0).2.2 _ (List.getLast_mem (j.b _ he0).1)
        have h4' : th.inst = k := h4
        refine ⟨by show i' < s.nextInst; rw [← hk, ← h4']; exact j.c _ th h1, ?_⟩
        intro e he
        have := (List.mem_filter.1 he).2
        simpa using this
    have hinst : ∀ t ∈ chain, ∀ th, thFind s.threads t = some th → th.inst = i := by
      intro t ht th hf
      obtain ⟨th0, h0, _, _, h4, _⟩ := (j.b _ he0).2.2 t ht
      rw [hf] at h0; cases h0
      rw [h4, hk]
    have hr : Rm i ({ s with insts := s.insts.filter (fun e => !(e.1 == i)) } : State) chain := by
      intro u th hf hv hi
      rcases j.a u th hf hv with m | m
      · cases m
      · rw [hi, hchain] at m; exact m
    obtain ⟨j2, r2⟩ := killFold_j i chain _ hn1 j1 hinst hr
    refine ⟨?_, j2.b, j2.c, (fun i' hi' => by cases hi'), j2.e⟩
    intro u th hf hv
    rcases j2.a u th hf hv with m | m
    · have hi : th.inst = i := by simpa using m
      have := r2 u th hf hv hi
      cases this
    · exact Or.inr m

theorem killAllInsts_j {s : State} (hn : NInv s) (j : J [] s) : J [] (killAllInsts s) :=
  (killAllInsts_pre ((Pre.imp (J [])).kept NInv) (fun _ i hn => ⟨killInst_ninv hn i, fun j => killInst_j hn j i⟩) s hn).2 j

/-- the invariant between two host operations, with the instance list -/
structure HInv2 (s : State) : Prop where
  h : HInv s
  j : J [] s

theorem j_init : J [] ({} : State) :=
  ⟨fun t th hf => by simp [thFind] at hf, fun e he => by simp at he, fun t th hf => by simp [thFind] at hf,
    (fun i hi => by cases hi), (fun ev he => by cases he)⟩

theorem jHost : HostKept (fun _ => J []) where
  toExecKept := jKept []
  init := j_init
  pop := fun hev j => j.eventsSub rfl rfl rfl (fun ev he => by rw [hev]; exact List.mem_cons_of_mem _ he)
  kill := killAllInsts_j
  setup := fun {s} label args hn j => (j.spawnFresh hn (callThread s label args) rfl rfl rfl rfl).congr rfl rfl rfl

theorem HostOp.apply_hinv2 {s : State} (h : Ok s (HInv2 s)) (op : HostOp) (hok : op.ok) :
    Ok (op.apply s) (HInv2 (op.apply s)) :=
  (jHost.apply op hok (h.map fun h => ⟨h.h, h.j⟩)).map fun p => ⟨p.1, p.2⟩

theorem reachable_hinv2 {s : State} (h : Reachable s) : Ok s (HInv2 s) := (jHost.reachable h).map fun p => ⟨p.1, p.2⟩

end Morfuse.Sched
