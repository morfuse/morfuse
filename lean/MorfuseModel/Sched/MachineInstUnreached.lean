import MorfuseModel.Sched.MachineInstHost
/-!
# Three components of the state the destruction cascades cannot reach: result slots, output, objects

`calls`: a thread that is destroyed (not ended by `end`) leaves the slot of its host call as it was.
`out`: `~ScriptThread` with all its cascades, hence `Reset()` (`killAllInsts`), prints nothing (used by
`Props/C09.lean`: save / Reset / load).  `objs`: the host's objects outlive `Reset()`.
-/
namespace Morfuse.Sched

theorem unreached_calls : Unreached State.calls := fun _ _ _ _ _ _ _ _ _ => rfl

theorem cqAll : ∀ fuel, QuietAll (fun _ s s' => s'.calls = s.calls) fuel := unreached_calls.quietAll

theorem killAllInsts_ck {s : State} (hn : NInv s) : (killAllInsts s).calls = s.calls :=
  unreached_calls.killAllInsts hn

theorem unreached_out : Unreached State.out := fun _ _ _ _ _ _ _ _ _ => rfl

theorem oqAll : ∀ fuel, QuietAll (fun _ s s' => s'.out = s.out) fuel := unreached_out.quietAll

theorem killAllInsts_ou {s : State} (hn : NInv s) : (killAllInsts s).out = s.out :=
  unreached_out.killAllInsts hn

theorem killAllInsts_objs {s : State} (hn : NInv s) : (killAllInsts s).objs = s.objs :=
  Unreached.killAllInsts (π := State.objs) (fun _ _ _ _ _ _ _ _ _ => rfl) hn

end Morfuse.Sched
