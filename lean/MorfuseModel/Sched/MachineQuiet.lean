import MorfuseModel.Sched.MachineInvStruct
/-!
# Relations kept by the destruction cascades: one induction for all of them

No script code runs in the cascades, so a family `R X` of relations with the closure properties `QuietRel R` is kept by
all of them, under `NInv` alone, as soon as it is kept by `~ScriptThread` one level up (`quietAll`).  The index `X` is a
list of ids at the instance's disposal (for `Q` the threads whose destructor is in progress, for `J` the script instances
being destroyed, for `WZ` the threads active on the native stack); every statement is for all `X`, so an instance may
change it inside `~ScriptThread` (`deleteThread_q_succ` proves the body at `t :: D` and discharges `t` at the end).
-/
namespace Morfuse.Sched

/-- a thread is a source under neither of them: `Unregister(delete)` / `Unregister(remove)` on a thread finds no entry -/
theorem unregNotify_qsrc {swf : State → Nat → Nat → Bool → State} {sn : State → Nat → State} {s : State} (h : NInv s)
    {src name : Nat} (hq : QSrc src name) : unregNotify swf sn s src name = s := by
  cases hfind : Tbl.find s.notify (src, name) with
  | none => exact unregNotify_of_none _ _ hfind
  | some list =>
    have hk := h.n1 src name hq.1 (by rw [Tbl.find_eq_getD_of_some hfind]; exact h.wfN.find_ne_nil hfind)
    exact absurd hq.2 (fun e => e.elim hk.1 hk.2)

structure QuietRel (R : List Nat → State → State → Prop) : Prop where
  refl : ∀ X s, R X s s
  trans : ∀ {X a b c}, R X a b → R X b c → R X a c
  frame : ∀ X (s : State) (tm : Timer) (N W E : Tbl) (o : Bool), Tbl.Sub N s.notify → Tbl.Sub W s.waitFor →
    (∀ x, Tbl.hasOwner E x = true → Tbl.hasOwner s.endOn x = true) →
    R X s { s with timer := tm, notify := N, waitFor := W, endOn := E, outOfFuel := o }
  wake : ∀ X (s : State) (t : Nat), R X s (s.setTh t fun th => { th with ts := .running })
  /-- a thread that was waiting before the step is re-timed after it -/
  retime : ∀ X {s s1 : State} (t : Nat), R X s s1 → (∀ th, thFind s.threads t = some th → th.ts = .waiting) →
    R X s (s1.setTh t fun th => { th with ts := .timing })
  cancelEvents : ∀ X (s : State) (t : Nat), R X s (cancelEvents s t)

def Quiet1 (R : List Nat → State → State → Prop) (f : State → Nat → State) : Prop :=
  ∀ X s a, NInv s → R X s (f s a)

/-- `StoppedWaitFor` as the cascades call it: channel 0 or `bDeleting` -/
def Quiet3 (R : List Nat → State → State → Prop) (f : State → Nat → Nat → Bool → State) : Prop :=
  ∀ X s t name d, NInv s → (name = 0 ∨ d = true) → R X s (f s t name d)

structure QuietAll (R : List Nat → State → State → Prop) (fuel : Nat) : Prop where
  dt : Quiet1 R (deleteThread fuel)
  sn : Quiet1 R (stoppedNotify fuel)
  stp : Quiet1 R (stop fuel)
  cwa : Quiet1 R (cancelWaitingAll fuel)
  swf : Quiet3 R (stoppedWaitFor fuel)
  ur : ∀ X s src name, NInv s → (name = 0 ∨ QSrc src name) → R X s (unregister fuel s src name)
  ua : Quiet1 R (unregisterAll fuel)

theorem QuietAll.listenerEnd {R : List Nat → State → State → Prop} (hR : QuietRel R) {fuel : Nat} (q : QuietAll R fuel)
    (X : List Nat) {s : State} (h : NInv s) {t : Nat} (ht : 100 ≤ t) : R X s (listenerEnd fuel s t) := by
  have n := nAll fuel
  have h4 := n.ur _ t nameDelete h
  have h5 := n.ur _ t nameRemove h4
  exact hR.trans (hR.trans (hR.trans (q.ur X _ t _ h (Or.inr ⟨ht, Or.inl rfl⟩)) (q.ur X _ t _ h4 (Or.inr ⟨ht, Or.inr rfl⟩)))
    (q.ua X _ t h5)) (q.cwa X _ t (n.ua _ t h5))

theorem QuietAll.imp {R R' : List Nat → State → State → Prop} {fuel : Nat} (h : QuietAll R fuel)
    (hi : ∀ X s s', R X s s' → R' X s s') : QuietAll R' fuel :=
  ⟨fun X s a hs => hi _ _ _ (h.dt X s a hs), fun X s a hs => hi _ _ _ (h.sn X s a hs),
    fun X s a hs => hi _ _ _ (h.stp X s a hs), fun X s a hs => hi _ _ _ (h.cwa X s a hs),
    fun X s t n d hs hq => hi _ _ _ (h.swf X s t n d hs hq), fun X s src n hs hq => hi _ _ _ (h.ur X s src n hs hq),
    fun X s a hs => hi _ _ _ (h.ua X s a hs)⟩

theorem QuietAll.const {R : List Nat → State → State → Prop} {fuel : Nat} (h : QuietAll R fuel) (X : List Nat) :
    QuietAll (fun _ => R X) fuel :=
  ⟨fun _ => h.dt X, fun _ => h.sn X, fun _ => h.stp X, fun _ => h.cwa X, fun _ => h.swf X, fun _ => h.ur X,
    fun _ => h.ua X⟩

namespace QuietRel
variable {R : List Nat → State → State → Prop} (hR : QuietRel R)
include hR

theorem setTimer (X : List Nat) (s : State) (tm : Timer) : R X s { s with timer := tm } :=
  hR.frame X s tm s.notify s.waitFor s.endOn s.outOfFuel (Tbl.Sub.refl _) (Tbl.Sub.refl _) (fun _ h => h)

theorem fuel (X : List Nat) (s : State) : R X s { s with outOfFuel := true } :=
  hR.frame X s s.timer s.notify s.waitFor s.endOn true (Tbl.Sub.refl _) (Tbl.Sub.refl _) (fun _ h => h)

theorem setEndOn (X : List Nat) (s : State) (E : Tbl)
    (hE : ∀ x, Tbl.hasOwner E x = true → Tbl.hasOwner s.endOn x = true) : R X s { s with endOn := E } :=
  hR.frame X s s.timer s.notify s.waitFor E s.outOfFuel (Tbl.Sub.refl _) (Tbl.Sub.refl _) hE

theorem pre (X : List Nat) : Pre (Kept NInv (R X)) := Pre.kept ⟨hR.refl X, hR.trans⟩ NInv

omit hR in
theorem kept1 {f : State → Nat → State} (hn : N1 f) (hq : Quiet1 R f) (X : List Nat) (s : State) (a : Nat) :
    Kept NInv (R X) s (f s a) := fun h => ⟨hn s a h, hq X s a h⟩

omit hR in
theorem kept3 {f : State → Nat → Nat → Bool → State} (hn : N3 f) (hq : Quiet3 R f) (X : List Nat) {name : Nat} {d : Bool}
    (hd : name = 0 ∨ d = true) (s : State) (t : Nat) : Kept NInv (R X) s (f s t name d) :=
  fun h => ⟨hn s t name d h, hq X s t name d h hd⟩

/-- the tables after one of the four scans with its removal -/
theorem tables (X : List Nat) {s : State} {N W : Tbl} (hi : NInv s → NInv { s with notify := N, waitFor := W })
    (hN : Tbl.Sub N s.notify) (hW : Tbl.Sub W s.waitFor) : Kept NInv (R X) s { s with notify := N, waitFor := W } :=
  fun h => ⟨hi h, hR.frame X s s.timer N W s.endOn s.outOfFuel hN hW (fun _ h => h)⟩

theorem stopStep {cw : State → Nat → State} (hcw : Quiet1 R cw) (X : List Nat) {s : State}
    (h : NInv s) (t : Nat) (th : Th) : R X s (stopStep cw s t th) := by
  unfold Sched.stopStep
  split
  · exact hR.trans (hR.wake X s t) (hR.setTimer X _ _)
  · split
    · exact hR.trans (hR.wake X s t) (hcw X _ _ (h.setTh t _))
    · exact hR.refl X s

theorem notifyLoop {sn : State → Nat → State} (hn : N1 sn) (hsn : Quiet1 R sn) (X : List Nat) {s : State}
    (h : NInv s) (stopped : List Nat) : R X s (notifyLoop sn s stopped) :=
  (notifyLoop_rel (hR.pre X) (kept1 hn hsn X) s stopped h).2

theorem startTiming {stp : State → Nat → State} (hstp : Quiet1 R stp) (X : List Nat) {s : State} (h : NInv s)
    (t : Nat) (hw : ∀ th, thFind s.threads t = some th → th.ts = .waiting) : R X s (startTiming stp s t) := by
  unfold Sched.startTiming
  split
  · exact hstp X s t h
  · exact hR.trans (hR.retime X t (hstp X s t h) hw) (hR.setTimer X _ _)

theorem unregEndOn' {dt : State → Nat → State} (hn : N1 dt) (hd : Quiet1 R dt) (X : List Nat) (s : State)
    (src name : Nat) : Kept NInv (R X) s (unregEndOn dt s src name).1 :=
  unregEndOn_rel (hR.pre X)
    (fun h => ⟨h.setEndOn _ (fun _ ho => Or.inl (Tbl.hasOwner_removeKey ho)),
      hR.setEndOn X s _ (fun _ ho => Tbl.hasOwner_removeKey ho)⟩) (kept1 hn hd X)

theorem unregEndOn {dt : State → Nat → State} (hn : N1 dt) (hd : Quiet1 R dt) (X : List Nat) {s : State}
    (h : NInv s) (src name : Nat) : R X s (unregEndOn dt s src name).1 := (hR.unregEndOn' hn hd X s src name h).2

theorem killLoop {swf : State → Nat → Nat → Bool → State} (hn : N3 swf) (hswf : Quiet3 R swf) (X : List Nat)
    {s : State} (h : NInv s) (stopped : List (Nat × Nat)) : R X s (killLoop swf s stopped) :=
  (killLoop_rel (hR.pre X) (fun s l _ => kept3 hn hswf X (Or.inr rfl) s l) s stopped h).2

end QuietRel

theorem quietAll_zero {R : List Nat → State → State → Prop} (hR : QuietRel R) : QuietAll R 0 where
  dt := fun X s t _ => by rw [deleteThread_zero]; exact hR.fuel X s
  sn := fun X s t _ => by rw [stoppedNotify_zero]; exact hR.fuel X s
  stp := fun X s t _ => by rw [stop_zero]; exact hR.fuel X s
  cwa := fun X s t _ => by rw [cancelWaitingAll_zero]; exact hR.fuel X s
  swf := fun X s t n d _ _ => by rw [stoppedWaitFor_zero]; exact hR.fuel X s
  ur := fun X s t n _ _ => by rw [unregister_zero]; exact hR.fuel X s
  ua := fun X s t _ => by rw [unregisterAll_zero]; exact hR.fuel X s

theorem quietAll_succ {R : List Nat → State → State → Prop} (hR : QuietRel R) {fuel : Nat} (ih : QuietAll R fuel)
    (hdt : Quiet1 R (deleteThread (fuel + 1))) : QuietAll R (fuel + 1) := by
  have n := nAll fuel
  have kswf := fun X => QuietRel.kept3 n.swf ih.swf X (name := 0) (d := false) (Or.inl rfl)
  refine ⟨hdt, ?_, ?_, ?_, ?_, ?_, ?_⟩
  · exact fun X s l h => (stoppedNotify_rel (hR.pre X) (QuietRel.kept1 n.dt ih.dt X) s l h).2
  · intro X s t h
    rw [stop_succ]
    split
    · exact hR.refl X s
    · exact hR.stopStep ih.cwa X h _ _
  · intro X s w h
    rw [cancelWaitingAll_succ]
    exact ((hR.pre X).trans
      (cwaZero_rel (hR.pre X) (fun list => hR.tables X (·.cancelKey w 0 list) (Tbl.Sub.purge _ _ _ _ _ _) (Tbl.Sub.removeKey _ _))
        (kswf X · w) (QuietRel.kept1 n.sn ih.sn X))
      (cwaRest_rel (hR.pre X) (hR.tables X (·.cancelOwner w) (Tbl.Sub.multiPurge _ _ _ _ _) (Tbl.Sub.removeOwner _ _))
        (kswf X · w) (QuietRel.kept1 n.sn ih.sn X)) h).2
  · intro X s t name d h hq
    -- as the cascades call it (channel 0 or `bDeleting`) `StoppedWaitFor` neither executes nor resumes
    refine stoppedWaitFor_split (P := fun r => R X s r) fuel s t name d (fun _ => hR.refl X s)
      (fun _ _ _ _ _ => ih.dt X _ _ h)
      (fun _ _ _ _ hd _ hn _ => absurd (hq.resolve_right (by rw [hd]; nofun)) hn)
      (fun _ _ _ _ hd _ hn _ => absurd (hq.resolve_right (by rw [hd]; nofun)) hn)
      (fun th _ hf _ _ hw _ => ?_) (fun _ _ _ _ _ _ => hR.cancelEvents X s t)
    refine hR.trans (hR.cancelEvents X s t) (hR.startTiming ih.stp X (cancelEvents_ninv h t) t fun th0 hth0 => ?_)
    cases hth0.symm.trans hf
    exact hw
  · intro X s src name h hq
    rw [unregister_succ]
    have q1 := hR.unregEndOn' n.dt ih.dt X s src name
    split
    · exact (q1 h).2
    · refine ((hR.pre X).trans q1 ?_ h).2
      rcases hq with rfl | hq
      · exact unregNotify_rel (hR.pre X)
          (fun list => hR.tables X (·.unregKey src 0 list) (Tbl.Sub.removeKey _ _) (Tbl.Sub.purge _ _ _ _ _ _))
          (kswf X) (QuietRel.kept1 n.sn ih.sn X · src)
      · intro h1
        rw [unregNotify_qsrc h1 hq]
        exact ⟨h1, hR.refl X _⟩
  · intro X s src h
    rw [unregisterAll_succ]
    exact ((hR.pre X).trans ((hR.pre X).trans (fun h => ⟨n.ur s src 0 h, ih.ur X s src 0 h (Or.inl rfl)⟩)
        (fun h => ⟨h.setEndOn _ (fun _ ho => Or.inl (Tbl.hasOwner_removeOwner ho)),
          hR.setEndOn X _ _ (fun _ ho => Tbl.hasOwner_removeOwner ho)⟩))
      (uaRest_rel (hR.pre X) (hR.tables X (·.unregOwner src) (Tbl.Sub.removeOwner _ _) (Tbl.Sub.multiPurge _ _ _ _ _))
        (fun s l _ => QuietRel.kept3 n.swf ih.swf X (Or.inr rfl) s l) (QuietRel.kept1 n.sn ih.sn X · src)) h).2

theorem quietAll {R : List Nat → State → State → Prop} (hR : QuietRel R)
    (hdt : ∀ fuel, QuietAll R fuel → Quiet1 R (deleteThread (fuel + 1))) : ∀ fuel, QuietAll R fuel
  | 0 => quietAll_zero hR
  | fuel + 1 => quietAll_succ hR (quietAll hR hdt fuel) (hdt fuel (quietAll hR hdt fuel))

end Morfuse.Sched
