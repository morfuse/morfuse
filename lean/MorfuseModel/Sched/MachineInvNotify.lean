import MorfuseModel.Sched.MachineInvCascade
/-!
# `Inv` through `StoppedWaitFor`, `Unregister(name)` (= script `notify`) and `UnregisterAll`
-/
namespace Morfuse.Sched

variable {P : List Nat → State → Prop}

/-- `ScriptExecuteInternal` of `t` begins with `Stop()`, which ends the waiting of a woken `t`; for the rider `t` is active
    until its `Execute` returns.  Callers: a waiter woken from idle (`StoppedWaitFor`), which its own `Stop()` may destroy
    (a wait cycle), so that it leaves the active set by `idleActive`; a thread just created, whose `Stop()` does nothing. -/
def ISei (P : List Nat → State → Prop) (f : State → Nat → State) : Prop :=
  ∀ W s t th, Inv [] (t :: W) none s → thFind s.threads t = some th → th.hasVM = true →
    Ok (f s t) (Inv [] W none (f s t) ∧ G s (f s t) ∧
      ∀ A, (th.vm = .idling ∨ th.ts = .running) → P (t :: A) s → P A (f s t))

theorem not_alive_running {C W : List Nat} {top : Option Nat} {s : State} (h : Inv C W top s) {t : Nat}
    (ht : 100 ≤ t) (ha : s.alive t = false) : ∀ th, thFind s.threads t = some th → th.ts = .running := by
  intro th hth
  rw [State.alive_ge _ ht] at ha
  cases hd : th.dead with
  | true =>
    have r := h.th t th hth
    exact r.f1 (r.f2 hd).1
  | false =>
    have := (aliveTh_iff h.n.nodup t).2 ⟨th, hth, hd⟩
    rw [ha] at this; cases this

theorem startTiming_inv {fuel : Nat} (hstp : IStp (stop fuel)) {C W : List Nat} {s : State} {t : Nat} {th : Th}
    (h : Inv C (t :: W) none s) (hth : thFind s.threads t = some th) (hvm : th.hasVM = true)
    (hw : th.ts = .waiting) :
    Ok (startTiming (stop fuel) s t) (Inv C W none (startTiming (stop fuel) s t)) := by
  unfold startTiming
  have q := (qAll fuel).stp [] s t h.n
  refine (hstp C W s t h).bind ?_ (fun p => ?_)
  · split
    · exact Pres.refl _
    · exact (Pres.setTh _ _ _).trans (addTiming_pres _ _ _)
  split
  · exact Ok.pure p.1
  · rename_i hal
    obtain ⟨th1, hth1, hvm1, hd1⟩ := q.alive_hasVM p.1.n hth hvm (h.n.range t th hth).1 (by simpa using hal)
    have hrun : th1.ts = .running := p.2 th1 hth1
    have hvmne : th1.vm ≠ .running := by
      obtain ⟨th0, h0, qt⟩ := q.th t th1 hth1
      rw [hth] at h0; cases h0
      have hne : th.vm ≠ .running := by
        intro e; have := (h.th t th hth).f3 e; rw [hw] at this; cases this
      rcases qt.vm with e | e
      · rw [e]; exact hne
      · rw [e]; simp
    have r1 := p.1.th t th1 hth1
    exact Ok.pure (p.1.setTh_awake t (fun th => { th with ts := .timing }) th1
      ((stop fuel s t).timer.add t ((stop fuel s t).scaled + 0)) hth1 (fun _ => rfl)
      ⟨fun hv => (by rw [hvm1] at hv; cases hv), fun hd => (by rw [hd1] at hd; cases hd),
        fun hr => absurd hr hvmne, r1.f5⟩ (fun _ => rfl)
      (p.1.tim.start t _ th1 hth1 (by rw [hrun]; simp) _ (fun _ => rfl)) (by simp) (fun x m => m) (fun x m _ => m)
      (fun hw0 => by rw [hrun] at hw0; cases hw0))

theorem stoppedWaitFor_inv_succ {fuel : Nat} (L : ExecKept P) (hdt : IDt (deleteThread fuel)) (hstp : IStp (stop fuel))
    (hsei : ISei P (scriptExecuteInternal fuel)) : ISwf P (stoppedWaitFor (fuel + 1)) := by
  intro C W s t name d h hside
  refine stoppedWaitFor_split (P := fun s' => Ok s' (Inv C W none s' ∧ G s s' ∧ ∀ A, P A s → P A s')) fuel s t name d
    ?_ ?_ ?_ ?_ ?_ ?_
  · -- nothing happens: `t` was not waiting
    intro hno
    refine Ok.pure ⟨h.dropW (fun th0 h0 => ?_), G.refl s, fun _ j => j⟩
    rcases hno with hnt | hnone | ⟨th, hf, hv⟩
    · have := (State.isThread_iff t).2 (h.n.range t th0 h0).1
      rw [hnt] at this; cases this
    · rw [h0] at hnone; cases hnone
    · rw [h0] at hf; cases hf
      rw [(h.th t th0 h0).f1 hv]; simp
  · intro _ _ _ _ _
    exact (hdt C W s t h).map (fun p => ⟨p, ((qAll fuel).dt [] s t h.n).toG, fun A => (L.quietAll fuel).dt A s t h.n⟩)
  · intro th _ hf hvm hd hw hname hvi
    obtain ⟨hC, _⟩ := hside hname hd
    subst hC
    refine (hsei W _ t th (cancelEvents_inv h t) hf hvm).map (fun p => ⟨p.1, ?_, fun A j => ?_⟩)
    · exact G.trans h.n (G.of_eq (s' := cancelEvents s t) rfl rfl rfl rfl) p.2.1
    · exact p.2.2 A (Or.inl hvi) (L.mono (L.cancelEvents t j) (fun x m => List.mem_cons_of_mem _ m))
  · -- a thread woken under a name other than 0 is idle
    intro th _ hf _ hd hw hname hvi
    exact absurd ((hside hname hd).2 th hf hw) hvi
  · intro th _ hf hvm _ hw _
    have i1 : Inv C (t :: W) none (cancelEvents s t) := cancelEvents_inv h t
    have hw0 : ∀ th0, thFind (cancelEvents s t).threads t = some th0 → th0.ts = .waiting := fun th0 h0 => by
      cases hf.symm.trans h0; exact hw
    refine (startTiming_inv hstp i1 hf hvm hw).map (fun p => ⟨p, ?_, fun A j => ?_⟩)
    · exact Q.toG ((cancelEvents_q [] s t).trans (qQuiet.startTiming (qAll fuel).stp [] i1.n t hw0))
    · exact L.quiet.startTiming (L.quietAll fuel).stp A i1.n t hw0 (L.cancelEvents t j)
  · intro th _ hf _ _ hw
    exact Ok.pure ⟨(cancelEvents_inv h t).dropW_awake (th := th) hf hw, G.of_eq rfl rfl rfl rfl,
      fun _ => L.cancelEvents t⟩

/-- what `Unregister(name)`, `name ≠ 0`, knows of a woken waiter whose turn has not come: kept by `G` (`of_g`), hence by
    the earlier rounds of the wake loop, and enough for the side condition of `ISwf` -/
def IdleP (s : State) (l : Nat) : Prop :=
  l < s.nextTid ∧ ∀ th, thFind s.threads l = some th → th.vm = .idling ∨ th.vm = .destroyed

theorem IdleP.of_g {a b : State} {l : Nat} (g : G a b) (h : IdleP a l) : IdleP b l := by
  refine ⟨Nat.lt_of_lt_of_le h.1 g.tid, ?_⟩
  intro th' hf
  obtain ⟨th, h1, _⟩ := g.mono l th' h.1 hf
  rcases g.idle l th h1 (h.2 th h1) with e | ⟨th2, e, e2⟩
  · rw [e] at hf; cases hf
  · rw [hf] at e; cases e; exact e2

theorem Inv.dropW_not_alive {C W : List Nat} {top : Option Nat} {s : State} {l : Nat} (h : Inv C (l :: W) top s)
    (ha : ¬ s.alive l = true) : Inv C W top s := by
  apply h.dropW
  intro th hth
  have hl : 100 ≤ l := (h.n.range l th hth).1
  rw [not_alive_running h hl (by simpa using ha) th hth]; simp

/-- the woken waiters are exempt until their turn comes, in the order of the loop -/
theorem wakeLoop_inv {swf : State → Nat → Nat → Bool → State} (hp : Pres3 swf) (hswf : ISwf P swf)
    (C W : List Nat) (name : Nat) (L : List Nat) (s : State) (h : Inv C (L.reverse ++ W) none s)
    (hside : name ≠ 0 → C = [] ∧ ∀ l ∈ L.reverse, IdleP s l) :
    Ok (wakeLoop swf s name L)
      (Inv C W none (wakeLoop swf s name L) ∧ G s (wakeLoop swf s name L) ∧ ∀ A, P A s → P A (wakeLoop swf s name L)) :=
  (Ok.foldlRest
    (fun L s' => Inv C (L ++ W) none s' ∧ G s s' ∧ (∀ A, P A s → P A s') ∧ (name ≠ 0 → C = [] ∧ ∀ l ∈ L, IdleP s' l))
    (ifAlive_rel presSteps.toPre _ fun s l => hp s l name false)
    (fun l L s' ⟨h', g, j, hside⟩ => by
      have hrest : name ≠ 0 → C = [] ∧ ∀ l' ∈ L, IdleP s' l' :=
        fun hn => ⟨(hside hn).1, fun l' hl' => (hside hn).2 l' (List.mem_cons_of_mem _ hl')⟩
      split
      · refine (hswf C (L ++ W) s' l name false h' fun hn _ => ⟨(hside hn).1, fun th hth hw => ?_⟩).map fun p =>
          ⟨p.1, G.trans h.n g p.2.1, fun A a => p.2.2 A (j A a),
            fun hn => ⟨(hrest hn).1, fun l' hl' => ((hrest hn).2 l' hl').of_g p.2.1⟩⟩
        rcases ((hside hn).2 l List.mem_cons_self).2 th hth with e | e
        · exact e
        · have r := h'.th l th hth
          have := r.f1 (r.f5 e); rw [hw] at this; cases this
      · rename_i ha
        exact Ok.pure ⟨h'.dropW_not_alive ha, g, j, hrest⟩)
    L.reverse s ⟨h, G.refl s, fun _ a => a, hside⟩).map fun p => ⟨p.1, p.2.1, p.2.2.1⟩

theorem killLoop_inv {swf : State → Nat → Nat → Bool → State} (hp : Pres3 swf) (hswf : ISwf P swf)
    (C W : List Nat) (L : List (Nat × Nat)) (s : State) (h : Inv C (L.reverse.map (·.1) ++ W) none s) :
    Ok (killLoop swf s L) (Inv C W none (killLoop swf s L)) :=
  Ok.foldlRest (fun (L : List (Nat × Nat)) s => Inv C (L.map (·.1) ++ W) none s)
    (ifAlive_rel presSteps.toPre _ fun s (ln : Nat × Nat) => hp s ln.1 ln.2 true)
    (fun ln L s h => by
      split
      · exact (hswf C (L.map (·.1) ++ W) s ln.1 ln.2 true h fun _ hd => nomatch hd).map (·.1)
      · rename_i ha
        exact Ok.pure (h.dropW_not_alive ha)) L.reverse s h

theorem unregEndOn_inv {dt : State → Nat → State} (hp : Pres1 dt) (hdt : IDt dt) {C W : List Nat} {s : State}
    (h : Inv C W none s) (src name : Nat) :
    Ok (unregEndOn dt s src name).1 (Inv C W none (unregEndOn dt s src name).1) :=
  unregEndOn_rel (Pre.imp fun s => Ok s (Inv C W none s))
    (Ok.kept (Pres.of_eq rfl rfl rfl) fun h => Ok.pure (h.setEndOn _ fun _ ho => Or.inl (Tbl.hasOwner_removeKey ho)))
    (IDt.kept hp hdt C W) (Ok.pure h)

/-- the state of `Unregister(name)` after both tables are updated, before any listener is told: the
    invariant with the woken waiters exempt, and they are idle when the name is not 0 -/
theorem unregNotify_mid {C W : List Nat} {s : State} (h : Inv C W none s) (src name : Nat) (list : List Nat)
    (hf : Tbl.find s.notify (src, name) = some list) (hside : C = [] ∨ name = 0 ∨ QSrc src name) :
    Inv C ((Tbl.purge s.alive s.waitFor src name list []).2.reverse ++ W) none
        ({ ({ s with waitFor := (Tbl.purge s.alive s.waitFor src name list []).1 } : State) with
          notify := Tbl.removeKey s.notify (src, name) }) ∧
      (name ≠ 0 → C = [] ∧ ∀ l ∈ (Tbl.purge s.alive s.waitFor src name list []).2.reverse,
        IdleP ({ ({ s with waitFor := (Tbl.purge s.alive s.waitFor src name list []).1 } : State) with
          notify := Tbl.removeKey s.notify (src, name) }) l) := by
  have hg : Tbl.getD s.notify (src, name) = list := Tbl.find_eq_getD_of_some hf
  have hne : Tbl.getD s.notify (src, name) ≠ [] := by rw [hg]; exact h.n.wfN.find_ne_nil hf
  have hmir : TblMirror (Tbl.removeKey s.notify (src, name)) (Tbl.purge s.alive s.waitFor src name list []).1 := by
    have := h.tab.mir.purge_removeKey s.alive src name [] (fun l hl => h.waiters_alive src name l hl)
    rw [hg] at this; exact this
  refine ⟨h.setTables _ _ (h.n.wfN.removeKey _) (Tbl.purge_WF _ h.n.wfW _ _ _ _) (Tbl.Sub.removeKey _ _)
      (Tbl.Sub.purge _ _ _ _ _ _) hmir (fun x m => List.mem_append_right _ m) (fun x th hx hw ho => ?_), ?_⟩
  · by_cases hno : Tbl.hasOwner (Tbl.purge s.alive s.waitFor src name list []).1 x = true
    · exact Or.inr hno
    · left
      apply List.mem_append_left
      rw [List.mem_reverse]
      exact Tbl.lost_owner_stopped h.n.wfW s.alive src name list [] ho hno
  -- a waiter woken under a name other than 0 is idle
  have hidle : name ≠ 0 → C = [] ∧ ∀ l ∈ (Tbl.purge s.alive s.waitFor src name list []).2.reverse, IdleP s l := by
    intro hn
    have hC : C = [] := by
      rcases hside with e | e | e
      · exact e
      · exact absurd e hn
      · exfalso
        have hk := h.n.n1 src name e.1 hne
        rcases e.2 with e2 | e2
        · exact hk.1 e2
        · exact hk.2 e2
    refine ⟨hC, ?_⟩
    intro l hl
    rw [List.mem_reverse] at hl
    rcases Tbl.purge_stopped s.alive s.waitFor src name list [] l hl with e | ⟨_, _, e3⟩
    · simp at e
    · have hown : Tbl.hasOwner s.waitFor l = true :=
        (h.n.wfW.hasOwner_iff l).2 ⟨name, List.ne_nil_of_mem e3⟩
      rcases h.lnk.linkC l hown with m | ⟨th, hth, hw⟩
      · rw [hC] at m; simp at m
      · refine ⟨(h.n.range l th hth).2, ?_⟩
        intro th0 h0
        rw [hth] at h0; cases h0
        left
        cases hv : th.vm with
        | idling => rfl
        | _ =>
          exfalso
          rcases h.lnk.f4 l th hth hw (by rw [hv]; simp) with e | e
          · cases e
          · exact hn (e name (List.ne_nil_of_mem e3))
  exact fun hn => ⟨(hidle hn).1, fun l hl => ((hidle hn).2 l hl).of_g (G.of_eq rfl rfl rfl rfl)⟩

theorem unregNotify_inv {fuel : Nat} (L : ExecKept P) (hswf : ISwf P (stoppedWaitFor fuel))
    (hsn : ISn (stoppedNotify fuel)) {C W : List Nat} {s : State} (h : Inv C W none s) (src name : Nat)
    (hside : C = [] ∨ name = 0 ∨ QSrc src name) :
    Ok (unregNotify (stoppedWaitFor fuel) (stoppedNotify fuel) s src name)
      (Inv C W none (unregNotify (stoppedWaitFor fuel) (stoppedNotify fuel) s src name) ∧
        G s (unregNotify (stoppedWaitFor fuel) (stoppedNotify fuel) s src name) ∧
        ∀ A, P A s → P A (unregNotify (stoppedWaitFor fuel) (stoppedNotify fuel) s src name)) := by
  unfold unregNotify
  split
  · exact Ok.pure ⟨h, G.refl s, fun _ j => j⟩
  · cases hf : Tbl.find s.notify (src, name) with
    | none => exact Ok.pure ⟨h, G.refl s, fun _ j => j⟩
    | some list =>
      simp only [unregisterTargets_eq_purge]
      obtain ⟨h1, hidle1⟩ := unregNotify_mid h src name list hf hside
      have g1 : G s ({ ({ s with waitFor := (Tbl.purge s.alive s.waitFor src name list []).1 } : State) with
            notify := Tbl.removeKey s.notify (src, name) }) := G.of_eq rfl rfl rfl rfl
      have Pr := presAll fuel
      split
      · refine (hsn C _ _ src h1).bind ?_ (fun p2 => ?_)
        · exact wakeLoop_rel presSteps.toPre (fun s l => Pr.swf s l name false) _ _
        have g2 : G _ (stoppedNotify fuel _ src) := ((qAll fuel).sn [] _ src h1.n).toG
        exact (wakeLoop_inv Pr.swf hswf C W name _ _ p2
          (fun hn => ⟨(hidle1 hn).1, fun l hl => ((hidle1 hn).2 l hl).of_g g2⟩)).map (fun p3 =>
            ⟨p3.1, G.trans h.n g1 (G.trans h1.n g2 p3.2.1),
              fun A j => p3.2.2 A ((L.quietAll fuel).sn A _ src h1.n (L.congr j rfl rfl rfl rfl))⟩)
      · exact (wakeLoop_inv Pr.swf hswf C W name _ _ h1 hidle1).map (fun p3 =>
          ⟨p3.1, G.trans h.n g1 p3.2.1, fun A j => p3.2.2 A (L.congr j rfl rfl rfl rfl)⟩)

theorem unregister_inv_succ {fuel : Nat} (L : ExecKept P) (hdt : IDt (deleteThread fuel))
    (hswf : ISwf P (stoppedWaitFor fuel)) (hsn : ISn (stoppedNotify fuel)) : IUr P (unregister (fuel + 1)) := by
  intro C W s src name h hside
  rw [unregister_succ]
  have Pr := presAll fuel
  have q1 := qQuiet.unregEndOn (nAll fuel).dt (qAll fuel).dt [] h.n src name
  have j1 := fun A => L.quiet.unregEndOn (nAll fuel).dt (L.quietAll fuel).dt A h.n src name
  split
  · exact (unregEndOn_inv Pr.dt hdt h src name).map (fun p => ⟨p, q1.toG, j1⟩)
  · refine (unregEndOn_inv Pr.dt hdt h src name).bind (unregNotify_pres Pr.swf Pr.sn _ _ _) (fun p => ?_)
    exact (unregNotify_inv L hswf hsn p src name hside).map
      (fun p2 => ⟨p2.1, G.trans h.n q1.toG p2.2.1, fun A j => p2.2.2 A (j1 A j)⟩)

/-- the state of `UnregisterAll` after both tables are updated, before any waiter is told: the invariant with the
    waiters to be destroyed exempt -/
theorem uaRest_mid {C W : List Nat} {s : State} (h : Inv C W none s) (src : Nat) :
    Inv C (((uaTargets s src).2.reverse).map (·.1) ++ W) none
      ({ ({ s with waitFor := (Tbl.multiPurge s.alive s.waitFor src (Tbl.keysOf s.notify src) []).1 } : State) with
        notify := Tbl.removeOwner s.notify src }) := by
  have hmir : TblMirror (Tbl.removeOwner s.notify src)
      (Tbl.multiPurge s.alive s.waitFor src (Tbl.keysOf s.notify src) []).1 :=
    h.tab.mir.multiPurge_removeOwner h.n.wfN s.alive src [] (fun n l hl => h.waiters_alive src n l hl)
  have hWF := Tbl.multiPurge_WF s.alive src (Tbl.keysOf s.notify src) s.waitFor [] h.n.wfW
  refine h.setTables _ _ (h.n.wfN.removeOwner _) hWF (Tbl.Sub.removeOwner _ _)
    (Tbl.Sub.multiPurge _ _ _ _ _) hmir (fun x m => List.mem_append_right _ m) (fun x th hx hw ho => ?_)
  · by_cases hno : Tbl.hasOwner (Tbl.multiPurge s.alive s.waitFor src (Tbl.keysOf s.notify src) []).1 x = true
    · exact Or.inr hno
    · left
      apply List.mem_append_left
      -- some entry of `x` changed: `x` waited for `src` under that name
      obtain ⟨n0, hn0, hall⟩ := Tbl.lost_owner h.n.wfW hWF ho hno
      obtain ⟨y, hy⟩ := List.exists_mem_of_ne_nil _ hn0
      have hc := List.filter_eq_nil_iff.1 (Tbl.multiPurge_getD s.alive src _ s.waitFor [] _ ▸ hall) y hy
      obtain ⟨_, e, he, he1, he2⟩ : (y = src ∧ s.alive x = true) ∧ ∃ e ∈ Tbl.keysOf s.notify src, e.1 = n0 ∧ x ∈ e.2 := by
        simpa using hc
      have hk := (h.n.wfN.mem_keysOf_iff src e.1 e.2).1 he
      have hxl : x ∈ Tbl.getD s.notify (src, n0) := by rw [← he1, hk.1]; exact he2
      have hsx := (h.tab.mir.mem_iff src n0 x).1 hxl
      have := uaTargets_complete s src h.n.wfN n0 x hxl (h.waiters_alive src n0 x hxl) hsx
      exact List.mem_map.2 ⟨(x, n0), List.mem_reverse.2 this, rfl⟩

theorem uaRest_inv {fuel : Nat} (hswf : ISwf P (stoppedWaitFor fuel)) (hsn : ISn (stoppedNotify fuel))
    {C W : List Nat} {s : State} (h : Inv C W none s) (src : Nat) :
    Ok (uaRest (stoppedWaitFor fuel) (stoppedNotify fuel) s src)
      (Inv C W none (uaRest (stoppedWaitFor fuel) (stoppedNotify fuel) s src) ∧
        Tbl.hasOwner (uaRest (stoppedWaitFor fuel) (stoppedNotify fuel) s src).notify src = false) := by
  unfold uaRest
  split
  · rename_i hno
    exact Ok.pure ⟨h, by simpa using hno⟩
  · simp only
    have hfr := uaTargets_frame s src
    have h1 := uaRest_mid h src
    have hown1 : Tbl.hasOwner (Tbl.removeOwner s.notify src) src = false := Tbl.hasOwner_removeOwner_self _ src
    have Pr := presAll fuel
    rw [hfr]
    refine (hsn C _ _ src h1).bind ?_ (fun p2 => ?_)
    · exact killLoop_rel presSteps.toPre (fun s l n => Pr.swf s l n true) _ _
    refine (killLoop_inv Pr.swf hswf C W _ _ p2).map (fun p3 => ?_)
    have q2 := (qAll fuel).sn [] _ src h1.n
    have q3 := qQuiet.killLoop (nAll fuel).swf (qAll fuel).swf [] p2.n (uaTargets s src).2
    have hown3 := Tbl.hasOwner_false_of_sub h1.n.wfN p3.n.wfN (q2.trans q3).subN hown1
    exact ⟨p3, hown3⟩

/-- `UnregisterAll` is `Unregister(0)`, the removal of the `endon` lists, then `uaRest`: the invariant holds again
    where `uaRest` starts, and what `uaRest` establishes from it the whole call establishes -/
theorem unregisterAll_of_uaRest {fuel : Nat} (hur : IUr P (unregister fuel)) {C W : List Nat} {s : State}
    (h : Inv C W none s) (src : Nat) {Q : State → Prop}
    (hrest : Inv C W none
        { (unregister fuel s src 0) with endOn := Tbl.removeOwner (unregister fuel s src 0).endOn src } →
      Ok (uaRest (stoppedWaitFor fuel) (stoppedNotify fuel)
          { (unregister fuel s src 0) with endOn := Tbl.removeOwner (unregister fuel s src 0).endOn src } src)
        (Q (uaRest (stoppedWaitFor fuel) (stoppedNotify fuel)
          { (unregister fuel s src 0) with endOn := Tbl.removeOwner (unregister fuel s src 0).endOn src } src))) :
    Ok (unregisterAll (fuel + 1) s src) (Q (unregisterAll (fuel + 1) s src)) := by
  rw [unregisterAll_succ]
  have Pr := presAll fuel
  refine (hur C W s src 0 h (Or.inr (Or.inl rfl))).bind ?_ fun p =>
    hrest (p.1.setEndOn _ fun o ho => Or.inl (Tbl.hasOwner_removeOwner ho))
  exact (Pres.of_eq rfl rfl rfl : Pres (unregister fuel s src 0)
    { (unregister fuel s src 0) with endOn := Tbl.removeOwner (unregister fuel s src 0).endOn src }).trans
    (uaRest_pres Pr.swf Pr.sn _ _)

theorem unregisterAll_inv_succ {fuel : Nat} (hur : IUr P (unregister fuel)) (hswf : ISwf P (stoppedWaitFor fuel))
    (hsn : ISn (stoppedNotify fuel)) : IUa (unregisterAll (fuel + 1)) := fun C W _ src h =>
  unregisterAll_of_uaRest hur h src (Q := fun r => Inv C W none r ∧ Tbl.hasOwner r.notify src = false)
    fun h1 => uaRest_inv hswf hsn h1 src

end Morfuse.Sched
