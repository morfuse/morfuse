import MorfuseModel.EventQueue.Model
import MorfuseModel.BlockAlloc.ListLemmas
/-!
# `LinkedList<T*, next, prev>` (root/tail specialisation): the link operations refine list operations

`Seg nx pv p l e`: the nodes of `l` are linked both ways in order, the first one's `prev` is `p`
and the last one's `next` is `e`.  `Repr q l`: the queue's links, `rootnode` and `tail` represent
exactly the list of node ids `l` (null-terminated at both ends).  `Seg`, `lastD` and `LQ.walk` are `BlockAlloc.Seg`,
`List.getLastD` and `BlockAlloc.listWalk` under the names that the model, `Repr` and `Spec.lean` are written with
(`seg_iff`, `lastD_eq_getLastD`, `walk_eq_listWalk`).

The list is a ring through the null node (`repr_iff_ring`): every link operation is `ring_link` or `ring_unlink`, the
writes to the null node's fields landing in `rootnode` / `tail`.  `Insert(c, n)` has no statement for `rootnode`, so it
represents the list only when `c` has a predecessor — the case `PostEvent` uses; `Postpone…` as found also used it on
the root.
-/
namespace Morfuse.EventQueue
open Morfuse.Ring
open Morfuse.BlockAlloc (Lnk)

def lastD {α : Type} : List α → α → α
  | [], d => d
  | a :: t, _ => lastD t a

@[simp] theorem lastD_nil {α : Type} (d : α) : lastD [] d = d := rfl
@[simp] theorem lastD_cons {α : Type} (a : α) (t : List α) (d : α) : lastD (a :: t) d = lastD t a := rfl
theorem lastD_eq_getLastD {α : Type} : ∀ (l : List α) (d : α), lastD l d = l.getLastD d
  | [], _ => rfl
  | a :: t, _ => by rw [lastD_cons, List.getLastD_cons, lastD_eq_getLastD t a]
theorem lastD_mem {α : Type} : ∀ (l : List α) (d : α), l ≠ [] → lastD l d ∈ l
  | [], _, h => absurd rfl h
  | a :: t, _, _ => by rw [lastD_cons, lastD_eq_getLastD]; exact List.getLastD_mem_cons
theorem lastD_map {α β : Type} (f : α → β) : ∀ (l : List α) (d : α), lastD (l.map f) (f d) = f (lastD l d)
  | [], _ => rfl
  | a :: t, _ => by simp [lastD_map f t a]

def Seg (nx pv : Nat → Nat) : Nat → List Nat → Nat → Prop
  | _, [], _ => True
  | p, a :: t, e => pv a = p ∧ nx a = t.headD e ∧ Seg nx pv a t e

theorem seg_iff {nx pv : Nat → Nat} : ∀ (p : Nat) (l : List Nat) (e : Nat),
    Seg nx pv p l e ↔ BlockAlloc.Seg nx pv p l e
  | _, [], _ => Iff.rfl
  | _, a :: t, e => and_congr Iff.rfl (and_congr Iff.rfl (seg_iff a t e))

theorem seg_append {nx pv : Nat → Nat} (p : Nat) (S T : List Nat) (e : Nat) :
    Seg nx pv p (S ++ T) e ↔ Seg nx pv p S (T.headD e) ∧ Seg nx pv (lastD S p) T e := by
  simp only [seg_iff, lastD_eq_getLastD]; exact BlockAlloc.seg_append p S T e

theorem seg_congr {nx pv nx' pv' : Nat → Nat} (p : Nat) (L : List Nat) (e : Nat)
    (hc : ∀ y ∈ L, nx' y = nx y ∧ pv' y = pv y) (h : Seg nx pv p L e) : Seg nx' pv' p L e :=
  (seg_iff p L e).2 (BlockAlloc.seg_congr p L e hc ((seg_iff p L e).1 h))

/-- the predecessor of the first node only matters for that node's `prev` -/
theorem seg_head {nx pv : Nat → Nat} {a : Nat} {t : List Nat} {p p' e : Nat}
    (h : Seg nx pv p (a :: t) e) (hp : pv a = p') : Seg nx pv p' (a :: t) e :=
  ⟨hp, h.2.1, h.2.2⟩

structure Repr (q : LQ) (l : List Nat) : Prop where
  nodup : l.Nodup
  nz : 0 ∉ l
  root : q.root = l.headD 0
  tail : q.tail = lastD l 0
  seg : Seg q.nx.get q.pv.get 0 l 0
  cnt : q.cnt = l.length

theorem repr_empty : Repr LQ.empty [] := by
  constructor <;> simp [LQ.empty, Seg]

/-- the queue's list object and link fields, as the `LinkedList` of `BlockAlloc/Model.lean` -/
def LQ.lnk (q : LQ) : Lnk := ⟨q.nx, q.pv, ⟨q.root, q.tail⟩⟩

theorem repr_iff_ring {q : LQ} {l : List Nat} :
    Repr q l ↔ IsRing (upd q.nx.get 0 q.root) (upd q.pv.get 0 q.tail) 0 l ∧ q.cnt = l.length := by
  rw [BlockAlloc.ring_iff_list, ← seg_iff, ← lastD_eq_getLastD]
  exact ⟨fun h => ⟨⟨h.nodup, h.nz, h.root, h.tail, h.seg⟩, h.cnt⟩,
    fun ⟨⟨h1, h2, h3, h4, h5⟩, h6⟩ => ⟨h1, h2, h3, h4, h5, h6⟩⟩

theorem Repr.setData {q : LQ} {l : List Nat} (h : Repr q l) (d : EvMem) : Repr { q with data := d } l :=
  ⟨h.nodup, h.nz, h.root, h.tail, h.seg, h.cnt⟩

theorem Repr.root_zero_iff {q : LQ} {l : List Nat} (h : Repr q l) : q.root = 0 ↔ l = [] := by
  simpa using (ring_alone_iff (repr_iff_ring.1 h).1).1

theorem Repr.split {q : LQ} {s u : List Nat} {x : Nat} (h : Repr q (s ++ x :: u)) :
    Seg q.nx.get q.pv.get 0 s x ∧ q.pv.get x = lastD s 0 ∧ q.nx.get x = u.headD 0 ∧
    Seg q.nx.get q.pv.get x u 0 := by
  have := (seg_append 0 s (x :: u) 0).1 h.seg
  exact ⟨this.1, this.2.1, this.2.2.1, this.2.2.2⟩

@[simp] theorem LQ.add_data (q : LQ) (n : Nat) : (q.add n).data = q.data := by unfold LQ.add; split <;> rfl
@[simp] theorem LQ.addFirst_data (q : LQ) (n : Nat) : (q.addFirst n).data = q.data := by
  unfold LQ.addFirst; split <;> rfl
@[simp] theorem LQ.insert_data (q : LQ) (c n : Nat) : (q.insert c n).data = q.data := rfl
@[simp] theorem LQ.remove_data (q : LQ) (n : Nat) : (q.remove n).data = q.data := rfl

/-- what `Add(n)` writes, read through the null node: `n` is linked in front of the null node -/
theorem LQ.add_view (q : LQ) {n : Nat} (hn0 : n ≠ 0) (hnt : n ≠ q.tail) (hrt : q.root = 0 ↔ q.tail = 0) :
    upd (q.add n).nx.get 0 (q.add n).root = upd (upd (upd q.nx.get 0 q.root) n 0) q.tail n ∧
    upd (q.add n).pv.get 0 (q.add n).tail = upd (upd (upd q.pv.get 0 q.tail) n q.tail) 0 n := by
  refine ⟨funext fun y => ?_, funext fun y => ?_⟩ <;> unfold LQ.add <;> split <;> rename_i hr
  · simp only [hr, hrt.1 hr, upd, Mem.get_set]
    by_cases hy : y = 0 <;> simp [hy]
  · simp only [upd, Mem.get_set]
    by_cases hy : y = 0
    · subst hy; simp [Ne.symm (mt hrt.2 hr), hn0.symm]
    · by_cases hyn : y = n <;> simp [hy, hyn, hnt, hn0]
  · simp only [hrt.1 hr, upd, Mem.get_set]
    by_cases hy : y = 0 <;> simp [hy]
  · simp only [upd, Mem.get_set]
    by_cases hy : y = 0 <;> simp [hy]

theorem repr_add {q : LQ} {l : List Nat} {n : Nat} (h : Repr q l) (hn0 : n ≠ 0) (hn : n ∉ l) :
    Repr (q.add n) (l ++ [n]) := by
  obtain ⟨hr, hc⟩ := repr_iff_ring.1 h
  have hn' : n ∉ 0 :: l := by simpa using ⟨hn0, hn⟩
  have hl := ring_link (u := []) (n := n) (by simpa using hr) (by simpa using hn')
  have ha := ring_alone_iff hr
  simp only [List.headD_nil, upd_same] at hl ha
  have hv := q.add_view hn0 (fun e => hn' (by rw [e]; simpa using (ring_links hr 0 (by simp)).2.2.2))
    (ha.1.trans ha.2.symm)
  rw [← hv.1, ← hv.2] at hl
  exact repr_iff_ring.2 ⟨hl, by unfold LQ.add; split <;> simp [hc]⟩

theorem LQ.addFirst_eq (q : LQ) (n : Nat) : q.addFirst n =
    { q with tail := (q.lnk.addFirst n).l.tail, nx := (q.lnk.addFirst n).nx, pv := (q.lnk.addFirst n).pv,
             root := (q.lnk.addFirst n).l.root, cnt := q.cnt + 1 } := by
  unfold LQ.addFirst BlockAlloc.Lnk.addFirst LQ.lnk; split <;> rfl

theorem repr_addFirst {q : LQ} {l : List Nat} {n : Nat} (h : Repr q l) (hn0 : n ≠ 0) (hn : n ∉ l) :
    Repr (q.addFirst n) (n :: l) := by
  obtain ⟨hr, hc⟩ := repr_iff_ring.1 h
  rw [LQ.addFirst_eq]
  exact repr_iff_ring.2 ⟨Lnk.addFirst_ring (k := q.lnk) hr (fun _ => rfl) (by simpa using ⟨hn0, hn⟩), by simp [hc]⟩

/-- what `Insert(c, n)` writes when `c` has a predecessor, read through the null node: `n` is linked in front of `c` -/
theorem LQ.insert_view (q : LQ) {c n : Nat} (hn0 : n ≠ 0) (hc0 : c ≠ 0) (hnc : n ≠ c) (hp : q.pv.get c ≠ 0) :
    upd (q.insert c n).nx.get 0 (q.insert c n).root = upd (upd (upd q.nx.get 0 q.root) n c) (q.pv.get c) n ∧
    upd (q.insert c n).pv.get 0 (q.insert c n).tail = upd (upd (upd q.pv.get 0 q.tail) n (q.pv.get c)) c n := by
  have e : (q.pv.set n (q.pv.get c)).get c = q.pv.get c := Mem.get_set_ne _ _ _ _ hnc.symm
  refine ⟨funext fun y => ?_, funext fun y => ?_⟩ <;>
    simp only [LQ.insert, e, ne_eq, hp, not_false_eq_true, if_true, upd, Mem.get_set]
  · by_cases hy : y = 0
    · subst hy; simp [Ne.symm hp, hn0.symm]
    · simp [hy]
  · by_cases hy : y = 0
    · subst hy; simp [hn0.symm, hc0.symm]
    · simp [hy]

theorem repr_insert {q : LQ} {s u : List Nat} {c n : Nat} (h : Repr q (s ++ c :: u)) (hs : s ≠ [])
    (hn0 : n ≠ 0) (hn : n ∉ s ++ c :: u) : Repr (q.insert c n) (s ++ n :: c :: u) := by
  obtain ⟨hr, hc⟩ := repr_iff_ring.1 h
  have hc0 : c ≠ 0 := fun e => h.nz (by simp [e])
  have hl := ring_link (n := n) hr (fun hm => hn ((List.mem_cons.1 hm).resolve_left hn0))
  simp only [List.headD_cons, upd_ne _ 0 _ c hc0] at hl
  have hv := q.insert_view hn0 hc0 (fun e => hn (by simp [e])) (by
    rw [h.split.2.1]; exact fun e => h.nz (e ▸ List.mem_append_left _ (lastD_mem s 0 hs)))
  rw [← hv.1, ← hv.2] at hl
  exact repr_iff_ring.2 ⟨hl, by simp [LQ.insert, hc]; omega⟩

theorem LQ.remove_eq (q : LQ) (n : Nat) : q.remove n =
    { q with root := (q.lnk.remove n).l.root, tail := (q.lnk.remove n).l.tail, nx := (q.lnk.remove n).nx,
             pv := (q.lnk.remove n).pv, cnt := q.cnt - 1 } := by
  simp only [LQ.remove, BlockAlloc.Lnk.remove, LQ.lnk]
  rfl

theorem repr_remove {q : LQ} {s u : List Nat} {x : Nat} (h : Repr q (s ++ x :: u)) :
    Repr (q.remove x) (s ++ u) := by
  obtain ⟨hr, hc⟩ := repr_iff_ring.1 h
  rw [LQ.remove_eq]
  exact repr_iff_ring.2 ⟨(Lnk.remove_ring (k := q.lnk) hr).1, by simp [hc]⟩

/-- `c` is the cursor: the node after `s`, null when there is none -/
theorem repr_link {q : LQ} {s u : List Nat} {n c : Nat} (h : Repr q (s ++ u)) (hn0 : n ≠ 0) (hn : n ∉ s ++ u)
    (hc : c = u.headD 0) :
    Repr (if c = 0 then q.add n else if c = q.root then q.addFirst n else q.insert c n) (s ++ n :: u) := by
  subst hc
  cases u with
  | nil => simpa using repr_add (by simpa using h) hn0 (by simpa using hn)
  | cons c u =>
    have hc0 : c ≠ 0 := fun e => h.nz (by simp [e])
    rw [List.headD_cons, if_neg hc0]
    cases s with
    | nil => rw [if_pos (show c = q.root from h.root.symm)]; exact repr_addFirst h hn0 hn
    | cons a s =>
      have hca : c ≠ q.root := by
        rw [h.root]; intro e
        have := h.nodup
        simp [← show c = a from e] at this
      rw [if_neg hca]; exact repr_insert h (by simp) hn0 hn

theorem walk_eq_listWalk (nx : Mem) : ∀ (fuel i : Nat), LQ.walk fuel nx.get i = BlockAlloc.listWalk nx fuel i
  | 0, _ => rfl
  | fuel + 1, i => by simp only [LQ.walk, BlockAlloc.listWalk, walk_eq_listWalk nx fuel]

theorem walk_seg {nx : Mem} {pv : Nat → Nat} (l : List Nat) (p fuel : Nat) (h : Seg nx.get pv p l 0) (hz : 0 ∉ l)
    (hf : l.length ≤ fuel) : LQ.walk fuel nx.get (l.headD 0) = l := by
  rw [walk_eq_listWalk]; exact BlockAlloc.listWalk_seg nx pv l p fuel ((seg_iff p l 0).1 h) hz hf

theorem Repr.ids {q : LQ} {l : List Nat} (h : Repr q l) : q.ids = l := by
  unfold LQ.ids
  rw [h.root, h.cnt]
  exact walk_seg l 0 _ h.seg h.nz (Nat.le_refl _)

end Morfuse.EventQueue
