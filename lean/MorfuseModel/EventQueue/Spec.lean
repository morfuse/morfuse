import MorfuseModel.EventQueue.LinkList
/-!
# Abstract specification of the queue: a list of events

The second instance of `QImpl`.  `postL` keeps the three-way case split of `EventQueue::PostEvent`
(compare with the tail, compare with the root, else search) at list level, so that the refinement
proof is purely structural; that `postL` is a stable sorted insertion is a separate theorem about
lists (`postL_eq_insert`).
-/
namespace Morfuse.EventQueue

/-! small facts about `takeWhile / dropWhile` missing from core -/
theorem dropWhile_nil_all {α : Type} {p : α → Bool} : ∀ {l : List α}, l.dropWhile p = [] → ∀ x ∈ l, p x = true
  | [], _, x, hx => by simp at hx
  | a :: t, h, x, hx => by
    rw [List.dropWhile_cons] at h
    by_cases hp : p a = true
    · simp only [hp, if_true] at h
      rcases List.mem_cons.1 hx with rfl | hx'
      · exact hp
      · exact dropWhile_nil_all h x hx'
    · simp [hp] at h

theorem takeWhile_all {α : Type} {p : α → Bool} : ∀ {l : List α}, ∀ x ∈ l.takeWhile p, p x = true
  | [], x, hx => by simp at hx
  | a :: t, x, hx => by
    rw [List.takeWhile_cons] at hx
    by_cases hp : p a = true
    · simp only [hp, if_true] at hx
      rcases List.mem_cons.1 hx with rfl | hx'
      · exact hp
      · exact takeWhile_all x hx'
    · simp [hp] at hx

theorem dropWhile_head {α : Type} {p : α → Bool} : ∀ {l : List α} {c : α} {u : List α},
    l.dropWhile p = c :: u → p c = false
  | [], _, _, h => by simp at h
  | a :: t, c, u, h => by
    rw [List.dropWhile_cons] at h
    by_cases hp : p a = true
    · simp only [hp, if_true] at h; exact dropWhile_head h
    · simp only [hp] at h
      have : a = c := by simpa using (List.cons.inj h).1
      subst this; simpa using hp

namespace ListQ

def leDue (t : Int) (x : Ev) : Bool := decide (x.due ≤ t)

def postL (l : List Ev) (e : Ev) : List Ev :=
  match l with
  | [] => [e]
  | r :: t =>
    if e.due < (lastD t r).due then
      if r.due ≤ e.due then
        (r :: t).takeWhile (leDue e.due) ++ e :: (r :: t).dropWhile (leDue e.due)
      else e :: r :: t
    else r :: t ++ [e]

def cancelL (l : List Ev) (p : Ev → Bool) : List Ev × List Ev :=
  (l.filter (fun e => !p e), (l.filter p).reverse)

def popDueL : List Ev → Int → Option (Ev × List Ev)
  | [], _ => none
  | e :: r, t => if e.due > t then none else some (e, r)

/-- sorted insertion: after every event whose due time is not later, before the first later one -/
def insL (l : List Ev) (e : Ev) : List Ev :=
  l.takeWhile (leDue e.due) ++ e :: l.dropWhile (leDue e.due)

/-- `Postpone…` at list level, as the (repaired) code does it: the first match gets a later due time
    and is moved forward, behind every *following* event whose due time is not later -/
def postponeL : List Ev → (Ev → Bool) → Int → Nat → List Ev × Option (Ev × Ev)
  | [], _, _, _ => ([], none)
  | e :: r, p, d, ord =>
    if p e then
      let e' : Ev := { e with due := e.due + d, ord := ord }
      (insL r e', some (e, e'))
    else
      let x := postponeL r p d ord
      (e :: x.1, x.2)

def popDueOfL : List Ev → Nat → Int → Option (Ev × List Ev)
  | [], _, _ => none
  | e :: r, l, t =>
    if e.due > t then none
    else if e.lis ≠ l then
      match popDueOfL r l t with
      | none => none
      | some (x, r') => some (x, e :: r')
    else some (e, r)

def impl : QImpl (List Ev) :=
  ⟨[], postL, cancelL, popDueL, fun l p => l.any p, id,
   fun l p d ord => some (postponeL l p d ord), popDueOfL, fun l => cancelL l (fun _ => true), fun _ recs => some recs⟩

end ListQ

theorem insL_perm (l : List Ev) (e : Ev) : (ListQ.insL l e).Perm (e :: l) := by
  unfold ListQ.insL
  have h1 := List.takeWhile_append_dropWhile (p := ListQ.leDue e.due) (l := l)
  have h2 : (List.takeWhile (ListQ.leDue e.due) l ++ e :: List.dropWhile (ListQ.leDue e.due) l).Perm
      (e :: (List.takeWhile (ListQ.leDue e.due) l ++ List.dropWhile (ListQ.leDue e.due) l)) := List.perm_middle
  rw [h1] at h2; exact h2

theorem postL_perm (l : List Ev) (e : Ev) : (ListQ.postL l e).Perm (e :: l) := by
  unfold ListQ.postL
  cases l with
  | nil => simp
  | cons r t =>
    simp only
    split
    · split
      · exact insL_perm (r :: t) e
      · exact List.Perm.refl _
    · exact List.perm_append_singleton e (r :: t)

theorem mem_postL {l : List Ev} {e x : Ev} : x ∈ ListQ.postL l e ↔ x ∈ l ∨ x = e := by
  rw [(postL_perm l e).mem_iff, List.mem_cons, or_comm]

theorem mem_insL {l : List Ev} {e x : Ev} : x ∈ ListQ.insL l e ↔ x ∈ l ∨ x = e := by
  rw [(insL_perm l e).mem_iff, List.mem_cons, or_comm]

abbrev SState := MState (List Ev)

end Morfuse.EventQueue
