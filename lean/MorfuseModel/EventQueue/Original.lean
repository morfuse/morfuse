import MorfuseModel.EventQueue.Refine
/-!
# The code as found (`Cfg.original`): what `Postpone…` and the loading branch of `Archive` do

`LQ.postpone false` is the transcription of `PostponeEvent / PostponeAllEvents` with the single
`Node.Remove(event); Node.Insert(node, event);`.  From any well-formed queue (`R qa qs`: all the code
reaches before its first postponement):

* `original_postpone_root_lost`: when the match is the root and stays the earliest, the node is linked in
  front of the new root without `rootnode` being updated — the walk from the root no longer meets it;
* `original_postpone_tail_ub`: when nothing after the match has a later due time (in particular when the match
  is the last or the only node) the cursor is null and `Insert` dereferences it;
* `original_load_ub`: the loading branch of `Archive` leaves `node->event` indeterminate in every node it creates.
-/
namespace Morfuse.EventQueue

theorem original_postpone_root_lost {qa : LQ} {e c : Ev} {u : List Ev} {p : Ev → Bool} {d : Int} {ord : Nat}
    (h : R qa (e :: c :: u)) (hp : p e = true) (hlt : e.due + d < c.due) :
    ∃ qa', LQ.postpone false qa p d ord = some (qa', some (e, { e with due := e.due + d, ord := ord })) ∧
      LQ.toList qa' = c :: u := by
  generalize he' : ({ e with due := e.due + d, ord := ord } : Ev) = e'
  have hid' : e'.id = e.id := by rw [← he']
  have hdue' : e'.due = e.due + d := by rw [← he']
  obtain ⟨hff, he0, hde, hq, hscan⟩ := postpone_search (pre := []) (p := p) hid' h (by simp) hp
  have hc0 : c.id ≠ 0 := h.id_ne_zero (by simp)
  have hle : ListQ.leDue e'.due c = false := by simp [ListQ.leDue]; omega
  simp only [List.dropWhile_cons, hle, Bool.false_eq_true, if_false, List.map_cons, List.headD_cons] at hscan
  rw [hdue'] at hscan
  unfold LQ.postpone
  simp only [hff, he0, if_false, hde, Bool.false_eq_true, he', hscan, hc0]
  refine ⟨_, rfl, ?_⟩
  let q : LQ := { qa with data := qa.data.set e.id e' }
  have hq1 : R (q.remove e.id) (c :: u) := hid' ▸ hq.remove (s := [])
  have her : ∀ x ∈ (c :: u).map (·.id), x ≠ e.id := fun x hx heq => by
    obtain ⟨y, hy, hyx⟩ := List.mem_map.1 hx
    exact hq.mid_fresh (s := []) y hy ((hyx.trans heq).trans hid'.symm)
  have hpvc : (q.remove e.id).pv.get c.id = 0 := hq1.1.seg.1
  -- the links after `Insert(c, e)`: `next` is unchanged on the nodes that are still reachable
  have hnx : ∀ x ∈ (c :: u).map (·.id), (LQ.insert (q.remove e.id) c.id e.id).nx.get x = (q.remove e.id).nx.get x := by
    intro x hx
    unfold LQ.insert
    simp only [Mem.get_set_ne _ _ _ _ (her c.id (by simp)), hpvc, ne_eq, not_true_eq_false, if_false]
    rw [Mem.get_set_ne _ _ _ _ (her x hx)]
  have hseg : Seg (LQ.insert (q.remove e.id) c.id e.id).nx.get (q.remove e.id).pv.get 0 ((c :: u).map (·.id)) 0 :=
    seg_congr 0 _ 0 (fun x hx => ⟨hnx x hx, rfl⟩) hq1.1.seg
  have hids : (LQ.insert (q.remove e.id) c.id e.id).ids = (c :: u).map (·.id) := by
    unfold LQ.ids
    rw [show (LQ.insert (q.remove e.id) c.id e.id).root = ((c :: u).map (·.id)).headD 0 from hq1.1.root]
    exact walk_seg _ 0 _ hseg hq1.1.nz (by
      show ((c :: u).map (·.id)).length ≤ (q.remove e.id).cnt + 1
      rw [hq1.1.cnt]; omega)
  unfold LQ.toList
  rw [hids, show (LQ.insert (q.remove e.id) c.id e.id).data = q.data by simp [LQ.insert, LQ.remove]]
  exact map_get_id (c :: u) hq1.2

/-- `original_postpone_root_lost` as a step of the machine: the walk no longer meets the event, the ledgers book the
    postponement as if it had worked -/
theorem original_postponeBy_root {s : State} {p : Ev → Bool} {d : Nat} {e c : Ev} {u : List Ev}
    (hR : R s.q (e :: c :: u)) (hp : p e = true) (hlt : e.due + (d : Int) < c.due) :
    pending (Machine.postponeBy (LQ.implC Cfg.original) s p d) = c :: u ∧
    (Machine.postponeBy (LQ.implC Cfg.original) s p d).h =
      { s.h with nextOrd := s.h.nextOrd + 1, postponed := e :: s.h.postponed,
                 posted := { e with due := e.due + (d : Int), ord := s.h.nextOrd } :: s.h.posted } := by
  obtain ⟨qa', h1, h2⟩ := original_postpone_root_lost (ord := s.h.nextOrd) hR hp hlt
  rw [postponeBy_of_some (LQ.implC Cfg.original) h1]
  exact ⟨h2, rfl⟩

theorem original_postpone_tail_ub {qa : LQ} {pre rest : List Ev} {e : Ev} {p : Ev → Bool} {d : Int} {ord : Nat}
    (h : R qa (pre ++ e :: rest)) (hpre : ∀ x ∈ pre, p x = false) (hp : p e = true)
    (hle : ∀ x ∈ rest, x.due ≤ e.due + d) : LQ.postpone false qa p d ord = none := by
  generalize he' : ({ e with due := e.due + d, ord := ord } : Ev) = e'
  have hdue' : e'.due = e.due + d := by rw [← he']
  obtain ⟨hff, he0, hde, _, hscan⟩ := postpone_search (e' := e') (by subst he'; rfl) h hpre hp
  have hall : ∀ x ∈ rest, ListQ.leDue e'.due x = true := by
    intro x hx; have := hle x hx; simp [ListQ.leDue]; omega
  rw [(takeWhile_eq_self hall).2, hdue'] at hscan
  unfold LQ.postpone
  simp only [hff, he0, if_false, hde, Bool.false_eq_true, he', hscan]
  rfl

theorem original_load_ub (qa : LQ) {recs : List Ev} (h : recs ≠ []) : LQ.load false qa recs = none := by
  unfold LQ.load
  simp [h]

/-- the history `newl 1; post 1 1 5 0; post 1 2 9 0` -/
def origOps : List Op := [.newl 1, .act (.post 1 1 5 0), .act (.post 1 2 9 0)]

theorem orig_pre : ∃ s, runC Cfg.original (init 0) origOps = some s ∧
    R s.q [⟨1, 1, 1, 5, 0, 1⟩, ⟨2, 1, 2, 9, 0, 2⟩] ∧ s.h.alive = [1] ∧ s.h.ub = false ∧ s.h.log = [] ∧
    s.h.cancelled = [] ∧ s.h.nextOrd = 3 := by
  have hspec : ∃ ss, Machine.run ListQ.impl (Machine.init ListQ.impl 0) origOps = some ss ∧
      ss.q = [⟨1, 1, 1, 5, 0, 1⟩, ⟨2, 1, 2, 9, 0, 2⟩] ∧ ss.h.alive = [1] ∧ ss.h.ub = false ∧ ss.h.log = [] ∧
      ss.h.cancelled = [] ∧ ss.h.nextOrd = 3 := ⟨_, rfl, by decide⟩
  obtain ⟨ss, hr, h1, hh⟩ := hspec
  obtain ⟨s, hs, rfl⟩ := reachable_of_spec hr
  exact ⟨s, hs, h1 ▸ (reachable_spec ⟨0, origOps, hs⟩).1.1, hh⟩

end Morfuse.EventQueue
