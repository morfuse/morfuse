import MorfuseModel.Gen.DispatchGen
/-!
# Model of the class / event registry and of command dispatch  (property C16)

Transcribed statement by statement from
`src/Script/Event.cpp` (`EventDef::EventDef`, `GetNewAttributes`),
`src/Script/ClassDef.cpp` (`ClassDef::ClassDef`, `BuildResponseList`, `GetResponse`, `GetDef`),
`src/Script/ClassSystem.cpp` (`BuildEventResponses`, `ClearEventResponses`),
`src/Script/EventSystem.cpp` (`InitEvents`, `GetRequiredLength`, `LoadEvents`, `GetEventDef`,
`GetEventConstName`, `FindEventInfoChecked`, `FindEventInfo`, `Find*EventNum`),
`src/Script/NamespaceManager.cpp` (`IsNamespaceAllowed`) and
`src/Script/Listener.cpp` (`ProcessScriptEvent`, `ProcessEventReturn`, `ProcessEvent`).

Conventions.  Ids are `Nat`, `0` is `nullptr`.  Event *objects* (every constructed `EventDef`,
including the duplicates that never enter `EventDef::head`) and classes are numbered in
construction order from 1.  A C array indexed by a number is an `Arr` (total store `Nat → Nat`,
default 0); a `ResponseDef*` is the pair (declaring class id, index in that class's `Responses[]`).
Names are lists of character codes so that everything reduces in the kernel.

Not modelled: the byte sizes handed to the `PreAllocator` arena (`GetRequiredLength`'s byte
arithmetic), the hash-bucket structure of `eventDefName` (it is a `con::arrayset`: modelled as the
list of its keys in index order, key equality = `EventNameCompare`), un-registration (`~EventDef`,
`~ClassDef`).  `ClassDefExt` (unused by the engine) is transcribed as the public API behaves
(`applyExt` / `initClassDef` at the end of this file) but is NOT an `Op`: the `Reachable` theorems speak
about extension-free histories, `C16_ext_*` about what an extension may touch.

An `EventDef` that is MOVED (`EventDef(EventDef&&)`, `operator=(EventDef&&)`: a command table kept in a
`std::vector` / `con::Container` that reallocates) is the same object of the model at a new address: the
move carries every field — name / kind / number (`attributes`), the namespace (`ObjectInNamespace` base)
and the place in `EventDef::head` (`head.Move(this, &other)`) — and leaves an unregistered shell
(`evType_e::None`, number 0, unlinked) that never enters a table.  So a move is the identity on `Reg`; the
harness creates part of its events that way (`event … v|c|a`) and the model answers as for `event …`.
-/
namespace Morfuse.Dispatch

/-! ## C arrays -/

/-- a zero-initialised C array / pointer-keyed field, as an association list (newest first) -/
structure Arr where
  l : List (Nat × Nat)

namespace Arr
def empty : Arr := ⟨[]⟩

def getL : List (Nat × Nat) → Nat → Nat
  | [], _ => 0
  | (k, v) :: t, a => if a = k then v else getL t a

def get (s : Arr) (a : Nat) : Nat := getL s.l a
def set (s : Arr) (a v : Nat) : Arr := ⟨(a, v) :: s.l⟩

@[simp] theorem get_empty (a : Nat) : empty.get a = 0 := rfl

theorem get_set (s : Arr) (a v x : Nat) : (s.set a v).get x = if x = a then v else s.get x := rfl

@[simp] theorem get_set_same (s : Arr) (a v : Nat) : (s.set a v).get a = v := by rw [get_set, if_pos rfl]

theorem get_set_ne (s : Arr) (a v x : Nat) (h : x ≠ a) : (s.set a v).get x = s.get x := by
  rw [get_set, if_neg h]
end Arr

/-! ## names -/

/-- a command name: the character codes of its spelling -/
abbrev Name := List Nat

/-- `str::icmp` upper-cases `'a'..'z'` before comparing -/
def foldC (c : Nat) : Nat := if 97 ≤ c ∧ c ≤ 122 then c - 32 else c

def fold (n : Name) : Name := n.map foldC

/-- `!str::icmp(a, b)` -/
def icmpEq (a b : Name) : Bool := fold a == fold b

/-! ## registry -/

/-- `evType_e` -/
inductive Kind
  | none | normal | ret | getter | setter
  deriving DecidableEq, Repr

/-- one `EventDef` object -/
structure EvObj where
  name : Name          -- `attributes.name` (a duplicate points at the first registrant's spelling)
  kind : Kind          -- `attributes.type`
  num : Nat            -- `attributes.eventNum`
  ns : Nat             -- `ObjectInNamespace::namespaceDef` of THIS object (0 = global)
  linked : Bool        -- entered `EventDef::head`
  deriving DecidableEq, Repr

/-- one entry of a class's `Responses[]` -/
structure Decl where
  ev : Nat             -- event object id (`r->event`)
  has : Bool           -- `r->response != nullptr`
  deriving DecidableEq, Repr

/-- one `ClassDef` -/
structure ClsObj where
  super : Nat          -- class id, 0 = no parent
  ns : Nat
  decls : List Decl
  deriving DecidableEq, Repr

/-- a response-lookup table (`ClassDef::responseLookup`, indexed by event number from 1):
    declaring class id (0 = `nullptr`) and index inside that class's `Responses[]` -/
structure Row where
  c : Arr
  i : Arr

def Row.zero : Row := ⟨.empty, .empty⟩
def Row.set (r : Row) (n c i : Nat) : Row := ⟨r.c.set n c, r.i.set n i⟩

/-- `responseLookup` of every class: absent = `nullptr` -/
abbrev Tables := List (Nat × Row)

def tget : Tables → Nat → Option Row
  | [], _ => none
  | (k, r) :: t, c => if c = k then some r else tget t c

/-- the `EventSystem` singleton's tables -/
structure ES where
  numEvents : Nat        -- `EventSystem::numEvents`
  defList : Arr          -- `eventDefList[num - 1]` ↦ event object id
  names : List Name      -- `eventDefName`: key with index `i` is at position `i - 1`
  cN : Arr               -- `commandList[idx].normalNum`
  cR : Arr               -- `commandList[idx].returnNum`
  cG : Arr               -- `commandList[idx].getterNum`
  cS : Arr               -- `commandList[idx].setterNum`

def ES.empty : ES := ⟨0, .empty, [], .empty, .empty, .empty, .empty⟩

/-- what the static / run-time registrations have produced: the `EventDef` objects and the class list -/
structure Reg where
  evs : List EvObj           -- every constructed `EventDef`, id = position + 1
  defCount : Nat             -- `EventDef::defCount`
  clss : List ClsObj         -- `ClassDef::classlist` (`Add` appends), id = position + 1

structure State where
  reg : Reg
  started : Bool             -- `bEventSystemStarted`
  es : ES
  tables : Tables
  numClassesBuilt : Nat      -- `ClassSystem::numClassesBuilt`
  fmode : Nat                -- `namespaceFilterMode_e`: 0 None, 1 Inclusive, 2 Exclusive
  flist : List Nat           -- `NamespaceManager::defList`
  built : Bool               -- ghost: the tables were built and nothing was registered since

def init : State :=
  { reg := ⟨[], 0, []⟩, started := false, es := .empty, tables := [],
    numClassesBuilt := 0, fmode := 0, flist := [], built := false }

/-- the event object with id `i` -/
def evAt (r : Reg) (i : Nat) : Option EvObj := if i = 0 then none else r.evs[i - 1]?
/-- the class with id `c` -/
def clsAt (r : Reg) (c : Nat) : Option ClsObj := if c = 0 then none else r.clss[c - 1]?

/-- pairs (id, object) in construction order -/
def enumFrom1 {α : Type} : Nat → List α → List (Nat × α)
  | _, [] => []
  | i, a :: t => (i, a) :: enumFrom1 (i + 1) t

/-- `EventDef::head` → `next` → …: `AddFirst` puts the most recent registrant at the head -/
def linkedList (r : Reg) : List (Nat × EvObj) :=
  ((enumFrom1 1 r.evs).filter (fun p => p.2.linked)).reverse

/-- `EventDef::GetNewAttributes` + the constructor around it -/
def newEvent (r : Reg) (name : Name) (kind : Kind) (ns : Nat) : Reg :=
  match (linkedList r).find? (fun p => icmpEq p.2.name name && p.2.kind == kind) with
  | some p =>
    -- `next = prev = nullptr; return eAttr;`  (the object is not linked, it shares the attributes)
    { r with evs := r.evs ++ [{ name := p.2.name, kind := p.2.kind, num := p.2.num, ns := ns, linked := false }] }
  | none =>
    -- `head.AddFirst(this); return EventDefAttributes(command, type, ++defCount);`
    { r with evs := r.evs ++ [{ name := name, kind := kind, num := r.defCount + 1, ns := ns, linked := true }],
             defCount := r.defCount + 1 }

/-- `ClassDef::ClassDef`: `responseLookup = nullptr; classlist.Add(this)` -/
def newClass (r : Reg) (super ns : Nat) (decls : List Decl) : Reg :=
  { r with clss := r.clss ++ [{ super := super, ns := ns, decls := decls }] }

/-! ## `EventSystem::InitEvents` -/

/-- the two counters of `EventSystem::GetRequiredLength` that matter afterwards:
    (`numUniqueEvents`, `numUniqueNameEvents`).  For each `e1` the inner loop stops at the first
    later event with the same name. -/
def countUnique : List (Nat × EvObj) → Nat × Nat
  | [] => (0, 0)
  | e1 :: rest =>
    let r := countUnique rest
    match rest.find? (fun e2 => icmpEq e1.2.name e2.2.name) with
    | none => (r.1 + 1, r.2 + 1)
    | some e2 => (if e1.2.num = e2.2.num then r.1 else r.1 + 1, r.2)

/-- position + `i` of the first key equal to `n` under `EventNameCompare`, 0 when absent -/
def findKeyIndexFrom : Nat → List Name → Name → Nat
  | _, [], _ => 0
  | i, k :: t, n => if icmpEq k n then i else findKeyIndexFrom (i + 1) t n

/-- `arrayset::findKeyIndex` -/
def findKeyIndex (names : List Name) (n : Name) : Nat := findKeyIndexFrom 1 names n

/-- `arrayset::addKeyIndex`: existing index, or `++count` for a new key -/
def addKeyIndex (names : List Name) (n : Name) : List Name × Nat :=
  if findKeyIndex names n ≠ 0 then (names, findKeyIndex names n)
  else (names ++ [n], names.length + 1)

/-- `commandList[idx].<kind>Num = num` -/
def ES.setInfo (es : ES) (k : Kind) (idx num : Nat) : ES :=
  match k with
  | .normal => { es with cN := es.cN.set idx num }
  | .ret => { es with cR := es.cR.set idx num }
  | .getter => { es with cG := es.cG.set idx num }
  | .setter => { es with cS := es.cS.set idx num }
  | .none => es

/-- `commandList[idx].<kind>Num` (`evType_e::None` has no field) -/
def ES.info (es : ES) (k : Kind) (idx : Nat) : Nat :=
  match k with
  | .normal => es.cN.get idx
  | .ret => es.cR.get idx
  | .getter => es.cG.get idx
  | .setter => es.cS.get idx
  | .none => 0

/-- one iteration of the loop in `EventSystem::LoadEvents` -/
def loadOne (es : ES) (p : Nat × EvObj) : ES :=
  let r := addKeyIndex es.names p.2.name
  -- `eventDefList[eventNum - 1] = e;` then the `switch` on the type
  ({ es with defList := es.defList.set p.2.num p.1, names := r.1 } : ES).setInfo p.2.kind r.2 p.2.num

/-- `EventSystem::LoadEvents` -/
def loadEvents (es : ES) (l : List (Nat × EvObj)) : ES := l.foldl loadOne es

/-- `r->event->GetEventNum()` -/
def evNum (r : Reg) (ev : Nat) : Nat :=
  match evAt r ev with
  | some e => e.num
  | none => 0

/-- the loop over `responses` at the end of `ClassDef::BuildResponseList`; `i` is the index of the
    entry the C++ pointer `r` points at -/
def patch (r : Reg) (c : Nat) : List Decl → Nat → Row → Row
  | [], _, row => row
  | d :: ds, i, row =>
    -- `responseLookup[ev] = r->response ? r : nullptr`
    patch r c ds (i + 1) (if d.has then row.set (evNum r d.ev) c i else row.set (evNum r d.ev) 0 0)

/-- `ClassDef::BuildResponseList`.  The C++ recursion into `super` is unbounded; the model gives it
    fuel (the number of classes + 1 is enough when the parent chain is acyclic, which `step`
    checks before it lets `InitEvents` run). -/
def buildOne (r : Reg) : Nat → Tables → Nat → Tables
  | 0, T, _ => T
  | fuel + 1, T, c =>
    match tget T c with
    | some _ => T                       -- `if (responseLookup) return;`
    | none =>
      match clsAt r c with
      | none => T
      | some cd =>
        if cd.super ≠ 0 then
          -- `super->BuildResponseList(allocator); std::copy(super->responseLookup …)`
          let T1 := buildOne r fuel T cd.super
          let base := match tget T1 cd.super with
            | some row => row
            | none => Row.zero
          (c, patch r c cd.decls 0 base) :: T1
        else
          -- `std::fill(responseLookup, responseLookup + num, nullptr)`
          (c, patch r c cd.decls 0 Row.zero) :: T

/-- the loop of `ClassSystem::BuildEventResponses` over class ids `c, c+1, …` -/
def buildAll (r : Reg) (fuel : Nat) : Nat → Nat → Tables → Tables
  | 0, _, T => T
  | n + 1, c, T => buildAll r fuel n (c + 1) (buildOne r fuel T c)

/-- `LoadEvents` into the freshly pre-allocated arrays (`numEvents = numUniqueEvents`) -/
def buildES (r : Reg) : ES :=
  loadEvents { ES.empty with numEvents := (countUnique (linkedList r)).1 } (linkedList r)

/-- `BuildEventResponses` from cleared tables -/
def buildTables (r : Reg) (T0 : Tables) : Tables :=
  buildAll r (r.clss.length + 1) r.clss.length 1 T0

/-- `EventSystem::InitEvents` (+ `UnloadEvents` when rebuilding, which only frees) -/
def initEvents (s : State) : State :=
  { s with
    started := true
    es := buildES s.reg
    -- `BuildEventResponses`: `if (numClassesBuilt) ClearEventResponses(allocator);`
    tables := buildTables s.reg (if s.numClassesBuilt ≠ 0 then [] else s.tables)
    numClassesBuilt := s.reg.clss.length
    built := true }

/-- does the parent chain of class `c` end at "no parent" within `fuel` steps, through registered
    classes only?  (True for every C++ class hierarchy.) -/
def reaches (r : Reg) : Nat → Nat → Bool
  | _, 0 => true
  | 0, _ + 1 => false
  | fuel + 1, c + 1 =>
    match clsAt r (c + 1) with
    | none => false
    | some cd => reaches r fuel cd.super

def chainsOk (r : Reg) : Bool :=
  (List.range r.clss.length).all fun i => reaches r r.clss.length (i + 1)

/-! ## operations -/

inductive Op
  | newEvent (name : Name) (kind : Kind) (ns : Nat)
  | newClass (super ns : Nat) (decls : List Decl)
  | initEvents
  | setFilter (mode : Nat) (l : List Nat)
  deriving Repr

/-- One host operation; `none` when it is not a legal C++ program fragment (a response that points
    at no event object, a class that is its own parent, building over a cyclic hierarchy). -/
def step (s : State) : Op → Option State
  | .newEvent name kind ns => some { s with reg := newEvent s.reg name kind ns, built := false }
  | .newClass super ns decls =>
    if super ≠ s.reg.clss.length + 1 ∧ decls.all (fun d => d.ev ≠ 0 ∧ d.ev ≤ s.reg.evs.length) then
      some { s with reg := newClass s.reg super ns decls, built := false }
    else none
  | .initEvents => if chainsOk s.reg then some (initEvents s) else none
  | .setFilter mode l => if mode ≤ 2 then some { s with fmode := mode, flist := l } else none

def run : State → List Op → Option State
  | s, [] => some s
  | s, op :: ops => (step s op).bind (run · ops)

def Reachable (s : State) : Prop := ∃ ops, run init ops = some s

/-! ## look-ups and dispatch -/

/-- `ClassDef::GetResponse` (a null `responseLookup` is a crash in C++; `none` here) -/
def getResponse (s : State) (c n : Nat) : Option (Nat × Nat) :=
  match tget s.tables c with
  | none => none
  | some r => if r.c.get n = 0 then none else some (r.c.get n, r.i.get n)

/-- `EventSystem::GetEventConstName` -/
def constName (s : State) (name : Name) : Nat := findKeyIndex s.es.names name

/-- `FindEventInfoChecked(idx).<kind>Num` -/
def infoNum (s : State) (idx : Nat) (k : Kind) : Nat := s.es.info k idx

/-- `EventSystem::Find{Normal,Return,Getter,Setter}EventNum(const rawchar_t*)` -/
def findNum (s : State) (name : Name) (k : Kind) : Nat := infoNum s (constName s name) k

/-- `EventSystem::FindEventInfo(eventName_t s)`: `s > 0 && s <= eventDefName.size()`; the comparison
    operator is read from the source on every run (`Gen.findEventInfoInclusive`; `false`: `<` instead of `<=`) -/
def findEventInfoOk (s : State) (idx : Nat) : Bool :=
  0 < idx ∧ (if Gen.findEventInfoInclusive then idx ≤ s.es.names.length else idx < s.es.names.length)

/-- `EventSystem::Find*EventNum(eventName_t)` -/
def findNumByIndex (s : State) (idx : Nat) (k : Kind) : Nat :=
  if findEventInfoOk s idx then infoNum s idx k else 0

/-- `EventSystem::GetEventDef`: `eventNum <= numEvents ? eventDefList[eventNum - 1] : nullptr` -/
def getEventDef (s : State) (num : Nat) : Option EvObj :=
  if num ≤ s.es.numEvents then evAt s.reg (s.es.defList.get num) else none

/-- `NamespaceManager::IsNamespaceAllowed` -/
def nsAllowed (s : State) (ns : Nat) : Bool :=
  if s.fmode = 1 then ns = 0 ∨ ns ∈ s.flist
  else if s.fmode = 2 then ns = 0 ∨ ns ∉ s.flist
  else true

inductive Outcome
  | ran (c i : Nat)      -- the handler of declaration `i` of class `c` ran
  | notFound             -- `ListenerErrors::EventNotFound`
  | failed               -- `ListenerErrors::EventListenerFailed`
  | silent               -- returned without running anything and without an error
  | retFalse             -- `ProcessEvent` returned false
  | crash                -- null dereference in the C++
  deriving DecidableEq, Repr

/-- `Listener::ProcessScriptEvent(Event&)` on an instance of class `c` -/
def processScriptEvent (s : State) (c num : Nat) : Outcome :=
  if num = 0 then .notFound else
  match getEventDef s num with
  | none => .crash
  | some d =>
    if ¬ nsAllowed s d.ns then .notFound else
    match getResponse s c num with
    | none => .failed
    | some r => .ran r.1 r.2

/-- `Listener::ProcessEventReturn(Event&)` -/
def processEventReturn (s : State) (c num : Nat) : Outcome :=
  if num = 0 then .silent else
  match getEventDef s num with
  | none => .crash
  | some d =>
    if ¬ nsAllowed s d.ns then .notFound else
    match getResponse s c num with
    | none => .silent
    | some r => .ran r.1 r.2

/-- `Listener::ProcessEvent(Event&)`: `ProcessScriptEvent` with every exception turned into `false` -/
def processEvent (s : State) (c num : Nat) : Outcome :=
  match processScriptEvent s c num with
  | .notFound => .retFalse
  | .failed => .retFalse
  | o => o

inductive Entry
  | script | ret | proc
  deriving DecidableEq, Repr

/-- a command invocation by name and kind on an instance of class `c`, the way a host or the
    compiler resolves it: `Find<Kind>EventNum(name)`, `Event(num)`, then the entry point -/
def invoke (s : State) (e : Entry) (c : Nat) (name : Name) (k : Kind) : Outcome :=
  match e with
  | .script => processScriptEvent s c (findNum s name k)
  | .ret => processEventReturn s c (findNum s name k)
  | .proc => processEvent s c (findNum s name k)

/-- The script command `commanddelay <seconds> <command>` on an instance of class `c`
    (`Listener::CommandDelay`, `Listener::PostEventInternal`, then the queue's `ProcessEvent`):
    the number of the posted event (0: nothing was posted) and what its delivery does. -/
def commandDelay (s : State) (c : Nat) (name : Name) : Nat × Option Outcome :=
  let idx := constName s name
  -- `const eventInfo_t* const eventInfo = eventSystem.FindEventInfo(eventName); if (eventInfo)`
  if ¬ findEventInfoOk s idx then (0, none) else
  let num :=
    if infoNum s idx .normal ≠ 0 then infoNum s idx .normal
    else if infoNum s idx .ret ≠ 0 then infoNum s idx .ret
    else if infoNum s idx .setter ≠ 0 then infoNum s idx .setter
    else infoNum s idx .getter
  -- `PostEventInternal`: `if (!ev->Num() || !classinfo().GetResponse(ev->Num())) { delete ev; return; }`
  if num = 0 then (0, none) else
  match getResponse s c num with
  | none => (0, none)
  | some _ => (num, some (processEvent s c num))

/-! ## `ClassDefExt` (class extensions), as the public API behaves

`ClassDefExt(ClassDef*, const ResponseDefClass*)` front-inserts the extension into the static list
`ClassDefExt::list`; `ClassSystem::BuildEventResponses` calls `ClassDefExt::InitClassDef()` after every
class's table has been built.  An extension response is identified in a `Row` by the pseudo class id
`x` the driver gives the extension (≥ 1000000, disjoint from class ids) and its index in the extension's
own response array. -/

/-- the inner loop of `InitClassDef`: `if (r->response) lookup[ev] = r;` (a null response is skipped,
    it does not erase) -/
def patchExt (r : Reg) (x : Nat) : List Decl → Nat → Row → Row
  | [], _, row => row
  | d :: ds, i, row => patchExt r x ds (i + 1) (if d.has then row.set (evNum r d.ev) x i else row)

/-- one extension applied: `lookup = ext->classDef->GetResponseLookupList(); if (lookup) …` writes into
    the table OF THAT CLASS (`responseLookup` is per class: `BuildResponseList` allocates one for every
    class, also for a class with an empty response list) -/
def applyExt (s : State) (c x : Nat) (decls : List Decl) : State :=
  match tget s.tables c with
  | none => s
  | some row => { s with tables := (c, patchExt s.reg x decls 0 row) :: s.tables }

/-- `ClassDefExt::InitClassDef` as written: `for (const ClassDefExt* ext = list; list; list = list->next)`.
    `ext` is never advanced and the STATIC `list` is: the extension at the head (the most recently
    constructed one) is applied once per list element, no other extension is applied, and the list is
    empty afterwards (a rebuild applies nothing).  `exts`: (pseudo id, class, responses), head first. -/
def initClassDef (s : State) (exts : List (Nat × Nat × List Decl)) : State × List (Nat × Nat × List Decl) :=
  match exts with
  | [] => (s, [])
  | (x, c, ds) :: _ => (exts.foldl (fun st _ => applyExt st c x ds) s, [])

end Morfuse.Dispatch
