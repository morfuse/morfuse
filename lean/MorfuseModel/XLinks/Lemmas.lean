import MorfuseModel.Lang.Value
import MorfuseModel.VMOps.Step
/-!
# Cross-model links: helper lemmas (`Lang.Value` ↔ `VMOps`)

`Lang.Value` (C03) and `VMOps.{Value,Ops,Index,Step}` (C04) are two hand transcriptions of the same
members of `ScriptVariable.cpp`.  This file relates them on the kinds both have (NIL, integer,
string, char, array).  Statements for the audit are in `Props/XLinks.lean`.
-/
namespace Morfuse.XLinks

/-- a `Lang` string stands for a byte string: one `Char` below 256 per byte -/
def ByteStr (s : String) : Prop := ∀ c ∈ s.toList, c.toNat < 256

/-- what `VMOps` holds for the entries of array holder `h` (arrays are by value there) -/
abbrev Content := Nat → List (VMOps.Val × VMOps.Val)

def emb (ρ : Content) : Lang.Val → VMOps.Val
  | .nil => .nil
  | .int v => .int v
  | .str s => .str (Lang.strBytes s)
  | .chr c => .chr c
  | .arr h => .arr (ρ h)

def embKey : Lang.Key → VMOps.Val
  | .int v => .int v
  | .str s => .str (Lang.strBytes s)

/-- representation invariant of `Lang.Val`: strings are byte strings -/
def WF : Lang.Val → Prop
  | .str s => ByteStr s
  | _ => True

def WFKey : Lang.Key → Prop
  | .str s => ByteStr s
  | _ => True

/-- `ρ` describes the heap: the entries of every holder, embedded, in the holder's order -/
def Represents (ρ : Content) (heap : Lang.Heap) : Prop :=
  ∀ h, ρ h = (heap.getD h []).map fun kv => (embKey kv.1, emb ρ kv.2)

def HeapWF (heap : Lang.Heap) : Prop :=
  ∀ h, ∀ kv ∈ heap.getD h [], WFKey kv.1

inductive Cls where
  | type | divZero | index | badKey | other
  deriving DecidableEq, Repr

def lcls : Lang.Err → Cls
  | .type _ => .type
  | .divZero => .divZero
  | .index _ => .index
  | .badKey => .badKey
  | _ => .other

def vcls : VMOps.Err → Cls
  | .castError | .incompatibleOperator | .invalidAppliedType => .type
  | .divideByZero => .divZero
  | .typeIndexOutOfRange => .index
  | .badHashCodeValue => .badKey
  | _ => .other

/-- the two outcomes say the same: the same value, or a script error of the same class.
    (`ub`, `ok2` and `badop` agree with nothing: `Lang.Value` has no such outcome.) -/
def Agree (ρ : Content) : Except Lang.Err Lang.Val → VMOps.Out → Prop
  | .ok r, o => o = .ok (emb ρ r)
  | .error e, o => ∃ e' lhs, o = .err e' lhs ∧ vcls e' = lcls e

/-- the `VMOps` operation of a `Func2Expr` operator (`!=` is `OP_BIN_INEQUALITY`: `==` negated) -/
def opOf : Lang.BinOp → VMOps.Op
  | .bor => .bin .bor | .bxor => .bin .bxor | .band => .bin .band | .eq => .bin .eq | .ne => .ne
  | .lt => .bin .lt | .gt => .bin .gt | .le => .bin .le | .ge => .bin .ge | .shl => .bin .shl
  | .shr => .bin .shr | .add => .bin .add | .sub => .bin .sub | .mul => .bin .mul | .div => .bin .div
  | .mod => .bin .mod

theorem strBytes_append (x y : String) :
    Lang.strBytes (x ++ y) = Lang.strBytes x ++ Lang.strBytes y := by
  simp [Lang.strBytes, String.toList_append]

theorem strBytes_eq_nil (s : String) : Lang.strBytes s = [] ↔ s = "" := by
  simp [Lang.strBytes, String.toList_eq_nil_iff]

theorem length_strBytes (s : String) : (Lang.strBytes s).length = s.length := by
  simp [Lang.strBytes, String.length_toList]

theorem toUInt8_inj {a b : Char} (ha : a.toNat < 256) (hb : b.toNat < 256)
    (h : a.toNat.toUInt8 = b.toNat.toUInt8) : a = b := by
  have h1 : a.toNat.toUInt8.toNat = b.toNat.toUInt8.toNat := by rw [h]
  simp only [Nat.toUInt8, UInt8.toNat_ofNat'] at h1
  have : a.toNat = b.toNat := by omega
  exact Char.toNat_inj.mp this

theorem map_toUInt8_inj : ∀ (a b : List Char), (∀ c ∈ a, c.toNat < 256) → (∀ c ∈ b, c.toNat < 256) →
    a.map (fun c => c.toNat.toUInt8) = b.map (fun c => c.toNat.toUInt8) → a = b
  | [], [], _, _, _ => rfl
  | [], _ :: _, _, _, h => by simp at h
  | _ :: _, [], _, _, h => by simp at h
  | x :: xs, y :: ys, ha, hb, h => by
    simp only [List.map_cons, List.cons.injEq] at h
    have hx := toUInt8_inj (ha x (by simp)) (hb y (by simp)) h.1
    have := map_toUInt8_inj xs ys (fun c hc => ha c (by simp [hc])) (fun c hc => hb c (by simp [hc])) h.2
    rw [hx, this]

theorem strBytes_inj {a b : String} (ha : ByteStr a) (hb : ByteStr b) :
    Lang.strBytes a = Lang.strBytes b ↔ a = b := by
  constructor
  · intro h
    exact String.toList_inj.mp (map_toUInt8_inj _ _ ha hb h)
  · intro h; rw [h]

theorem byteArray_toList_loop (bs : ByteArray) (i : Nat) (r : List UInt8) :
    ByteArray.toList.loop bs i r = r.reverse ++ bs.data.toList.drop i := by
  fun_induction ByteArray.toList.loop bs i r with
  | case1 i r h ih =>
    rw [ih]
    have hi : i < bs.data.toList.length := by rw [Array.length_toList]; exact h
    rw [List.drop_eq_getElem_cons hi]
    have : bs.get! i = bs.data.toList[i] := by
      have h2 : i < bs.data.size := h
      simp only [ByteArray.get!, Array.getElem_toList]
      rw [getElem!_pos bs.data i h2]
    simp [this]
  | case2 i r h =>
    have hi : bs.data.toList.length ≤ i := by rw [Array.length_toList]; exact Nat.le_of_not_lt h
    simp [List.drop_eq_nil_of_le hi]

theorem byteArray_toList (bs : ByteArray) : bs.toList = bs.data.toList := by
  simp [ByteArray.toList, byteArray_toList_loop]

theorem utf8Size_one {c : Char} (h : c.toNat < 128) : c.utf8Size = 1 := by
  have : c.val ≤ 127 := by
    rw [UInt32.le_iff_toNat_le]; simp; omega
  simp [Char.utf8Size, this]

theorem ascii_eq_strBytes (s : String) (h : ∀ c ∈ s.toList, c.toNat < 128) :
    VMOps.ascii s = Lang.strBytes s := by
  unfold VMOps.ascii Lang.strBytes String.toUTF8
  rw [← String.utf8Encode_toList, byteArray_toList]
  unfold List.utf8Encode
  rw [List.toList_data_toByteArray]
  generalize s.toList = l at h
  induction l with
  | nil => simp
  | cons c t ih =>
    have hc := String.utf8EncodeChar_eq_singleton (utf8Size_one (h c (by simp)))
    have := ih (fun c hc => h c (by simp [hc]))
    simp only [List.flatMap_cons, hc, List.map_cons, this]
    rfl

theorem digit_lt_128 {c : Char} (h : c.isDigit = true) : c.toNat < 128 := by
  have := Char.isDigit_iff_toNat.mp h
  have h9 : '9'.toNat = 57 := by decide
  omega

theorem ascii_nat_repr (n : Nat) : ∀ c ∈ (Nat.repr n).toList, c.toNat < 128 := by
  intro c hc
  rw [Nat.toList_repr] at hc
  exact digit_lt_128 (Nat.isDigit_of_mem_toDigits (by decide) (by decide) hc)

theorem ascii_int_toString (i : Int) : ∀ c ∈ (toString i).toList, c.toNat < 128 := by
  intro c hc
  have : toString i = i.repr := rfl
  rw [this, Int.repr_eq_if] at hc
  split at hc
  · exact ascii_nat_repr _ c hc
  · rw [String.toList_append] at hc
    rcases List.mem_append.mp hc with h | h
    · have : "-".toList = ['-'] := by decide
      rw [this] at h
      simp at h; subst h; decide
    · exact ascii_nat_repr _ c h

theorem strBytes_intToString (v : BitVec 64) : Lang.strBytes (Lang.intToString v) = VMOps.intToStr v := by
  unfold Lang.intToString VMOps.intToStr
  exact (ascii_eq_strBytes _ (ascii_int_toString _)).symm

theorem byteStr_intToString (v : BitVec 64) : ByteStr (Lang.intToString v) := by
  intro c hc
  have := ascii_int_toString _ c hc
  omega

theorem toNat_ofNat_byte (c : UInt8) : (Char.ofNat c.toNat).toNat = c.toNat := by
  have h : c.toNat < 256 := c.toNat_lt
  have hv : c.toNat.isValidChar := Or.inl (by omega)
  simp only [Char.ofNat, hv, dite_true, Char.ofNatAux, Char.toNat]
  show (BitVec.ofNatLT c.toNat _).toNat = c.toNat
  simp

theorem strBytes_chrToString (c : UInt8) : Lang.strBytes (Lang.chrToString c) = [c] := by
  unfold Lang.strBytes Lang.chrToString
  rw [String.toList_singleton]
  simp only [List.map_cons, List.map_nil, List.cons.injEq, and_true]
  rw [toNat_ofNat_byte]; simp [Nat.toUInt8]

theorem byteStr_chrToString (c : UInt8) : ByteStr (Lang.chrToString c) := by
  intro d hd
  unfold Lang.chrToString at hd
  rw [String.toList_singleton] at hd
  simp at hd; subst hd
  rw [toNat_ofNat_byte]
  exact c.toNat_lt

theorem byteStr_append {x y : String} (hx : ByteStr x) (hy : ByteStr y) : ByteStr (x ++ y) := by
  intro c hc
  rw [String.toList_append] at hc
  rcases List.mem_append.mp hc with h | h
  · exact hx c h
  · exact hy c h

theorem strBytes_nil : Lang.strBytes "NIL" = VMOps.ascii "NIL" :=
  (ascii_eq_strBytes _ (by decide)).symm

theorem strBytes_typeArray : Lang.strBytes "Type: 'array'" = VMOps.ascii ("Type: '" ++ VMOps.Kind.typeName .array ++ "'") := by
  have : ("Type: '" ++ VMOps.Kind.typeName .array ++ "'") = "Type: 'array'" := by decide
  rw [this]
  exact (ascii_eq_strBytes _ (by decide)).symm

/-- the two spellings of `str == str` -/
theorem strEq_agree {a b : String} (ha : ByteStr a) (hb : ByteStr b) :
    (((Lang.strBytes a).isEmpty && (Lang.strBytes b).isEmpty) || Lang.strBytes a == Lang.strBytes b) = Lang.strEq a b := by
  unfold Lang.strEq
  have e1 : (Lang.strBytes a).isEmpty = (a == "") := by
    rw [Bool.eq_iff_iff]; simp [List.isEmpty_iff, strBytes_eq_nil]
  have e2 : (Lang.strBytes b).isEmpty = (b == "") := by
    rw [Bool.eq_iff_iff]; simp [List.isEmpty_iff, strBytes_eq_nil]
  have e3 : (Lang.strBytes a == Lang.strBytes b) = (a == b) := by
    rw [Bool.eq_iff_iff]; simp [strBytes_inj ha hb]
  rw [e1, e2, e3]

theorem strToLong_agree (s : String) : Lang.strToLong s = VMOps.strtoll (Lang.strBytes s) := by
  have e1 : Lang.isSpaceB = VMOps.isSpace := rfl
  have e2 : Lang.isDigitB = VMOps.isDigit := rfl
  have e3 : Lang.digitsNat = VMOps.digitsVal := rfl
  unfold Lang.strToLong VMOps.strtoll VMOps.cstrView
  rw [e1, e2, e3]
  rfl

theorem getElem?_strBytes (s : String) (n : Nat) :
    (Lang.strBytes s)[n]? =
      if n < s.length then some (UInt8.ofNat ((s.toList.getD n 'x').toNat)) else none := by
  unfold Lang.strBytes
  rw [List.getElem?_map]
  split
  · next h =>
    have h' : n < s.toList.length := by rw [String.length_toList]; exact h
    simp [List.getD, List.getElem?_eq_getElem h', Nat.toUInt8]
  · next h =>
    have h' : s.toList.length ≤ n := by rw [String.length_toList]; omega
    simp [List.getElem?_eq_none h']

theorem negOne_eq : VMOps.negOne = (-1 : BitVec 64) := by decide
theorem minInt_eq : VMOps.minInt = BitVec.intMin 64 := by decide

theorem sdiv_neg_one (x : BitVec 64) : x.sdiv (-1) = -x := by
  apply BitVec.eq_of_toInt_eq
  have h1 : (-1 : BitVec 64).toInt = -1 := by decide
  rw [BitVec.toInt_sdiv, h1, BitVec.toInt_neg, Int.tdiv_neg, Int.tdiv_one]

theorem neg_minInt : -VMOps.minInt = VMOps.minInt := by decide

theorem srem_neg_one (x : BitVec 64) : x.srem (-1) = 0 := by
  apply BitVec.eq_of_toInt_eq
  rw [BitVec.toInt_srem]
  have h1 : (-1 : BitVec 64).toInt = -1 := by decide
  rw [h1]
  simp [Int.tmod_neg]

theorem chrInt_agree (c : UInt8) : (Lang.chrInt c).toInt = VMOps.chrInt c := by
  unfold Lang.chrInt VMOps.chrInt
  exact BitVec.toInt_signExtend_of_le (by decide)

theorem slt_eq (x y : BitVec 64) : x.slt y = decide (x.toInt < y.toInt) := rfl
theorem sle_eq (x y : BitVec 64) : x.sle y = decide (x.toInt ≤ y.toInt) := rfl

theorem shift_agree (y : BitVec 64) : (if y.toNat < 64 then y.toNat else y.toNat % 64) = Lang.shiftCount y := by
  unfold Lang.shiftCount; split <;> omega

section
variable (fx : VMOps.Fixes) (ρ : Content)

theorem step_bin (o : VMOps.BinOp) (a b : VMOps.Val) :
    VMOps.step fx (.bin o) [a, b] = VMOps.binop fx o a b := rfl

theorem step_ne (a b : VMOps.Val) :
    VMOps.step fx .ne [a, b] = (match VMOps.binop fx .eq a b with
      | .ok (.int v) => .ok (VMOps.b2i (v == 0))
      | o => o) := rfl

/-- `Lang.binop op` has a clause of its own for operands of these kinds (`VMOps.Kind` of the embedding);
    everywhere else it is `typeErr` -/
def cased : Lang.BinOp → VMOps.Kind → VMOps.Kind → Bool
  | .eq, _, _ | .ne, _, _ => true
  | _, .int, .int => true
  | .lt, .char, .char | .gt, .char, .char | .le, .char, .char | .ge, .char, .char => true
  | .add, .string, .string | .add, .string, .int | .add, .string, .char | .add, .int, .string
  | .add, .char, .string => true
  | _, _, _ => false

/-- On the kinds of the fragment, where `Lang.binop op` has no clause the `ScriptVariable` operator (never `==`)
    has no `case` label. -/
theorem unaccepted_of_uncased :
    ∀ op ∈ [Lang.BinOp.bor, .bxor, .band, .eq, .ne, .lt, .gt, .le, .ge, .shl, .shr, .add, .sub, .mul, .div, .mod],
    ∀ o ∈ VMOps.BinOp.all, opOf op = .bin o →
    ∀ ka ∈ [VMOps.Kind.none, .int, .string, .char, .array], ∀ kb ∈ [VMOps.Kind.none, .int, .string, .char, .array],
      cased op ka kb = false → o ≠ .eq ∧ VMOps.accepts o ka kb = false := by
  decide +kernel

theorem kind_emb_mem (a : Lang.Val) :
    (emb ρ a).kind ∈ [VMOps.Kind.none, .int, .string, .char, .array] := by
  cases a <;> simp [emb, VMOps.Val.kind]

theorem step_unaccepted (o : VMOps.BinOp) (a b : VMOps.Val) (h : o ≠ .eq ∧ VMOps.accepts o a.kind b.kind = false) :
    VMOps.step fx (.bin o) [a, b] = .err .incompatibleOperator .nil := by
  show VMOps.binop fx o a b = _
  unfold VMOps.binop
  rw [h.2, if_neg Bool.false_ne_true, if_neg (by simpa using h.1)]

theorem step_uncased (op : Lang.BinOp) (a b : Lang.Val) (h : cased op (emb ρ a).kind (emb ρ b).kind = false) :
    VMOps.step fx (opOf op) [emb ρ a, emb ρ b] = .err .incompatibleOperator .nil := by
  cases op
  case ne => cases h
  all_goals
    exact step_unaccepted fx _ _ _
      (unaccepted_of_uncased _ (by decide) _ (by decide) rfl _ (kind_emb_mem ρ a) _ (kind_emb_mem ρ b) h)

theorem binop_cases {motive : Lang.BinOp → Lang.Val → Lang.Val → Prop}
    (eq : ∀ a b, motive .eq a b) (ne : ∀ a b, motive .ne a b)
    (int : ∀ op x y, motive op (.int x) (.int y))
    (chr : ∀ op, op = .lt ∨ op = .gt ∨ op = .le ∨ op = .ge → ∀ x y, motive op (.chr x) (.chr y))
    (strStr : ∀ x y, motive .add (.str x) (.str y)) (strInt : ∀ x y, motive .add (.str x) (.int y))
    (strChr : ∀ x y, motive .add (.str x) (.chr y)) (intStr : ∀ x y, motive .add (.int x) (.str y))
    (chrStr : ∀ x y, motive .add (.chr x) (.str y))
    (uncased : ∀ op a b, Lang.binop op a b = Lang.typeErr (reprStr op) a b →
      (∀ ρ, cased op (emb ρ a).kind (emb ρ b).kind = false) → motive op a b)
    (op : Lang.BinOp) (a b : Lang.Val) : motive op a b := by
  cases op
  case eq => exact eq a b
  case ne => exact ne a b
  all_goals
    cases a <;> cases b <;> first
      | exact uncased _ _ _ rfl fun _ => rfl
      | exact int ..
      | exact chr _ (by simp) ..
      | exact strStr ..
      | exact strInt ..
      | exact strChr ..
      | exact intStr ..
      | exact chrStr ..

theorem div_int_agree (x y : BitVec 64) (hd : x = VMOps.minInt → y = VMOps.negOne → fx.divMin = true) :
    Agree ρ (Lang.binop .div (.int x) (.int y)) (VMOps.opDiv fx (.int x) (.int y)) := by
  simp only [Lang.binop, VMOps.opDiv, negOne_eq, beq_iff_eq, Bool.and_eq_true]
  by_cases h0 : y = 0
  · rw [if_pos h0, if_pos h0]; exact ⟨_, _, rfl, rfl⟩
  · rw [if_neg h0, if_neg h0]
    by_cases h1 : y = -1
    · subst h1
      rw [if_pos rfl, sdiv_neg_one]
      split
      · rename_i h; rw [hd h.1 negOne_eq.symm, h.1, neg_minInt]; rfl
      · rfl
    · rw [if_neg h1, if_neg fun h => h1 h.2]; rfl

theorem mod_int_agree (x y : BitVec 64) (hd : x = VMOps.minInt → y = VMOps.negOne → fx.divMin = true) :
    Agree ρ (Lang.binop .mod (.int x) (.int y)) (VMOps.opMod fx (.int x) (.int y)) := by
  simp only [Lang.binop, VMOps.opMod, negOne_eq, beq_iff_eq, Bool.and_eq_true]
  by_cases h0 : y = 0
  · rw [if_pos h0, if_pos h0]; exact ⟨_, _, rfl, rfl⟩
  · rw [if_neg h0, if_neg h0]
    by_cases h1 : y = -1
    · subst h1
      rw [if_pos rfl, srem_neg_one]
      split
      · rename_i h; rw [hd h.1 negOne_eq.symm]; rfl
      · rfl
    · rw [if_neg h1, if_neg fun h => h1 h.2]; rfl

theorem shift_int_agree (left : Bool) (x y : BitVec 64) (hs : 64 ≤ y.toNat → fx.shiftCount = true) :
    VMOps.opShift fx left (.int x) (.int y) =
      .ok (.int (if left then x <<< Lang.shiftCount y else x.sshiftRight (Lang.shiftCount y))) := by
  simp only [VMOps.opShift, Lang.shiftCount]
  split
  · rename_i h; rw [Nat.mod_eq_of_lt h]
  · rename_i h; rw [hs (Nat.le_of_not_lt h)]; rfl

theorem eq_agree (a b : Lang.Val) (wa : WF a) (wb : WF b) :
    VMOps.binop fx .eq (emb ρ a) (emb ρ b) = .ok (VMOps.b2i (Lang.valEq a b)) := by
  cases a <;> cases b <;> first
    | (simp only [WF] at wa wb
       simp only [VMOps.binop, VMOps.binImpl, VMOps.opEq, VMOps.strs, VMOps.strOf, VMOps.R.bind, VMOps.R.out, emb,
         Lang.valEq, ← strBytes_intToString, ← strBytes_chrToString, strEq_agree, byteStr_intToString,
         byteStr_chrToString, wa, wb]
       rfl)
    | (simp only [VMOps.binop, VMOps.binImpl, VMOps.opEq, emb, Lang.valEq, ← chrInt_agree, BitVec.toInt_inj,
         Bool.beq_eq_decide_eq]
       rfl)

theorem ne_agree (a b : Lang.Val) (wa : WF a) (wb : WF b) :
    VMOps.step fx .ne [emb ρ a, emb ρ b] = .ok (VMOps.b2i (!Lang.valEq a b)) := by
  rw [step_ne, eq_agree fx ρ a b wa wb]
  cases Lang.valEq a b <;> rfl

/-- agreement under the repair the operands need: `divMin` for `INT64_MIN / -1` and `INT64_MIN % -1`, `shiftCount` for a
    shift count outside `0..63` -/
theorem binop_agree_of (op : Lang.BinOp) (a b : Lang.Val) (wa : WF a) (wb : WF b)
    (hd : op = .div ∨ op = .mod → a = .int VMOps.minInt → b = .int VMOps.negOne → fx.divMin = true)
    (hs : op = .shl ∨ op = .shr → ∀ x y, a = .int x → b = .int y → 64 ≤ y.toNat → fx.shiftCount = true) :
    Agree ρ (Lang.binop op a b) (VMOps.step fx (opOf op) [emb ρ a, emb ρ b]) := by
  induction op, a, b using binop_cases with
  | eq a b => exact eq_agree fx ρ a b wa wb
  | ne a b => exact ne_agree fx ρ a b wa wb
  | int op x y =>
    cases op
    case eq => exact eq_agree fx ρ _ _ wa wb
    case ne => exact ne_agree fx ρ _ _ wa wb
    case div => exact div_int_agree fx ρ x y fun hx hy => hd (.inl rfl) (hx ▸ rfl) (hy ▸ rfl)
    case mod => exact mod_int_agree fx ρ x y fun hx hy => hd (.inr rfl) (hx ▸ rfl) (hy ▸ rfl)
    case shl => exact shift_int_agree fx true x y (hs (.inl rfl) x y rfl rfl)
    case shr => exact shift_int_agree fx false x y (hs (.inr rfl) x y rfl rfl)
    case lt => simp only [Lang.binop, Agree, slt_eq]; rfl
    case gt => simp only [Lang.binop, Agree, slt_eq]; rfl
    case le => simp only [Lang.binop, Agree, sle_eq]; rfl
    case ge => simp only [Lang.binop, Agree, sle_eq]; rfl
    all_goals rfl
  | chr op h x y =>
    rcases h with h | h | h | h <;> subst h <;>
      simp only [Lang.binop, Agree, slt_eq, sle_eq, chrInt_agree] <;> rfl
  | strStr x y => simp only [Lang.binop, Agree, emb, strBytes_append]; rfl
  | strInt x y => simp only [Lang.binop, Agree, emb, strBytes_append, strBytes_intToString]; rfl
  | strChr x y => simp only [Lang.binop, Agree, emb, strBytes_append, strBytes_chrToString]; rfl
  | intStr x y => simp only [Lang.binop, Agree, emb, strBytes_append, strBytes_intToString]; rfl
  | chrStr x y => simp only [Lang.binop, Agree, emb, strBytes_append, strBytes_chrToString]; rfl
  | uncased op a b hl hc => rw [hl, step_uncased fx ρ op a b (hc ρ)]; exact ⟨_, _, rfl, rfl⟩

theorem binop_agree (hd : fx.divMin = true) (hs : fx.shiftCount = true) (op : Lang.BinOp)
    (a b : Lang.Val) (wa : WF a) (wb : WF b) :
    Agree ρ (Lang.binop op a b) (VMOps.step fx (opOf op) [emb ρ a, emb ρ b]) :=
  binop_agree_of fx ρ op a b wa wb (fun _ _ _ => hd) (fun _ _ _ _ _ _ => hs)

local macro "xl_usimp" : tactic => `(tactic|
  simp (config := {decide := true}) [VMOps.step, emb, Agree, lcls, vcls, Lang.unNeg, Lang.unCompl, Lang.unIncr,
      VMOps.opMinus, VMOps.opCompl, VMOps.opIncDec, VMOps.longOf, VMOps.intOf, VMOps.R.out,
      ← strToLong_agree, Lang.strToUInt])

theorem neg_agree (a : Lang.Val) : Agree ρ (Lang.unNeg a) (VMOps.step fx .minus [emb ρ a]) := by
  cases a <;> xl_usimp

theorem compl_agree (a : Lang.Val) : Agree ρ (Lang.unCompl a) (VMOps.step fx .compl [emb ρ a]) := by
  cases a <;> xl_usimp

theorem incr_agree (a : Lang.Val) : Agree ρ (Lang.unIncr 1 a) (VMOps.step fx .inc [emb ρ a]) := by
  cases a <;> xl_usimp

theorem decr_agree (a : Lang.Val) : Agree ρ (Lang.unIncr (-1) a) (VMOps.step fx .dec [emb ρ a]) := by
  cases a <;> xl_usimp
  · have : (18446744073709551615#64) = -1#64 := by decide
    rw [this, BitVec.sub_eq_add_neg]
  · have : (4294967295#32) = -1#32 := by decide
    rw [this, BitVec.sub_eq_add_neg]

theorem truthy_agree (a : Lang.Val) : VMOps.boolOf (emb ρ a) = a.truthy := by
  cases a <;> simp [emb, VMOps.boolOf, Lang.Val.truthy]
  rename_i s
  rw [Bool.eq_iff_iff]; simp [List.isEmpty_iff, strBytes_eq_nil]

theorem stringValue_agree (a : Lang.Val) :
    VMOps.strOf fx (emb ρ a) = .ok (Lang.strBytes a.stringValue) := by
  cases a <;> simp [emb, VMOps.strOf, Lang.Val.stringValue, strBytes_nil, strBytes_intToString, strBytes_chrToString,
    strBytes_typeArray, VMOps.Val.kind]

theorem size_agree (heap : Lang.Heap) (hρ : Represents ρ heap) (a : Lang.Val) :
    VMOps.step fx .size [emb ρ a] = .ok (emb ρ (Lang.unSize heap a)) := by
  cases a <;> simp (config := {decide := true}) [VMOps.step, VMOps.opSize, emb, Lang.unSize, length_strBytes]
  rename_i h; rw [hρ h]; simp

/-- the `VMOps` key of a `Lang` key -/
def vkey : Lang.Key → VMOps.Key
  | .int v => .int v
  | .str s => .str (Lang.strBytes s)

theorem keyOfStored_embKey (k : Lang.Key) : VMOps.keyOfStored (embKey k) = some (vkey k) := by
  cases k <;> rfl

theorem vkey_inj {k k' : Lang.Key} (w : WFKey k) (w' : WFKey k') : vkey k = vkey k' ↔ k = k' := by
  cases k <;> cases k' <;> simp [vkey]
  exact strBytes_inj w w'

theorem lookup_agree (l : Lang.Holder) (k : Lang.Key) (wk : WFKey k) (wl : ∀ kv ∈ l, WFKey kv.1) :
    (VMOps.lookup (l.map fun kv => (embKey kv.1, emb ρ kv.2)) (vkey k)).getD .nil
      = emb ρ ((Lang.alookup k l).getD .nil) := by
  induction l with
  | nil => simp [VMOps.lookup, Lang.alookup, emb]
  | cons e t ih =>
    obtain ⟨k', v⟩ := e
    have w' : WFKey k' := wl (k', v) (by simp)
    have iht := ih (fun kv h => wl kv (by simp [h]))
    unfold VMOps.lookup at iht ⊢
    rw [List.map_cons, List.find?_cons]
    by_cases h : k' = k
    · subst h; simp [keyOfStored_embKey, Lang.alookup]
    · have hne : ¬ vkey k' = vkey k := fun e => h ((vkey_inj w' wk).mp e)
      have : (VMOps.keyOfStored (embKey k', emb ρ v).1 == some (vkey k)) = false := by
        simp [keyOfStored_embKey, hne]
      rw [this]
      simp only [Lang.alookup, h, if_false]
      exact iht

theorem keyOf_agree (i : Lang.Val) :
    (∀ k, i.toKey = .ok k → VMOps.keyOf fx (emb ρ i) = .ok (vkey k)) ∧
    (i.toKey = .error .badKey → VMOps.keyOf fx (emb ρ i) = .err .badHashCodeValue) := by
  cases i <;> simp [Lang.Val.toKey, VMOps.keyOf, emb, vkey, VMOps.strOf, VMOps.R.bind]

theorem index_agree (heap : Lang.Heap) (hρ : Represents ρ heap) (hw : HeapWF heap) (a i : Lang.Val) (wi : WF i) :
    Agree ρ (Lang.indexVal heap a i) (VMOps.step fx .evalAt [emb ρ a, emb ρ i]) := by
  cases a
  case nil => simp [VMOps.step, VMOps.evalAt, emb, Lang.indexVal, Agree]
  case int => simp [VMOps.step, VMOps.evalAt, emb, Lang.indexVal, Agree, lcls, vcls]
  case chr => simp [VMOps.step, VMOps.evalAt, emb, Lang.indexVal, Agree, lcls, vcls]
  case str s =>
    cases i
    case int v =>
      by_cases hlt : v.toNat < s.length <;>
        simp [VMOps.step, VMOps.evalAt, VMOps.evalAt.strAt, emb, Lang.indexVal, Agree, lcls, vcls, VMOps.longOf,
          VMOps.R.out, getElem?_strBytes, hlt]
    case str t =>
      by_cases hlt : (Lang.strToLong t).toNat < s.length <;>
        simp [VMOps.step, VMOps.evalAt, VMOps.evalAt.strAt, emb, Lang.indexVal, Agree, lcls, vcls, VMOps.longOf,
          VMOps.R.out, getElem?_strBytes, ← strToLong_agree, hlt]
    all_goals
      simp [VMOps.step, VMOps.evalAt, VMOps.evalAt.strAt, emb, Lang.indexVal, Agree, lcls, vcls, VMOps.longOf,
        VMOps.R.out]
  case arr h =>
    have hk := keyOf_agree fx ρ i
    have e : emb ρ (Lang.Val.arr h) = VMOps.Val.arr (ρ h) := rfl
    rw [e]
    simp only [VMOps.step, VMOps.evalAt, Lang.indexVal]
    cases hi : i.toKey with
    | ok k =>
      have wk : WFKey k := by
        cases i <;> simp [Lang.Val.toKey] at hi <;> subst hi <;> simp [WFKey, WF] at wi ⊢ <;> exact wi
      rw [hk.1 k hi, hρ h]
      simp only [VMOps.R.out, Agree, bind, Except.bind]
      rw [lookup_agree ρ _ k wk (hw h)]
    | error e =>
      have he : e = .badKey := by cases i <;> simp [Lang.Val.toKey] at hi <;> exact hi.symm
      subst he
      rw [hk.2 hi]
      simp [VMOps.R.out, Agree, bind, Except.bind, lcls, vcls]

end

theorem agree_ok_iff {ρ : Content} {x : Except Lang.Err Lang.Val} {o : VMOps.Out} (h : Agree ρ x o) :
    (∃ r, x = .ok r) ↔ (∃ v, o = .ok v) := by
  cases x with
  | ok r => simp only [Agree] at h; subst h; simp
  | error e => obtain ⟨e', lhs, rfl, _⟩ := h; simp

theorem agree_err_iff {ρ : Content} {x : Except Lang.Err Lang.Val} {o : VMOps.Out} (h : Agree ρ x o) (c : Cls) :
    (∃ e, x = .error e ∧ lcls e = c) ↔ (∃ e' lhs, o = .err e' lhs ∧ vcls e' = c) := by
  cases x with
  | ok r => simp only [Agree] at h; subst h; simp
  | error e =>
    obtain ⟨e', lhs, rfl, hc⟩ := h
    constructor
    · rintro ⟨e1, h1, h2⟩
      cases h1
      exact ⟨e', lhs, rfl, hc.trans h2⟩
    · rintro ⟨e1, l1, h1, h2⟩
      cases h1
      exact ⟨e, rfl, hc.symm.trans h2⟩

theorem agree_not_ub {ρ : Content} {x : Except Lang.Err Lang.Val} {o : VMOps.Out} (h : Agree ρ x o) :
    o.isUb = false := by
  cases x with
  | ok r => simp only [Agree] at h; subst h; rfl
  | error e => obtain ⟨e', lhs, rfl, _⟩ := h; rfl

theorem binop_int_int (op : Lang.BinOp) (x y : BitVec 64) (r : Lang.Val)
    (h : Lang.binop op (.int x) (.int y) = .ok r) : ∃ v, r = .int v := by
  cases op
  case div | mod =>
    simp only [Lang.binop] at h
    split at h
    · cases h
    · split at h <;> exact ⟨_, (Except.ok.inj h).symm⟩
  all_goals exact ⟨_, (Except.ok.inj h).symm⟩

theorem binop_wf (op : Lang.BinOp) (a b r : Lang.Val) (wa : WF a) (wb : WF b)
    (h : Lang.binop op a b = .ok r) : WF r := by
  induction op, a, b using binop_cases with
  | eq a b => cases h; trivial
  | ne a b => cases h; trivial
  | int op x y => obtain ⟨v, rfl⟩ := binop_int_int op x y r h; trivial
  | chr op hc x y => rcases hc with hc | hc | hc | hc <;> subst hc <;> cases h <;> trivial
  | strStr x y => cases h; exact byteStr_append wa wb
  | strInt x y => cases h; exact byteStr_append wa (byteStr_intToString _)
  | strChr x y => cases h; exact byteStr_append wa (byteStr_chrToString _)
  | intStr x y => cases h; exact byteStr_append (byteStr_intToString _) wb
  | chrStr x y => cases h; exact byteStr_append (byteStr_chrToString _) wb
  | uncased op a b hl => rw [hl] at h; cases h

theorem binop_ub_iff (fx : VMOps.Fixes) (ρ : Content) (op : Lang.BinOp) (a b : Lang.Val) (wa : WF a) (wb : WF b) :
    (VMOps.step fx (opOf op) [emb ρ a, emb ρ b]).isUb = true ↔
      (fx.divMin = false ∧ (op = .div ∨ op = .mod) ∧ a = .int VMOps.minInt ∧ b = .int VMOps.negOne) ∨
      (fx.shiftCount = false ∧ (op = .shl ∨ op = .shr) ∧ ∃ x y, a = .int x ∧ b = .int y ∧ 64 ≤ y.toNat) := by
  constructor
  · intro hu
    refine Classical.byContradiction fun hn => ?_
    have h := agree_not_ub (binop_agree_of fx ρ op a b wa wb
      (fun ho ha hb => eq_true_of_ne_false fun hf => hn (.inl ⟨hf, ho, ha, hb⟩))
      (fun ho x y ha hb hy => eq_true_of_ne_false fun hf => hn (.inr ⟨hf, ho, x, y, ha, hb, hy⟩)))
    rw [h] at hu
    cases hu
  · rintro (⟨hf, ho | ho, rfl, rfl⟩ | ⟨hf, ho | ho, x, y, rfl, rfl, hy⟩) <;> subst ho
    · show (VMOps.opDiv fx (.int VMOps.minInt) (.int VMOps.negOne)).isUb = true
      simp only [VMOps.opDiv, hf]; rfl
    · show (VMOps.opMod fx (.int VMOps.minInt) (.int VMOps.negOne)).isUb = true
      simp only [VMOps.opMod, hf]; rfl
    · show (VMOps.opShift fx true (.int x) (.int y)).isUb = true
      simp only [VMOps.opShift, hf, if_neg (Nat.not_lt.mpr hy)]; rfl
    · show (VMOps.opShift fx false (.int x) (.int y)).isUb = true
      simp only [VMOps.opShift, hf, if_neg (Nat.not_lt.mpr hy)]; rfl

end Morfuse.XLinks
