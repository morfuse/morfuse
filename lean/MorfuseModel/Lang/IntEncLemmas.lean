import MorfuseModel.Lang.IntEnc
/-! lemmas behind `C03_literal_roundtrip` -/
namespace Morfuse.Lang.IntEnc
open Morfuse.Gen.IntEnc

theorem toBytes_length (n w : Nat) : (toBytes n w).length = w := by
  induction w generalizing n with
  | zero => rfl
  | succ w ih => simp [toBytes, ih]

theorem fromBytes_toBytes (n w : Nat) : fromBytes (toBytes n w) = n % 256 ^ w := by
  induction w generalizing n with
  | zero => simp [toBytes, fromBytes, Nat.mod_one]
  | succ w ih =>
    simp only [toBytes, fromBytes, ih]
    rw [Nat.pow_succ', Nat.mod_mul]

theorem interpret_unsigned (raw bits : Nat) (h : raw < 2 ^ bits) : interpret raw bits false = (raw : Int) := by
  simp [interpret, Nat.mod_eq_of_lt h]

theorem decode_unsigned (tbl : List (Nat × Nat × Bool × Nat × Bool)) (k w pbits n : Nat)
    (hd : findDecoder k tbl = some (w, false, pbits, false)) (hn : n < 256 ^ w) (hp : 256 ^ w ≤ 2 ^ pbits) :
    decodeWith tbl ⟨k, toBytes n w⟩ = some (BitVec.ofNat 64 n) := by
  have h8 : (256 : Nat) ^ w = 2 ^ (8 * w) := by
    rw [show (256 : Nat) = 2 ^ 8 by rfl, ← Nat.pow_mul]
  simp only [decodeWith, hd, toBytes_length, ne_eq, not_true_eq_false, ↓reduceIte, fromBytes_toBytes]
  have h1 : n % 256 ^ w = n := Nat.mod_eq_of_lt hn
  rw [h1, interpret_unsigned n (8 * w) (by rw [← h8]; exact hn)]
  have h2 : ((n : Int) % ((2 ^ pbits : Nat) : Int)).toNat = n := by
    have : n < 2 ^ pbits := Nat.lt_of_lt_of_le hn hp
    rw [Int.ofNat_mod_ofNat, Int.toNat_natCast, Nat.mod_eq_of_lt this]
  rw [h2, interpret_unsigned n pbits (Nat.lt_of_lt_of_le hn hp)]
  simp [BitVec.ofInt_natCast]

/-- the `k` of the `OP_STORE_INTk` that `EmitInteger` chooses, which is also the number of operand bytes -/
def width (n : Nat) : Nat :=
  if n = 0 then 0 else if n < 256 then 1 else if n < 65536 then 2 else if n < 16777216 then 3
  else if n < 4294967296 then 4 else 8

theorem encodeInt_eq (v : BitVec 64) : encodeInt v = ⟨width v.toNat, toBytes v.toNat (width v.toNat)⟩ := by
  unfold encodeInt width
  simp only [emitZeroFirst, Bool.true_and, beq_iff_eq, emitBranches, firstBranch, emitElse]
  by_cases h0 : v.toNat = 0
  · simp [h0, toBytes]
  by_cases h1 : v.toNat < 256
  · simp [h0, h1]
  by_cases h2 : v.toNat < 65536
  · simp [h0, h1, h2]
  by_cases h3 : v.toNat < 16777216
  · simp [h0, h1, h2, h3]
  by_cases h4 : v.toNat < 4294967296 <;> simp [h0, h1, h2, h3, h4]

/-- bits of the setter parameter the decoders of `OP_STORE_INTk` store through -/
def pbits (k : Nat) : Nat := if k = 8 then 64 else 32

theorem width_spec (n : Nat) (h : n < 2 ^ 64) :
    n < 256 ^ width n ∧ (∀ w ∈ widths, w < width n → 256 ^ w ≤ n) ∧ 256 ^ width n ≤ 2 ^ pbits (width n) ∧
    findDecoder (width n) vmDecoders = some (width n, false, pbits (width n), false) ∧
    findDecoder (width n) foldDecoders = some (width n, false, pbits (width n), false) := by
  have hw : ∀ w ∈ widths, w = 1 ∨ w = 2 ∨ w = 3 ∨ w = 4 ∨ w = 8 := by decide
  unfold width
  repeat' split
  all_goals
    refine ⟨by omega, fun w hm hlt => ?_, by decide, by decide, by decide⟩
    rcases hw w hm with rfl | rfl | rfl | rfl | rfl <;> omega

end Morfuse.Lang.IntEnc
