import MorfuseModel.Gen.Precedence
import MorfuseModel.Lang.Prec
import MorfuseModel.Common.StrCode
/-!
# C03 — the precedence table of the real grammar against the language's reference order

`Gen/Precedence.lean` is regenerated from the `%left/%right/%nonassoc/%precedence` lines of
`src/Parser/yyParser.yy` on every run.  `refLv` is the precedence the language has (C order; what the
program generator prints with and what `Lang.Sem` means by an expression).  The obligations below
are re-checked by `lake build`: every binary operator token is declared `%left`, and the generated
levels order the operators exactly as the reference does — so the parser model instantiated with
either function accepts the same trees (`C03_precedence_roundtrip` holds for any level function).
-/
namespace Morfuse.Lang.PrecTable
open Morfuse.Lang.Prec

def tokenOf : Op → String
  | .lor => "TOKEN_LOGICAL_OR" | .land => "TOKEN_LOGICAL_AND"
  | .bor => "TOKEN_BITWISE_OR" | .bxor => "TOKEN_BITWISE_EXCL_OR" | .band => "TOKEN_BITWISE_AND"
  | .eq => "TOKEN_EQUALITY" | .ne => "TOKEN_INEQUALITY"
  | .lt => "TOKEN_LESS_THAN" | .gt => "TOKEN_GREATER_THAN"
  | .le => "TOKEN_LESS_THAN_OR_EQUAL" | .ge => "TOKEN_GREATER_THAN_OR_EQUAL"
  | .shl => "TOKEN_SHIFT_LEFT" | .shr => "TOKEN_SHIFT_RIGHT"
  | .add => "TOKEN_PLUS" | .sub => "TOKEN_MINUS"
  | .mul => "TOKEN_MULTIPLY" | .div => "TOKEN_DIVIDE" | .mod => "TOKEN_MODULUS"

def unTokenOf : UnOp → String
  | .neg => "TOKEN_NEG" | .compl => "TOKEN_COMPLEMENT" | .not => "TOKEN_NOT"

/-- the *last* declaration of a token wins in bison (a later `%right` overrides an earlier `%token`);
    tokens are declared with a precedence at most once in this grammar, so first = last -/
def lookup (tok : String) : List (Nat × String × String) → Option (Nat × String)
  | [] => none
  | (l, a, t) :: rest => if t = tok then some (l, a) else lookup tok rest

def genLv (o : Op) : Nat := ((lookup (tokenOf o) Morfuse.Gen.Precedence.table).map (·.1)).getD 0
def genAssoc (o : Op) : String := ((lookup (tokenOf o) Morfuse.Gen.Precedence.table).map (·.2)).getD "missing"
def genUnLv (u : UnOp) : Nat := ((lookup (unTokenOf u) Morfuse.Gen.Precedence.table).map (·.1)).getD 0

/-- reference precedence of the language, loosest first -/
def refLv : Op → Nat
  | .lor => 1 | .land => 2 | .bor => 3 | .bxor => 4 | .band => 5
  | .eq | .ne => 6 | .lt | .gt | .le | .ge => 7 | .shl | .shr => 8 | .add | .sub => 9
  | .mul | .div | .mod => 10

def allOps : List Op :=
  [.lor, .land, .bor, .bxor, .band, .eq, .ne, .lt, .gt, .le, .ge, .shl, .shr, .add, .sub, .mul, .div, .mod]

theorem allOps_complete (o : Op) : o ∈ allOps := by cases o <;> decide

/-- `lookup` with the tokens as numbers: the search the kernel runs -/
def lookupC (c : Nat) : List (Nat × String × Nat) → Option (Nat × String)
  | [] => none
  | (l, a, t) :: rest => if t = c then some (l, a) else lookupC c rest

theorem lookup_code (tok : String) (tbl : List (Nat × String × String)) :
    lookup tok tbl = lookupC (strCode tok) (tbl.map fun e => (e.1, e.2.1, strCode e.2.2)) := by
  induction tbl with
  | nil => rfl
  | cons e tbl ih =>
    obtain ⟨l, a, t⟩ := e
    have : (strCode t = strCode tok) = (t = tok) := propext ⟨strCode_inj, congrArg strCode⟩
    simp only [lookup, List.map_cons, lookupC, this, ih]

/-- obligation on the generated table: every binary operator is `%left` -/
theorem gen_all_left : allOps.all (fun o => genAssoc o == "left") = true := by
  simp only [genAssoc, lookup_code]
  decide +kernel

/-- obligation on the generated table: it orders the operators as the reference does -/
theorem gen_order_eq_ref :
    allOps.all (fun a => allOps.all (fun b => decide (genLv a < genLv b) == decide (refLv a < refLv b))) = true := by
  simp only [genLv, lookup_code]
  decide +kernel

/-- obligation on the generated table: the prefix operators are declared tighter than every binary operator -/
theorem gen_unary_tighter :
    allOps.all (fun a => [UnOp.neg, .compl, .not].all (fun u => decide (genLv a < genUnLv u))) = true := by
  simp only [genLv, genUnLv, lookup_code]
  decide +kernel

end Morfuse.Lang.PrecTable
