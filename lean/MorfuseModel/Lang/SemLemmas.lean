import MorfuseModel.Lang.Sem
/-!
# C03 — fuel monotonicity of the reference semantics (`Lang.Sem`)

A result other than `timeout` does not change when more fuel is given.
-/
namespace Morfuse.Lang

structure FuelMono (prog : Program) (n m : Nat) : Prop where
  evalExpr : ∀ e fr st, evalExpr prog n e fr st ≠ .timeout → Lang.evalExpr prog m e fr st = Lang.evalExpr prog n e fr st
  evalArgs : ∀ es fr st, evalArgs prog n es fr st ≠ .timeout → Lang.evalArgs prog m es fr st = Lang.evalArgs prog n es fr st
  refOf : ∀ lv fr st, refOf prog n lv fr st ≠ .timeout → Lang.refOf prog m lv fr st = Lang.refOf prog n lv fr st
  store : ∀ lv v fr st, store prog n lv v fr st ≠ .timeout → Lang.store prog m lv v fr st = Lang.store prog n lv v fr st
  exec : ∀ s fr st, exec prog n s fr st ≠ .timeout → Lang.exec prog m s fr st = Lang.exec prog n s fr st
  execList : ∀ ss fr st, execList prog n ss fr st ≠ .timeout → Lang.execList prog m ss fr st = Lang.execList prog n ss fr st
  execWhile : ∀ c b i fr st, execWhile prog n c b i fr st ≠ .timeout → Lang.execWhile prog m c b i fr st = Lang.execWhile prog n c b i fr st
  execDo : ∀ b c fr st, execDo prog n b c fr st ≠ .timeout → Lang.execDo prog m b c fr st = Lang.execDo prog n b c fr st
  runFrom : ∀ l fr st, runFrom prog n l fr st ≠ .timeout → Lang.runFrom prog m l fr st = Lang.runFrom prog n l fr st
  callThread : ∀ k l a fr st, callThread prog n k l a fr st ≠ .timeout → Lang.callThread prog m k l a fr st = Lang.callThread prog n k l a fr st

/-- after one unfolding: split the finished run along its sub-results, then rewrite with the hypotheses -/
local macro "fuel_finish" : tactic =>
  `(tactic| all_goals ((repeat' split at $(Lean.mkIdent `h):ident) <;> simp_all))

set_option hygiene false in
/-- after one unfolding: split the finished run (`h`) along its sub-results.  A leaf where a sub-result timed out
    contradicts `h`; in every other leaf the sub-results discharge the hypotheses' side conditions, and rewriting
    with both closes the goal (`simp_all` does the same and costs ten times as much here). -/
local macro "fuel_leaves" : tactic =>
  `(tactic| all_goals ((repeat' split at h) <;> first
      | exact absurd rfl h
      | simp only [*, ne_eq, reduceCtorEq, not_false_eq_true, if_true, if_false]))

theorem evalExpr_step {prog : Program} {n m : Nat} (ih : FuelMono prog n m) (e : Expr) (fr : Frame) (st : St)
    (h : evalExpr prog (n+1) e fr st ≠ .timeout) :
    evalExpr prog (m+1) e fr st = evalExpr prog (n+1) e fr st := by
  have ih1 := ih.evalExpr
  have ih2 := ih.evalArgs
  have ih3 := ih.callThread
  clear ih
  cases e <;> simp only [evalExpr] at h ⊢
  fuel_leaves

theorem evalArgs_step {prog : Program} {n m : Nat} (ih : FuelMono prog n m) (es : List Expr) (fr : Frame) (st : St)
    (h : evalArgs prog (n+1) es fr st ≠ .timeout) :
    evalArgs prog (m+1) es fr st = evalArgs prog (n+1) es fr st := by
  have ih1 := ih.evalExpr
  have ih2 := ih.evalArgs
  clear ih
  cases es <;> simp only [evalArgs] at h ⊢
  fuel_leaves

theorem refOf_step {prog : Program} {n m : Nat} (ih : FuelMono prog n m) (lv : LVal) (fr : Frame) (st : St)
    (h : refOf prog (n+1) lv fr st ≠ .timeout) :
    refOf prog (m+1) lv fr st = refOf prog (n+1) lv fr st := by
  have ih1 := ih.evalExpr
  have ih2 := ih.refOf
  clear ih
  cases lv <;> simp only [refOf] at h ⊢
  fuel_leaves

theorem store_step {prog : Program} {n m : Nat} (ih : FuelMono prog n m) (lv : LVal) (v : Val) (fr : Frame) (st : St)
    (h : store prog (n+1) lv v fr st ≠ .timeout) :
    store prog (m+1) lv v fr st = store prog (n+1) lv v fr st := by
  have ih1 := ih.evalExpr
  have ih2 := ih.refOf
  clear ih
  cases lv <;> simp only [store] at h ⊢
  fuel_leaves

theorem execList_step {prog : Program} {n m : Nat} (ih : FuelMono prog n m) (ss : List Stmt) (fr : Frame) (st : St)
    (h : execList prog (n+1) ss fr st ≠ .timeout) :
    execList prog (m+1) ss fr st = execList prog (n+1) ss fr st := by
  have ih1 := ih.exec
  have ih2 := ih.execList
  clear ih
  cases ss <;> simp only [execList] at h ⊢
  fuel_leaves

theorem execWhile_step {prog : Program} {n m : Nat} (ih : FuelMono prog n m) (c : Expr) (b i : List Stmt)
    (fr : Frame) (st : St) (h : execWhile prog (n+1) c b i fr st ≠ .timeout) :
    execWhile prog (m+1) c b i fr st = execWhile prog (n+1) c b i fr st := by
  have ih1 := ih.evalExpr
  have ih2 := ih.execList
  have ih3 := ih.execWhile
  clear ih
  simp only [execWhile] at h ⊢
  fuel_leaves

theorem execDo_step {prog : Program} {n m : Nat} (ih : FuelMono prog n m) (b : List Stmt) (c : Expr)
    (fr : Frame) (st : St) (h : execDo prog (n+1) b c fr st ≠ .timeout) :
    execDo prog (m+1) b c fr st = execDo prog (n+1) b c fr st := by
  have ih1 := ih.evalExpr
  have ih2 := ih.execList
  have ih3 := ih.execDo
  clear ih
  simp only [execDo] at h ⊢
  fuel_leaves

theorem runFrom_step {prog : Program} {n m : Nat} (ih : FuelMono prog n m) (l : String)
    (fr : Frame) (st : St) (h : runFrom prog (n+1) l fr st ≠ .timeout) :
    runFrom prog (m+1) l fr st = runFrom prog (n+1) l fr st := by
  have ih1 := ih.execList
  have ih2 := ih.runFrom
  clear ih
  simp only [runFrom] at h ⊢
  fuel_leaves

theorem callThread_step {prog : Program} {n m : Nat} (ih : FuelMono prog n m) (k : CallKind) (l : String)
    (a : List Val) (fr : Frame) (st : St) (h : callThread prog (n+1) k l a fr st ≠ .timeout) :
    callThread prog (m+1) k l a fr st = callThread prog (n+1) k l a fr st := by
  have ih1 := ih.runFrom
  clear ih
  cases k <;> simp only [callThread] at h ⊢
  fuel_leaves

theorem exec_step {prog : Program} {n m : Nat} (ih : FuelMono prog n m) (s : Stmt) (fr : Frame) (st : St)
    (h : exec prog (n+1) s fr st ≠ .timeout) :
    exec prog (m+1) s fr st = exec prog (n+1) s fr st := by
  have ih1 := ih.evalExpr
  have ih2 := ih.evalArgs
  have ih3 := ih.store
  have ih4 := ih.execList
  have ih5 := ih.execWhile
  have ih6 := ih.execDo
  have ih7 := ih.callThread
  clear ih
  cases s
  case end_ o => cases o <;> simp only [exec] at h ⊢ <;> fuel_leaves
  all_goals simp only [exec] at h ⊢
  fuel_leaves

theorem FuelMono.zero (prog : Program) (m : Nat) : FuelMono prog 0 m := by
  constructor <;> intros <;> simp_all [Lang.evalExpr, Lang.evalArgs, Lang.refOf, Lang.store, Lang.exec,
    Lang.execList, Lang.execWhile, Lang.execDo, Lang.runFrom, Lang.callThread]

theorem FuelMono.succ {prog : Program} {n m : Nat} (ih : FuelMono prog n m) : FuelMono prog (n+1) (m+1) where
  evalExpr e fr st := evalExpr_step ih e fr st
  evalArgs es fr st := evalArgs_step ih es fr st
  refOf lv fr st := refOf_step ih lv fr st
  store lv v fr st := store_step ih lv v fr st
  exec s fr st := exec_step ih s fr st
  execList ss fr st := execList_step ih ss fr st
  execWhile c b i fr st := execWhile_step ih c b i fr st
  execDo b c fr st := execDo_step ih b c fr st
  runFrom l fr st := runFrom_step ih l fr st
  callThread k l a fr st := callThread_step ih k l a fr st

theorem fuelMono (prog : Program) : ∀ {n m : Nat}, n ≤ m → FuelMono prog n m
  | 0, m, _ => FuelMono.zero prog m
  | n + 1, 0, h => absurd h (by omega)
  | n + 1, m + 1, h => (fuelMono prog (Nat.le_of_succ_le_succ h)).succ

/-- one more unit of fuel never changes a finished result — all ten functions at once -/
theorem fuel_succ (prog : Program) : ∀ n : Nat,
    (∀ e fr st, evalExpr prog n e fr st ≠ .timeout → evalExpr prog (n+1) e fr st = evalExpr prog n e fr st) ∧
    (∀ es fr st, evalArgs prog n es fr st ≠ .timeout → evalArgs prog (n+1) es fr st = evalArgs prog n es fr st) ∧
    (∀ lv fr st, refOf prog n lv fr st ≠ .timeout → refOf prog (n+1) lv fr st = refOf prog n lv fr st) ∧
    (∀ lv v fr st, store prog n lv v fr st ≠ .timeout → store prog (n+1) lv v fr st = store prog n lv v fr st) ∧
    (∀ s fr st, exec prog n s fr st ≠ .timeout → exec prog (n+1) s fr st = exec prog n s fr st) ∧
    (∀ ss fr st, execList prog n ss fr st ≠ .timeout → execList prog (n+1) ss fr st = execList prog n ss fr st) ∧
    (∀ c b i fr st, execWhile prog n c b i fr st ≠ .timeout → execWhile prog (n+1) c b i fr st = execWhile prog n c b i fr st) ∧
    (∀ b c fr st, execDo prog n b c fr st ≠ .timeout → execDo prog (n+1) b c fr st = execDo prog n b c fr st) ∧
    (∀ l fr st, runFrom prog n l fr st ≠ .timeout → runFrom prog (n+1) l fr st = runFrom prog n l fr st) ∧
    (∀ k l a fr st, callThread prog n k l a fr st ≠ .timeout → callThread prog (n+1) k l a fr st = callThread prog n k l a fr st) := by
  intro n
  have h := fuelMono prog (Nat.le_succ n)
  exact ⟨h.evalExpr, h.evalArgs, h.refOf, h.store, h.exec, h.execList, h.execWhile, h.execDo, h.runFrom,
    h.callThread⟩

theorem evalExpr_mono (prog : Program) {n m : Nat} (h : n ≤ m) (e : Expr) (fr : Frame) (st : St) :
    evalExpr prog n e fr st ≠ .timeout → evalExpr prog m e fr st = evalExpr prog n e fr st :=
  (fuelMono prog h).evalExpr e fr st

theorem evalArgs_mono (prog : Program) {n m : Nat} (h : n ≤ m) (es : List Expr) (fr : Frame) (st : St) :
    evalArgs prog n es fr st ≠ .timeout → evalArgs prog m es fr st = evalArgs prog n es fr st :=
  (fuelMono prog h).evalArgs es fr st

theorem refOf_mono (prog : Program) {n m : Nat} (h : n ≤ m) (lv : LVal) (fr : Frame) (st : St) :
    refOf prog n lv fr st ≠ .timeout → refOf prog m lv fr st = refOf prog n lv fr st :=
  (fuelMono prog h).refOf lv fr st

theorem store_mono (prog : Program) {n m : Nat} (h : n ≤ m) (lv : LVal) (v : Val) (fr : Frame) (st : St) :
    store prog n lv v fr st ≠ .timeout → store prog m lv v fr st = store prog n lv v fr st :=
  (fuelMono prog h).store lv v fr st

theorem exec_mono (prog : Program) {n m : Nat} (h : n ≤ m) (s : Stmt) (fr : Frame) (st : St) :
    exec prog n s fr st ≠ .timeout → exec prog m s fr st = exec prog n s fr st :=
  (fuelMono prog h).exec s fr st

theorem execList_mono (prog : Program) {n m : Nat} (h : n ≤ m) (ss : List Stmt) (fr : Frame) (st : St) :
    execList prog n ss fr st ≠ .timeout → execList prog m ss fr st = execList prog n ss fr st :=
  (fuelMono prog h).execList ss fr st

theorem execWhile_mono (prog : Program) {n m : Nat} (h : n ≤ m) (c : Expr) (b i : List Stmt) (fr : Frame) (st : St) :
    execWhile prog n c b i fr st ≠ .timeout → execWhile prog m c b i fr st = execWhile prog n c b i fr st :=
  (fuelMono prog h).execWhile c b i fr st

theorem execDo_mono (prog : Program) {n m : Nat} (h : n ≤ m) (b : List Stmt) (c : Expr) (fr : Frame) (st : St) :
    execDo prog n b c fr st ≠ .timeout → execDo prog m b c fr st = execDo prog n b c fr st :=
  (fuelMono prog h).execDo b c fr st

theorem runFrom_mono (prog : Program) {n m : Nat} (h : n ≤ m) (l : String) (fr : Frame) (st : St) :
    runFrom prog n l fr st ≠ .timeout → runFrom prog m l fr st = runFrom prog n l fr st :=
  (fuelMono prog h).runFrom l fr st

theorem callThread_mono (prog : Program) {n m : Nat} (h : n ≤ m) (k : CallKind) (l : String) (a : List Val)
    (fr : Frame) (st : St) :
    callThread prog n k l a fr st ≠ .timeout → callThread prog m k l a fr st = callThread prog n k l a fr st :=
  (fuelMono prog h).callThread k l a fr st

theorem runProgram_mono {n m : Nat} (h : n ≤ m) (prog : Program) (label : String) (args : List Val) :
    runProgram n prog label args ≠ .timeout → runProgram m prog label args = runProgram n prog label args :=
  runFrom_mono prog h label _ _

theorem runProgram_deterministic (n m : Nat) (prog : Program) (label : String) (args : List Val) :
    runProgram n prog label args ≠ .timeout → runProgram m prog label args ≠ .timeout →
    runProgram n prog label args = runProgram m prog label args := by
  intro hn hm
  rcases Nat.le_total n m with h | h
  · exact (runProgram_mono h prog label args hn).symm
  · exact runProgram_mono h prog label args hm

end Morfuse.Lang
