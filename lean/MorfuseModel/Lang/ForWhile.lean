import MorfuseModel.Lang.Desugar
import MorfuseModel.Lang.NoCont
/-!
# C03 — `for (init; c; inc) body` ≡ `init; while (c) { body; inc }` when `body` has no `continue` of its own

The meaning of a loop is the least one closed under one round (`whileRuns_unfold`, `whileRuns_ind`); without a
`continue` the rounds of `While(c, body, inc)` and of `While(c, body ++ inc, [])` are the same (`round_merge`).
-/
namespace Morfuse.Lang

section
variable (prog : Program) (c : Expr) (b i : List Stmt)

def Round (X : Frame → St → Out → Prop) (fr : Frame) (st : St) : Out → Prop :=
  Then (ExprRuns prog c fr st) (onOk fun p =>
    if p.1.truthy then
      Then (ListRuns prog b fr p.2) (loopK true fun fr2 st2 => Then (ListRuns prog i fr2 st2) (loopK false X))
    else Is (.ok (.normal, fr, p.2)))

theorem lim_whileBody (rec : Frame → St → Nat → Out) (fr : Frame) (st : St) :
    Lim (fun n => whileBody prog c b i n fr st fun fr' st' => rec fr' st' n) =
      Round prog c b i (fun fr' st' => Lim (rec fr' st')) fr st := by
  simp only [whileBody, Round, Lim.bind, mono_evalExpr, Lim.ite, Lim.loopCtl, mono_execList, Lim.pure, ExprRuns,
    lim_execList]

theorem mono_whileBody {rec : Frame → St → Nat → Out} (hrec : ∀ fr st, Mono (rec fr st)) (fr : Frame) (st : St) :
    Mono fun n => whileBody prog c b i n fr st fun fr' st' => rec fr' st' n :=
  (mono_evalExpr prog c fr st).bind fun p => Mono.ite _
    (Mono.loopCtl true (mono_execList prog b fr p.2) fun fr2 st2 => Mono.loopCtl false (mono_execList prog i fr2 st2) hrec)
    (Mono.const _)

theorem Round.imp {X X' : Frame → St → Out → Prop} (h : ∀ fr st r, X fr st r → X' fr st r) (fr : Frame) (st : St) (r : Out) :
    Round prog c b i X fr st r → Round prog c b i X' fr st r :=
  Then.imp fun x r => onOk.imp (fun p r => by
    split
    · exact Then.imp fun y r => loopK.imp (fun fr2 st2 r => Then.imp fun z r => loopK.imp h z r) y r
    · exact id) x r

theorem whileRuns_unfold (fr : Frame) (st : St) :
    WhileRuns prog c b i fr st = Round prog c b i (WhileRuns prog c b i) fr st := by
  rw [WhileRuns, ← Lim.succ_eq]
  simp only [execWhile_succ]
  exact lim_whileBody prog c b i (fun fr st n => execWhile prog n c b i fr st) fr st

theorem whileRuns_ind {X : Frame → St → Out → Prop} (hX : ∀ fr st r, Round prog c b i X fr st r → X fr st r)
    (fr : Frame) (st : St) (r : Out) (h : WhileRuns prog c b i fr st r) : X fr st r := by
  obtain ⟨hr, n, hn⟩ := (mono_execWhile prog c b i fr st).lim.1 h
  clear h
  induction n generalizing fr st r with
  | zero => simp only [execWhile] at hn; exact absurd hn.symm hr
  | succ n ih =>
    rw [execWhile_succ] at hn
    have h := (mono_whileBody prog c b i (rec := fun fr' st' _ => execWhile prog n c b i fr' st')
      (fun _ _ => Mono.const _) fr st).lim.2 ⟨hr, n, hn⟩
    rw [lim_whileBody] at h
    refine hX fr st r (Round.imp prog c b i (fun fr' st' r' h' => ?_) fr st r h)
    obtain ⟨hx, e⟩ := Lim.const.1 h'
    exact ih fr' st' r' (e ▸ hx) e.symm

end

theorem freeContL_append (xs ys : List Stmt) : freeContL (xs ++ ys) = (freeContL xs || freeContL ys) := by
  induction xs with
  | nil => simp [freeContL]
  | cons x xs ih => simp [freeContL, ih, Bool.or_assoc]

theorem round_merge (prog : Program) (c : Expr) (b i : List Stmt) (hB : freeContL b = false) (hI : freeContL i = false)
    (X : Frame → St → Out → Prop) (fr : Frame) (st : St) :
    Round prog c b i X fr st = Round prog c (b ++ i) [] X fr st := by
  have hnil : (fun fr2 st2 => Then (ListRuns prog [] fr2 st2) (loopK false X)) = X := by
    funext fr2 st2; rw [listRuns_nil, Then_is]; rfl
  unfold Round
  rw [hnil]
  refine Then_congr fun x _ => ?_
  cases x with
  | ok p =>
    show (if _ then _ else _) = (if _ then _ else _)
    split
    · rw [listRuns_append, Then_assoc]
      refine Then_congr fun y hy => ?_
      have hy' := listRuns_noCont hB hy
      rcases y with ⟨⟨_ | _ | _ | _ | _ | _, fr2, st2⟩⟩ | _ | _
      case ok.normal =>
        refine Then_congr fun z hz => ?_
        have hz' := listRuns_noCont hI hz
        rcases z with ⟨⟨_ | _ | _ | _ | _ | _, fr3, st3⟩⟩ | _ | _ <;> first | rfl | cases hz'
      case ok.cont => cases hy'
      all_goals
        show _ = Then (Is _) _
        rw [Then_is]
        rfl
    · rfl
  | _ => rfl

theorem while_merged (prog : Program) (c : Expr) (b i : List Stmt) (hB : freeContL b = false) (hI : freeContL i = false) :
    WhileRuns prog c b i = WhileRuns prog c (b ++ i) [] := by
  funext fr st r; apply propext
  exact ⟨whileRuns_ind prog c b i (X := WhileRuns prog c (b ++ i) [])
      (fun fr st r h => by rw [whileRuns_unfold, ← round_merge prog c b i hB hI]; exact h) fr st r,
    whileRuns_ind prog c (b ++ i) [] (X := WhileRuns prog c b i)
      (fun fr st r h => by rw [whileRuns_unfold, round_merge prog c b i hB hI]; exact h) fr st r⟩

/-- **`for (init; c; inc) body` ≡ `init; while (c) { body; inc }`** when `body` (and `inc`) contain no `continue`
    that would bind to this loop -/
theorem desugar_for_while (prog : Program) (init : List Stmt) (c : Expr) (inc body : List Stmt)
    (hB : freeContL body = false) (hI : freeContL inc = false) (fr : Frame) (st : St) (res : Res (Flow × Frame × St)) :
    StmtRuns prog (.for_ init c inc body) fr st res ↔
      StmtRuns prog (.block (init ++ [.while_ c (body ++ inc) []])) fr st res := by
  simp only [stmtRuns_for, stmtRuns_block, listRuns_append, listRuns_single, stmtRuns_while, while_merged prog c body inc hB hI]

end Morfuse.Lang
