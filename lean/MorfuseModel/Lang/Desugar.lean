import MorfuseModel.Lang.SemLemmas
import MorfuseModel.Lang.Runs
/-!
# C03 — the grammar's desugarings mean the same in `Lang.Sem`

`a op= b`, `a++` / `a--` and `for (init; c; inc) body` are nodes of their own in `Lang.Syntax` with
their own evaluation rule; the real parser builds `Assignment(a, Func2Expr(op, a, b))`,
`Assignment(a, Func1Expr(inc, a))` and `StatementList[init, While(c, body, inc)]` instead.  The
lemmas here say that both spellings finish with the same result (for some amount of fuel — the two
spellings need different amounts, so equality is stated on finished runs): both have the same meaning
(`Lang/Runs.lean`) by the laws of sequencing.
-/
namespace Morfuse.Lang

/-- statement `s`, started in `(fr, st)`, finishes with `res` (normal / break / … / script error) -/
def StmtRuns (prog : Program) (s : Stmt) (fr : Frame) (st : St) (res : Res (Flow × Frame × St)) : Prop :=
  res ≠ .timeout ∧ ∃ n, exec prog n s fr st = res

def ListRuns (prog : Program) (ss : List Stmt) (fr : Frame) (st : St) (res : Res (Flow × Frame × St)) : Prop :=
  res ≠ .timeout ∧ ∃ n, execList prog n ss fr st = res

section
variable (prog : Program)

theorem mono_evalExpr (e : Expr) (fr : Frame) (st : St) : Mono fun n => evalExpr prog n e fr st :=
  fun _ _ h => evalExpr_mono prog h e fr st
theorem mono_store (lv : LVal) (v : Val) (fr : Frame) (st : St) : Mono fun n => store prog n lv v fr st :=
  fun _ _ h => store_mono prog h lv v fr st
theorem mono_exec (s : Stmt) (fr : Frame) (st : St) : Mono fun n => exec prog n s fr st :=
  fun _ _ h => exec_mono prog h s fr st
theorem mono_execList (ss : List Stmt) (fr : Frame) (st : St) : Mono fun n => execList prog n ss fr st :=
  fun _ _ h => execList_mono prog h ss fr st
theorem mono_execWhile (c : Expr) (b i : List Stmt) (fr : Frame) (st : St) : Mono fun n => execWhile prog n c b i fr st :=
  fun _ _ h => execWhile_mono prog h c b i fr st

def ExprRuns (e : Expr) (fr : Frame) (st : St) : Res (Val × St) → Prop := Lim fun n => evalExpr prog n e fr st
def StoreRuns (lv : LVal) (v : Val) (fr : Frame) (st : St) : Res (Frame × St) → Prop := Lim fun n => store prog n lv v fr st
def WhileRuns (c : Expr) (b i : List Stmt) (fr : Frame) (st : St) : Out → Prop := Lim fun n => execWhile prog n c b i fr st

theorem lim_exec (s : Stmt) (fr : Frame) (st : St) : Lim (fun n => exec prog n s fr st) = StmtRuns prog s fr st :=
  funext fun _ => propext (mono_exec prog s fr st).lim

theorem lim_execList (ss : List Stmt) (fr : Frame) (st : St) : Lim (fun n => execList prog n ss fr st) = ListRuns prog ss fr st :=
  funext fun _ => propext (mono_execList prog ss fr st).lim

end

theorem StmtRuns.unique {prog s fr st r1 r2} (h1 : StmtRuns prog s fr st r1) (h2 : StmtRuns prog s fr st r2) : r1 = r2 :=
  Lim.unique ((mono_exec prog s fr st).lim.2 h1) ((mono_exec prog s fr st).lim.2 h2)

section
variable (prog : Program)

/- The evaluator spells `>>=` as a three-way `match`, which `rfl` does not see as a bind: each equation unfolds one level,
   splits the matches and closes the leaves with `Res.ok_bind`, `Res.err_bind`, `Res.timeout_bind`. -/

theorem evalExpr_int (n : Nat) (v : BitVec 64) (fr : Frame) (st : St) :
    evalExpr prog (n+1) (.int v) fr st = pure (.int v, st) := by
  simp only [evalExpr]; rfl

theorem evalExpr_bin (n : Nat) (op : BinOp) (a b : Expr) (fr : Frame) (st : St) :
    evalExpr prog (n+1) (.bin op a b) fr st =
      evalExpr prog n a fr st >>= fun p => evalExpr prog n b fr p.2 >>= fun q =>
        liftE (binop op p.1 q.1) >>= fun v => pure (v, q.2) := by
  simp only [evalExpr]
  repeat' split
  all_goals simp only [*, Res.ok_bind, Res.err_bind, Res.timeout_bind, liftE]
  all_goals rfl

theorem exec_assign (n : Nat) (lv : LVal) (e : Expr) (fr : Frame) (st : St) :
    exec prog (n+1) (.assign lv e) fr st =
      evalExpr prog n e fr st >>= fun p => store prog n lv p.1 fr p.2 >>= fun q => pure (.normal, q.1, q.2) := by
  simp only [exec]
  repeat' split
  all_goals simp only [*, Res.ok_bind, Res.err_bind, Res.timeout_bind]
  all_goals rfl

theorem exec_opassign (n : Nat) (op : BinOp) (lv : LVal) (e : Expr) (fr : Frame) (st : St) :
    exec prog (n+1) (.opassign op lv e) fr st =
      evalExpr prog n lv.toExpr fr st >>= fun p => evalExpr prog n e fr p.2 >>= fun q =>
        liftE (binop op p.1 q.1) >>= fun v => store prog n lv v fr q.2 >>= fun w => pure (.normal, w.1, w.2) := by
  simp only [exec]
  repeat' split
  all_goals simp only [*, Res.ok_bind, Res.err_bind, Res.timeout_bind, liftE]
  all_goals rfl

theorem exec_incdec (n : Nat) (d : BitVec 64) (s : Stmt) (lv : LVal) (hs : s = .incr lv ∧ d = 1 ∨ s = .decr lv ∧ d = -1)
    (fr : Frame) (st : St) :
    exec prog (n+1) s fr st =
      evalExpr prog n lv.toExpr fr st >>= fun p => liftE (unIncr d p.1) >>= fun v =>
        store prog n lv v fr p.2 >>= fun w => pure (.normal, w.1, w.2) := by
  rcases hs with ⟨rfl, rfl⟩ | ⟨rfl, rfl⟩ <;> simp only [exec]
  all_goals repeat' split
  all_goals simp only [*, Res.ok_bind, Res.err_bind, Res.timeout_bind, liftE]
  all_goals rfl

theorem exec_block (n : Nat) (ss : List Stmt) (fr : Frame) (st : St) :
    exec prog (n+1) (.block ss) fr st = execList prog n ss fr st := by
  simp only [exec]

theorem exec_while (n : Nat) (c : Expr) (body inc : List Stmt) (fr : Frame) (st : St) :
    exec prog (n+1) (.while_ c body inc) fr st = execWhile prog n c body inc fr st := by
  simp only [exec]

theorem exec_for (n : Nat) (init : List Stmt) (c : Expr) (inc body : List Stmt) (fr : Frame) (st : St) :
    exec prog (n+1) (.for_ init c inc body) fr st =
      onNormal (execList prog n init fr st) fun fr1 st1 => execWhile prog n c body inc fr1 st1 := by
  simp only [exec]
  rfl

theorem execList_nil (n : Nat) (fr : Frame) (st : St) :
    execList prog (n+1) [] fr st = .ok (.normal, fr, st) := by
  simp only [execList]

theorem execList_cons (n : Nat) (s : Stmt) (rest : List Stmt) (fr : Frame) (st : St) :
    execList prog (n+1) (s :: rest) fr st =
      onNormal (exec prog n s fr st) fun fr1 st1 => execList prog n rest fr1 st1 := by
  simp only [execList]
  rfl

def whileBody (c : Expr) (b i : List Stmt) (n : Nat) (fr : Frame) (st : St) (rec : Frame → St → Out) : Out :=
  evalExpr prog n c fr st >>= fun p =>
    if p.1.truthy then
      loopCtl true (execList prog n b fr p.2) fun fr2 st2 => loopCtl false (execList prog n i fr2 st2) rec
    else pure (.normal, fr, p.2)

theorem execWhile_succ (c : Expr) (b i : List Stmt) (n : Nat) (fr : Frame) (st : St) :
    execWhile prog (n+1) c b i fr st = whileBody prog c b i n fr st (execWhile prog n c b i) := by
  simp only [execWhile, whileBody]
  cases evalExpr prog n c fr st with
  | timeout => rfl
  | err e => rfl
  | ok p =>
    obtain ⟨vc, st1⟩ := p
    simp only [Res.ok_bind]
    split
    · rcases execList prog n b fr st1 with ⟨⟨_ | _ | _ | _ | _ | _, fr2, st2⟩⟩ | _ | _ <;> try rfl
      all_goals
        simp only [loopCtl, if_true]
        rcases execList prog n i fr2 st2 with ⟨⟨_ | _ | _ | _ | _ | _, _, _⟩⟩ | _ | _ <;> rfl
    · rfl

theorem execDo_succ (b : List Stmt) (c : Expr) (n : Nat) (fr : Frame) (st : St) :
    execDo prog (n+1) b c fr st = loopCtl true (execList prog n b fr st) fun fr1 st1 =>
      evalExpr prog n c fr1 st1 >>= fun p =>
        if p.1.truthy then execDo prog n b c fr1 p.2 else pure (.normal, fr1, p.2) := by
  simp only [execDo]
  rcases execList prog n b fr st with ⟨⟨_ | _ | _ | _ | _ | _, fr1, st1⟩⟩ | _ | _ <;> try rfl
  all_goals
    simp only [loopCtl, if_true]
    rcases evalExpr prog n c fr1 st1 with ⟨_, _⟩ | _ | _ <;> rfl

theorem exprRuns_int (v : BitVec 64) (fr : Frame) (st : St) : ExprRuns prog (.int v) fr st = Is (.ok (.int v, st)) := by
  rw [ExprRuns, ← Lim.succ_eq]; simp only [evalExpr_int, Lim.pure]

theorem exprRuns_bin (op : BinOp) (a b : Expr) (fr : Frame) (st : St) :
    ExprRuns prog (.bin op a b) fr st =
      Then (ExprRuns prog a fr st) (onOk fun p => Then (ExprRuns prog b fr p.2) (onOk fun q =>
        Then (Is (liftE (binop op p.1 q.1))) (onOk fun v => Is (.ok (v, q.2))))) := by
  rw [ExprRuns, ← Lim.succ_eq]
  simp only [evalExpr_bin, Lim.bind, Mono.const, mono_evalExpr, Lim.pure, Lim.liftE, ExprRuns]

theorem stmtRuns_assign (lv : LVal) (e : Expr) (fr : Frame) (st : St) :
    StmtRuns prog (.assign lv e) fr st =
      Then (ExprRuns prog e fr st) (onOk fun p => Then (StoreRuns prog lv p.1 fr p.2) (onOk fun q =>
        Is (.ok (.normal, q.1, q.2)))) := by
  rw [← lim_exec, ← Lim.succ_eq]
  simp only [exec_assign, Lim.bind, mono_evalExpr, mono_store, Lim.pure, ExprRuns, StoreRuns]

theorem stmtRuns_opassign (op : BinOp) (lv : LVal) (e : Expr) (fr : Frame) (st : St) :
    StmtRuns prog (.opassign op lv e) fr st =
      Then (ExprRuns prog lv.toExpr fr st) (onOk fun p => Then (ExprRuns prog e fr p.2) (onOk fun q =>
        Then (Is (liftE (binop op p.1 q.1))) (onOk fun v => Then (StoreRuns prog lv v fr q.2) (onOk fun w =>
          Is (.ok (.normal, w.1, w.2)))))) := by
  rw [← lim_exec, ← Lim.succ_eq]
  simp only [exec_opassign, Lim.bind, Mono.const, mono_evalExpr, mono_store, Lim.pure, Lim.liftE,
    ExprRuns, StoreRuns]

theorem stmtRuns_incdec (d : BitVec 64) (s : Stmt) (lv : LVal) (hs : s = .incr lv ∧ d = 1 ∨ s = .decr lv ∧ d = -1)
    (fr : Frame) (st : St) :
    StmtRuns prog s fr st =
      Then (ExprRuns prog lv.toExpr fr st) (onOk fun p => Then (Is (liftE (unIncr d p.1))) (onOk fun v =>
        Then (StoreRuns prog lv v fr p.2) (onOk fun w => Is (.ok (.normal, w.1, w.2))))) := by
  rw [← lim_exec, ← Lim.succ_eq]
  simp only [exec_incdec prog _ d s lv hs, Lim.bind, Mono.const, mono_evalExpr, mono_store, Lim.pure,
    Lim.liftE, ExprRuns, StoreRuns]

theorem stmtRuns_block (ss : List Stmt) (fr : Frame) (st : St) : StmtRuns prog (.block ss) fr st = ListRuns prog ss fr st := by
  rw [← lim_exec, ← Lim.succ_eq]; simp only [exec_block, lim_execList]

theorem stmtRuns_while (c : Expr) (b i : List Stmt) (fr : Frame) (st : St) :
    StmtRuns prog (.while_ c b i) fr st = WhileRuns prog c b i fr st := by
  rw [← lim_exec, ← Lim.succ_eq]; simp only [exec_while, WhileRuns]

theorem stmtRuns_for (init : List Stmt) (c : Expr) (inc body : List Stmt) (fr : Frame) (st : St) :
    StmtRuns prog (.for_ init c inc body) fr st =
      Then (ListRuns prog init fr st) (onNormalK fun fr1 st1 => WhileRuns prog c body inc fr1 st1) := by
  rw [← lim_exec, ← Lim.succ_eq]; simp only [exec_for, Lim.onNormal, mono_execList, WhileRuns, lim_execList]

theorem listRuns_nil (fr : Frame) (st : St) : ListRuns prog [] fr st = Is (.ok (.normal, fr, st)) := by
  rw [← lim_execList, ← Lim.succ_eq]; simp only [execList_nil]
  exact Lim.pure _

theorem listRuns_cons (s : Stmt) (rest : List Stmt) (fr : Frame) (st : St) :
    ListRuns prog (s :: rest) fr st = Then (StmtRuns prog s fr st) (onNormalK fun fr1 st1 => ListRuns prog rest fr1 st1) := by
  rw [← lim_execList, ← Lim.succ_eq]; simp only [execList_cons, Lim.onNormal, mono_exec, lim_exec, lim_execList]

theorem listRuns_append (xs ys : List Stmt) (fr : Frame) (st : St) :
    ListRuns prog (xs ++ ys) fr st = Then (ListRuns prog xs fr st) (onNormalK fun fr1 st1 => ListRuns prog ys fr1 st1) := by
  induction xs generalizing fr st with
  | nil => rw [List.nil_append, listRuns_nil, Then_normal]
  | cons x xs ih => simp only [List.cons_append, listRuns_cons, ih, onNormalK_assoc]

theorem listRuns_single (s : Stmt) (fr : Frame) (st : St) : ListRuns prog [s] fr st = StmtRuns prog s fr st := by
  simp only [listRuns_cons, listRuns_nil, Then_onNormalK_is]

/-- **`a op= b` ≡ `a = a op b`** on finished runs: associativity of sequencing -/
theorem desugar_opassign (op : BinOp) (lv : LVal) (e : Expr) (fr : Frame) (st : St)
    (res : Res (Flow × Frame × St)) :
    StmtRuns prog (.opassign op lv e) fr st res ↔ StmtRuns prog (.assign lv (.bin op lv.toExpr e)) fr st res := by
  rw [stmtRuns_opassign, stmtRuns_assign, exprRuns_bin]
  simp only [Then_onOk_assoc, Then_ok]

/-- `a++` ≡ `a += 1` (and `a--` ≡ `a -= 1`) whenever `a` holds an integer; on NIL `++` is a no-op while
    `NIL + 1` is a script error, on strings `++` converts — the equivalence is about integers only -/
theorem desugar_incdec (d : BitVec 64) (op : BinOp) (hop : ∀ x : BitVec 64, binop op (.int x) (.int 1) = .ok (.int (x + d)))
    (s : Stmt) (lv : LVal) (hs : s = .incr lv ∧ d = 1 ∨ s = .decr lv ∧ d = -1) (fr : Frame) (st : St)
    (hint : ∀ n va st1, evalExpr prog n lv.toExpr fr st = .ok (va, st1) → ∃ x, va = .int x)
    (res : Res (Flow × Frame × St)) :
    StmtRuns prog s fr st res ↔ StmtRuns prog (.opassign op lv (.int 1)) fr st res := by
  rw [stmtRuns_incdec prog d s lv hs, stmtRuns_opassign]
  simp only [exprRuns_int, Then_ok]
  refine iff_of_eq (congrFun (Then_congr fun x hx => ?_) res)
  cases x with
  | ok p =>
    obtain ⟨_, n, hn⟩ := hx
    obtain ⟨x, hx⟩ := hint n p.1 p.2 (hn n (Nat.le_refl n))
    simp only [onOk, hx, hop, unIncr]
  | _ => rfl

theorem desugar_incr (lv : LVal) (fr : Frame) (st : St)
    (hint : ∀ n va st1, evalExpr prog n lv.toExpr fr st = .ok (va, st1) → ∃ x, va = .int x)
    (res : Res (Flow × Frame × St)) :
    StmtRuns prog (.incr lv) fr st res ↔ StmtRuns prog (.opassign .add lv (.int 1)) fr st res :=
  desugar_incdec prog 1 .add (fun x => by simp [binop]) _ lv (.inl ⟨rfl, rfl⟩) fr st hint res

theorem desugar_decr (lv : LVal) (fr : Frame) (st : St)
    (hint : ∀ n va st1, evalExpr prog n lv.toExpr fr st = .ok (va, st1) → ∃ x, va = .int x)
    (res : Res (Flow × Frame × St)) :
    StmtRuns prog (.decr lv) fr st res ↔ StmtRuns prog (.opassign .sub lv (.int 1)) fr st res :=
  desugar_incdec prog (-1) .sub (fun x => by simp [binop, BitVec.sub_eq_add_neg]) _ lv (.inr ⟨rfl, rfl⟩) fr st hint res

/-- **`for (init; c; inc) body` ≡ `{ init; While(c, body, inc) }`** (the tree the parser builds) on finished runs -/
theorem desugar_for (init : List Stmt) (c : Expr) (inc body : List Stmt) (fr : Frame) (st : St)
    (res : Res (Flow × Frame × St)) :
    StmtRuns prog (.for_ init c inc body) fr st res ↔
      StmtRuns prog (.block (init ++ [.while_ c body inc])) fr st res := by
  simp only [stmtRuns_for, stmtRuns_block, listRuns_append, listRuns_single, stmtRuns_while]

end

end Morfuse.Lang
