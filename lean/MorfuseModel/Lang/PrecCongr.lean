import MorfuseModel.Lang.PrecTable
/-! printing depends on the level function only through the order it induces on the operators -/
namespace Morfuse.Lang.Prec

/-- where an operand sits: whole expression, left or right operand of `o` -/
inductive Ctx where
  | top | left (o : Op) | right (o : Op)

def needOf (lv : Op → Nat) : Ctx → Nat
  | .top => 0
  | .left o => lv o
  | .right o => lv o + 1

theorem lt_needOf_congr (l1 l2 : Op → Nat) (h : ∀ a b, l1 a < l1 b ↔ l2 a < l2 b) (op : Op) (c : Ctx) :
    l1 op < needOf l1 c ↔ l2 op < needOf l2 c := by
  cases c with
  | top => simp [needOf]
  | left o => exact h op o
  | right o =>
    simp only [needOf]
    have := h o op
    omega

theorem pr_congr (l1 l2 : Op → Nat) (h : ∀ a b, l1 a < l1 b ↔ l2 a < l2 b) (e : PT) :
    (∀ c, pr l1 (needOf l1 c) e = pr l2 (needOf l2 c) e) ∧ prPrim l1 e = prPrim l2 e := by
  induction e with
  | atom n => simp [pr, prPrim]
  | un u a ih => simp [pr, prPrim, ih.2]
  | bin op a b iha ihb =>
    have ha := iha.1 (.left op)
    have hb := ihb.1 (.right op)
    simp only [needOf] at ha hb
    constructor
    · intro c
      have hc := lt_needOf_congr l1 l2 h op c
      simp only [pr, ha, hb]
      by_cases h1 : l1 op < needOf l1 c
      · have h2 := hc.mp h1
        simp [h1, h2]
      · have h2 : ¬ l2 op < needOf l2 c := fun x => h1 (hc.mpr x)
        simp [h1, h2]
    · simp only [prPrim, ha, hb]

theorem print_congr (l1 l2 : Op → Nat) (h : ∀ a b, l1 a < l1 b ↔ l2 a < l2 b) (e : PT) :
    print l1 e = print l2 e := (pr_congr l1 l2 h e).1 .top

end Morfuse.Lang.Prec

namespace Morfuse.Lang.PrecTable
open Morfuse.Lang.Prec

/-- the generated table and the reference order the operators identically (from the `decide`d obligation) -/
theorem gen_iso_ref (a b : Op) : refLv a < refLv b ↔ genLv a < genLv b := by
  have h := gen_order_eq_ref
  rw [List.all_eq_true] at h
  have h1 := h a (allOps_complete a)
  rw [List.all_eq_true] at h1
  have h2 := h1 b (allOps_complete b)
  simp only [beq_iff_eq, decide_eq_decide] at h2
  exact h2.symm

end Morfuse.Lang.PrecTable
