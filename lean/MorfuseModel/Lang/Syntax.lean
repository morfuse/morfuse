/-!
# C03 — abstract syntax of the core script language

The tree that the reference semantics (`Lang.Sem`) evaluates.  It is the parse tree the real parser
builds (`src/Parser/yyParser.yy`) restricted to the core language, before the grammar's own
desugarings: `a += b`, `a++` and `for` are kept as nodes of their own (`opassign`, `incr`, `decr`,
`for_`) so that `C03_desugar_*` can state that they mean the same as the expansions the grammar
actions build (`Assignment(a, Func2Expr(op, a, b))`, `StatementList[init, While(c, body, inc)]`).
-/
namespace Morfuse.Lang

/-- the five variable scopes of the core language (`TOKEN_LISTENER` values; `self`/`owner` are not
    part of the typed fragment) -/
inductive Scope where
  | loc | grp | lvl | game | parm
  deriving Repr, DecidableEq, Inhabited

/-- binary operators that become `Func2Expr` nodes (one opcode each) -/
inductive BinOp where
  | bor | bxor | band | eq | ne | lt | gt | le | ge | shl | shr | add | sub | mul | div | mod
  deriving Repr, DecidableEq, Inhabited

/-- `thread label args` runs the callee in the caller's group, `waitthread label args` in a new
    group (`ScriptClass::CreateThreadInternal` vs `Listener::CreateThreadInternal`) -/
inductive CallKind where
  | thread | waitthread
  deriving Repr, DecidableEq, Inhabited

inductive Expr where
  | int (v : BitVec 64)
  | str (s : String)
  | nil
  | var (sc : Scope) (name : String)
  | index (a i : Expr)
  | size (a : Expr)
  | bin (op : BinOp) (a b : Expr)
  | land (a b : Expr)
  | lor (a b : Expr)
  | not (a : Expr)
  | neg (a : Expr)
  | compl (a : Expr)
  | call (k : CallKind) (label : String) (args : List Expr)
  deriving Repr, Inhabited

/-- what may stand left of `=`: a field of a scope object, or an element of such an l-value -/
inductive LVal where
  | var (sc : Scope) (name : String)
  | idx (base : LVal) (i : Expr)
  deriving Repr, Inhabited

/-- the r-value spelling of an l-value (`a += b` reads what it writes) -/
def LVal.toExpr : LVal → Expr
  | .var sc n => .var sc n
  | .idx b i => .index b.toExpr i

inductive Stmt where
  | assign (lv : LVal) (e : Expr)
  | opassign (op : BinOp) (lv : LVal) (e : Expr)
  | incr (lv : LVal)
  | decr (lv : LVal)
  /-- `{ … }` (a `StatementList` node) -/
  | block (ss : List Stmt)
  | ite (c : Expr) (t e : List Stmt)
  /-- the parse-tree `While(cond, body, inc)`: `continue` in `body` jumps to `inc` -/
  | while_ (c : Expr) (body inc : List Stmt)
  | for_ (init : List Stmt) (c : Expr) (inc body : List Stmt)
  | dowhile (body : List Stmt) (c : Expr)
  | brk
  | cont
  /-- `body` holds `case_` markers at its top level -/
  | switch (e : Expr) (body : List Stmt)
  /-- `case <int>:`, `case <string>:` or `default:`; the label text as the compiler stores it -/
  | case_ (label : String)
  /-- `handler` holds `label` markers at its top level -/
  | try_ (body handler : List Stmt)
  /-- `name p1 p2 …:` — a thread entry / goto target / catch entry; executing it binds the parameters -/
  | label (name : String) (params : List (Scope × String))
  | throw (name : String) (args : List Expr)
  | goto (name : String)
  | end_ (e : Option Expr)
  | print (newline : Bool) (args : List Expr)
  | call (k : CallKind) (label : String) (args : List Expr)
  deriving Repr, Inhabited

/-- a program: the top-level statement list; thread entry points are the `label`s at this level -/
abbrev Program := List Stmt

end Morfuse.Lang
