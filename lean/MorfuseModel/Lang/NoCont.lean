import MorfuseModel.Lang.Desugar
/-!
# C03 — statements without a `continue` of their own never finish with `continue`

`freeCont` is the syntactic test the layout generator uses before it spells `for (init; c; inc) body`
as `init; while (c) { body; inc }`.

The evaluator composes runs by `>>=`, `onNormal` and `loopCtl` (`Lang/Runs.lean`); `isCont` has one law for each, and
the law for `loopCtl` is the point: a loop swallows the `continue` of its body.
-/
namespace Morfuse.Lang

mutual
/-- does the statement contain a `continue` that would bind to an enclosing loop? -/
def freeCont : Stmt → Bool
  | .cont => true
  | .block ss => freeContL ss
  | .ite _ t e => freeContL t || freeContL e
  | .switch _ b => freeContL b
  | .try_ b h => freeContL b || freeContL h
  | .while_ _ _ inc => freeContL inc
  | .for_ init _ inc _ => freeContL init || freeContL inc
  | _ => false
def freeContL : List Stmt → Bool
  | [] => false
  | s :: r => freeCont s || freeContL r
end

def isCont : Res (Flow × Frame × St) → Bool
  | .ok (.cont, _, _) => true
  | _ => false

theorem isCont_bind {α} {x : Res α} {k : α → Out} (hk : ∀ a, isCont (k a) = false) : isCont (x >>= k) = false := by
  cases x with
  | ok a => exact hk a
  | _ => rfl

theorem isCont_onNormal {x : Out} {k : Frame → St → Out} (hx : isCont x = false) (hk : ∀ fr st, isCont (k fr st) = false) :
    isCont (onNormal x k) = false := by
  rcases x with ⟨⟨_ | _ | _ | _ | _ | _, _, _⟩⟩ | _ | _ <;> first | exact hk _ _ | exact hx

theorem isCont_loopCtl {c : Bool} {x : Out} {k : Frame → St → Out} (hx : c = false → isCont x = false)
    (hk : ∀ fr st, isCont (k fr st) = false) : isCont (loopCtl c x k) = false := by
  rcases x with ⟨⟨_ | _ | _ | _ | _ | _, _, _⟩⟩ | _ | _ <;> cases c <;> first | exact hk _ _ | rfl | exact hx rfl

theorem freeContL_of_dropToCase {l : String} : ∀ {ss rest : List Stmt}, dropToCase l ss = some rest → freeContL ss = false →
    freeContL rest = false := by
  intro ss
  induction ss with
  | nil => intro rest h; simp [dropToCase] at h
  | cons s t ih =>
    intro rest h hf
    simp only [freeContL, Bool.or_eq_false_iff] at hf
    cases s <;> simp only [dropToCase] at h <;> try exact ih h hf.2
    split at h
    · cases h; exact hf.2
    · exact ih h hf.2

theorem freeContL_of_dropToLabel {l : String} : ∀ {ss rest : List Stmt}, dropToLabel l ss = some rest → freeContL ss = false →
    freeContL rest = false := by
  intro ss
  induction ss with
  | nil => intro rest h; simp [dropToLabel] at h
  | cons s t ih =>
    intro rest h hf
    have hf' := hf
    simp only [freeContL, Bool.or_eq_false_iff] at hf
    cases s <;> simp only [dropToLabel] at h <;> try exact ih h hf.2
    split at h
    · cases h; exact hf'
    · exact ih h hf.2

structure NoContAt (prog : Program) (n : Nat) : Prop where
  exec : ∀ s fr st, freeCont s = false → isCont (exec prog n s fr st) = false
  execList : ∀ ss fr st, freeContL ss = false → isCont (execList prog n ss fr st) = false
  execWhile : ∀ c b i fr st, freeContL i = false → isCont (execWhile prog n c b i fr st) = false
  execDo : ∀ b c fr st, isCont (execDo prog n b c fr st) = false

theorem noCont_zero (prog : Program) : NoContAt prog 0 :=
  ⟨by intros; simp [Lang.exec, isCont], by intros; simp [Lang.execList, isCont],
   by intros; simp [Lang.execWhile, isCont], by intros; simp [Lang.execDo, isCont]⟩

theorem noCont_succ (prog : Program) (n : Nat) (ih : NoContAt prog n) : NoContAt prog (n+1) := by
  have ih1 := ih.exec
  have ih2 := ih.execList
  have ih3 := ih.execWhile
  have ih4 := ih.execDo
  refine ⟨?_, ?_, ?_, ?_⟩
  · intro s fr st hf
    cases s with
    | cont => simp [freeCont] at hf
    | block ss => simp only [Lang.exec]; exact ih2 ss fr st (by simpa [freeCont] using hf)
    | ite c t e =>
      simp only [freeCont, Bool.or_eq_false_iff] at hf
      simp only [Lang.exec]
      split
      · split
        · exact ih2 _ _ _ hf.1
        · exact ih2 _ _ _ hf.2
      · rfl
      · rfl
    | while_ c b i => simp only [Lang.exec]; exact ih3 c b i fr st (by simpa [freeCont] using hf)
    | for_ init c inc body =>
      simp only [freeCont, Bool.or_eq_false_iff] at hf
      rw [exec_for]
      exact isCont_onNormal (ih2 init fr st hf.1) fun _ _ => ih3 _ _ _ _ _ hf.2
    | dowhile b c => simp only [Lang.exec]; exact ih4 b c fr st
    | switch e body =>
      simp only [freeCont] at hf
      simp only [Lang.exec]
      split
      · split
        · split
          · rename_i rest hrest
            have hr : freeContL rest = false := by
              cases h1 : dropToCase _ body with
              | some r1 => rw [h1] at hrest; simp at hrest; subst hrest; exact freeContL_of_dropToCase h1 hf
              | none =>
                rw [h1] at hrest
                simp at hrest
                exact freeContL_of_dropToCase hrest hf
            have h2 := fun st' => ih2 rest fr st' hr
            split
            · rfl
            · exact h2 _
          · rfl
        · rfl
      · rfl
      · rfl
    | try_ body handler =>
      simp only [freeCont, Bool.or_eq_false_iff] at hf
      simp only [Lang.exec]
      have h1 := ih2 body fr st hf.1
      split
      · split
        · rename_i rest hrest
          exact ih2 rest _ _ (freeContL_of_dropToLabel hrest hf.2)
        · rfl
      · exact h1
    | end_ e => cases e <;> simp only [Lang.exec] <;> (try rfl) <;> (split <;> rfl)
    | assign lv e => simp only [Lang.exec]; (repeat' split) <;> rfl
    | opassign op lv e => simp only [Lang.exec]; (repeat' split) <;> rfl
    | incr lv => simp only [Lang.exec]; (repeat' split) <;> rfl
    | decr lv => simp only [Lang.exec]; (repeat' split) <;> rfl
    | brk => simp [Lang.exec, isCont]
    | case_ l => simp [Lang.exec, isCont]
    | label nm ps => simp [Lang.exec, isCont]
    | throw nm args => simp only [Lang.exec]; (repeat' split) <;> rfl
    | goto nm => simp [Lang.exec, isCont]
    | print nl args => simp only [Lang.exec]; (repeat' split) <;> rfl
    | call k l args => simp only [Lang.exec]; (repeat' split) <;> rfl
  · intro ss fr st hf
    cases ss with
    | nil => simp [Lang.execList, isCont]
    | cons s rest =>
      simp only [freeContL, Bool.or_eq_false_iff] at hf
      rw [execList_cons]
      exact isCont_onNormal (ih1 s fr st hf.1) fun _ _ => ih2 _ _ _ hf.2
  · intro c b i fr st hf
    rw [execWhile_succ]
    refine isCont_bind fun p => ?_
    split
    · exact isCont_loopCtl nofun fun _ _ => isCont_loopCtl (fun _ => ih2 i _ _ hf) fun _ _ => ih3 _ _ _ _ _ hf
    · rfl
  · intro b c fr st
    rw [execDo_succ]
    refine isCont_loopCtl nofun fun _ _ => isCont_bind fun p => ?_
    split
    · exact ih4 _ _ _ _
    · rfl

theorem noCont (prog : Program) : ∀ n, NoContAt prog n
  | 0 => noCont_zero prog
  | n + 1 => noCont_succ prog n (noCont prog n)

theorem listRuns_noCont {prog : Program} {ss : List Stmt} (h : freeContL ss = false) {fr : Frame} {st : St} {y : Out}
    (hy : ListRuns prog ss fr st y) : isCont y = false := by
  obtain ⟨_, n, rfl⟩ := hy
  exact (noCont prog n).execList ss fr st h

end Morfuse.Lang
