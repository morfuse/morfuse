import MorfuseModel.Lang.Sem
/-!
# C03 — the reference semantics without fuel

`Lim f r`: from some fuel on the fuel-indexed computation `f` answers `r ≠ timeout`.  A meaning is a predicate on answers;
`Then P K` composes meanings the way the evaluator composes runs (`Lim.seq`, and its instances for `>>=`, statement
lists and loop bodies) and obeys the monad laws, of which the desugarings of `Lang/Desugar.lean` are instances.
-/
namespace Morfuse.Lang

def Mono {α} (f : Nat → Res α) : Prop := ∀ ⦃n m⦄, n ≤ m → f n ≠ .timeout → f m = f n

def Lim {α} (f : Nat → Res α) (r : Res α) : Prop := r ≠ .timeout ∧ ∃ n, ∀ m, n ≤ m → f m = r

theorem Mono.lim {α} {f : Nat → Res α} (hf : Mono f) {r : Res α} : Lim f r ↔ r ≠ .timeout ∧ ∃ n, f n = r :=
  ⟨fun ⟨hr, n, h⟩ => ⟨hr, n, h n (Nat.le_refl n)⟩,
   fun ⟨hr, n, h⟩ => ⟨hr, n, fun _ hm => (hf hm (h ▸ hr)).trans h⟩⟩

theorem Lim.unique {α} {f : Nat → Res α} {r1 r2 : Res α} (h1 : Lim f r1) (h2 : Lim f r2) : r1 = r2 := by
  obtain ⟨_, n, e1⟩ := h1
  obtain ⟨_, m, e2⟩ := h2
  rw [← e1 _ (Nat.le_max_left n m), e2 _ (Nat.le_max_right n m)]

theorem Lim.const {α} {x r : Res α} : Lim (fun _ => x) r ↔ x ≠ .timeout ∧ r = x :=
  ⟨fun ⟨hr, n, h⟩ => have e : x = r := h n (Nat.le_refl n); ⟨e ▸ hr, e.symm⟩, fun ⟨hx, h⟩ => ⟨h ▸ hx, 0, fun _ _ => h.symm⟩⟩

theorem Lim.succ_eq {α} (f : Nat → Res α) : Lim (fun n => f (n + 1)) = Lim f :=
  funext fun _ => propext
    ⟨fun ⟨hr, n, h⟩ => ⟨hr, n + 1, fun m hm => by
        obtain ⟨k, rfl⟩ : ∃ k, m = k + 1 := ⟨m - 1, by omega⟩
        exact h k (by omega)⟩,
     fun ⟨hr, n, h⟩ => ⟨hr, n, fun m hm => h (m + 1) (by omega)⟩⟩

/-- Only `g` has to be monotone: in the uses it is one of the functions of `Lang.Sem` (`fuelMono`) or a constant. -/
theorem Lim.seq {α β} {g : Nat → Res α} {K : Res α → Nat → Res β} (hg : Mono g)
    (h0 : ∀ n, K .timeout n = .timeout) {r : Res β} :
    Lim (fun n => K (g n) n) r ↔ ∃ x, Lim g x ∧ Lim (K x) r := by
  constructor
  · rintro ⟨hr, n, hn⟩
    have hx : g n ≠ .timeout := fun e => hr (by rw [← hn n (Nat.le_refl n)]; show K (g n) n = _; rw [e, h0])
    exact ⟨g n, ⟨hx, n, fun m hm => hg hm hx⟩, hr, n, fun m hm => by rw [← hg hm hx]; exact hn m hm⟩
  · rintro ⟨x, ⟨_, a, ha⟩, hr, b, hb⟩
    refine ⟨hr, max a b, fun m hm => ?_⟩
    show K (g m) m = r
    rw [ha m (by omega), hb m (by omega)]

theorem Mono.seq {α β} {g : Nat → Res α} {K : Res α → Nat → Res β} (hg : Mono g) (hK : ∀ x, Mono (K x))
    (h0 : ∀ n, K .timeout n = .timeout) : Mono fun n => K (g n) n := by
  intro n m h hn
  have hx : g n ≠ .timeout := fun e => hn (by show K (g n) n = _; rw [e, h0])
  show K (g m) m = K (g n) n
  rw [hg h hx, hK _ h hn]

theorem Mono.const {α} (x : Res α) : Mono fun _ => x := fun _ _ _ _ => rfl

theorem Mono.ite {α} {f g : Nat → Res α} (c : Prop) [Decidable c] (hf : Mono f) (hg : Mono g) :
    Mono fun n => if c then f n else g n := by
  split
  · exact hf
  · exact hg

theorem Lim.ite {α} {f g : Nat → Res α} (c : Prop) [Decidable c] :
    Lim (fun n => if c then f n else g n) = if c then Lim f else Lim g := by
  split <;> rfl

def Is {α} (x r : Res α) : Prop := r = x

def Then {α β} (P : Res α → Prop) (K : Res α → Res β → Prop) (r : Res β) : Prop := ∃ x, P x ∧ K x r

theorem Then_assoc {α β γ} (P : Res α → Prop) (K : Res α → Res β → Prop) (K' : Res β → Res γ → Prop) :
    Then (Then P K) K' = Then P fun x => Then (K x) K' := by
  funext r; apply propext
  exact ⟨fun ⟨y, ⟨x, hx, hy⟩, hr⟩ => ⟨x, hx, y, hy, hr⟩, fun ⟨x, hx, y, hy, hr⟩ => ⟨y, ⟨x, hx, hy⟩, hr⟩⟩

theorem Then_is {α β} (x : Res α) (K : Res α → Res β → Prop) : Then (Is x) K = K x := by
  funext r; apply propext
  exact ⟨fun ⟨y, hy, hr⟩ => by cases hy; exact hr, fun h => ⟨x, rfl, h⟩⟩

theorem Then_congr {α β} {P : Res α → Prop} {K K' : Res α → Res β → Prop} (h : ∀ x, P x → K x = K' x) :
    Then P K = Then P K' := by
  funext r; apply propext
  exact ⟨fun ⟨x, hx, hr⟩ => ⟨x, hx, h x hx ▸ hr⟩, fun ⟨x, hx, hr⟩ => ⟨x, hx, h x hx ▸ hr⟩⟩

theorem Then.imp {α β} {P : Res α → Prop} {K K' : Res α → Res β → Prop} (h : ∀ x r, K x r → K' x r) {r : Res β} :
    Then P K r → Then P K' r := fun ⟨x, hx, hr⟩ => ⟨x, hx, h x r hr⟩

def onOk {α β} (K : α → Res β → Prop) : Res α → Res β → Prop
  | .ok a => K a
  | .err e => Is (.err e)
  | .timeout => fun _ => False

theorem onOk.imp {α β} {K K' : α → Res β → Prop} (h : ∀ a r, K a r → K' a r) (x : Res α) (r : Res β) :
    onOk K x r → onOk K' x r := by
  cases x with
  | ok a => exact h a r
  | _ => exact id

theorem Lim.bind {α β} {g : Nat → Res α} {k : α → Nat → Res β} (hg : Mono g) :
    Lim (fun n => g n >>= fun a => k a n) = Then (Lim g) (onOk fun a => Lim (k a)) := by
  funext r; apply propext
  refine (Lim.seq (K := fun x n => x >>= fun a => k a n) hg (fun _ => rfl)).trans ?_
  refine exists_congr fun x => and_congr_right fun _ => ?_
  cases x with
  | ok a => exact Iff.rfl
  | err e => exact Lim.const.trans ⟨fun h => h.2, fun h => ⟨nofun, h⟩⟩
  | timeout => exact ⟨fun h => (Lim.const.1 h).1 rfl, False.elim⟩

theorem Then_onOk_assoc {α β γ} (P : Res α → Prop) (K : α → Res β → Prop) (K' : β → Res γ → Prop) :
    Then (Then P (onOk K)) (onOk K') = Then P (onOk fun a => Then (K a) (onOk K')) := by
  rw [Then_assoc]
  refine Then_congr fun x _ => ?_
  cases x with
  | ok a => rfl
  | err e => exact Then_is _ _
  | timeout => funext r; exact propext ⟨fun ⟨_, h, _⟩ => h, False.elim⟩

theorem Then_ok {α β} (a : α) (K : α → Res β → Prop) : Then (Is (.ok a)) (onOk K) = K a := Then_is _ _

theorem Res.ok_bind {α β} (a : α) (k : α → Res β) : (Res.ok a >>= k) = k a := rfl
theorem Res.err_bind {α β} (e : Err) (k : α → Res β) : ((Res.err e : Res α) >>= k) = .err e := rfl
theorem Res.timeout_bind {α β} (k : α → Res β) : ((Res.timeout : Res α) >>= k) = .timeout := rfl

theorem Mono.bind {α β} {g : Nat → Res α} {k : α → Nat → Res β} (hg : Mono g) (hk : ∀ a, Mono (k a)) :
    Mono fun n => g n >>= fun a => k a n :=
  Mono.seq (K := fun x n => x >>= fun a => k a n) hg (fun x => by cases x <;> first | exact hk _ | exact Mono.const _)
    fun _ => rfl

theorem Lim.pure {α} (a : α) : Lim (fun _ => (Pure.pure a : Res α)) = Is (.ok a) :=
  funext fun _ => propext (Lim.const.trans ⟨fun h => h.2, fun h => ⟨nofun, h⟩⟩)

theorem Lim.liftE {α} (x : Except Err α) : Lim (fun _ => Lang.liftE x) = Is (Lang.liftE x) :=
  funext fun _ => propext (Lim.const.trans ⟨fun h => h.2, fun h => ⟨by cases x <;> nofun, h⟩⟩)

abbrev Out := Res (Flow × Frame × St)

def onNormal (x : Out) (k : Frame → St → Out) : Out :=
  match x with
  | .ok (.normal, fr, st) => k fr st
  | r => r

def onNormalK (K : Frame → St → Out → Prop) : Out → Out → Prop
  | .ok (.normal, fr, st) => K fr st
  | x => Is x

theorem Lim.onNormal {g : Nat → Out} {k : Frame → St → Nat → Out} (hg : Mono g) :
    Lim (fun n => onNormal (g n) fun fr st => k fr st n) = Then (Lim g) (onNormalK fun fr st => Lim (k fr st)) := by
  funext r; apply propext
  refine (Lim.seq (K := fun x n => Lang.onNormal x fun fr st => k fr st n) hg (fun _ => rfl)).trans ?_
  refine exists_congr fun x => and_congr_right fun hx => ?_
  rcases x with ⟨⟨_ | _ | _ | _ | _ | _, _, _⟩⟩ | _ | _
  all_goals first
    | exact Iff.rfl
    | exact absurd rfl hx.1
    | exact Lim.const.trans ⟨fun h => h.2, fun h => ⟨nofun, h⟩⟩

theorem onNormalK_assoc (P : Out → Prop) (K K' : Frame → St → Out → Prop) :
    Then (Then P (onNormalK K)) (onNormalK K') = Then P (onNormalK fun fr st => Then (K fr st) (onNormalK K')) := by
  rw [Then_assoc]
  refine Then_congr fun x _ => ?_
  rcases x with ⟨⟨_ | _ | _ | _ | _ | _, _, _⟩⟩ | _ | _
  all_goals first
    | rfl
    | exact Then_is _ _

theorem Then_normal (fr : Frame) (st : St) (K : Frame → St → Out → Prop) :
    Then (Is (.ok (.normal, fr, st))) (onNormalK K) = K fr st := Then_is _ _

theorem Then_onNormalK_is (P : Out → Prop) : Then P (onNormalK fun fr st => Is (.ok (.normal, fr, st))) = P := by
  have : (onNormalK fun fr st => Is (.ok (.normal, fr, st))) = Is := by
    funext x
    rcases x with ⟨⟨_ | _ | _ | _ | _ | _, _, _⟩⟩ | _ | _ <;> rfl
  rw [this]
  funext r; apply propext
  exact ⟨fun ⟨x, hx, h⟩ => by cases h; exact hx, fun h => ⟨r, h, rfl⟩⟩

def loopCtl (c : Bool) (y : Out) (k : Frame → St → Out) : Out :=
  match y with
  | .ok (.normal, fr, st) => k fr st
  | .ok (.cont, fr, st) => if c then k fr st else y
  | .ok (.brk, fr, st) => .ok (.normal, fr, st)
  | r => r

def loopK (c : Bool) (K : Frame → St → Out → Prop) : Out → Out → Prop
  | .ok (.normal, fr, st) => K fr st
  | .ok (.cont, fr, st) => if c then K fr st else Is (.ok (.cont, fr, st))
  | .ok (.brk, fr, st) => Is (.ok (.normal, fr, st))
  | x => Is x

theorem loopK.imp {c : Bool} {K K' : Frame → St → Out → Prop} (h : ∀ fr st r, K fr st r → K' fr st r) (x r : Out) :
    loopK c K x r → loopK c K' x r := by
  rcases x with ⟨⟨_ | _ | _ | _ | _ | _, _, _⟩⟩ | _ | _ <;> cases c <;> first | exact h _ _ r | exact id

theorem Mono.loopCtl {g : Nat → Out} {k : Frame → St → Nat → Out} (c : Bool) (hg : Mono g) (hk : ∀ fr st, Mono (k fr st)) :
    Mono fun n => loopCtl c (g n) fun fr st => k fr st n :=
  Mono.seq (K := fun x n => Lang.loopCtl c x fun fr st => k fr st n) hg
    (fun x => by
      rcases x with ⟨⟨_ | _ | _ | _ | _ | _, _, _⟩⟩ | _ | _ <;> cases c <;> first | exact hk _ _ | exact Mono.const _)
    fun _ => rfl

theorem Lim.loopCtl {g : Nat → Out} {k : Frame → St → Nat → Out} (c : Bool) (hg : Mono g) :
    Lim (fun n => loopCtl c (g n) fun fr st => k fr st n) = Then (Lim g) (loopK c fun fr st => Lim (k fr st)) := by
  funext r; apply propext
  refine (Lim.seq (K := fun x n => Lang.loopCtl c x fun fr st => k fr st n) hg (fun _ => rfl)).trans ?_
  refine exists_congr fun x => and_congr_right fun hx => ?_
  rcases x with ⟨⟨_ | _ | _ | _ | _ | _, _, _⟩⟩ | _ | _ <;> cases c
  all_goals first
    | exact Iff.rfl
    | exact absurd rfl hx.1
    | exact Lim.const.trans ⟨fun h => h.2, fun h => ⟨nofun, h⟩⟩

end Morfuse.Lang
