import MorfuseModel.BlockAlloc.BlockLemmas
import MorfuseModel.BlockAlloc.ListLemmas
/-!
# The pool invariant and its abstraction

`Abs` is the abstract reading of a pool state: the two block lists in order and, per block, the
used ring and the free ring (head first).  `Inv bs s A` says the concrete links of `s` are exactly
that.  `A.live` is the abstract live set; `liveOf_eq` / `count_eq_length` show that what `Count()` walks
is exactly `A.live`, and that it counts what it walks.  `Ok bs s` says that some `A` describes `s`: what the invariant
means for the live set is stated on `Ok` and `liveOf`, so that only the proofs about the paths of `Alloc` and `Free`,
`init_inv` and `dropFreeBlock_ok` see `Abs`.
-/
namespace Morfuse.BlockAlloc

structure Abs where
  usedL : List Nat
  fullL : List Nat
  U : Nat → List Nat
  F : Nat → List Nat

def updL (f : Nat → List Nat) (a : Nat) (v : List Nat) : Nat → List Nat := fun x => if x = a then v else f x
@[simp] theorem updL_same (f a v) : updL f a v a = v := by simp [updL]
theorem updL_ne (f a v x) (h : x ≠ a) : updL f a v x = f x := by simp [updL, h]

/-- `m_FreeBlock` as a list -/
def fbL (s : State) : List Nat := if s.freeBlock = 0 then [] else [s.freeBlock]

/-- every block the pool currently owns -/
def Abs.blocks (A : Abs) (s : State) : List Nat := A.usedL ++ A.fullL ++ fbL s

structure BlockOk (bs : Nat) (s : State) (b : Nat) (U F : List Nat) : Prop where
  rings : Rings s b U F
  lt : ∀ x ∈ U ++ F, x < bs
  len : (U ++ F).length = bs

structure Inv (bs : Nat) (s : State) (A : Abs) : Prop where
  bs2 : 2 ≤ bs
  idpos : 0 < s.nextId
  usedDL : DL s.bnext.get s.bprev.get s.used A.usedL
  fullDL : DL s.bnext.get s.bprev.get s.full A.fullL
  nodup : (A.blocks s).Nodup
  pos : ∀ b ∈ A.blocks s, 0 < b ∧ b < s.nextId
  cnt : s.blockCount = (A.blocks s).length
  ok : ∀ b ∈ A.blocks s, BlockOk bs s b (A.U b) (A.F b)
  usedP : ∀ b ∈ A.usedL, A.U b ≠ [] ∧ A.F b ≠ []
  fullP : ∀ b ∈ A.fullL, A.F b = []
  freeP : s.freeBlock ≠ 0 → A.U s.freeBlock = []

/-- slots of the blocks `L` according to the rings `U` -/
def slotsOf (L : List Nat) (U : Nat → List Nat) : List Slot :=
  L.flatMap fun b => (U b).map fun i => (b, i)

/-- the abstract live set, in the order `Count()` visits it -/
def Abs.live (A : Abs) : List Slot := slotsOf (A.fullL ++ A.usedL) A.U

theorem BlockOk.of_perm {bs : Nat} {s s' : State} {b : Nat} {U F U' F' : List Nat}
    (h : BlockOk bs s b U F) (hr : Rings s' b U' F') (hp : (U' ++ F').Perm (U ++ F)) :
    BlockOk bs s' b U' F' :=
  ⟨hr, fun x hx => h.lt x (hp.mem_iff.1 hx), by rw [hp.length_eq]; exact h.len⟩

/-! ### the abstract live set under a change of one block -/

theorem mem_slotsOf {L : List Nat} {U : Nat → List Nat} {p : Slot} :
    p ∈ slotsOf L U ↔ p.1 ∈ L ∧ p.2 ∈ U p.1 := by
  simp only [slotsOf, List.mem_flatMap, List.mem_map]
  constructor
  · rintro ⟨b, hb, i, hi, rfl⟩; exact ⟨hb, hi⟩
  · rintro ⟨h1, h2⟩; exact ⟨p.1, h1, p.2, h2, rfl⟩

theorem slotsOf_congr {L : List Nat} {U U' : Nat → List Nat} (h : ∀ c ∈ L, U' c = U c) :
    slotsOf L U' = slotsOf L U := by
  induction L with
  | nil => rfl
  | cons a t ih =>
    simp only [slotsOf, List.flatMap_cons] at ih ⊢
    rw [h a (by simp), ih (fun c hc => h c (List.mem_cons_of_mem _ hc))]

theorem slotsOf_perm {L L' : List Nat} (U : Nat → List Nat) (h : L'.Perm L) :
    (slotsOf L' U).Perm (slotsOf L U) := h.flatMap_right _

theorem slotsOf_split {L' L₀ : List Nat} {U U' : Nat → List Nat} {b : Nat}
    (hL : L'.Perm (b :: L₀)) (hO : ∀ c ∈ L₀, U' c = U c) :
    (slotsOf L' U').Perm ((U' b).map (fun i => (b, i)) ++ slotsOf L₀ U) := by
  refine (slotsOf_perm U' hL).trans ?_
  simp only [slotsOf, List.flatMap_cons]
  have := slotsOf_congr (L := L₀) hO
  simp only [slotsOf] at this
  rw [this]

theorem slotsOf_gain {L L' : List Nat} {U U' : Nat → List Nat} {b x : Nat}
    (hL : L'.Perm L) (hnd : L.Nodup) (hb : b ∈ L) (hU : (U' b).Perm (x :: U b))
    (hO : ∀ c ∈ L, c ≠ b → U' c = U c) :
    (slotsOf L' U').Perm ((b, x) :: slotsOf L U) := by
  have hLb : L.Perm (b :: L.erase b) := List.perm_cons_erase hb
  have hbe : b ∉ L.erase b := fun hm => by
    have := (List.Nodup.mem_erase_iff hnd).1 hm
    exact this.1 rfl
  have hO' : ∀ c ∈ L.erase b, U' c = U c := fun c hc =>
    hO c (List.mem_of_mem_erase hc) (fun e => hbe (e ▸ hc))
  have h1 := slotsOf_split (U := U) (U' := U') (hL.trans hLb) hO'
  have h2 := slotsOf_split (U := U) (U' := U) hLb (fun _ _ => rfl)
  refine h1.trans ?_
  have h3 : ((U' b).map (fun i => (b, i))).Perm ((b, x) :: (U b).map (fun i => (b, i))) := by
    simpa using hU.map (fun i => (b, i))
  refine (h3.append_right _).trans ?_
  simp only [List.cons_append]
  exact (h2.symm).cons _

theorem slotsOf_join {L L' : List Nat} {U U' : Nat → List Nat} {b x : Nat}
    (hL : L'.Perm (b :: L)) (hU : U' b = [x]) (hO : ∀ c ∈ L, U' c = U c) :
    (slotsOf L' U').Perm ((b, x) :: slotsOf L U) := by
  have := slotsOf_split (U := U) (U' := U') hL hO
  simpa [hU] using this

theorem slotsOf_lose {L L' : List Nat} {U U' : Nat → List Nat} {b x : Nat}
    (hL : L'.Perm L) (hnd : L.Nodup) (hb : b ∈ L) (hU : (x :: U' b).Perm (U b))
    (hO : ∀ c ∈ L, c ≠ b → U' c = U c) :
    (slotsOf L' U').Perm ((slotsOf L U).erase (b, x)) := by
  have hnd' : L'.Nodup := hL.nodup_iff.2 hnd
  have hb' : b ∈ L' := hL.mem_iff.2 hb
  have := slotsOf_gain (U := U') (U' := U) (b := b) (x := x) hL.symm hnd' hb' hU.symm
    (fun c hc hcb => (hO c (hL.mem_iff.1 hc) hcb).symm)
  have h2 := this.erase (b, x)
  simp only [List.erase_cons_head] at h2
  exact h2.symm

theorem slotsOf_leave {L L' : List Nat} {U U' : Nat → List Nat} {b x : Nat}
    (hL : L.Perm (b :: L')) (hU : U b = [x]) (hO : ∀ c ∈ L', U' c = U c) :
    (slotsOf L' U').Perm ((slotsOf L U).erase (b, x)) := by
  have := slotsOf_join (U := U') (U' := U) (x := x) hL hU (fun c hc => (hO c hc).symm)
  have h2 := this.erase (b, x)
  simp only [List.erase_cons_head] at h2
  exact h2.symm

/-! ### what `Count()` walks is the abstract live set -/

theorem Abs.blocks_used (A : Abs) (s : State) : ∀ b ∈ A.usedL, b ∈ A.blocks s := by
  intro b hb; simp [Abs.blocks, hb]
theorem Abs.blocks_full (A : Abs) (s : State) : ∀ b ∈ A.fullL, b ∈ A.blocks s := by
  intro b hb; simp [Abs.blocks, hb]

theorem Inv.zero_notin {bs s A} (h : Inv bs s A) : 0 ∉ A.blocks s :=
  fun hm => Nat.lt_irrefl 0 (h.pos 0 hm).1

theorem Inv.used_root {bs s A} (h : Inv bs s A) : s.used.root = 0 ↔ A.usedL = [] :=
  h.usedDL.root_eq_zero_iff fun hm => h.zero_notin (A.blocks_used s 0 hm)

theorem Inv.full_root {bs s A} (h : Inv bs s A) : s.full.root = 0 ↔ A.fullL = [] :=
  h.fullDL.root_eq_zero_iff fun hm => h.zero_notin (A.blocks_full s 0 hm)

theorem mem_fbL {s : State} {c : Nat} : c ∈ fbL s ↔ s.freeBlock ≠ 0 ∧ c = s.freeBlock := by
  unfold fbL; split <;> simp [*]

theorem Inv.nodup_uf {bs s A} (h : Inv bs s A) : (A.usedL ++ A.fullL).Nodup :=
  (List.nodup_append.1 h.nodup).1

theorem Inv.nodup_fu {bs s A} (h : Inv bs s A) : (A.fullL ++ A.usedL).Nodup :=
  List.perm_append_comm.nodup_iff.1 h.nodup_uf

theorem Inv.listed_ne_free {bs s A} (h : Inv bs s A) {b : Nat} (hb : b ∈ A.usedL ++ A.fullL) (hf : s.freeBlock ≠ 0) :
    s.freeBlock ≠ b :=
  fun e => (List.nodup_append.1 h.nodup).2.2 b hb b (mem_fbL.2 ⟨hf, e.symm⟩) rfl

theorem Abs.block_of_live (A : Abs) (s : State) {b : Nat} (hb : b ∈ A.fullL ++ A.usedL) : b ∈ A.blocks s := by
  rcases List.mem_append.1 hb with hb | hb
  · exact A.blocks_full s b hb
  · exact A.blocks_used s b hb

theorem liveList_eq {bs : Nat} {s : State} {A : Abs} (h : Inv bs s A) (l : LL) (L : List Nat)
    (hDL : DL s.bnext.get s.bprev.get l L) (hsub : ∀ b ∈ L, b ∈ A.blocks s)
    (hlen : L.length ≤ s.blockCount) :
    liveList bs s l.root = slotsOf L A.U := by
  have h0 : 0 ∉ L := fun hm => h.zero_notin (hsub 0 hm)
  simp only [liveList, listWalk_DL hDL h0 hlen, slotsOf]
  apply flatMap_congr'
  intro b hb
  have hok := h.ok b (hsub b hb)
  have hU := hok.rings.used
  cases hUb : A.U b with
  | nil => rw [hUb] at hU; simp [RingOf] at hU; simp [hU]
  | cons a t =>
    rw [hUb] at hU
    obtain ⟨h1, h2, h3⟩ := hU
    have hlen : t.length < bs := by
      have := hok.len
      rw [hUb] at this
      simp at this; omega
    simp [h1, h2, ringWalk_ring h3 hlen]

theorem Inv.len_le {bs s A} (h : Inv bs s A) :
    A.usedL.length ≤ s.blockCount ∧ A.fullL.length ≤ s.blockCount := by
  rw [h.cnt]; simp [Abs.blocks]; omega

theorem liveOf_eq {bs : Nat} {s : State} {A : Abs} (h : Inv bs s A) : liveOf bs s = A.live := by
  simp only [liveOf, Abs.live, slotsOf, List.flatMap_append]
  have h1 := liveList_eq h s.full A.fullL h.fullDL (A.blocks_full s) h.len_le.2
  have h2 := liveList_eq h s.used A.usedL h.usedDL (A.blocks_used s) h.len_le.1
  simp only [slotsOf] at h1 h2
  rw [h1, h2]

def Ok (bs : Nat) (s : State) : Prop := ∃ A, Inv bs s A

theorem slotsOf_length_le {bs : Nat} {U : Nat → List Nat} : ∀ (L : List Nat),
    (∀ b ∈ L, (U b).length ≤ bs) → (slotsOf L U).length ≤ bs * L.length
  | [], _ => by simp [slotsOf]
  | a :: t, h => by
    have ih := slotsOf_length_le t (fun b hb => h b (List.mem_cons_of_mem _ hb))
    have ha := h a (by simp)
    simp only [slotsOf, List.flatMap_cons, List.length_append, List.length_map, List.length_cons] at ih ⊢
    rw [Nat.mul_succ]; omega

theorem slotsOf_length_eq {bs : Nat} {U : Nat → List Nat} : ∀ (L : List Nat),
    (∀ b ∈ L, (U b).length = bs) → (slotsOf L U).length = bs * L.length
  | [], _ => by simp [slotsOf]
  | a :: t, h => by
    have ih := slotsOf_length_eq t (fun b hb => h b (List.mem_cons_of_mem _ hb))
    have ha := h a (by simp)
    simp only [slotsOf, List.flatMap_cons, List.length_append, List.length_map, List.length_cons] at ih ⊢
    rw [Nat.mul_succ]; omega

theorem Ok.live_le_capacity {bs s} (h : Ok bs s) : (liveOf bs s).length ≤ bs * s.blockCount := by
  obtain ⟨A, h⟩ := h
  rw [liveOf_eq h]
  have h1 := slotsOf_length_le (bs := bs) (U := A.U) (A.fullL ++ A.usedL) fun b hb => by
    have := (h.ok b (A.block_of_live s hb)).len; simp at this; omega
  have h2 : (A.fullL ++ A.usedL).length ≤ s.blockCount := by
    rw [h.cnt]; simp [Abs.blocks]; omega
  exact Nat.le_trans h1 (Nat.mul_le_mul_left bs h2)

/-- with no partially used block and no cached block every block is full -/
theorem Ok.live_eq_capacity {bs s} (h : Ok bs s) (hu : s.used.root = 0) (hf : s.freeBlock = 0) :
    (liveOf bs s).length = bs * s.blockCount := by
  obtain ⟨A, h⟩ := h
  have hu := h.used_root.1 hu
  have h1 := slotsOf_length_eq (bs := bs) (U := A.U) A.fullL (fun b hb => by
    have := (h.ok b (A.blocks_full s b hb)).len
    rw [h.fullP b hb] at this; simpa using this)
  rw [liveOf_eq h, h.cnt]
  simp [Abs.live, Abs.blocks, fbL, hu, hf, h1]

theorem slotsOf_nodup {U : Nat → List Nat} : ∀ (L : List Nat), L.Nodup → (∀ b ∈ L, (U b).Nodup) →
    (slotsOf L U).Nodup
  | [], _, _ => by simp [slotsOf]
  | a :: t, hnd, hU => by
    have ih := slotsOf_nodup t (List.nodup_cons.1 hnd).2 (fun b hb => hU b (List.mem_cons_of_mem _ hb))
    simp only [slotsOf, List.flatMap_cons] at ih ⊢
    rw [List.nodup_append]
    refine ⟨?_, ih, ?_⟩
    · exact nodup_map_pair a (hU a (by simp))
    · intro p hp q hq e
      subst e
      simp only [List.mem_map] at hp
      obtain ⟨i, _, rfl⟩ := hp
      have := (mem_slotsOf (L := t) (U := U) (p := (a, i))).1 (by simpa [slotsOf] using hq)
      exact (List.nodup_cons.1 hnd).1 this.1

theorem Ok.live_nodup {bs s} (h : Ok bs s) : (liveOf bs s).Nodup := by
  obtain ⟨A, h⟩ := h
  rw [liveOf_eq h]
  exact slotsOf_nodup _ h.nodup_fu fun b hb => (List.nodup_append.1 (h.ok b (A.block_of_live s hb)).rings.nodup).1

theorem Ok.live_range {bs s} (h : Ok bs s) {p : Slot} (hp : p ∈ liveOf bs s) : p.2 < bs ∧ p.1 ≠ 0 := by
  obtain ⟨A, h⟩ := h
  rw [liveOf_eq h] at hp
  obtain ⟨hb, hu⟩ := mem_slotsOf.1 hp
  have hbm := A.block_of_live s hb
  exact ⟨(h.ok p.1 hbm).lt p.2 (List.mem_append_left _ hu), fun e => h.zero_notin (e ▸ hbm)⟩

/-- what the two loops of `FreeAll` read at the first block of a list -/
theorem Ok.root_live {bs s} (h : Ok bs s) {b : Nat} (hb : b = s.full.root ∨ b = s.used.root) (h0 : b ≠ 0) :
    s.hasUsed.get b ≠ 0 ∧ (b, s.usedData.get b) ∈ liveOf bs s := by
  obtain ⟨A, h⟩ := h
  have hbl : b ∈ A.fullL ++ A.usedL := by
    rcases hb with rfl | rfl
    · exact List.mem_append_left _ (h.fullDL.root_mem h0)
    · exact List.mem_append_right _ (h.usedDL.root_mem h0)
  have hok := h.ok b (A.block_of_live s hbl)
  have hU : A.U b ≠ [] := by
    rcases List.mem_append.1 hbl with hm | hm
    · intro hU
      have := hok.len
      rw [hU, h.fullP b hm] at this
      have := h.bs2
      simp at *; omega
    · exact (h.usedP b hm).1
  obtain ⟨a, t, hUb⟩ := List.exists_cons_of_ne_nil hU
  have := hok.rings.used
  rw [hUb] at this
  rw [liveOf_eq h, this.2.1]
  exact ⟨by simp [this.1], mem_slotsOf.2 ⟨hbl, by simp [hUb]⟩⟩

/-- `Count(list)` counts what `liveList` collects (no invariant needed) -/
theorem countList_eq (bs : Nat) (s : State) (root : Nat) :
    countList bs s root = (liveList bs s root).length := by
  simp only [countList, liveList]
  generalize listWalk s.bnext s.blockCount root = L
  suffices ∀ c, L.foldl (fun c b => if s.hasUsed.get b = 0 then c
      else ringCount s.nd b bs (s.usedData.get b) (s.usedData.get b) c) c =
      c + (L.flatMap fun b => if s.hasUsed.get b = 0 then []
        else (ringWalk s.nd b bs (s.usedData.get b) (s.usedData.get b)).map fun i => (b, i)).length by
    simpa using this 0
  induction L with
  | nil => intro c; simp
  | cons a t ih =>
    intro c
    simp only [List.foldl_cons, List.flatMap_cons, List.length_append]
    rw [ih]
    split
    · simp
    · rw [ringCount_eq]; simp; omega

theorem count_eq_length (bs : Nat) (s : State) : count bs s = (liveOf bs s).length := by
  simp [count, liveOf, countList_eq]

end Morfuse.BlockAlloc
