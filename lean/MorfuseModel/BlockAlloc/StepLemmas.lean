import MorfuseModel.BlockAlloc.Inv
/-!
# State-level pieces of `Alloc` / `Free`

Frames, the two block lists under `Remove` / `AddFirst`, and `Mid`: the invariant in the middle of an operation.
-/
namespace Morfuse.BlockAlloc

/-- rings of every block other than `b` survive the step -/
def OtherRings (s s' : State) (b : Nat) : Prop :=
  ∀ c, c ≠ b → ∀ U F, Rings s c U F → Rings s' c U F

theorem OtherRings.ofBlock {s s' : State} {b : Nat} (h : BlockFrame s s' b) : OtherRings s s' b :=
  fun _ hc _ _ hr => hr.frame h hc
theorem OtherRings.ofList {s s' : State} (b : Nat) (h : ListFrame s s') : OtherRings s s' b :=
  fun _ _ _ _ hr => hr.listFrame h
theorem OtherRings.trans {s s' s'' : State} {b : Nat} (h1 : OtherRings s s' b) (h2 : OtherRings s' s'' b) :
    OtherRings s s'' b := fun c hc U F hr => h2 c hc U F (h1 c hc U F hr)
theorem OtherRings.ofNew {s s' : State} {b : Nat} (h : NewFrame s s' b) : OtherRings s s' b := by
  intro c hc U F hr
  refine ⟨?_, ?_, hr.nodup⟩
  · rw [h.nd c hc, h.pd c hc, h.usedData c hc, h.hasUsed c hc]; exact hr.used
  · rw [h.nd c hc, h.pd c hc, h.freeData c hc, h.hasFree c hc]; exact hr.free

/-- the three scalars that no list move and no ring step touches -/
structure Scalars (s s' : State) : Prop where
  freeBlock : s'.freeBlock = s.freeBlock
  blockCount : s'.blockCount = s.blockCount
  nextId : s'.nextId = s.nextId

theorem Scalars.trans {s s' s'' : State} (h1 : Scalars s s') (h2 : Scalars s' s'') : Scalars s s'' :=
  ⟨by rw [h2.freeBlock, h1.freeBlock], by rw [h2.blockCount, h1.blockCount], by rw [h2.nextId, h1.nextId]⟩

theorem BlockFrame.scalars {s s' : State} {b : Nat} (h : BlockFrame s s' b) : Scalars s s' :=
  ⟨h.freeBlock, h.blockCount, h.nextId⟩

theorem Scalars.setUsedK (s : State) (k : Lnk) : Scalars s (setUsedK s k) := ⟨rfl, rfl, rfl⟩
theorem Scalars.setFullK (s : State) (k : Lnk) : Scalars s (setFullK s k) := ⟨rfl, rfl, rfl⟩

/-! ### list moves on the state

The two block lists thread through the same `next_block / prev_block` fields: a move on one of them leaves the
other one (`l'`, representing `Y`) as it is because the lists share no node. -/

theorem remove_DL_other (k : Lnk) {l' : LL} {S T Y : List Nat} {x : Nat}
    (hX : DL k.nx.get k.pv.get k.l (S ++ x :: T)) (hY : DL k.nx.get k.pv.get l' Y)
    (h0 : 0 ∉ S ++ x :: T) (hnd : (S ++ x :: T ++ Y).Nodup) :
    DL (k.remove x).nx.get (k.remove x).pv.get (k.remove x).l (S ++ T) ∧
      DL (k.remove x).nx.get (k.remove x).pv.get l' Y := by
  obtain ⟨h1, h2⟩ := remove_DL hX h0 (List.nodup_append.1 hnd).1
  exact ⟨h1, hY.congr fun y hy => h2 y fun hm => (List.nodup_append.1 hnd).2.2 y ((del_sublist S T x).subset hm) y hy rfl⟩

theorem addFirst_DL_other (k : Lnk) {l' : LL} {X Y : List Nat} {x : Nat}
    (hX : DL k.nx.get k.pv.get k.l X) (hY : DL k.nx.get k.pv.get l' Y) (h0 : 0 ∉ X) (hx0 : x ≠ 0)
    (hnd : (x :: (X ++ Y)).Nodup) :
    DL (k.addFirst x).nx.get (k.addFirst x).pv.get (k.addFirst x).l (x :: X) ∧
      DL (k.addFirst x).nx.get (k.addFirst x).pv.get l' Y := by
  have hxXY : x ∉ X ++ Y := (List.nodup_cons.1 hnd).1
  have hndXY : (X ++ Y).Nodup := (List.nodup_cons.1 hnd).2
  refine ⟨addFirst_DL hX h0 (List.nodup_append.1 hndXY).1 (fun hm => hxXY (List.mem_append_left _ hm)) hx0,
    hY.congr fun y hy => addFirst_frame x hX y ?_ ?_⟩
  · intro e; exact hxXY (e ▸ List.mem_append_right _ hy)
  · intro hm; exact (List.nodup_append.1 hndXY).2.2 y hm y hy rfl

/-- The invariant while `Alloc` / `Free`, started in `s` (which `A` describes), is at work on block `b` and has reached `t`:
    every other block has the rings and the list it had in `s`.  `Inv.mid` enters, a list move or a ring step on `b` keeps
    it, `Inv.rebuild` leaves. -/
structure Mid (A : Abs) (s t : State) (b : Nat) (uL fL U F : List Nat) : Prop where
  used : DL t.bnext.get t.bprev.get t.used uL
  full : DL t.bnext.get t.bprev.get t.full fL
  rings : Rings t b U F
  other : OtherRings s t b
  nodup : (uL ++ fL).Nodup
  nz : 0 ∉ uL ++ fL
  usedSub : ∀ c ∈ uL, c ≠ b → c ∈ A.usedL
  fullSub : ∀ c ∈ fL, c ≠ b → c ∈ A.fullL

theorem Inv.mid {bs : Nat} {s : State} {A : Abs} {b : Nat} (h : Inv bs s A) (hb : b ∈ A.blocks s) :
    Mid A s s b A.usedL A.fullL (A.U b) (A.F b) :=
  ⟨h.usedDL, h.fullDL, (h.ok b hb).rings, fun _ _ _ _ hr => hr, h.nodup_uf,
    fun hm => h.zero_notin (List.mem_append_left _ hm), fun _ hc _ => hc, fun _ hc _ => hc⟩

section Mid
variable {A : Abs} {s t t' : State} {b : Nat} {uL fL U F U' F' S T : List Nat}

theorem Mid.step (m : Mid A s t b uL fL U F) (hr : Rings t' b U' F') (ho : OtherRings t t' b) (e1 : t'.bnext = t.bnext)
    (e2 : t'.bprev = t.bprev) (e3 : t'.used = t.used) (e4 : t'.full = t.full) : Mid A s t' b uL fL U' F' :=
  { m with used := by rw [e1, e2, e3]; exact m.used, full := by rw [e1, e2, e4]; exact m.full, rings := hr,
           other := m.other.trans ho }

theorem Mid.block (m : Mid A s t b uL fL U F) (h : Rings t' b U' F' ∧ BlockFrame t t' b) : Mid A s t' b uL fL U' F' :=
  m.step h.1 (.ofBlock h.2) h.2.bnext h.2.bprev h.2.used h.2.full

theorem Mid.usedRemove (m : Mid A s t b (S ++ b :: T) fL U F) :
    Mid A s (setUsedK t ((usedK t).remove b)) b (S ++ T) fL U F := by
  have hs := (del_sublist S T b).append_right fL
  obtain ⟨h1, h2⟩ := remove_DL_other (usedK t) m.used m.full (fun hm => m.nz (List.mem_append_left _ hm)) m.nodup
  -- with the new links as a variable the fields of the updated state are read off; otherwise the unifier unfolds `Lnk.remove`
  generalize (usedK t).remove b = k at h1 h2 ⊢
  exact { m with used := h1, full := h2, nodup := hs.nodup m.nodup, nz := fun hm => m.nz (hs.subset hm),
                 usedSub := fun c hc => m.usedSub c ((del_sublist S T b).subset hc) }

theorem Mid.fullRemove (m : Mid A s t b uL (S ++ b :: T) U F) :
    Mid A s (setFullK t ((fullK t).remove b)) b uL (S ++ T) U F := by
  have hs := (del_sublist S T b).append_left uL
  obtain ⟨h1, h2⟩ := remove_DL_other (fullK t) m.full m.used (fun hm => m.nz (List.mem_append_right _ hm))
    (List.perm_append_comm.nodup_iff.1 m.nodup)
  generalize (fullK t).remove b = k at h1 h2 ⊢
  exact { m with used := h2, full := h1, nodup := hs.nodup m.nodup, nz := fun hm => m.nz (hs.subset hm),
                 fullSub := fun c hc => m.fullSub c ((del_sublist S T b).subset hc) }

theorem Mid.usedAddFirst (m : Mid A s t b uL fL U F) (hb : b ∉ uL ++ fL) (hb0 : b ≠ 0) :
    Mid A s (setUsedK t ((usedK t).addFirst b)) b (b :: uL) fL U F := by
  have hnd : (b :: (uL ++ fL)).Nodup := List.nodup_cons.2 ⟨hb, m.nodup⟩
  obtain ⟨h1, h2⟩ := addFirst_DL_other (usedK t) m.used m.full (fun hm => m.nz (List.mem_append_left _ hm)) hb0 hnd
  exact { m with used := h1, full := h2, nodup := hnd,
                 nz := fun hm => (List.mem_cons.1 hm).elim (fun e => hb0 e.symm) m.nz,
                 usedSub := fun c hc hcb => m.usedSub c ((List.mem_cons.1 hc).resolve_left hcb) hcb }

theorem Mid.fullAddFirst (m : Mid A s t b uL fL U F) (hb : b ∉ uL ++ fL) (hb0 : b ≠ 0) :
    Mid A s (setFullK t ((fullK t).addFirst b)) b uL (b :: fL) U F := by
  have hnd : (b :: (fL ++ uL)).Nodup :=
    List.nodup_cons.2 ⟨fun hm => hb (List.mem_append.2 (List.mem_append.1 hm).symm), List.perm_append_comm.nodup_iff.1 m.nodup⟩
  obtain ⟨h1, h2⟩ := addFirst_DL_other (fullK t) m.full m.used (fun hm => m.nz (List.mem_append_right _ hm)) hb0 hnd
  exact { m with used := h2, full := h1, nodup := List.perm_middle.nodup_iff.2 (List.nodup_cons.2 ⟨hb, m.nodup⟩),
                 nz := fun hm => (List.mem_cons.1 (List.perm_middle.mem_iff.1 hm)).elim (fun e => hb0 e.symm) m.nz,
                 fullSub := fun c hc hcb => m.fullSub c ((List.mem_cons.1 hc).resolve_left hcb) hcb }

theorem Mid.off_used (m : Mid A s t b (S ++ b :: T) fL U F) : b ∉ (S ++ T) ++ fL ∧ b ≠ 0 :=
  ⟨(List.nodup_cons.1 ((perm_pull S T fL b).nodup_iff.1 m.nodup)).1, fun e => m.nz (by simp [e])⟩

theorem Mid.off_full (m : Mid A s t b uL (S ++ b :: T) U F) : b ∉ uL ++ (S ++ T) ∧ b ≠ 0 := by
  refine ⟨fun hm => ?_, fun e => m.nz (by simp [e])⟩
  have := (List.nodup_cons.1 ((perm_pull S T uL b).nodup_iff.1 (List.perm_append_comm.nodup_iff.1 m.nodup))).1
  exact this (List.mem_append.2 (List.mem_append.1 hm).symm)

end Mid

/-- Leaving `Mid`.  `hpl`: `b` is in one of the three places a block can be, with the rings that place asks for. -/
theorem Inv.rebuild {bs : Nat} {s t : State} {A : Abs} {b : Nat} {uL fL U' F' : List Nat} (h : Inv bs s A)
    (m : Mid A s t b uL fL U' F') (hni : s.nextId ≤ t.nextId) (hbpos : 0 < b ∧ b < t.nextId)
    (hfbn : ∀ c ∈ fbL t, c ∉ uL ++ fL) (hcnt : t.blockCount = (uL ++ fL ++ fbL t).length)
    (hbok : BlockOk bs t b U' F')
    (hpl : (b ∈ uL ∧ U' ≠ [] ∧ F' ≠ []) ∨ (b ∈ fL ∧ F' = []) ∨ (t.freeBlock = b ∧ U' = []))
    (hfb : t.freeBlock ≠ 0 → t.freeBlock ≠ b → t.freeBlock = s.freeBlock) :
    Inv bs t { usedL := uL, fullL := fL, U := updL A.U b U', F := updL A.F b F' } := by
  have hold : ∀ c ∈ uL ++ fL ++ fbL t, c ≠ b → c ∈ A.blocks s := by
    intro c hc hcb
    rcases List.mem_append.1 hc with hc | hc
    · rcases List.mem_append.1 hc with hc | hc
      · exact A.blocks_used s c (m.usedSub c hc hcb)
      · exact A.blocks_full s c (m.fullSub c hc hcb)
    · obtain ⟨hf, rfl⟩ := mem_fbL.1 hc
      have e := hfb hf hcb
      exact List.mem_append_right _ (mem_fbL.2 ⟨e ▸ hf, e⟩)
  -- the three places exclude each other
  have hcached : t.freeBlock = b → b ∉ uL ++ fL := fun e =>
    hfbn b (mem_fbL.2 ⟨e ▸ Nat.pos_iff_ne_zero.1 hbpos.1, e.symm⟩)
  have hboth : b ∈ uL → b ∈ fL → False := fun h1 h2 => (List.nodup_append.1 m.nodup).2.2 b h1 b h2 rfl
  refine ⟨h.bs2, Nat.lt_of_lt_of_le h.idpos hni, m.used, m.full, ?_, ?_, hcnt, ?_, ?_, ?_, ?_⟩
  · refine List.nodup_append.2 ⟨m.nodup, ?_, fun x hx y hy e => hfbn y hy (e ▸ hx)⟩
    unfold fbL; split <;> simp
  · intro c hc
    by_cases hcb : c = b
    · exact hcb ▸ hbpos
    · exact ⟨(h.pos c (hold c hc hcb)).1, Nat.lt_of_lt_of_le (h.pos c (hold c hc hcb)).2 hni⟩
  · intro c hc
    by_cases hcb : c = b
    · subst hcb; simpa using hbok
    · have hok := h.ok c (hold c hc hcb)
      simp only [updL_ne _ _ _ _ hcb]
      exact ⟨m.other c hcb _ _ hok.rings, hok.lt, hok.len⟩
  · intro c hc
    by_cases hcb : c = b
    · subst hcb
      rcases hpl with h1 | h2 | h3
      · simpa using h1.2
      · exact (hboth hc h2.1).elim
      · exact absurd (List.mem_append_left _ hc) (hcached h3.1)
    · simp only [updL_ne _ _ _ _ hcb]; exact h.usedP c (m.usedSub c hc hcb)
  · intro c hc
    by_cases hcb : c = b
    · subst hcb
      rcases hpl with h1 | h2 | h3
      · exact (hboth h1.1 hc).elim
      · simpa using h2.2
      · exact absurd (List.mem_append_right _ hc) (hcached h3.1)
    · simp only [updL_ne _ _ _ _ hcb]; exact h.fullP c (m.fullSub c hc hcb)
  · intro hf0
    by_cases hcb : t.freeBlock = b
    · rcases hpl with h1 | h2 | h3
      · exact absurd (List.mem_append_left _ h1.1) (hcached hcb)
      · exact absurd (List.mem_append_right _ h2.1) (hcached hcb)
      · simp only [hcb, updL_same]; exact h3.2
    · have e := hfb hf0 hcb
      simp only [updL_ne _ _ _ _ hcb]; rw [e]; exact h.freeP (e ▸ hf0)

/-- the case of four of the paths: `b` was listed and stays listed -/
theorem Inv.rebuild_listed {bs : Nat} {s t : State} {A : Abs} {b : Nat} {uL fL U' F' : List Nat} (h : Inv bs s A)
    (m : Mid A s t b uL fL U' F') (hb : b ∈ A.usedL ++ A.fullL) (sc : Scalars s t)
    (hl : (uL ++ fL).Perm (A.usedL ++ A.fullL)) (hp : (U' ++ F').Perm (A.U b ++ A.F b))
    (hpl : (b ∈ uL ∧ U' ≠ [] ∧ F' ≠ []) ∨ (b ∈ fL ∧ F' = [])) :
    Inv bs t { usedL := uL, fullL := fL, U := updL A.U b U', F := updL A.F b F' } := by
  have hbm : b ∈ A.blocks s := List.mem_append_left _ hb
  have hfbL : fbL t = fbL s := by simp only [fbL, sc.freeBlock]
  refine h.rebuild m (Nat.le_of_eq sc.nextId.symm) (sc.nextId ▸ h.pos b hbm) ?_ ?_ ((h.ok b hbm).of_perm m.rings hp)
    (hpl.imp_right .inl) fun _ _ => sc.freeBlock
  · intro c hc hm
    rw [hfbL] at hc
    exact (List.nodup_append.1 h.nodup).2.2 c (hl.mem_iff.1 hm) c hc rfl
  · rw [List.length_append, hl.length_eq, hfbL, sc.blockCount, h.cnt, Abs.blocks, List.length_append]

/-! ### the common tail of `Alloc` on one block -/

theorem allocTail_rings {s : State} {b fd m : Nat} {u U : List Nat} (h : Rings s b U (fd :: m :: u)) :
    (allocTail s b fd m).2 = (b, fd) ∧ Rings (allocTail s b fd m).1 b (U ++ [fd]) (m :: u) ∧
      BlockFrame s (allocTail s b fd m).1 b := by
  obtain ⟨h1, hf1⟩ := popFree_rings h
  have hfd : fd ∉ U ++ m :: u := (List.nodup_cons.1 (List.perm_middle.nodup_iff.1 h.nodup)).1
  cases U with
  | nil =>
    have hflag : (popFree s b fd m).hasUsed.get b = 0 := h1.used
    have hfdG : fd ∉ m :: u := by simpa using hfd
    obtain ⟨h2, hf2⟩ := startUsed_rings h1 hfdG
    simp only [allocTail, hflag, if_true, List.nil_append]
    exact ⟨trivial, h2, hf1.trans hf2⟩
  | cons a t =>
    have hflag : (popFree s b fd m).hasUsed.get b = 1 := h1.used.1
    obtain ⟨h2, h3, hf2⟩ := takeFree_rings h1 hfd
    have : ¬ (popFree s b fd m).hasUsed.get b = 0 := by rw [hflag]; decide
    simp only [allocTail, this, if_false]
    exact ⟨h2, by simpa using h3, hf1.trans hf2⟩

end Morfuse.BlockAlloc
