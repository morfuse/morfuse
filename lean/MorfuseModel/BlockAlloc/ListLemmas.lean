import MorfuseModel.BlockAlloc.Model
import MorfuseModel.Common.Ring
/-!
# `LinkedList<T*, next, prev>`: null-terminated doubly linked list with `rootnode` / `tail`

`Seg nx pv p L e`: the nodes of `L` are linked both ways, the first one's `prev` is `p`, the last
one's `next` is `e`.  `DL nx pv l L`: the list object `l` (root, tail) represents `L`.

Such a list is a ring through the null node: give the null node `rootnode` as its `next` and `tail` as its
`prev`, and the nodes of `L` form the ring `0 :: L` of `Common/Ring.lean` (`ring_iff_list`).  `Remove` is then
`ring_unlink` and `AddFirst` `ring_link`, a write to a field of the null node landing in `rootnode` / `tail`.
-/
namespace Morfuse.BlockAlloc
open Morfuse.Ring

theorem del_sublist {α : Type} (S T : List α) (x : α) : (S ++ T).Sublist (S ++ x :: T) :=
  (List.sublist_cons_self x T).append_left S

theorem perm_pull {α : Type} (S T Y : List α) (b : α) : (S ++ b :: T ++ Y).Perm (b :: (S ++ T ++ Y)) := by
  simp [List.append_assoc, List.perm_middle]

theorem two_le_length {α : Type} : ∀ {l : List α}, 2 ≤ l.length → ∃ a b t, l = a :: b :: t
  | a :: b :: t, _ => ⟨a, b, t, rfl⟩

theorem flatMap_congr' {α β : Type} {f g : α → List β} : ∀ (l : List α), (∀ a ∈ l, f a = g a) →
    l.flatMap f = l.flatMap g
  | [], _ => rfl
  | a :: t, h => by
    simp only [List.flatMap_cons]
    rw [h a (by simp), flatMap_congr' t (fun x hx => h x (List.mem_cons_of_mem _ hx))]

theorem nodup_map_pair (a : Nat) {l : List Nat} (h : l.Nodup) : (l.map fun i => (a, i)).Nodup :=
  h.map _ fun _ _ hne e => hne (Prod.mk.inj e).2

def Seg (nx pv : Nat → Nat) : Nat → List Nat → Nat → Prop
  | _, [], _ => True
  | p, a :: t, e => pv a = p ∧ nx a = t.headD e ∧ Seg nx pv a t e

theorem seg_congr {nx pv nx' pv' : Nat → Nat} : ∀ (p : Nat) (L : List Nat) (e : Nat),
    (∀ y ∈ L, nx' y = nx y ∧ pv' y = pv y) → Seg nx pv p L e → Seg nx' pv' p L e
  | _, [], _, _, _ => trivial
  | p, a :: t, e, h, hs => by
    obtain ⟨h1, h2, h3⟩ := hs
    refine ⟨by rw [(h a (by simp)).2]; exact h1, by rw [(h a (by simp)).1]; exact h2, ?_⟩
    exact seg_congr a t e (fun y hy => h y (List.mem_cons_of_mem _ hy)) h3

theorem seg_append {nx pv : Nat → Nat} : ∀ (p : Nat) (S T : List Nat) (e : Nat),
    Seg nx pv p (S ++ T) e ↔ Seg nx pv p S (T.headD e) ∧ Seg nx pv (S.getLastD p) T e
  | p, [], T, e => by simp [Seg]
  | p, a :: S, T, e => by
    simp only [List.cons_append, Seg, List.getLastD_cons]
    rw [seg_append a S T e]
    have : (S ++ T).headD e = S.headD (T.headD e) := by cases S <;> simp
    rw [this]
    simp [and_assoc]

structure DL (nx pv : Nat → Nat) (l : LL) (L : List Nat) : Prop where
  root : l.root = L.headD 0
  tail : L ≠ [] → l.tail = L.getLastD 0
  seg : Seg nx pv 0 L 0

theorem DL.nil {nx pv : Nat → Nat} {l : LL} (h : l.root = 0) : DL nx pv l [] :=
  ⟨h, fun hne => absurd rfl hne, trivial⟩

theorem DL.root_eq_zero_iff {nx pv : Nat → Nat} {l : LL} {L : List Nat} (h : DL nx pv l L)
    (h0 : 0 ∉ L) : l.root = 0 ↔ L = [] := by
  rw [h.root]
  cases L with
  | nil => simp
  | cons a t => simp; intro e; exact h0 (by simp [e])

theorem DL.root_mem {nx pv : Nat → Nat} {l : LL} {L : List Nat} (h : DL nx pv l L) (hr : l.root ≠ 0) : l.root ∈ L := by
  rw [h.root] at hr ⊢
  cases L with
  | nil => exact absurd rfl hr
  | cons a t => simp

theorem DL.congr {nx pv nx' pv' : Nat → Nat} {l : LL} {L : List Nat} (h : DL nx pv l L)
    (hc : ∀ y ∈ L, nx' y = nx y ∧ pv' y = pv y) : DL nx' pv' l L :=
  ⟨h.root, h.tail, seg_congr 0 L 0 hc h.seg⟩

theorem path_iff_seg {nx pv : Nat → Nat} : ∀ (a : Nat) (L : List Nat) (b : Nat),
    Path nx pv a L b ↔ nx a = L.headD b ∧ pv b = L.getLastD a ∧ Seg nx pv a L b
  | a, [], b => by simp [Path, Seg]
  | a, x :: t, b => by
    simp only [Path, Seg, path_iff_seg x t b, List.headD_cons, List.getLastD_cons]
    constructor
    · rintro ⟨h1, h2, h3, h4, h5⟩; exact ⟨h1, h4, h2, h3, h5⟩
    · rintro ⟨h1, h4, h2, h3, h5⟩; exact ⟨h1, h2, h3, h4, h5⟩

theorem ring_iff_list {nx pv : Nat → Nat} {r t : Nat} {L : List Nat} :
    IsRing (upd nx 0 r) (upd pv 0 t) 0 L ↔
      L.Nodup ∧ 0 ∉ L ∧ r = L.headD 0 ∧ t = L.getLastD 0 ∧ Seg nx pv 0 L 0 := by
  simp only [IsRing, List.nodup_cons, path_iff_seg, upd_same]
  have sg : 0 ∉ L → (Seg (upd nx 0 r) (upd pv 0 t) 0 L 0 ↔ Seg nx pv 0 L 0) := fun h0 =>
    ⟨seg_congr 0 L 0 fun y hy => by simp [upd, ne_of_mem_of_not_mem hy h0],
     seg_congr 0 L 0 fun y hy => by simp [upd, ne_of_mem_of_not_mem hy h0]⟩
  exact ⟨fun ⟨⟨h0, hnd⟩, h1, h2, h3⟩ => ⟨hnd, h0, h1, h2, (sg h0).1 h3⟩,
    fun ⟨hnd, h0, h1, h2, h3⟩ => ⟨⟨h0, hnd⟩, h1, h2, (sg h0).2 h3⟩⟩

/-- `tail` means nothing while the list is empty (`Reset` leaves it as it was): the ring has the null node there -/
theorem DL.ring {nx pv : Nat → Nat} {l : LL} {L : List Nat} (h : DL nx pv l L) (hnd : L.Nodup) (h0 : 0 ∉ L) :
    IsRing (upd nx 0 l.root) (upd pv 0 (L.getLastD 0)) 0 L :=
  ring_iff_list.2 ⟨hnd, h0, h.root, rfl, h.seg⟩

theorem DL.next_ne {nx pv : Nat → Nat} {l : LL} {L : List Nat} (h : DL nx pv l L) (hnd : L.Nodup) (h0 : 0 ∉ L)
    {x : Nat} (hx : x ∈ L) : nx x ≠ x := by
  have := ring_nx_ne (h.ring hnd h0) (List.ne_nil_of_mem hx) x (List.mem_cons_of_mem _ hx)
  rwa [upd_ne _ _ _ _ (ne_of_mem_of_not_mem hx h0)] at this

theorem DL.of_ring {nx pv : Nat → Nat} {l : LL} {L : List Nat}
    (h : IsRing (upd nx 0 l.root) (upd pv 0 l.tail) 0 L) : DL nx pv l L :=
  have hk := ring_iff_list.1 h
  ⟨hk.2.2.1, fun _ => hk.2.2.2.1, hk.2.2.2.2⟩

/-- what `AddFirst(n)` writes, read through the null node: `n` is linked in front of the root -/
theorem Lnk.addFirst_view (k : Lnk) {n t : Nat} (hn0 : n ≠ 0) (ht : k.l.root ≠ 0 → t = k.l.tail) :
    upd (k.addFirst n).nx.get 0 (k.addFirst n).l.root = upd (upd (upd k.nx.get 0 k.l.root) n k.l.root) 0 n ∧
    upd (k.addFirst n).pv.get 0 (k.addFirst n).l.tail = upd (upd (upd k.pv.get 0 t) n 0) k.l.root n := by
  refine ⟨funext fun y => ?_, funext fun y => ?_⟩ <;> unfold Lnk.addFirst <;> split <;> rename_i hr
  · simp only [hr, upd, Mem.get_set]
    by_cases hy : y = 0 <;> simp [hy]
  · simp only [upd, Mem.get_set]
    by_cases hy : y = 0 <;> simp [hy]
  · simp only [hr, upd, Mem.get_set]
    by_cases hy : y = 0 <;> simp [hy]
  · simp only [upd, Mem.get_set, ← ht hr]
    by_cases hy : y = 0
    · subst hy; simp [Ne.symm hr, hn0.symm]
    · simp [hy]

theorem Lnk.addFirst_ring {k : Lnk} {L : List Nat} {n t : Nat}
    (h : IsRing (upd k.nx.get 0 k.l.root) (upd k.pv.get 0 t) 0 L) (ht : k.l.root ≠ 0 → t = k.l.tail)
    (hn : n ∉ 0 :: L) :
    IsRing (upd (k.addFirst n).nx.get 0 (k.addFirst n).l.root) (upd (k.addFirst n).pv.get 0 (k.addFirst n).l.tail)
      0 (n :: L) := by
  have hv := k.addFirst_view (n := n) (fun e => hn (by simp [e])) ht
  have b2 := (ring_links h 0 (by simp)).2.1
  have hr : k.l.root = L.headD 0 := by simpa using (ring_iff_list.1 h).2.2.1
  have hl := ring_link (s := []) h hn
  rw [upd_same] at b2
  rw [← hr, b2] at hl
  rw [hv.1, hv.2]; exact hl

theorem addFirst_DL {nx pv : Mem} {l : LL} {L : List Nat} {n : Nat}
    (h : DL nx.get pv.get l L) (h0 : 0 ∉ L) (hnd : L.Nodup) (hn : n ∉ L) (hn0 : n ≠ 0) :
    let k := Lnk.addFirst ⟨nx, pv, l⟩ n
    DL k.nx.get k.pv.get k.l (n :: L) :=
  DL.of_ring (Lnk.addFirst_ring (k := ⟨nx, pv, l⟩) (h.ring hnd h0)
    (fun hr => (h.tail fun e => hr (by rw [h.root, e]; rfl)).symm) (by simpa using ⟨hn0, hn⟩))

theorem addFirst_frame {nx pv : Mem} {l : LL} {L : List Nat} (n : Nat) (h : DL nx.get pv.get l L) :
    let k := Lnk.addFirst ⟨nx, pv, l⟩ n
    ∀ y, y ≠ n → y ∉ L → k.nx.get y = nx.get y ∧ k.pv.get y = pv.get y := by
  intro k y hyn hyL
  simp only [k, Lnk.addFirst]
  split
  · simp [Mem.get_set, hyn]
  · rename_i hr
    have : y ≠ l.root := by
      rw [h.root]
      cases L with
      | nil => exact absurd h.root hr
      | cons a t => simp at hyL ⊢; exact hyL.1
    simp [Mem.get_set, hyn, this]

/-- `SetRoot(node->next)` before `Remove(node)` on the root changes nothing -/
theorem remove_after_setRoot {nx pv : Mem} {l : LL} {x : Nat} (hr : l.root = x) (hne : nx.get x ≠ x) :
    Lnk.remove ⟨nx, pv, { l with root := nx.get x }⟩ x = Lnk.remove ⟨nx, pv, l⟩ x := by
  simp only [Lnk.remove, hr, if_true]
  have : ¬ x = nx.get x := fun e => hne e.symm
  simp [this]

/-- what `Remove(x)` writes, read through the null node: `x->prev->next = x->next; x->next->prev = x->prev` -/
theorem Lnk.remove_view (k : Lnk) {x : Nat} (hp : k.pv.get x ≠ x)
    (hroot : x = k.l.root ↔ k.pv.get x = 0) (htail : x = k.l.tail ↔ k.nx.get x = 0) :
    upd (k.remove x).nx.get 0 (k.remove x).l.root = upd (upd k.nx.get 0 k.l.root) (k.pv.get x) (k.nx.get x) ∧
    upd (k.remove x).pv.get 0 (k.remove x).l.tail = upd (upd k.pv.get 0 k.l.tail) (k.nx.get x) (k.pv.get x) := by
  have e : (if k.pv.get x ≠ 0 then k.nx.set (k.pv.get x) (k.nx.get x) else k.nx).get x = k.nx.get x := by
    split
    · exact Mem.get_set_ne _ _ _ _ hp.symm
    · rfl
  refine ⟨funext fun y => ?_, funext fun y => ?_⟩ <;> simp only [Lnk.remove, e, upd]
  · by_cases h1 : k.pv.get x = 0
    · have hxr := hroot.2 h1
      by_cases hy : y = 0 <;> simp [h1, hy, ← hxr]
    · have hxr := mt hroot.1 h1
      by_cases hy : y = 0 <;> simp [h1, hy, hxr, Ne.symm h1, Mem.get_set]
  · by_cases h1 : k.nx.get x = 0
    · have hxr := htail.2 h1
      by_cases hy : y = 0 <;> simp [h1, hy, ← hxr]
    · have hxr := mt htail.1 h1
      by_cases hy : y = 0 <;> simp [h1, hy, hxr, Ne.symm h1, Mem.get_set]

theorem Lnk.remove_ring {k : Lnk} {S T : List Nat} {x : Nat}
    (h : IsRing (upd k.nx.get 0 k.l.root) (upd k.pv.get 0 k.l.tail) 0 (S ++ x :: T)) :
    IsRing (upd (k.remove x).nx.get 0 (k.remove x).l.root) (upd (k.remove x).pv.get 0 (k.remove x).l.tail)
        0 (S ++ T) ∧
      ∀ y, y ∉ S ++ T → (k.remove x).nx.get y = k.nx.get y ∧ (k.remove x).pv.get y = k.pv.get y := by
  have hx0 : x ≠ 0 := fun e => (List.nodup_cons.1 h.1).1 (by simp [e])
  have ex : ∀ (f : Nat → Nat) (v : Nat), upd f 0 v x = f x := fun f v => upd_ne f 0 v x hx0
  obtain ⟨a1, a2, a3, a4⟩ := ring_links h x (by simp)
  obtain ⟨b1, b2, _, _⟩ := ring_links h 0 (by simp)
  have hpx := ring_pv_ne h (by simp) x (by simp)
  have hnx := ring_nx_ne h (by simp) x (by simp)
  rw [ex] at a1 a2 a3 a4 hpx hnx
  rw [upd_same] at b1 b2
  -- `x` is the root exactly when its `prev` is the null node, the tail exactly when its `next` is
  have hv := k.remove_view hpx
    ⟨fun e => by rw [← e, ex] at b2; exact b2, fun e => by rw [e, upd_same] at a1; exact a1.symm⟩
    ⟨fun e => by rw [← e, ex] at b1; exact b1, fun e => by rw [e, upd_same] at a2; exact a2.symm⟩
  have hu := ring_unlink h
  rw [ex, ex] at hu
  refine ⟨by rw [hv.1, hv.2]; exact hu, fun y hy => ?_⟩
  -- the writes go to the neighbours of `x`, which are null or among the remaining nodes
  have far : ∀ z, z ∈ 0 :: (S ++ x :: T) → z ≠ x → z ≠ 0 → y ≠ z := fun z hz h1 h2 e =>
    hy (by subst e; simpa [h1, h2] using hz)
  have e : (k.remove x).nx.get x = k.nx.get x := by
    simp only [Lnk.remove]; split
    · exact Mem.get_set_ne _ _ _ _ hpx.symm
    · rfl
  constructor
  · simp only [Lnk.remove]; split
    · exact Mem.get_set_ne _ _ _ _ (far _ a4 hpx ‹_›)
    · rfl
  · show (if (k.remove x).nx.get x ≠ 0 then k.pv.set ((k.remove x).nx.get x) (k.pv.get x) else k.pv).get y = _
    rw [e]; split
    · exact Mem.get_set_ne _ _ _ _ (far _ a3 hnx ‹_›)
    · rfl

theorem remove_DL {nx pv : Mem} {l : LL} {S T : List Nat} {x : Nat}
    (h : DL nx.get pv.get l (S ++ x :: T)) (h0 : 0 ∉ S ++ x :: T) (hnd : (S ++ x :: T).Nodup) :
    let k := Lnk.remove ⟨nx, pv, l⟩ x
    DL k.nx.get k.pv.get k.l (S ++ T) ∧
      (∀ y, y ∉ S ++ T → k.nx.get y = nx.get y ∧ k.pv.get y = pv.get y) := by
  have hr := h.ring hnd h0
  rw [← h.tail (by simp)] at hr
  exact ⟨DL.of_ring (Lnk.remove_ring (k := ⟨nx, pv, l⟩) hr).1, (Lnk.remove_ring (k := ⟨nx, pv, l⟩) hr).2⟩

/-! ### the block-list walk of `Count` -/

theorem listWalk_seg (nx : Mem) (pv : Nat → Nat) : ∀ (L : List Nat) (p fuel : Nat),
    Seg nx.get pv p L 0 → 0 ∉ L → L.length ≤ fuel → listWalk nx fuel (L.headD 0) = L
  | [], _, fuel, _, _, _ => by cases fuel <;> simp [listWalk]
  | a :: t, _, fuel, hs, h0, hf => by
    obtain ⟨f, rfl⟩ : ∃ f, fuel = f + 1 := ⟨fuel - 1, by simp at hf; omega⟩
    have ha : a ≠ 0 := fun e => h0 (by simp [e])
    obtain ⟨_, h2, h3⟩ := hs
    simp only [List.headD_cons, listWalk, ha, if_false, h2]
    rw [listWalk_seg nx pv t a f h3 (fun h => h0 (List.mem_cons_of_mem _ h)) (by simp at hf; omega)]

theorem listWalk_DL {nx : Mem} {pv : Nat → Nat} {l : LL} {L : List Nat} {fuel : Nat}
    (h : DL nx.get pv l L) (h0 : 0 ∉ L) (hf : L.length ≤ fuel) : listWalk nx fuel l.root = L := by
  rw [h.root]; exact listWalk_seg nx pv L 0 fuel h.seg h0 hf

end Morfuse.BlockAlloc
