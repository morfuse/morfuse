import MorfuseModel.Common.Ring
import MorfuseModel.Common.Mem2
import MorfuseModel.BlockAlloc.Model
/-!
# Ring facts in the shape the `BlockAlloc` code needs

Built on `Common/Ring.lean`: the update orders of `TakeFree` / `Free`, unlinking the head with the
successor as new head, the ring seen from an arbitrary node, and the two fuel-indexed walks of `Count`.
-/
namespace Morfuse.Ring

/-- `TakeFree` / the free-ring push of `Free`: link `x` in front of the head `a` with the code's
    statement order `next[prev[a]] = x; prev[a] = x; next[x] = a; prev[x] = prev[a]` -/
theorem ring_push {nx pv : Nat → Nat} {a : Nat} {t : List Nat} {x : Nat}
    (h : IsRing nx pv a t) (hx : x ∉ a :: t) :
    IsRing (upd (upd nx (pv a) x) x a) (upd (upd pv a x) x (pv a)) a (t ++ [x]) := by
  have hl : pv a ∈ a :: t := (ring_links h a (by simp)).2.2.2
  have h1 : pv a ≠ x := fun e => hx (e ▸ hl)
  have h2 : a ≠ x := fun e => hx (by simp [e])
  have := add_ref h hx
  rw [upd_comm nx x a (pv a) x (Ne.symm h1), upd_comm pv x (pv a) a x (Ne.symm h2)] at this
  exact this

/-- a ring of one node, as the code writes it -/
theorem ring_self (nx pv : Nat → Nat) (x : Nat) : IsRing (upd nx x x) (upd pv x x) x [] := by
  simp [IsRing, Path]

/-- unlinking the head `a` of a ring with at least two nodes by
    `next[prev[a]] = next[a]; prev[next[a]] = prev[a]`; the successor becomes the head.
    (`a`'s own links are left dangling: the caller overwrites them.) -/
theorem ring_pop_head {nx pv : Nat → Nat} {a m : Nat} {u : List Nat} (h : IsRing nx pv a (m :: u)) :
    nx a = m ∧ IsRing (upd nx (pv a) (nx a)) (upd pv (nx a) (pv a)) m u :=
  ⟨h.2.1, by simpa using ring_unlink (s := u) (u := []) (ring_rotate_to (s := []) h)⟩

theorem ring_from {nx pv : Nat → Nat} {a x : Nat} {t : List Nat} (h : IsRing nx pv a t)
    (hx : x ∈ a :: t) : ∃ t', IsRing nx pv x t' ∧ (x :: t').Perm (a :: t) := by
  rcases List.mem_cons.1 hx with rfl | hxt
  · exact ⟨t, h, List.Perm.refl _⟩
  · obtain ⟨s, u, rfl⟩ := List.append_of_mem hxt
    refine ⟨u ++ a :: s, ring_rotate_to h, ?_⟩
    have e1 : a :: (s ++ x :: u) = (a :: s) ++ (x :: u) := by simp
    have e2 : x :: (u ++ a :: s) = (x :: u) ++ (a :: s) := by simp
    rw [e1, e2]; exact List.perm_append_comm

end Morfuse.Ring

namespace Morfuse.BlockAlloc
open Morfuse.Ring

/-! ### the walks of `Count` -/

theorem ringWalk_path (nd : Mem2) (b start : Nat) (pv : Nat → Nat) :
    ∀ (l : List Nat) (c fuel : Nat), Path (nd.row b) pv c l start → start ∉ l → l.length < fuel →
      ringWalk nd b fuel c start = c :: l
  | [], c, fuel, hp, _, hf => by
    obtain ⟨f, rfl⟩ : ∃ f, fuel = f + 1 := ⟨fuel - 1, by simp at hf; omega⟩
    have : nd.get b c = start := hp.1
    simp [ringWalk, this]
  | y :: l, c, fuel, hp, hs, hf => by
    obtain ⟨f, rfl⟩ : ∃ f, fuel = f + 1 := ⟨fuel - 1, by simp at hf; omega⟩
    obtain ⟨h1, _, h3⟩ := hp
    have h1' : nd.get b c = y := h1
    have hy : y ≠ start := fun e => hs (by simp [e])
    simp only [ringWalk, h1', hy, if_false]
    rw [ringWalk_path nd b start pv l y f h3 (fun h => hs (List.mem_cons_of_mem _ h)) (by simp at hf; omega)]

theorem ringWalk_ring {nd : Mem2} {b a : Nat} {pv : Nat → Nat} {t : List Nat} {fuel : Nat}
    (h : IsRing (nd.row b) pv a t) (hf : t.length < fuel) : ringWalk nd b fuel a a = a :: t :=
  ringWalk_path nd b a pv t a fuel h.2 (List.nodup_cons.1 h.1).1 hf

/-- the counting loop and the collecting loop visit the same nodes (no invariant needed) -/
theorem ringCount_eq (nd : Mem2) (b start : Nat) :
    ∀ (fuel cur c : Nat), ringCount nd b fuel cur start c = c + (ringWalk nd b fuel cur start).length
  | 0, _, _ => by simp [ringCount, ringWalk]
  | f + 1, cur, c => by
    simp only [ringCount, ringWalk]
    split
    · simp
    · rw [ringCount_eq nd b start f]; simp; omega

end Morfuse.BlockAlloc
