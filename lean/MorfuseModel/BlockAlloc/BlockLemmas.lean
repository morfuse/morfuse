import MorfuseModel.BlockAlloc.Model
import MorfuseModel.BlockAlloc.RingLemmas
/-!
# One block: the used ring and the free ring share `next_data[] / prev_data[]`

`Rings s b U F`: in block `b` the used slots form the ring `U` (head first, empty iff
`has_used_data` is clear) and the free slots form the ring `F`, and no index is in both.
`Alloc` and `Free` run the same three ring steps (start a ring, link at its end, unlink a node) on the
used ring or on the free ring; each is proved once for `Pair`, two rings through the same arrays taken in
either order.  Each statement group of the code is then a lemma `Rings … → Rings …` together with a
frame fact: `BlockFrame` (nothing outside block `b`'s ring fields moves), `NewFrame` for the constructor of a block,
`ListFrame` for the steps in between that move no ring field.
-/
namespace Morfuse.BlockAlloc
open Morfuse.Ring

def RingOf (nx pv : Nat → Nat) (hd flag : Nat) : List Nat → Prop
  | [] => flag = 0
  | a :: t => flag = 1 ∧ hd = a ∧ IsRing nx pv a t

theorem RingOf.congr {nx pv nx' pv' : Nat → Nat} {hd flag : Nat} {L : List Nat}
    (h : RingOf nx pv hd flag L) (hc : ∀ x ∈ L, nx' x = nx x ∧ pv' x = pv x) : RingOf nx' pv' hd flag L := by
  cases L with
  | nil => exact h
  | cons a t => exact ⟨h.1, h.2.1, h.2.2.congr (fun x hx => (hc x hx).1) (fun x hx => (hc x hx).2)⟩

structure Pair (nx pv : Nat → Nat) (h₁ f₁ : Nat) (L₁ : List Nat) (h₂ f₂ : Nat) (L₂ : List Nat) : Prop where
  fst : RingOf nx pv h₁ f₁ L₁
  snd : RingOf nx pv h₂ f₂ L₂
  nodup : (L₁ ++ L₂).Nodup

section Pair
variable {nx pv : Nat → Nat} {h₁ f₁ h₂ f₂ : Nat} {L₁ L₂ : List Nat}

theorem Pair.symm (h : Pair nx pv h₁ f₁ L₁ h₂ f₂ L₂) : Pair nx pv h₂ f₂ L₂ h₁ f₁ L₁ :=
  ⟨h.snd, h.fst, List.perm_append_comm.nodup_iff.1 h.nodup⟩

theorem Pair.disj (h : Pair nx pv h₁ f₁ L₁ h₂ f₂ L₂) : ∀ x, x ∈ L₁ → x ∈ L₂ → False :=
  fun x h1 h2 => (List.nodup_append.1 h.nodup).2.2 x h1 x h2 rfl

theorem Pair.start {x : Nat} (h : Pair nx pv h₁ f₁ [] h₂ f₂ L₂) (hx : x ∉ L₂) :
    Pair (upd nx x x) (upd pv x x) x 1 [x] h₂ f₂ L₂ := by
  refine ⟨⟨rfl, rfl, ring_self _ _ _⟩, h.snd.congr fun y hy => ?_, List.nodup_cons.2 ⟨hx, h.nodup⟩⟩
  have : y ≠ x := fun e => hx (e ▸ hy)
  simp [upd, this]

theorem Pair.push {a x : Nat} {t : List Nat} (h : Pair nx pv h₁ f₁ (a :: t) h₂ f₂ L₂) (hx : x ∉ (a :: t) ++ L₂) :
    Pair (upd (upd nx (pv a) x) x a) (upd (upd pv a x) x (pv a)) h₁ f₁ (a :: t ++ [x]) h₂ f₂ L₂ := by
  have hx1 : x ∉ a :: t := fun hm => hx (List.mem_append_left _ hm)
  have hring := h.fst.2.2
  have hpv : pv a ∈ a :: t := (ring_links hring a (by simp)).2.2.2
  refine ⟨⟨h.fst.1, h.fst.2.1, ring_push hring hx1⟩, h.snd.congr fun y hy => ?_, ?_⟩
  · have hy1 : y ∉ a :: t := fun hm => h.disj y hm hy
    have e1 : y ≠ pv a := fun e => hy1 (e ▸ hpv)
    have e2 : y ≠ a := fun e => hy1 (by simp [e])
    have e3 : y ≠ x := fun e => hx (e ▸ List.mem_append_right _ hy)
    simp [upd, e1, e2, e3]
  · have : ((a :: t ++ [x]) ++ L₂).Perm (x :: ((a :: t) ++ L₂)) := by
      rw [List.append_assoc]; exact List.perm_middle
    exact this.nodup_iff.2 (List.nodup_cons.2 ⟨hx, h.nodup⟩)

theorem Pair.pop {a m : Nat} {u : List Nat} (h : Pair nx pv h₁ f₁ (a :: m :: u) h₂ f₂ L₂) :
    Pair (upd nx (pv a) m) (upd pv m (pv a)) m 1 (m :: u) h₂ f₂ L₂ := by
  have hring := h.fst.2.2
  obtain ⟨e, hr'⟩ := ring_pop_head hring
  rw [e] at hr'
  have hpv : pv a ∈ a :: m :: u := (ring_links hring a (by simp)).2.2.2
  refine ⟨⟨rfl, rfl, hr'⟩, h.snd.congr fun y hy => ?_, (List.nodup_cons.1 h.nodup).2⟩
  have hy1 : y ∉ a :: m :: u := fun hm => h.disj y hm hy
  have e1 : y ≠ pv a := fun e => hy1 (e ▸ hpv)
  have e2 : y ≠ m := fun e => hy1 (by simp [e])
  simp [upd, e1, e2]

theorem Pair.unlink {i : Nat} (h : Pair nx pv h₁ f₁ L₁ h₂ f₂ L₂) (hi : i ∈ L₁) (hne : nx i ≠ i) :
    ∃ u, Pair (upd nx (pv i) (nx i)) (upd pv (nx i) (pv i)) (nx i) 1 (nx i :: u) h₂ f₂ L₂ ∧
      (i :: nx i :: u).Perm L₁ := by
  cases L₁ with
  | nil => cases hi
  | cons a t =>
    obtain ⟨t', hr, hperm⟩ := ring_from h.fst.2.2 hi
    cases t' with
    | nil => exact absurd (ring_single_iff.1 hr).1 hne
    | cons m u =>
      rw [show nx i = m from hr.2.1]
      exact ⟨u, Pair.pop ⟨⟨h.fst.1, rfl, hr⟩, h.snd, (hperm.append_right _).nodup_iff.2 h.nodup⟩, hperm⟩

end Pair

abbrev Rings (s : State) (b : Nat) (U F : List Nat) : Prop :=
  Pair (s.nd.row b) (s.pd.row b) (s.usedData.get b) (s.hasUsed.get b) U (s.freeData.get b) (s.hasFree.get b) F

theorem Rings.used {s : State} {b : Nat} {U F : List Nat} (h : Rings s b U F) :
    RingOf (s.nd.row b) (s.pd.row b) (s.usedData.get b) (s.hasUsed.get b) U := h.fst
theorem Rings.free {s : State} {b : Nat} {U F : List Nat} (h : Rings s b U F) :
    RingOf (s.nd.row b) (s.pd.row b) (s.freeData.get b) (s.hasFree.get b) F := h.snd

/-- nothing but the ring fields of block `b` differs between `s` and `s'` -/
structure BlockFrame (s s' : State) (b : Nat) : Prop where
  nd : ∀ b', b' ≠ b → s'.nd.row b' = s.nd.row b'
  pd : ∀ b', b' ≠ b → s'.pd.row b' = s.pd.row b'
  usedData : ∀ b', b' ≠ b → s'.usedData.get b' = s.usedData.get b'
  hasUsed : ∀ b', b' ≠ b → s'.hasUsed.get b' = s.hasUsed.get b'
  freeData : ∀ b', b' ≠ b → s'.freeData.get b' = s.freeData.get b'
  hasFree : ∀ b', b' ≠ b → s'.hasFree.get b' = s.hasFree.get b'
  bnext : s'.bnext = s.bnext
  bprev : s'.bprev = s.bprev
  used : s'.used = s.used
  full : s'.full = s.full
  freeBlock : s'.freeBlock = s.freeBlock
  blockCount : s'.blockCount = s.blockCount
  nextId : s'.nextId = s.nextId

theorem BlockFrame.refl (s : State) (b : Nat) : BlockFrame s s b := by
  constructor <;> intros <;> rfl

theorem BlockFrame.trans {s s' s'' : State} {b : Nat} (h1 : BlockFrame s s' b) (h2 : BlockFrame s' s'' b) :
    BlockFrame s s'' b := by
  constructor
  · intro b' hb; rw [h2.nd b' hb, h1.nd b' hb]
  · intro b' hb; rw [h2.pd b' hb, h1.pd b' hb]
  · intro b' hb; rw [h2.usedData b' hb, h1.usedData b' hb]
  · intro b' hb; rw [h2.hasUsed b' hb, h1.hasUsed b' hb]
  · intro b' hb; rw [h2.freeData b' hb, h1.freeData b' hb]
  · intro b' hb; rw [h2.hasFree b' hb, h1.hasFree b' hb]
  · rw [h2.bnext, h1.bnext]
  · rw [h2.bprev, h1.bprev]
  · rw [h2.used, h1.used]
  · rw [h2.full, h1.full]
  · rw [h2.freeBlock, h1.freeBlock]
  · rw [h2.blockCount, h1.blockCount]
  · rw [h2.nextId, h1.nextId]

theorem Rings.frame {s s' : State} {b b' : Nat} {U F : List Nat} (hf : BlockFrame s s' b) (hb : b' ≠ b)
    (h : Rings s b' U F) : Rings s' b' U F := by
  refine ⟨?_, ?_, h.nodup⟩
  · rw [hf.nd b' hb, hf.pd b' hb, hf.usedData b' hb, hf.hasUsed b' hb]; exact h.used
  · rw [hf.nd b' hb, hf.pd b' hb, hf.freeData b' hb, hf.hasFree b' hb]; exact h.free

/-- the ring fields did not move at all (only block-list fields did) -/
structure ListFrame (s s' : State) : Prop where
  nd : s'.nd = s.nd
  pd : s'.pd = s.pd
  usedData : s'.usedData = s.usedData
  hasUsed : s'.hasUsed = s.hasUsed
  freeData : s'.freeData = s.freeData
  hasFree : s'.hasFree = s.hasFree

theorem ListFrame.trans {s s' s'' : State} (h1 : ListFrame s s') (h2 : ListFrame s' s'') : ListFrame s s'' :=
  ⟨by rw [h2.nd, h1.nd], by rw [h2.pd, h1.pd], by rw [h2.usedData, h1.usedData],
   by rw [h2.hasUsed, h1.hasUsed], by rw [h2.freeData, h1.freeData], by rw [h2.hasFree, h1.hasFree]⟩

theorem Rings.listFrame {s s' : State} {b : Nat} {U F : List Nat} (hf : ListFrame s s')
    (h : Rings s b U F) : Rings s' b U F := by
  refine ⟨?_, ?_, h.nodup⟩
  · rw [hf.nd, hf.pd, hf.usedData, hf.hasUsed]; exact h.used
  · rw [hf.nd, hf.pd, hf.freeData, hf.hasFree]; exact h.free

theorem popFree_rings {s : State} {b fd m : Nat} {u U : List Nat} (h : Rings s b U (fd :: m :: u)) :
    Rings (popFree s b fd m) b U (m :: u) ∧ BlockFrame s (popFree s b fd m) b := by
  refine ⟨?_, ?_⟩
  · simpa [Rings, popFree, Mem2.row_set_same, Mem2.get_eq_row] using h.symm.pop.symm
  · constructor <;> intros <;> simp [popFree, Mem2.row_set_ne, Mem.get_set_ne, *]

theorem startUsed_rings {s : State} {b fd : Nat} {G : List Nat} (h : Rings s b [] G) (hfd : fd ∉ G) :
    Rings (startUsed s b fd) b [fd] G ∧ BlockFrame s (startUsed s b fd) b := by
  refine ⟨?_, ?_⟩
  · simpa [Rings, startUsed, Mem2.row_set_same] using h.start hfd
  · constructor <;> intros <;> simp [startUsed, Mem2.row_set_ne, Mem.get_set_ne, *]

theorem takeFree_rings {s : State} {b fd a : Nat} {t G : List Nat} (h : Rings s b (a :: t) G)
    (hfd : fd ∉ (a :: t) ++ G) :
    (takeFree s b fd).2 = (b, fd) ∧ Rings (takeFree s b fd).1 b (a :: t ++ [fd]) G ∧
      BlockFrame s (takeFree s b fd).1 b := by
  refine ⟨rfl, ?_, ?_⟩
  · simpa [Rings, takeFree, Mem2.row_set_same, Mem2.get_eq_row, h.used.2.1] using h.push hfd
  · constructor <;> intros <;> simp [takeFree, Mem2.row_set_ne, *]

theorem pushFree_rings {s : State} {b i f : Nat} {t U : List Nat} (h : Rings s b U (f :: t))
    (hi : i ∉ U ++ f :: t) :
    Rings (pushFree s b i) b U (f :: t ++ [i]) ∧ BlockFrame s (pushFree s b i) b := by
  refine ⟨?_, ?_⟩
  · have := (h.symm.push fun hm => hi (List.mem_append.2 (List.mem_append.1 hm).symm)).symm
    simpa [Rings, pushFree, Mem2.row_set_same, Mem2.get_eq_row, h.free.2.1] using this
  · constructor <;> intros <;> simp [pushFree, Mem2.row_set_ne, *]

theorem unlinkUsed_rings {s : State} {b i : Nat} {U F : List Nat} (h : Rings s b U F) (hi : i ∈ U)
    (hne : s.nd.get b i ≠ i) :
    ∃ u, Rings (unlinkUsed s b i (s.nd.get b i)) b (s.nd.get b i :: u) F ∧
      (i :: s.nd.get b i :: u).Perm U ∧ BlockFrame s (unlinkUsed s b i (s.nd.get b i)) b := by
  obtain ⟨u, hr, hperm⟩ := h.unlink hi hne
  refine ⟨u, ?_, hperm, ?_⟩
  · simpa [Rings, unlinkUsed, Mem2.row_set_same, Mem2.get_eq_row] using hr
  · constructor <;> intros <;> simp [unlinkUsed, Mem2.row_set_ne, Mem.get_set_ne, *]

theorem startFree_rings {s : State} {b i : Nat} {U : List Nat} (h : Rings s b U []) (hi : i ∉ U) :
    Rings (startFree s b i) b U [i] ∧ BlockFrame s (startFree s b i) b := by
  refine ⟨?_, ?_⟩
  · simpa [Rings, startFree, Mem2.row_set_same] using (h.symm.start hi).symm
  · constructor <;> intros <;> simp [startFree, Mem2.row_set_ne, Mem.get_set_ne, *]

/-! ### `block_s::block_s()`: all slots in one free ring `0 → 1 → … → bs-1 → 0` -/

theorem initLinks_nd (b : Nat) (nd pd : Mem2) : ∀ (k b' i : Nat),
    (initLinks b k nd pd).1.get b' i = if b' = b ∧ i < k then i + 1 else nd.get b' i
  | 0, _, _ => by simp [initLinks]
  | k + 1, b', i => by
    simp only [initLinks, Mem2.get_set, initLinks_nd b nd pd k b' i]
    by_cases hb : b' = b
    · by_cases hi : i = k
      · simp [hb, hi]
      · have : i < k + 1 ↔ i < k := by omega
        simp [hb, hi, this]
    · simp [hb]

theorem initLinks_pd (b : Nat) (nd pd : Mem2) : ∀ (k b' i : Nat),
    (initLinks b k nd pd).2.get b' i = if b' = b ∧ 0 < i ∧ i ≤ k then i - 1 else pd.get b' i
  | 0, _, _ => by simp [initLinks]; omega
  | k + 1, b', i => by
    simp only [initLinks, Mem2.get_set, initLinks_pd b nd pd k b' i]
    by_cases hb : b' = b
    · by_cases hi : i = k + 1
      · simp [hb, hi]
      · have : (0 < i ∧ i ≤ k + 1) ↔ (0 < i ∧ i ≤ k) := by omega
        simp [hb, hi, this]
    · simp [hb]

theorem path_succ (nx pv : Nat → Nat) : ∀ (k c e : Nat),
    (∀ j, c ≤ j → j < c + k → nx j = j + 1 ∧ pv (j + 1) = j) → nx (c + k) = e → pv e = c + k →
    Path nx pv c (List.range' (c + 1) k) e
  | 0, c, e, _, h1, h2 => by simpa [Path] using ⟨h1, h2⟩
  | k + 1, c, e, h, h1, h2 => by
    simp only [List.range'_succ, Path]
    refine ⟨(h c (Nat.le_refl _) (by omega)).1, (h c (Nat.le_refl _) (by omega)).2, ?_⟩
    apply path_succ nx pv k (c + 1) e
    · intro j hj1 hj2; exact h j (by omega) (by omega)
    · rw [← h1]; congr 1; omega
    · rw [h2]; omega

/-- what `newBlock` leaves outside the new block -/
structure NewFrame (s s' : State) (b : Nat) : Prop where
  nd : ∀ b', b' ≠ b → s'.nd.row b' = s.nd.row b'
  pd : ∀ b', b' ≠ b → s'.pd.row b' = s.pd.row b'
  usedData : ∀ b', b' ≠ b → s'.usedData.get b' = s.usedData.get b'
  hasUsed : ∀ b', b' ≠ b → s'.hasUsed.get b' = s.hasUsed.get b'
  freeData : ∀ b', b' ≠ b → s'.freeData.get b' = s.freeData.get b'
  hasFree : ∀ b', b' ≠ b → s'.hasFree.get b' = s.hasFree.get b'
  bnext : ∀ b', b' ≠ b → s'.bnext.get b' = s.bnext.get b'
  bprev : ∀ b', b' ≠ b → s'.bprev.get b' = s.bprev.get b'
  used : s'.used = s.used
  full : s'.full = s.full
  freeBlock : s'.freeBlock = s.freeBlock
  blockCount : s'.blockCount = s.blockCount
  nextId : s'.nextId = b + 1

theorem newBlock_rings (bs : Nat) (s : State) :
    (newBlock bs s).2 = s.nextId ∧
    Rings (newBlock bs s).1 s.nextId [] (0 :: List.range' 1 (bs - 1)) ∧
    NewFrame s (newBlock bs s).1 s.nextId := by
  have hframe : NewFrame s (newBlock bs s).1 s.nextId := by
    constructor
    · intro b' hb; funext x; simp [newBlock, Mem2.row, Mem2.get_set, initLinks_nd, hb]
    · intro b' hb; funext x; simp [newBlock, Mem2.row, Mem2.get_set, initLinks_pd, hb]
    all_goals (intros; simp [newBlock, Mem.get_set_ne, *])
  have hN : ∀ i, (newBlock bs s).1.nd.row s.nextId i =
      if i = bs - 1 then 0 else if i < bs - 1 then i + 1 else s.nd.get s.nextId i := by
    intro i; simp [newBlock, Mem2.row, Mem2.get_set, initLinks_nd]
  have hP : ∀ i, (newBlock bs s).1.pd.row s.nextId i =
      if i = 0 then bs - 1 else if i ≤ bs - 1 then i - 1 else s.pd.get s.nextId i := by
    intro i; simp only [newBlock, Mem2.row, Mem2.get_set, initLinks_pd, true_and]
    by_cases h0 : i = 0
    · simp [h0]
    · have : 0 < i := by omega
      simp [h0, this]
  refine ⟨rfl, ⟨?_, ?_, ?_⟩, hframe⟩
  · simp [RingOf, newBlock]
  · refine ⟨by simp [newBlock], by simp [newBlock], ?_, ?_⟩
    · rw [List.nodup_cons]
      exact ⟨by simp [List.mem_range'_1], List.nodup_range' (step := 1) (by omega)⟩
    · have := path_succ ((newBlock bs s).1.nd.row s.nextId) ((newBlock bs s).1.pd.row s.nextId) (bs - 1) 0 0
        (by intro j _ hj
            rw [hN, hP]
            have h1 : j ≠ bs - 1 := by omega
            have h2 : j < bs - 1 := by omega
            have h3 : j + 1 ≤ bs - 1 := by omega
            simp [h1, h2, h3])
        (by rw [hN]; simp)
        (by rw [hP]; simp)
      simpa using this
  · simp only [List.nil_append, List.nodup_cons]
    exact ⟨by simp [List.mem_range'_1], List.nodup_range' (step := 1) (by omega)⟩

end Morfuse.BlockAlloc
