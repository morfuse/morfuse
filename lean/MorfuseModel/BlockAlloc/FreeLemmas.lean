import MorfuseModel.BlockAlloc.StepLemmas
/-!
# `Free` preserves the invariant and removes exactly the freed slot
-/
namespace Morfuse.BlockAlloc
open Morfuse.Ring

structure FreeSpec (bs : Nat) (s : State) (p : Slot) (s' : State) : Prop where
  ok : Ok bs s'
  live : (liveOf bs s').Perm ((liveOf bs s).erase p)
  full : s.full.root = 0 → s'.full.root = 0

theorem FreeSpec.of {bs : Nat} {s s' : State} {A A' : Abs} {p : Slot} (h : Inv bs s A) (h' : Inv bs s' A')
    (hl : A'.live.Perm (A.live.erase p)) (hf : A.fullL = [] → A'.fullL = []) : FreeSpec bs s p s' :=
  ⟨⟨A', h'⟩, by rwa [liveOf_eq h, liveOf_eq h'], fun e => h'.full_root.2 (hf (h.full_root.1 e))⟩

theorem dropFreeBlock_frame (s : State) : ListFrame s (dropFreeBlock s) ∧
    (dropFreeBlock s).bnext = s.bnext ∧ (dropFreeBlock s).bprev = s.bprev ∧
    (dropFreeBlock s).used = s.used ∧ (dropFreeBlock s).full = s.full ∧
    (dropFreeBlock s).nextId = s.nextId ∧
    (dropFreeBlock s).blockCount = s.blockCount - (fbL s).length := by
  unfold dropFreeBlock fbL
  split
  · rename_i h
    simp only [ne_eq] at h
    exact ⟨⟨rfl, rfl, rfl, rfl, rfl, rfl⟩, rfl, rfl, rfl, rfl, rfl, by simp⟩
  · rename_i h
    simp only [ne_eq, Decidable.not_not] at h
    exact ⟨⟨rfl, rfl, rfl, rfl, rfl, rfl⟩, rfl, rfl, rfl, rfl, rfl, by simp [h]⟩

/-- `m_FreeBlock = block; block->has_used_data = false` on a block whose only used slot goes -/
theorem clearUsed_rings {s : State} {b i g : Nat} {F : List Nat} (h : Rings s b [i] F) :
    Rings { s with freeBlock := g, hasUsed := s.hasUsed.set b 0 } b [] F ∧
      OtherRings s { s with freeBlock := g, hasUsed := s.hasUsed.set b 0 } b := by
  refine ⟨⟨by simp [RingOf], h.free, ?_⟩, ?_⟩
  · have := h.nodup
    simp only [List.cons_append, List.nil_append, List.nodup_cons] at this
    simpa using this.2
  · intro c hc U F' hr
    refine ⟨?_, hr.free, hr.nodup⟩
    have : (s.hasUsed.set b 0).get c = s.hasUsed.get c := Mem.get_set_ne _ _ _ _ hc
    show RingOf _ _ _ ((s.hasUsed.set b 0).get c) U
    rw [this]; exact hr.used

/-- the conditional `SetRoot(block->next_block)` before `Remove(block)` changes nothing -/
theorem remove_setRoot_ite {nx pv : Mem} {l : LL} {S T : List Nat} {x : Nat}
    (h : DL nx.get pv.get l (S ++ x :: T)) (h0 : 0 ∉ S ++ x :: T) (hnd : (S ++ x :: T).Nodup) :
    Lnk.remove (if l.root = x then { nx := nx, pv := pv, l := { l with root := nx.get x } }
                else ⟨nx, pv, l⟩) x = Lnk.remove ⟨nx, pv, l⟩ x := by
  split
  · rename_i hr
    exact remove_after_setRoot hr (h.next_ne hnd h0 (by simp))
  · rfl

/-! ### path 1: the only used slot of its block -/

theorem free_only {bs : Nat} {s : State} {A : Abs} {b i : Nat} (h : Inv bs s A)
    (hp : (b, i) ∈ A.live) (hnx : s.nd.get b i = i) : FreeSpec bs s (b, i) (free bs s (b, i)) := by
  obtain ⟨hbL, hiU⟩ := mem_slotsOf.1 hp
  simp only at hbL hiU
  have hbmem := A.block_of_live s hbL
  have hok := h.ok b hbmem
  -- the used ring is `[i]`
  have hUb : A.U b = [i] := by
    cases hU : A.U b with
    | nil => rw [hU] at hiU; simp at hiU
    | cons a t =>
      have := hok.rings.used; rw [hU] at this
      obtain ⟨ht, hia⟩ := ring_alone this.2.2 (by rw [← hU]; exact hiU) hnx
      rw [ht, hia]
  have hbfull : b ∉ A.fullL := by
    intro hm
    have := hok.len
    rw [hUb, h.fullP b hm] at this
    have := h.bs2
    simp at *; omega
  have hbu : b ∈ A.usedL := (List.mem_append.1 hbL).resolve_left hbfull
  obtain ⟨S, T, hu⟩ := List.append_of_mem hbu
  obtain ⟨f, t', hF⟩ := List.exists_cons_of_ne_nil (h.usedP b hbu).2
  have m0 : Mid A s s b (S ++ b :: T) A.fullL [i] (f :: t') := by
    have := h.mid hbmem; rwa [hu, hUb, hF] at this
  have hiF : i ∉ [] ++ f :: t' := fun hm => hok.rings.disj i hiU (by rw [hF]; exact hm)
  suffices fin : ∀ r : State, Mid A s r b (S ++ T) A.fullL [] (f :: t' ++ [i]) → r.freeBlock = b →
      r.nextId = s.nextId → r.blockCount = s.blockCount - (fbL s).length → FreeSpec bs s (b, i) r by
    -- `Remove` from the used list, the cached block is dropped, `b` becomes the cached block, the free-ring push
    have m1 := m0.usedRemove
    obtain ⟨hl2, e1, e2, e3, e4, e5, e6⟩ := dropFreeBlock_frame (setUsedK s ((usedK s).remove b))
    have m2 := m1.step (m1.rings.listFrame hl2) (.ofList b hl2) e1 e2 e3 e4
    obtain ⟨hr3, ho3⟩ := clearUsed_rings (g := b) m2.rings
    have m3 := m2.step hr3 ho3 rfl rfl rfl rfl
    unfold free
    simp only [hnx, if_true]
    have hr4 := pushFree_rings m3.rings hiF
    have hs1 := Scalars.setUsedK s ((usedK s).remove b)
    exact fin _ (m3.block hr4) hr4.2.freeBlock (hr4.2.nextId.trans (e5.trans hs1.nextId))
      (hr4.2.blockCount.trans (e6.trans (by rw [fbL, fbL, hs1.freeBlock, hs1.blockCount])))
  intro r m hfb hni hbc
  have hfbr : fbL r = [b] := by simp [fbL, hfb, m0.off_used.2]
  refine .of h (h.rebuild m (Nat.le_of_eq hni.symm) (hni ▸ h.pos b hbmem) ?_ ?_
    (hok.of_perm m.rings (by rw [hUb, hF]; simpa using List.perm_append_singleton i (f :: t')))
    (.inr (.inr ⟨hfb, rfl⟩)) fun _ hne => absurd hfb hne) ?_ fun he => he
  · rw [hfbr]; simpa using m0.off_used.1
  · rw [hbc, h.cnt, hfbr]; simp [Abs.blocks, hu]; omega
  · apply slotsOf_leave (L := A.fullL ++ A.usedL) (b := b) (x := i)
    · rw [hu]
      simpa [List.append_assoc] using (List.perm_middle (a := b) (l₁ := A.fullL ++ S) (l₂ := T))
    · exact hUb
    · intro c hc
      have hcb : c ≠ b := fun e => m0.off_used.1 (e ▸ List.mem_append.2 (List.mem_append.1 hc).symm)
      simp [updL_ne _ _ _ _ hcb]

/-! ### path 2: other used slots remain.  After the used-ring unlink the block either already has free slots (2a) or was
full and moves to the used list (2b). -/

theorem free_rest {bs : Nat} {s : State} {A : Abs} {b i : Nat} (h : Inv bs s A)
    (hp : (b, i) ∈ A.live) (hnx : s.nd.get b i ≠ i) : FreeSpec bs s (b, i) (free bs s (b, i)) := by
  obtain ⟨hbL, hiU⟩ := mem_slotsOf.1 hp
  simp only at hbL hiU
  have hbmem := A.block_of_live s hbL
  have hok := h.ok b hbmem
  have hbl : b ∈ A.usedL ++ A.fullL := List.mem_append.2 (List.mem_append.1 hbL).symm
  obtain ⟨u, hr1, hperm, hfr1⟩ := unlinkUsed_rings hok.rings hiU hnx
  generalize hndef : s.nd.get b i = n at hr1 hperm hfr1 hnx
  have m1 := (h.mid hbmem).block ⟨hr1, hfr1⟩
  have hi_nu : i ∉ n :: u :=
    (List.nodup_cons.1 (hperm.nodup_iff.2 (List.nodup_append.1 hok.rings.nodup).1)).1
  have hlive : ∀ {uL fL : List Nat} {F' : Nat → List Nat}, (fL ++ uL).Perm (A.fullL ++ A.usedL) →
      ({ usedL := uL, fullL := fL, U := updL A.U b (n :: u), F := F' } : Abs).live.Perm (A.live.erase (b, i)) := by
    intro uL fL F' hl
    apply slotsOf_lose (L := A.fullL ++ A.usedL) (b := b) (x := i) hl h.nodup_fu hbL
    · simpa using hperm
    · intro c _ hcb; simp [updL_ne _ _ _ _ hcb]
  unfold free
  simp only [hndef, hnx, if_false]
  have hflag1 : (unlinkUsed s b i n).hasFree.get b = s.hasFree.get b := by simp [unlinkUsed]
  rw [hflag1]
  cases hF : A.F b with
  | cons f t' =>
    -- path 2a: the free-ring push
    rw [hF] at m1
    have hflag : s.hasFree.get b ≠ 0 := by have := hok.rings.free; rw [hF] at this; simp [this.1]
    have hiF : i ∉ (n :: u) ++ f :: t' := fun hm =>
      (List.mem_append.1 hm).elim hi_nu fun hm => hok.rings.disj i hiU (hF ▸ hm)
    have hr2 := pushFree_rings m1.rings hiF
    rw [if_pos hflag]
    have hbu : b ∈ A.usedL := (List.mem_append.1 hbl).resolve_right fun hm => by have := h.fullP b hm; simp [hF] at this
    refine .of h (h.rebuild_listed (m1.block hr2) hbl (hfr1.trans hr2.2).scalars (.refl _) ?_ (.inl ⟨hbu, by simp, by simp⟩))
      (hlive (.refl _)) fun he => he
    rw [hF]
    have : (n :: u ++ (f :: t' ++ [i])).Perm (i :: n :: u ++ f :: t') := by
      simpa using List.perm_append_singleton i (n :: u ++ f :: t')
    exact this.trans (hperm.append_right _)
  | nil =>
    -- path 2b: `Remove` from the full list, `AddFirst` to the used list, the first free slot
    rw [hF] at m1
    have hflag : s.hasFree.get b = 0 := by have := hok.rings.free; rwa [hF] at this
    have hbf : b ∈ A.fullL := (List.mem_append.1 hbl).resolve_left fun hm => (h.usedP b hm).2 hF
    obtain ⟨S, T, hfl⟩ := List.append_of_mem hbf
    rw [hfl] at m1
    have hite := remove_setRoot_ite m1.full (fun hm => m1.nz (List.mem_append_right _ hm)) (List.nodup_append.1 m1.nodup).2.1
    have m3 := m1.fullRemove.usedAddFirst m1.off_full.1 m1.off_full.2
    have hr4 := startFree_rings m3.rings hi_nu
    simp only [hflag, ne_eq, not_true_eq_false, if_false]
    simp only [fullK] at hite ⊢
    rw [hite]
    have hl : (b :: A.usedL ++ (S ++ T)).Perm (A.usedL ++ A.fullL) := by
      rw [hfl]
      simpa [List.append_assoc] using (List.perm_middle (a := b) (l₁ := A.usedL ++ S) (l₂ := T)).symm
    refine .of h (h.rebuild_listed (m3.block hr4) hbl
        (hfr1.scalars.trans (((Scalars.setFullK _ _).trans (Scalars.setUsedK _ _)).trans hr4.2.scalars)) hl ?_
        (.inl ⟨by simp, by simp, by simp⟩))
      (hlive ((List.perm_append_comm.trans hl).trans List.perm_append_comm)) fun he => by simp [hfl] at he
    rw [hF]
    simpa using (List.perm_append_singleton i (n :: u)).trans hperm

theorem free_spec {bs : Nat} {s : State} {p : Slot} (h : Ok bs s) (hp : p ∈ liveOf bs s) :
    FreeSpec bs s p (free bs s p) := by
  obtain ⟨A, h⟩ := h
  rw [liveOf_eq h] at hp
  obtain ⟨b, i⟩ := p
  by_cases hnx : s.nd.get b i = i
  · exact free_only h hp hnx
  · exact free_rest h hp hnx

end Morfuse.BlockAlloc
