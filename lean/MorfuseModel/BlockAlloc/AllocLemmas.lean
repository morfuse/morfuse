import MorfuseModel.BlockAlloc.StepLemmas
/-!
# `Alloc` preserves the invariant, returns a slot that is not live, and adds exactly that slot

Each of the four paths enters `Mid` on the block it takes the slot from, follows the statements of the code, and leaves
through `Inv.rebuild`.
-/
namespace Morfuse.BlockAlloc
open Morfuse.Ring

structure AllocSpec (bs : Nat) (s : State) (r : State × Slot) : Prop where
  ok : Ok bs r.1
  fresh : r.2 ∉ liveOf bs s
  live : (liveOf bs r.1).Perm (r.2 :: liveOf bs s)
  count : r.1.blockCount = s.blockCount + if s.used.root = 0 ∧ s.freeBlock = 0 then 1 else 0

theorem AllocSpec.of {bs : Nat} {s : State} {A A' : Abs} {r : State × Slot} (h : Inv bs s A) (h' : Inv bs r.1 A')
    (hf : r.2 ∉ A.live) (hl : A'.live.Perm (r.2 :: A.live))
    (hc : r.1.blockCount = s.blockCount + if s.used.root = 0 ∧ s.freeBlock = 0 then 1 else 0) : AllocSpec bs s r :=
  ⟨⟨A', h'⟩, by rwa [liveOf_eq h], by rwa [liveOf_eq h, liveOf_eq h'], hc⟩

theorem Inv.used_head {bs s A} {b : Nat} {rest : List Nat} (h : Inv bs s A) (hu : A.usedL = b :: rest) :
    b ∈ A.usedL ∧ b ∈ A.blocks s ∧ s.used.root = b ∧ b ≠ 0 := by
  have hbu : b ∈ A.usedL := by rw [hu]; simp
  exact ⟨hbu, A.blocks_used s b hbu, by rw [h.usedDL.root, hu]; rfl, fun e => h.zero_notin (e ▸ A.blocks_used s b hbu)⟩

theorem Inv.free_head {bs s A} {b fd : Nat} {F' : List Nat} (h : Inv bs s A) (hb : b ∈ A.blocks s)
    (hF : A.F b = fd :: F') : s.freeData.get b = fd ∧ s.nd.get b fd = F'.headD fd ∧ fd ∉ A.U b := by
  have hr := (h.ok b hb).rings
  have hfree := hr.free
  rw [hF] at hfree
  refine ⟨hfree.2.1, ?_, fun hm => hr.disj fd hm (by rw [hF]; simp)⟩
  cases F' with
  | nil => exact (ring_single_iff.1 hfree.2.2).1
  | cons m u => exact hfree.2.2.2.1

/-! ### path 1b: the first used block still has more than one free slot -/

theorem alloc_more {bs : Nat} {s : State} {A : Abs} {b fd m : Nat} {rest u : List Nat}
    (h : Inv bs s A) (hu : A.usedL = b :: rest) (hF : A.F b = fd :: m :: u) : AllocSpec bs s (alloc bs s) := by
  obtain ⟨hbu, hbmem, hroot, hb0⟩ := h.used_head hu
  obtain ⟨hhd, hnx, hfdU⟩ := h.free_head hbmem hF
  have m0 := h.mid hbmem
  rw [hF] at m0
  have hmfd : m ≠ fd := fun e => by have := m0.rings.free.2.2.1; simp [e] at this
  have halloc : alloc bs s = allocTail s b fd m := by
    unfold alloc; simp [hroot, hb0, hhd, hnx, hmfd]
  obtain ⟨hp, hr⟩ := allocTail_rings m0.rings
  rw [halloc]
  refine .of h (h.rebuild_listed (m0.block hr) (List.mem_append_left _ hbu) hr.2.scalars (.refl _) (by rw [hF]; simp)
    (.inl ⟨hbu, by simp, by simp⟩)) ?_ ?_ (by simp [hr.2.blockCount, hroot, hb0])
  · rw [hp]; exact fun hm => hfdU (mem_slotsOf.1 hm).2
  · rw [hp]
    apply slotsOf_gain (List.Perm.refl _) h.nodup_fu (by simp [hbu])
    · simp
    · intro c _ hcb; simp [updL_ne _ _ _ _ hcb]

/-! ### path 1a: the first used block has exactly one free slot left; it moves to the full list -/

theorem clearFree_rings {s : State} {b fd : Nat} {U : List Nat} (h : Rings s b U [fd]) :
    Rings { s with hasFree := s.hasFree.set b 0 } b U [] ∧
      BlockFrame s { s with hasFree := s.hasFree.set b 0 } b := by
  refine ⟨⟨h.used, by simp [RingOf], ?_⟩, ?_⟩
  · have := h.nodup
    rw [List.nodup_append] at this
    simpa using this.1
  · constructor <;> intros <;> simp_all [Mem.get_set_ne]

theorem alloc_last {bs : Nat} {s : State} {A : Abs} {b fd : Nat} {rest : List Nat}
    (h : Inv bs s A) (hu : A.usedL = b :: rest) (hF : A.F b = [fd]) : AllocSpec bs s (alloc bs s) := by
  obtain ⟨hbu, hbmem, hroot, hb0⟩ := h.used_head hu
  obtain ⟨hhd, hnx, hfdU⟩ := h.free_head hbmem hF
  obtain ⟨a, t, hUb⟩ := List.exists_cons_of_ne_nil (h.usedP b hbu).1
  have m0 : Mid A s s b ([] ++ b :: rest) A.fullL (a :: t) [fd] := by
    have := h.mid hbmem; rwa [hu, hUb, hF] at this
  have hnext : s.bnext.get b ≠ b :=
    m0.used.next_ne (List.nodup_append.1 m0.nodup).1 (fun hm => m0.nz (List.mem_append_left _ hm)) (by simp)
  suffices fin : ∀ r : State × Slot, r.2 = (b, fd) → Mid A s r.1 b rest (b :: A.fullL) (a :: t ++ [fd]) [] →
      Scalars s r.1 → AllocSpec bs s r by
    -- `Remove` from the used list, `AddFirst` to the full list, `has_free_data = false`, `TakeFree`
    have m2 := m0.usedRemove.fullAddFirst m0.off_used.1 hb0
    have hr3 := clearFree_rings m2.rings
    have m3 := m2.block hr3
    obtain ⟨hp, hr4⟩ := takeFree_rings m3.rings (by simpa [hUb] using hfdU)
    unfold alloc
    simp only [hroot, ne_eq, hb0, not_false_eq_true, if_true, hhd, hnx, List.headD_nil]
    rw [show ({ usedK s with l := { s.used with root := s.bnext.get b } } : Lnk).remove b = (usedK s).remove b from
      remove_after_setRoot hroot hnext]
    exact fin _ hp (m3.block hr4)
      (((Scalars.setUsedK _ _).trans (Scalars.setFullK _ _)).trans (hr3.2.scalars.trans hr4.2.scalars))
  intro r hp m sc
  have hl : (rest ++ b :: A.fullL).Perm (A.usedL ++ A.fullL) := by rw [hu]; exact List.perm_middle
  refine .of h (h.rebuild_listed m (List.mem_append_left _ hbu) sc hl (by rw [hUb, hF]; simp) (.inr ⟨by simp, rfl⟩))
    ?_ ?_ (by simp [sc.blockCount, hroot, hb0])
  · rw [hp]; exact fun hm => hfdU (mem_slotsOf.1 hm).2
  · rw [hp]
    apply slotsOf_gain ((List.perm_append_comm.trans hl).trans List.perm_append_comm) h.nodup_fu (by simp [hbu])
    · simpa [hUb] using List.perm_append_singleton fd (a :: t)
    · intro c _ hcb; simp [updL_ne _ _ _ _ hcb]

theorem live_join {A : Abs} {b x : Nat} (F' : List Nat) (hu : A.usedL = []) (hb : b ∉ A.fullL) :
    (b, x) ∉ A.live ∧
      ({ usedL := [b], fullL := A.fullL, U := updL A.U b [x], F := updL A.F b F' } : Abs).live.Perm ((b, x) :: A.live) := by
  refine ⟨fun hm => hb (by simpa [hu] using (mem_slotsOf.1 hm).1), ?_⟩
  apply slotsOf_join (L := A.fullL ++ A.usedL) (b := b) (x := x)
  · simp only [hu, List.append_nil]
    exact List.perm_append_singleton b A.fullL
  · simp
  · intro c hc
    have hcb : c ≠ b := fun e => hb (by simpa [hu, e] using hc)
    simp [updL_ne _ _ _ _ hcb]

/-! ### path 2: no used block, the cached free block is taken -/

theorem alloc_cached {bs : Nat} {s : State} {A : Abs} {g : Nat}
    (h : Inv bs s A) (hu : A.usedL = []) (hg : s.freeBlock = g) (hg0 : g ≠ 0) : AllocSpec bs s (alloc bs s) := by
  have hfne : s.freeBlock ≠ 0 := by rw [hg]; exact hg0
  have hgmem : g ∈ A.blocks s := List.mem_append_right _ (mem_fbL.2 ⟨hfne, hg.symm⟩)
  have hok := h.ok g hgmem
  have hroot : s.used.root = 0 := by rw [h.usedDL.root, hu]; rfl
  have hUg : A.U g = [] := hg ▸ h.freeP hfne
  obtain ⟨fd, m, u, hF⟩ : ∃ fd m u, A.F g = fd :: m :: u := by
    apply two_le_length
    have := hok.len; rw [hUg] at this; simp at this; rw [this]; exact h.bs2
  obtain ⟨hhd, hnx, _⟩ := h.free_head hgmem hF
  have hgfull : g ∉ A.fullL := fun hm => h.listed_ne_free (List.mem_append_right _ hm) hfne hg
  suffices fin : ∀ r : State × Slot, r.2 = (g, fd) → Mid A s r.1 g [g] A.fullL [fd] (m :: u) → r.1.freeBlock = 0 →
      r.1.blockCount = s.blockCount → r.1.nextId = s.nextId → AllocSpec bs s r by
    have m0 : Mid A s { s with freeBlock := 0 } g [] A.fullL [] (fd :: m :: u) := by
      have := (h.mid hgmem).step (t' := { s with freeBlock := 0 }) (h.mid hgmem).rings (fun _ _ _ _ hr => hr) rfl rfl rfl rfl
      rwa [hu, hUg, hF] at this
    have m1 := m0.usedAddFirst (by simpa using hgfull) hg0
    obtain ⟨hp, hr⟩ := allocTail_rings m1.rings
    unfold alloc
    rw [if_neg (fun hn => hn hroot), if_pos hfne]
    simp only [hg, hhd, hnx]
    have hs := (Scalars.setUsedK _ _).trans hr.2.scalars
    exact fin _ hp (m1.block hr) hs.freeBlock hs.blockCount hs.nextId
  intro r hp mid hfb hbc hni
  obtain ⟨hfresh, hlive⟩ := live_join (x := fd) (m :: u) hu hgfull
  refine .of h ?_ (hp ▸ hfresh) (hp ▸ hlive) (by simp [hbc, hfne])
  refine h.rebuild mid (Nat.le_of_eq hni.symm) (hni ▸ h.pos g hgmem) (by simp [fbL, hfb]) ?_
    (hok.of_perm mid.rings (by rw [hUg, hF]; simp)) (.inl ⟨by simp, by simp, by simp⟩)
    fun hf => absurd hfb hf
  rw [hbc, h.cnt]; simp [Abs.blocks, fbL, hu, hfb, hg, hg0]

/-! ### path 3: no used block, no cached block: a new block is constructed -/

theorem alloc_new {bs : Nat} {s : State} {A : Abs}
    (h : Inv bs s A) (hu : A.usedL = []) (hfb0 : s.freeBlock = 0) : AllocSpec bs s (alloc bs s) := by
  have hroot : s.used.root = 0 := by rw [h.usedDL.root, hu]; rfl
  have hblk : A.blocks s = A.fullL := by simp [Abs.blocks, fbL, hu, hfb0]
  obtain ⟨b, hbdef⟩ : ∃ b, s.nextId = b := ⟨_, rfl⟩
  have hbfull : b ∉ A.fullL := fun hm => Nat.lt_irrefl b (hbdef ▸ (h.pos b (hblk ▸ hm)).2)
  have hbpos : 0 < b := by rw [← hbdef]; exact h.idpos
  generalize hs0def : ({ s with blockCount := s.blockCount + 1 } : State) = s0
  have hl0 : ListFrame s s0 := by subst hs0def; exact ⟨rfl, rfl, rfl, rfl, rfl, rfl⟩
  have hid0 : s0.nextId = s.nextId := by subst hs0def; rfl
  obtain ⟨hb, hr1, hn1⟩ := newBlock_rings bs s0
  rw [hid0, hbdef] at hb hr1 hn1
  generalize hs1def : (newBlock bs s0).1 = s1 at hr1 hn1
  have hrange : List.range' 1 (bs - 1) = 1 :: List.range' 2 (bs - 2) := by
    have : bs - 1 = (bs - 2) + 1 := by have := h.bs2; omega
    rw [this, List.range'_succ]
  suffices fin : ∀ r : State × Slot, r.2 = (b, 0) → Mid A s r.1 b [b] A.fullL [0] (1 :: List.range' 2 (bs - 2)) →
      r.1.freeBlock = 0 → r.1.blockCount = s.blockCount + 1 → r.1.nextId = b + 1 → AllocSpec bs s r by
    -- nothing is linked to the new block: the full list does not see it
    have hDLu1 : DL s1.bnext.get s1.bprev.get s1.used [] := .nil (by rw [hn1.used]; subst hs0def; exact hroot)
    have hDLf1 : DL s1.bnext.get s1.bprev.get s1.full A.fullL := by
      rw [hn1.full]
      have : DL s0.bnext.get s0.bprev.get s0.full A.fullL := by subst hs0def; exact h.fullDL
      exact this.congr fun y hy => ⟨hn1.bnext y fun e => hbfull (e ▸ hy), hn1.bprev y fun e => hbfull (e ▸ hy)⟩
    have m1 : Mid A s s1 b [] A.fullL [] (0 :: 1 :: List.range' 2 (bs - 2)) :=
      ⟨hDLu1, hDLf1, hrange ▸ hr1, (OtherRings.ofList b hl0).trans (OtherRings.ofNew hn1), hblk ▸ h.nodup,
        hblk ▸ h.zero_notin, fun _ hc => (nomatch hc), fun _ hc _ => hc⟩
    have m2 := m1.usedAddFirst (by simpa using hbfull) (Nat.pos_iff_ne_zero.1 hbpos)
    obtain ⟨hp, hr⟩ := allocTail_rings m2.rings
    unfold alloc
    rw [if_neg (fun hn => hn hroot), if_neg (fun hn => hn hfb0)]
    dsimp only
    rw [hs0def, hb, hs1def]
    have hs := (Scalars.setUsedK _ _).trans hr.2.scalars
    refine fin _ hp (m2.block hr) (hs.freeBlock.trans (hn1.freeBlock.trans ?_))
      (hs.blockCount.trans (hn1.blockCount.trans ?_)) (hs.nextId.trans hn1.nextId)
    · subst hs0def; exact hfb0
    · subst hs0def; rfl
  intro r hp mid hfb hbc hni
  have hbs := h.bs2
  obtain ⟨hfresh, hlive⟩ := live_join (x := 0) (1 :: List.range' 2 (bs - 2)) hu hbfull
  refine .of h ?_ (hp ▸ hfresh) (hp ▸ hlive) (by simp [hbc, hroot, hfb0])
  refine h.rebuild mid (by rw [hni, hbdef]; exact Nat.le_succ _) ⟨hbpos, by rw [hni]; exact Nat.lt_succ_self _⟩
    (by simp [fbL, hfb]) (by rw [hbc, h.cnt, hblk]; simp [fbL, hfb])
    ⟨mid.rings, fun x hx => by simp [List.mem_range'_1] at hx; omega, by simp; omega⟩ (.inl ⟨by simp, by simp, by simp⟩)
    fun hf => absurd hfb hf

theorem alloc_spec {bs : Nat} {s : State} (h : Ok bs s) : AllocSpec bs s (alloc bs s) := by
  obtain ⟨A, h⟩ := h
  cases hu : A.usedL with
  | nil =>
    by_cases hf : s.freeBlock = 0
    · exact alloc_new h hu hf
    · exact alloc_cached h hu rfl hf
  | cons b rest =>
    obtain ⟨fd, F', hFb⟩ := List.exists_cons_of_ne_nil (h.usedP b (by rw [hu]; simp)).2
    cases F' with
    | nil => exact alloc_last h hu hFb
    | cons m u => exact alloc_more h hu hFb

end Morfuse.BlockAlloc
