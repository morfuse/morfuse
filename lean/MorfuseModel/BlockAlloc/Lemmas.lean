import MorfuseModel.BlockAlloc.AllocLemmas
import MorfuseModel.BlockAlloc.FreeLemmas
import MorfuseModel.Common.Lists
/-!
# `FreeAll`, reachability, and the counting facts used by the property theorems
-/
namespace Morfuse.BlockAlloc

theorem init_inv {bs : Nat} (hbs : 2 ≤ bs) : Inv bs init ⟨[], [], fun _ => [], fun _ => []⟩ := by
  refine ⟨hbs, by simp [init], .nil rfl, .nil rfl, ?_, ?_, ?_, ?_, ?_, ?_, ?_⟩ <;>
    simp [Abs.blocks, fbL, init]

/-! ### freeing a list of distinct live slots (what a destructor cascade does) -/

theorem foldl_free_spec {bs : Nat} : ∀ (kids : List Slot) (s : State), Ok bs s →
    kids.Nodup → (∀ q ∈ kids, q ∈ liveOf bs s) →
    Ok bs (kids.foldl (free bs) s) ∧ (kids ++ liveOf bs (kids.foldl (free bs) s)).Perm (liveOf bs s) ∧
      (s.full.root = 0 → (kids.foldl (free bs) s).full.root = 0)
  | [], _, h, _, _ => ⟨h, .refl _, id⟩
  | q :: ks, s, h, hnd, hsub => by
    have h1 := free_spec h (hsub q (by simp))
    have hks : ∀ k ∈ ks, k ∈ liveOf bs (free bs s q) := fun k hk =>
      h1.live.mem_iff.2 ((List.mem_erase_of_ne fun (e : k = q) => (List.nodup_cons.1 hnd).1 (e ▸ hk)).2
        (hsub k (List.mem_cons_of_mem _ hk)))
    obtain ⟨h2, hp2, hf2⟩ := foldl_free_spec ks (free bs s q) h1.ok (List.nodup_cons.1 hnd).2 hks
    exact ⟨h2, ((hp2.trans h1.live).cons q).trans (List.perm_cons_erase (hsub q (by simp))).symm,
      fun he => hf2 (h1.full he)⟩

/-- one loop of `FreeAll`; `sel` reads the root of either block list -/
theorem drain_spec {bs : Nat} {dtor : State → Slot → List Slot} (hd : DtorOk bs dtor)
    {sel : State → Nat} (hsel : ∀ s, sel s = s.full.root ∨ sel s = s.used.root) :
    ∀ (fuel : Nat) (s : State) (acc : List Slot), Ok bs s → (liveOf bs s).length ≤ fuel →
      ∃ s' d, drain bs dtor sel fuel s acc = some (s', acc ++ d) ∧ Ok bs s' ∧
        (d ++ liveOf bs s').Perm (liveOf bs s) ∧ sel s' = 0 ∧ (s.full.root = 0 → s'.full.root = 0) := by
  intro fuel
  induction fuel with
  | zero =>
    intro s acc h hlen
    have hs : sel s = 0 := Classical.byContradiction fun hne => by
      have := (h.root_live (hsel s) hne).2
      rw [List.eq_nil_of_length_eq_zero (Nat.le_zero.1 hlen)] at this
      cases this
    exact ⟨s, [], by simp [drain, hs], h, by simp, hs, id⟩
  | succ f ih =>
    intro s acc h hlen
    by_cases hs : sel s = 0
    · exact ⟨s, [], by simp [drain, hs], h, by simp, hs, id⟩
    · -- the root block and its used head, then the destructor's cascade
      obtain ⟨hflag, hpl⟩ := h.root_live (hsel s) hs
      generalize hpdef : (sel s, s.usedData.get (sel s)) = p at hpl
      obtain ⟨hknd, hpk, hksub⟩ := hd s p hpl
      obtain ⟨h1, hp1, hf1⟩ := foldl_free_spec (dtor s p) s h hknd hksub
      have hp_in1 : p ∈ liveOf bs ((dtor s p).foldl (free bs) s) :=
        (List.mem_append.1 (hp1.mem_iff.2 hpl)).resolve_left hpk
      have h2 := free_spec h1 hp_in1
      have hlen2 : (liveOf bs (free bs ((dtor s p).foldl (free bs) s) p)).length ≤ f := by
        have := hp1.length_eq
        rw [List.length_append] at this
        rw [h2.live.length_eq, List.length_erase_of_mem hp_in1]
        have : 0 < (liveOf bs ((dtor s p).foldl (free bs) s)).length := List.length_pos_of_mem hp_in1
        omega
      obtain ⟨s', d', hdr, hok, hperm, hsel', hfull⟩ := ih _ (acc ++ dtor s p ++ [p]) h2.ok hlen2
      refine ⟨s', dtor s p ++ [p] ++ d', ?_, hok, ?_, hsel', fun he => hfull (h2.full (hf1 he))⟩
      · simp only [drain, hs, if_false, hflag, hpdef]
        rw [hdr]; simp
      · -- kids ++ [p] ++ d' ++ live' ~ kids ++ (p :: live1.erase p) ~ kids ++ live1 ~ live
        have e1 : (p :: (d' ++ liveOf bs s')).Perm (liveOf bs ((dtor s p).foldl (free bs) s)) :=
          ((hperm.trans h2.live).cons _).trans (List.perm_cons_erase hp_in1).symm
        simpa using (e1.append_left _).trans hp1

theorem liveList_zero (bs : Nat) (s : State) : liveList bs s 0 = [] := by
  unfold liveList; cases s.blockCount <;> simp [listWalk]

theorem dropFreeBlock_ok {bs : Nat} {s : State} (h : Ok bs s) (hu : s.used.root = 0) (hf : s.full.root = 0) :
    Ok bs (dropFreeBlock s) ∧ (dropFreeBlock s).blockCount = 0 := by
  obtain ⟨A, h⟩ := h
  have hu := h.used_root.1 hu
  have hf := h.full_root.1 hf
  obtain ⟨_, e1, e2, e3, e4, e5, e6⟩ := dropFreeBlock_frame s
  have hfb : (dropFreeBlock s).freeBlock = 0 := by
    unfold dropFreeBlock; split
    · rfl
    · rename_i hn; simpa using hn
  have hbl : A.blocks (dropFreeBlock s) = [] := by simp [Abs.blocks, fbL, hu, hf, hfb]
  have hcnt : (dropFreeBlock s).blockCount = 0 := by
    rw [e6, h.cnt]; simp [Abs.blocks, hu, hf]
  exact ⟨⟨A, h.bs2, by rw [e5]; exact h.idpos, by rw [e1, e2, e3]; exact h.usedDL,
    by rw [e1, e2, e4]; exact h.fullDL, by rw [hbl]; simp, by rw [hbl]; simp, by rw [hbl, hcnt]; rfl,
    by rw [hbl]; simp, h.usedP, h.fullP, fun hne => absurd hfb hne⟩, hcnt⟩

theorem freeAll_spec {bs : Nat} {dtor : State → Slot → List Slot} (hd : DtorOk bs dtor) {s : State} (h : Ok bs s) :
    ∃ s' d, freeAll bs dtor s = some (s', d) ∧ Ok bs s' ∧ d.Perm (liveOf bs s) ∧ liveOf bs s' = [] ∧
      s'.blockCount = 0 := by
  have hn := count_eq_length bs s
  obtain ⟨s1, d1, hdr1, h1, hp1, hsel1, _⟩ :=
    drain_spec hd (sel := fun s => s.full.root) (fun _ => .inl rfl) (count bs s) s [] h (Nat.le_of_eq hn.symm)
  have hlen1 : (liveOf bs s1).length ≤ count bs s := by
    rw [hn, ← hp1.length_eq, List.length_append]; omega
  obtain ⟨s2, d2, hdr2, h2, hp2, hsel2, hfull2⟩ :=
    drain_spec hd (sel := fun s => s.used.root) (fun _ => .inr rfl) (count bs s) s1 ([] ++ d1) h1 hlen1
  obtain ⟨h3, hcnt⟩ := dropFreeBlock_ok h2 hsel2 (hfull2 hsel1)
  have hlive : liveOf bs s2 = [] := by
    simp only [liveOf, show s2.used.root = 0 from hsel2, show s2.full.root = 0 from hfull2 hsel1, liveList_zero]; rfl
  refine ⟨dropFreeBlock s2, d1 ++ d2, ?_, h3, ?_, ?_, hcnt⟩
  · simp only [freeAll, hdr1, Option.bind_some, hdr2]
    simp
  · rw [hlive] at hp2
    have : d2.Perm (liveOf bs s1) := by simpa using hp2
    exact (this.append_left d1).trans hp1
  · have e := dropFreeBlock_frame s2
    simp only [liveOf, e.2.2.2.1, e.2.2.2.2.1, show s2.used.root = 0 from hsel2,
      show s2.full.root = 0 from hfull2 hsel1, liveList_zero]; rfl

def Op.isAlloc {bs : Nat} : Op bs → Bool
  | .alloc => true
  | _ => false
def Op.isFree {bs : Nat} : Op bs → Bool
  | .free _ => true
  | _ => false
def Op.isFreeAll {bs : Nat} : Op bs → Bool
  | .freeAll _ => true
  | _ => false

def allocs {bs : Nat} (ops : List (Op bs)) : Nat := ops.countP Op.isAlloc
def frees {bs : Nat} (ops : List (Op bs)) : Nat := ops.countP Op.isFree

theorem step_ok {bs : Nat} {s s' : State} (h : Ok bs s) (op : Op bs) (hs : step bs s op = some s') :
    Ok bs s' ∧ (op.isFreeAll = false → count bs s' + frees [op] = count bs s + allocs [op]) := by
  cases op with
  | alloc =>
    simp only [step, Option.some.injEq] at hs
    subst hs
    have ha := alloc_spec h
    exact ⟨ha.ok, fun _ => by simp [count_eq_length, ha.live.length_eq, frees, allocs, Op.isFree, Op.isAlloc]⟩
  | free p =>
    simp only [step] at hs
    split at hs
    · rename_i hp
      simp only [Option.some.injEq] at hs
      subst hs
      have hf := free_spec h hp
      refine ⟨hf.ok, fun _ => ?_⟩
      have : 0 < (liveOf bs s).length := List.length_pos_of_mem hp
      simp [count_eq_length, hf.live.length_eq, List.length_erase_of_mem hp, frees, allocs, Op.isFree, Op.isAlloc]
      omega
    · cases hs
  | freeAll d =>
    simp only [step] at hs
    obtain ⟨s1, dd, hfa, hok, _⟩ := freeAll_spec d.ok h
    rw [hfa] at hs
    simp only [Option.map_some, Option.some.injEq] at hs
    exact ⟨hs ▸ hok, fun hn => by simp [Op.isFreeAll] at hn⟩

theorem reachable_inv {bs : Nat} (hbs : 2 ≤ bs) {s : State} (h : Reachable bs s) : Ok bs s := by
  obtain ⟨ops, hr⟩ := h
  exact run_invariant (I := Ok bs) (fun _ => rfl) (fun _ _ _ => rfl) (fun h hs => (step_ok h _ hs).1) ops
    ⟨_, init_inv hbs⟩ hr

theorem run_append {bs : Nat} : ∀ (ops1 ops2 : List (Op bs)) (s : State),
    run bs s (ops1 ++ ops2) = (run bs s ops1).bind (run bs · ops2) :=
  Morfuse.run_append (fun _ => rfl) (fun _ _ _ => rfl)

theorem Reachable.step {bs : Nat} {s s' : State} (h : Reachable bs s) (op : Op bs)
    (hs : step bs s op = some s') : Reachable bs s' := by
  obtain ⟨ops, hr⟩ := h
  exact ⟨ops ++ [op], by simp [run_append, hr, run, hs]⟩

theorem run_count {bs : Nat} : ∀ (ops : List (Op bs)) (s s' : State), Ok bs s →
    run bs s ops = some s' → (∀ op ∈ ops, op.isFreeAll = false) →
    count bs s' + frees ops = count bs s + allocs ops
  | [], s, s', _, hr, _ => by
    simp only [run, Option.some.injEq] at hr; subst hr; simp [frees, allocs]
  | op :: ops, s, s', h, hr, hno => by
    simp only [run] at hr
    obtain ⟨s1, hst, hr⟩ := Option.bind_eq_some_iff.1 hr
    obtain ⟨h1, hc⟩ := step_ok h op hst
    have ih := run_count ops s1 s' h1 hr fun o ho => hno o (List.mem_cons_of_mem _ ho)
    have := hc (hno op (by simp))
    simp only [frees, allocs, List.countP_cons, List.countP_nil] at *
    omega

end Morfuse.BlockAlloc
