/-!
# Facts about lists and iterated partial steps that several models use
-/
namespace Morfuse

/-- `run` is any function with the two equations of "iterate a partial step over a list of operations"; the models
    define theirs by exactly these, so both hold by `rfl`. -/
theorem run_invariant {σ ο : Type} {run : σ → List ο → Option σ} {step : σ → ο → Option σ}
    (nil : ∀ s, run s [] = some s) (cons : ∀ s op ops, run s (op :: ops) = (step s op).bind (run · ops))
    {I : σ → Prop} (hs : ∀ {s op s'}, I s → step s op = some s' → I s') :
    ∀ (ops : List ο) {s s' : σ}, I s → run s ops = some s' → I s'
  | [], s, s', h, hr => by rw [nil] at hr; cases hr; exact h
  | op :: ops, s, s', h, hr => by
    rw [cons] at hr
    obtain ⟨s1, h1, hr⟩ := Option.bind_eq_some_iff.1 hr
    exact run_invariant nil cons hs ops (hs h h1) hr

theorem run_append {σ ο : Type} {run : σ → List ο → Option σ} {step : σ → ο → Option σ}
    (nil : ∀ s, run s [] = some s) (cons : ∀ s op ops, run s (op :: ops) = (step s op).bind (run · ops)) :
    ∀ (ops1 ops2 : List ο) (s : σ), run s (ops1 ++ ops2) = (run s ops1).bind (run · ops2)
  | [], _, s => by rw [nil]; rfl
  | op :: ops1, ops2, s => by
    rw [List.cons_append, cons, cons, Option.bind_assoc]
    exact congrArg _ (funext (run_append nil cons ops1 ops2))

theorem sched_invariant {σ ι : Type} {run : σ → List ι → σ} {step : σ → ι → Option σ}
    (cons : ∀ s i is, run s (i :: is) = run ((step s i).getD s) is) (nil : ∀ s, run s [] = s)
    {I : σ → Prop} (hs : ∀ {s i s'}, I s → step s i = some s' → I s') {s : σ} (h : I s) :
    ∀ sched, I (run s sched)
  | [] => by rw [nil]; exact h
  | i :: is => by
    rw [cons]
    cases hi : step s i with
    | none => exact sched_invariant cons nil hs h is
    | some s' => exact sched_invariant cons nil hs (hs h hi) is

theorem nodup_map_inj {α β : Type} {f : α → β} {l : List α} (h : (l.map f).Nodup) {a b : α}
    (ha : a ∈ l) (hb : b ∈ l) (e : f a = f b) : a = b :=
  have hp : l.Pairwise (fun a b => f a ≠ f b) := List.pairwise_map.1 h
  List.Pairwise.forall_of_forall_of_flip (R := fun a b => f a = f b → a = b) (fun _ _ _ => rfl)
    (hp.imp fun hne e => absurd e hne) (hp.imp fun hne e => absurd e.symm hne) ha hb e

theorem get_set_cases {α : Type} {l : List α} {i j : Nat} {a u : α} (hi : i < l.length)
    (h : (l.set i a)[j]? = some u) : (j = i ∧ u = a) ∨ (j ≠ i ∧ l[j]? = some u) := by
  by_cases hij : i = j
  · subst hij
    rw [List.getElem?_set_self hi] at h
    exact Or.inl ⟨rfl, (Option.some.inj h).symm⟩
  · rw [List.getElem?_set_ne hij] at h
    exact Or.inr ⟨fun e => hij e.symm, h⟩

theorem map_eraseIdx {α β : Type} (f : α → β) : ∀ (l : List α) (k : Nat), (l.eraseIdx k).map f = (l.map f).eraseIdx k
  | [], _ => rfl
  | _ :: _, 0 => rfl
  | a :: l, k + 1 => congrArg (f a :: ·) (map_eraseIdx f l k)

theorem ne_of_mem_eraseIdx {α : Type} {l : List α} (hnd : l.Nodup) {k : Nat} {h x : α} (hk : l[k]? = some h)
    (hx : x ∈ l.eraseIdx k) : x ≠ h := by
  obtain ⟨j, hjk, hj⟩ := List.mem_eraseIdx_iff_getElem?.1 hx
  rintro rfl
  exact hjk ((List.getElem?_inj (List.getElem?_eq_some_iff.mp hj).1 hnd).1 (hj.trans hk.symm))

end Morfuse
