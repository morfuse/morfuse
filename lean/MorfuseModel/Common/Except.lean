/-!
# `Except`: what the proofs about fault-returning models share
-/
namespace Morfuse

@[simp] theorem Except.ok_bind {ε β γ : Type} (a : β) (f : β → Except ε γ) : (Except.ok a >>= f) = f a := rfl
@[simp] theorem Except.error_bind {ε β γ : Type} (e : ε) (f : β → Except ε γ) :
    ((Except.error e : Except ε β) >>= f) = .error e := rfl

theorem bind_eq_ok {ε β γ : Type} {x : Except ε β} {f : β → Except ε γ} {c : γ} (h : (x >>= f) = .ok c) :
    ∃ a, x = .ok a ∧ f a = .ok c := by
  cases x with
  | error e => cases h
  | ok a => exact ⟨a, rfl, h⟩

theorem Except.guarded {ε β : Type} {x : Except ε β} {G : Prop} {Q : β → Prop}
    (h : (G ∧ ∃ e, x = .error e) ∨ (¬ G ∧ ∃ a, x = .ok a ∧ Q a)) :
    ((∃ e, x = .error e) ↔ G) ∧ ∀ a, x = .ok a → Q a := by
  rcases h with ⟨g, e, rfl⟩ | ⟨g, a, rfl, q⟩
  · exact ⟨⟨fun _ => g, fun _ => ⟨e, rfl⟩⟩, fun _ h => (nomatch h)⟩
  · exact ⟨⟨fun ⟨_, h⟩ => (nomatch h), fun h => absurd h g⟩, fun _ h => Except.ok.inj h ▸ q⟩

end Morfuse
