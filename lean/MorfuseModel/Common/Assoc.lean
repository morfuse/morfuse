/-!
# Association lists read as partial functions

The models' tables are lists of pairs looked up with `(l.find? (·.1 == k)).map (·.2)` and updated in three ways: the
entries of one key are rewritten (`map`), entries are dropped by key (`filter`), entries are added at the end (`++`).
What each does to the look-up, first for the entry found (`find?_*`), then for its value (`find_*`).
-/
namespace Morfuse.Assoc
variable {κ β γ : Type} [BEq κ]

theorem find_append (l m : List (κ × β)) (u : κ) :
    ((l ++ m).find? (·.1 == u)).map (·.2) = ((l.find? (·.1 == u)).map (·.2)).or ((m.find? (·.1 == u)).map (·.2)) := by
  rw [List.find?_append]
  cases l.find? (·.1 == u) <;> rfl

theorem find?_map_keep {f : κ × β → κ × γ} (hf : ∀ e, (f e).1 = e.1) (l : List (κ × β)) (u : κ) :
    (l.map f).find? (·.1 == u) = (l.find? (·.1 == u)).map f := by
  have : ((·.1 == u) ∘ f) = (·.1 == u) := funext fun e => by simp only [Function.comp_def, hf]
  rw [List.find?_map, this]

theorem find_map_keep {f : κ × β → κ × γ} (hf : ∀ e, (f e).1 = e.1) (l : List (κ × β)) (u : κ) :
    ((l.map f).find? (·.1 == u)).map (·.2) = (l.find? (·.1 == u)).map fun e => (f e).2 := by
  rw [find?_map_keep hf, Option.map_map]; rfl

theorem keys_map_at (l : List (κ × β)) (k : κ) (g : κ × β → β) :
    (l.map fun e => if e.1 == k then (e.1, g e) else e).map (·.1) = l.map (·.1) := by
  rw [List.map_map]
  exact List.map_congr_left fun e _ => by simp only [Function.comp_def]; split <;> rfl

variable [LawfulBEq κ]

theorem mem_of_find {l : List (κ × β)} {k : κ} {v : β} (h : (l.find? (·.1 == k)).map (·.2) = some v) :
    (k, v) ∈ l := by
  obtain ⟨e, he, rfl⟩ := Option.map_eq_some_iff.1 h
  have hk : e.1 = k := by simpa using List.find?_some he
  exact hk ▸ List.mem_of_find?_eq_some he

theorem find_eq_none_iff {l : List (κ × β)} {k : κ} :
    (l.find? (·.1 == k)).map (·.2) = none ↔ k ∉ l.map (·.1) := by
  simp only [Option.map_eq_none_iff, List.find?_eq_none, List.mem_map, not_exists, not_and]
  exact ⟨fun h e hm he => h e hm (by simp [he]), fun h e hm => by simpa using h e hm⟩

theorem map_at_of_none {l : List (κ × β)} {k : κ} (g : κ × β → β) (h : (l.find? (·.1 == k)).map (·.2) = none) :
    (l.map fun e => if e.1 == k then (e.1, g e) else e) = l := by
  have hk := find_eq_none_iff.1 h
  conv => rhs; rw [← List.map_id l]
  exact List.map_congr_left fun e he => if_neg fun hb => hk (List.mem_map.2 ⟨e, he, by simpa using hb⟩)

variable [DecidableEq κ]

theorem find_cons (e : κ × β) (l : List (κ × β)) (k : κ) :
    ((e :: l).find? (·.1 == k)).map (·.2) = if e.1 = k then some e.2 else (l.find? (·.1 == k)).map (·.2) := by
  by_cases h : e.1 = k <;> simp [h]

theorem find_map_at (l : List (κ × β)) (k : κ) (g : κ × β → β) (u : κ) :
    ((l.map fun e => if e.1 == k then (e.1, g e) else e).find? (·.1 == u)).map (·.2) =
      if u = k then (l.find? (·.1 == k)).map g else (l.find? (·.1 == u)).map (·.2) := by
  rw [find_map_keep (fun e => by split <;> rfl)]
  split
  · subst u
    exact Option.map_congr fun e he => by simp [List.find?_some he]
  · rename_i hu
    refine Option.map_congr fun e he => ?_
    have : e.1 = u := by simpa using List.find?_some he
    simp [this, hu]

theorem find?_filter (p : κ → Bool) (l : List (κ × β)) (u : κ) :
    (l.filter fun e => p e.1).find? (·.1 == u) = if p u then l.find? (·.1 == u) else none := by
  induction l with
  | nil => simp
  | cons e l ih =>
    rw [List.filter_cons]
    by_cases hu : e.1 = u
    · subst hu
      cases hp : p e.1
      · rw [if_neg Bool.false_ne_true, ih, hp]; rfl
      · simp
    · have hb : (e.1 == u) = false := by simpa using hu
      cases p e.1
      · rw [if_neg Bool.false_ne_true, ih, List.find?_cons, hb]
      · rw [if_pos rfl, List.find?_cons, hb, ih, List.find?_cons, hb]

theorem find_filter (p : κ → Bool) (l : List (κ × β)) (u : κ) :
    ((l.filter fun e => p e.1).find? (·.1 == u)).map (·.2) =
      if p u then (l.find? (·.1 == u)).map (·.2) else none := by
  rw [find?_filter]; split <;> rfl

theorem find_erase (l : List (κ × β)) (k u : κ) :
    ((l.filter fun e => !(e.1 == k)).find? (·.1 == u)).map (·.2) =
      if u = k then none else (l.find? (·.1 == u)).map (·.2) := by
  rw [find_filter (fun x => !(x == k))]
  by_cases h : u = k <;> simp [h]

theorem find_of_mem {l : List (κ × β)} (hn : (l.map (·.1)).Nodup) {k : κ} {v : β} (h : (k, v) ∈ l) :
    (l.find? (·.1 == k)).map (·.2) = some v := by
  induction l with
  | nil => cases h
  | cons e l ih =>
    rw [List.map_cons, List.nodup_cons] at hn
    rw [find_cons]
    rcases List.mem_cons.1 h with rfl | h
    · exact if_pos rfl
    · rw [if_neg fun he : e.1 = k => hn.1 (he ▸ List.mem_map.2 ⟨(k, v), h, rfl⟩)]
      exact ih hn.2 h

end Morfuse.Assoc
