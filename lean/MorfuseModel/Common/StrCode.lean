/-!
# Names as numbers, for tables keyed by strings

`strCode` is injective, computed once per name and compared as a number; on strings the kernel decides `a == b` by
UTF-8 encoding both sides, every time.
-/
namespace Morfuse

/-- the bytes of `s` as digits `1 … 256` of a base-256 numeral, first byte lowest -/
def strCode (s : String) : Nat := s.toByteArray.data.toList.foldr (fun b n => n * 256 + b.toNat + 1) 0

theorem strCode_inj {a b : String} (h : strCode a = strCode b) : a = b := by
  have key : ∀ l m : List UInt8, l.foldr (fun b n => n * 256 + b.toNat + 1) 0 =
      m.foldr (fun b n => n * 256 + b.toNat + 1) 0 → l = m := by
    intro l
    induction l with
    | nil =>
      intro m; cases m with
      | nil => intro _; rfl
      | cons y m => simp only [List.foldr]; omega
    | cons x l ih =>
      intro m; cases m with
      | nil => simp only [List.foldr]; omega
      | cons y m =>
        simp only [List.foldr, List.cons.injEq]
        intro e
        have hx := x.toNat_lt; have hy := y.toNat_lt
        exact ⟨UInt8.toNat_inj.1 (by omega), ih m (by omega)⟩
  obtain ⟨⟨⟨la⟩⟩, _⟩ := a
  obtain ⟨⟨⟨lb⟩⟩, _⟩ := b
  cases key la lb h
  rfl

theorem strCode_beq (a b : String) : (strCode a == strCode b) = (a == b) := by
  by_cases e : a = b
  · subst e; rw [beq_self_eq_true, beq_self_eq_true]
  · rw [beq_false_of_ne e, beq_false_of_ne fun h => e (strCode_inj h)]

theorem lookup_strCode {β : Type} (k : String) (l : List (String × β)) :
    l.lookup k = (l.map fun p => (strCode p.1, p.2)).lookup (strCode k) := by
  induction l with
  | nil => rfl
  | cons p l ih => rw [List.map_cons, List.lookup_cons, List.lookup_cons, strCode_beq, ih]

theorem contains_strCode (k : String) (l : List String) :
    l.contains k = (l.map strCode).contains (strCode k) := by
  induction l with
  | nil => rfl
  | cons p l ih => simp only [List.map_cons, List.contains_cons, strCode_beq, ih]

end Morfuse
