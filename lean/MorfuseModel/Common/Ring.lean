import MorfuseModel.Common.Mem
/-!
# Cyclic doubly linked lists through `prev/next` links

Representation (DESIGN.md 7.1): no modular indices.  Links are two
functions `nx pv : Nat → Nat`; `Path a l b` says that `a → l₀ → … → lₖ → b` is linked both ways.
A ring with head `a` and remaining nodes `t` is `(a :: t).Nodup ∧ Path a t a`; a one-element ring
is `nx a = a ∧ pv a = a`, which is what the C++ writes.

A null-terminated `LinkedList<T*>` is a ring through the null node, so `ring_link` and `ring_unlink` are its
operations too.
-/
namespace Morfuse.Ring

def upd (f : Nat → Nat) (a b : Nat) : Nat → Nat := fun x => if x = a then b else f x
@[simp] theorem upd_same (f a b) : upd f a b a = b := by simp [upd]
theorem upd_ne (f a b x) (h : x ≠ a) : upd f a b x = f x := by simp [upd, h]
theorem upd_eq_self {f : Nat → Nat} {a b : Nat} (h : f a = b) : upd f a b = f := by
  funext x; by_cases e : x = a <;> simp [upd, e, h]

theorem upd_upd_same (f : Nat → Nat) (a x y : Nat) : upd (upd f a x) a y = upd f a y := by
  funext z; simp only [upd]; split <;> rfl

theorem upd_comm (f : Nat → Nat) (a x b y : Nat) (h : a ≠ b) :
    upd (upd f a x) b y = upd (upd f b y) a x := by
  funext z; simp only [upd]; split <;> split <;> simp_all

theorem _root_.Morfuse.Mem.get_set_fun (s : Mem) (a v : Nat) : (s.set a v).get = upd s.get a v := by
  funext x; simp [Mem.get_set, upd]

def Path (nx pv : Nat → Nat) : Nat → List Nat → Nat → Prop
  | a, [], b => nx a = b ∧ pv b = a
  | a, x :: t, b => nx a = x ∧ pv x = a ∧ Path nx pv x t b

theorem path_append (nx pv : Nat → Nat) : ∀ (a : Nat) (s : List Nat) (m : Nat) (u : List Nat) (b : Nat),
    Path nx pv a (s ++ m :: u) b ↔ Path nx pv a s m ∧ Path nx pv m u b
  | a, [], m, u, b => by simp [Path, and_assoc]
  | a, x :: s, m, u, b => by
    simp only [List.cons_append, Path]
    rw [path_append nx pv x s m u b]
    simp [and_assoc]

theorem path_congr {nx pv nx' pv' : Nat → Nat} : ∀ (a : Nat) (l : List Nat) (b : Nat),
    (∀ x ∈ a :: l, nx' x = nx x) → (∀ x ∈ l ++ [b], pv' x = pv x) →
    Path nx pv a l b → Path nx' pv' a l b
  | a, [], b, hn, hp, h => by
    obtain ⟨h1, h2⟩ := h
    exact ⟨by rw [hn a (by simp)]; exact h1, by rw [hp b (by simp)]; exact h2⟩
  | a, x :: t, b, hn, hp, h => by
    obtain ⟨h1, h2, h3⟩ := h
    refine ⟨by rw [hn a (by simp)]; exact h1, by rw [hp x (by simp)]; exact h2, ?_⟩
    apply path_congr x t b _ _ h3
    · intro y hy; exact hn y (by simp at hy ⊢; right; exact hy)
    · intro y hy; exact hp y (by simp at hy ⊢; right; exact hy)

def IsRing (nx pv : Nat → Nat) (a : Nat) (t : List Nat) : Prop := (a :: t).Nodup ∧ Path nx pv a t a

theorem IsRing.congr {nx pv nx' pv' : Nat → Nat} {a : Nat} {t : List Nat} (h : IsRing nx pv a t)
    (hn : ∀ x ∈ a :: t, nx' x = nx x) (hp : ∀ x ∈ a :: t, pv' x = pv x) : IsRing nx' pv' a t := by
  refine ⟨h.1, path_congr a t a hn ?_ h.2⟩
  intro x hx
  apply hp
  rcases List.mem_append.1 hx with h | h
  · exact List.mem_cons_of_mem _ h
  · simp at h; simp [h]

theorem ring_single_iff {nx pv : Nat → Nat} {a : Nat} : IsRing nx pv a [] ↔ (nx a = a ∧ pv a = a) := by
  simp [IsRing, Path]

theorem ring_nx_ne {nx pv : Nat → Nat} {a : Nat} {t : List Nat} (h : IsRing nx pv a t) (ht : t ≠ []) :
    ∀ x ∈ a :: t, nx x ≠ x := by
  obtain ⟨hnd, hp⟩ := h
  intro x hx
  rcases List.mem_cons.1 hx with rfl | hxt
  · cases t with
    | nil => exact absurd rfl ht
    | cons m u =>
      have : nx x = m := hp.1
      rw [this]; intro e; subst e
      simp at hnd
  · obtain ⟨s, u, rfl⟩ := List.append_of_mem hxt
    have := (path_append nx pv a s x u a).1 hp
    have h2 := this.2
    cases u with
    | nil =>
      have : nx x = a := h2.1
      rw [this]; intro e; subst e
      simp at hnd
    | cons m u =>
      have : nx x = m := h2.1
      rw [this]; intro e; subst e
      have : (a :: (s ++ m :: m :: u)).Nodup := hnd
      simp [List.nodup_append] at this

theorem path_reend {nx pv : Nat → Nat} {x e : Nat} : ∀ (a : Nat) (s : List Nat), Path nx pv a s x →
    (a :: s).Nodup → e ∉ s → pv x ∈ a :: s ∧ Path (upd nx (pv x) e) (upd pv e (pv x)) a s e
  | a, [], h, _, _ => by
    obtain ⟨_, h2⟩ := h
    simp [Path, h2]
  | a, y :: t, h, hnd, he => by
    obtain ⟨h1, h2, h3⟩ := h
    obtain ⟨hm, ih⟩ := path_reend y t h3 (List.nodup_cons.1 hnd).2 (fun hm => he (List.mem_cons_of_mem _ hm))
    have hap : a ≠ pv x := fun e0 => (List.nodup_cons.1 hnd).1 (e0 ▸ hm)
    have hye : y ≠ e := fun e0 => he (by simp [e0])
    exact ⟨List.mem_cons_of_mem _ hm, by rw [upd_ne _ _ _ _ hap]; exact h1, by rw [upd_ne _ _ _ _ hye]; exact h2, ih⟩

/-- AddReference: insert `n` before the head, i.e. at the end of the list. -/
theorem add_ref {nx pv : Nat → Nat} {a : Nat} {t : List Nat} {n : Nat}
    (h : IsRing nx pv a t) (hn : n ∉ a :: t) :
    IsRing (upd (upd nx n a) (pv a) n) (upd (upd pv n (pv a)) a n) a (t ++ [n]) := by
  obtain ⟨hnd, hp⟩ := h
  have hnt : n ∉ t := fun hm => hn (List.mem_cons_of_mem _ hm)
  obtain ⟨hm, h1⟩ := path_reend (e := n) a t hp hnd hnt
  have hpn : n ≠ pv a := fun e => hn (e ▸ hm)
  constructor
  · have : (a :: t ++ [n]).Nodup := by
      rw [List.nodup_append]; exact ⟨hnd, by simp, by
        intro x hx y hy; simp at hy; subst hy; exact fun e => hn (e ▸ hx)⟩
    simpa using this
  · refine (path_append _ _ a t n [] a).2 ⟨path_congr a t n ?_ ?_ h1, ?_, upd_same _ _ _⟩
    · intro y hy
      have : y ≠ n := fun e => hn (e ▸ hy)
      simp only [upd, this, if_false]
    · intro y hy
      have : y ≠ a := by
        intro e; subst e
        rcases List.mem_append.1 hy with h | h
        · exact (List.nodup_cons.1 hnd).1 h
        · exact hn (by simp at h; simp [h])
      exact upd_ne _ _ _ _ this
    · rw [upd_ne _ _ _ _ hpn, upd_same]

theorem ring_rotate_to {nx pv : Nat → Nat} {a x : Nat} {s u : List Nat}
    (h : IsRing nx pv a (s ++ x :: u)) : IsRing nx pv x (u ++ a :: s) := by
  obtain ⟨hnd, hp⟩ := h
  obtain ⟨h1, h2⟩ := (path_append nx pv a s x u a).1 hp
  refine ⟨?_, (path_append nx pv x u a s x).2 ⟨h2, h1⟩⟩
  have : (a :: (s ++ x :: u)).Perm (x :: (u ++ a :: s)) := by
    have e1 : a :: (s ++ x :: u) = (a :: s) ++ (x :: u) := by simp
    have e2 : x :: (u ++ a :: s) = (x :: u) ++ (a :: s) := by simp
    rw [e1, e2]; exact List.perm_append_comm
  exact this.nodup_iff.1 hnd

/-- Unlinking `x` out of the middle of a path (`prev->next = next; next->prev = prev;
    next = this; prev = this`). -/
theorem path_remove {nx pv : Nat → Nat} {a b x : Nat} {s u : List Nat}
    (hp : Path nx pv a (s ++ x :: u) b)
    (hxs : x ∉ a :: s) (hxu : x ∉ u ++ [b])
    (hnd1 : (a :: s).Nodup) (hnd2 : (u ++ [b]).Nodup)
    (hdis : ∀ y ∈ s, y ∉ u ++ [b]) (hau : a ∉ u) :
    Path (upd (upd nx (pv x) (nx x)) x x) (upd (upd pv (nx x) (pv x)) x x) a (s ++ u) b := by
  obtain ⟨hps, hpu⟩ := (path_append nx pv a s x u b).1 hp
  have drop : ∀ {nx' pv' : Nat → Nat}, Path nx' pv' a (s ++ u) b → Path (upd nx' x x) (upd pv' x x) a (s ++ u) b := by
    intro nx' pv' h
    refine path_congr a (s ++ u) b (fun y hy => upd_ne _ _ _ _ ?_) (fun y hy => upd_ne _ _ _ _ ?_) h
    · intro e; subst e
      rcases List.mem_cons.1 hy with e | hy
      · exact hxs (by simp [e])
      · rcases List.mem_append.1 hy with hy | hy
        · exact hxs (List.mem_cons_of_mem _ hy)
        · exact hxu (List.mem_append_left _ hy)
    · intro e; subst e
      rw [List.append_assoc] at hy
      rcases List.mem_append.1 hy with hy | hy
      · exact hxs (List.mem_cons_of_mem _ hy)
      · exact hxu hy
  apply drop
  cases u with
  | nil =>
    rw [hpu.1, List.append_nil]
    exact (path_reend a s hps hnd1 (fun hm => hdis b hm (by simp))).2
  | cons n u' =>
    obtain ⟨hN, _, h3⟩ := hpu
    obtain ⟨hm, h1⟩ := path_reend (e := n) a s hps hnd1 (fun hm => hdis n hm (by simp))
    rw [hN, path_append]
    refine ⟨h1, path_congr n u' b (fun y hy => upd_ne _ _ _ _ ?_) (fun y hy => upd_ne _ _ _ _ ?_) h3⟩
    · intro e
      rcases List.mem_cons.1 (e ▸ hm : y ∈ a :: s) with e1 | hs
      · exact hau (e1 ▸ hy)
      · exact hdis y hs (by
          rcases List.mem_cons.1 hy with e2 | h2
          · simp [e2]
          · simp [h2])
    · intro e
      have : (n :: (u' ++ [b])).Nodup := by simpa using hnd2
      exact (List.nodup_cons.1 this).1 (e ▸ hy)

theorem ring_remove_mid {nx pv : Nat → Nat} {a x : Nat} {s u : List Nat}
    (h : IsRing nx pv a (s ++ x :: u)) :
    IsRing (upd (upd nx (pv x) (nx x)) x x) (upd (upd pv (nx x) (pv x)) x x) a (s ++ u) := by
  obtain ⟨hnd, hp⟩ := h
  have hnd' : (a :: s ++ x :: u).Nodup := by simpa using hnd
  have h1 := List.nodup_append.1 hnd'
  obtain ⟨hA, hB, hC⟩ := h1
  have hxu : x ∉ u := (List.nodup_cons.1 hB).1
  have hu : u.Nodup := (List.nodup_cons.1 hB).2
  have hxs : x ∉ a :: s := fun hm => hC x hm x (by simp) rfl
  have hau : a ∉ u := fun hm => hC a (by simp) a (by simp [hm]) rfl
  have hax : a ≠ x := fun e => hC a (by simp) x (by simp) e
  constructor
  · have : (a :: s ++ u).Nodup := by
      rw [List.nodup_append]
      exact ⟨hA, hu, fun y hy z hz e => hC y hy z (by simp [hz]) e⟩
    simpa using this
  · apply path_remove hp hxs
    · intro hm; rcases List.mem_append.1 hm with h | h
      · exact hxu h
      · simp at h; exact hax h.symm
    · exact hA
    · rw [List.nodup_append]; exact ⟨hu, by simp, by
        intro y hy z hz; simp at hz; subst hz; exact fun e => hau (e ▸ hy)⟩
    · intro y hy hm
      rcases List.mem_append.1 hm with h | h
      · exact hC y (by simp [hy]) y (by simp [h]) rfl
      · simp at h; subst h; exact (List.nodup_cons.1 hA).1 hy
    · exact hau

/-- the two statements `prev->next = next; next->prev = prev` alone (the links of `x` itself are not read again) -/
theorem ring_unlink {nx pv : Nat → Nat} {a x : Nat} {s u : List Nat} (h : IsRing nx pv a (s ++ x :: u)) :
    IsRing (upd nx (pv x) (nx x)) (upd pv (nx x) (pv x)) a (s ++ u) := by
  have hx : ∀ y ∈ a :: (s ++ u), y ≠ x := fun y hy e =>
    (List.nodup_cons.1 (List.perm_middle.nodup_iff.1 (show (a :: s ++ x :: u).Nodup by simpa using h.1))).1
      (by rw [← e]; simpa using hy)
  exact (ring_remove_mid h).congr (fun y hy => (upd_ne _ _ _ _ (hx y hy)).symm)
    (fun y hy => (upd_ne _ _ _ _ (hx y hy)).symm)

theorem ring_remove_head {nx pv : Nat → Nat} {a m : Nat} {u : List Nat}
    (h : IsRing nx pv a (m :: u)) :
    IsRing (upd (upd nx (pv a) (nx a)) a a) (upd (upd pv (nx a) (pv a)) a a) m u := by
  have := ring_remove_mid (s := u) (u := []) (x := a) (a := m) (ring_rotate_to (s := []) h)
  simpa using this

theorem path_links {nx pv : Nat → Nat} : ∀ (a : Nat) (l : List Nat) (b : Nat), Path nx pv a l b →
    (∀ x ∈ a :: l, pv (nx x) = x ∧ nx x ∈ l ++ [b]) ∧ (∀ x ∈ l ++ [b], nx (pv x) = x ∧ pv x ∈ a :: l)
  | a, [], b, h => by
    obtain ⟨h1, h2⟩ := h
    simp [h1, h2]
  | a, y :: t, b, h => by
    obtain ⟨h1, h2, h3⟩ := h
    obtain ⟨i1, i2⟩ := path_links y t b h3
    constructor
    · intro x hx
      rcases List.mem_cons.1 hx with rfl | hx
      · simp [h1, h2]
      · exact ⟨(i1 x hx).1, List.mem_cons_of_mem _ (i1 x hx).2⟩
    · intro x hx
      rcases List.mem_cons.1 hx with rfl | hx
      · simp [h1, h2]
      · exact ⟨(i2 x hx).1, List.mem_cons_of_mem _ (i2 x hx).2⟩

theorem ring_links {nx pv : Nat → Nat} {a : Nat} {t : List Nat} (h : IsRing nx pv a t) :
    ∀ x ∈ a :: t, nx (pv x) = x ∧ pv (nx x) = x ∧ nx x ∈ a :: t ∧ pv x ∈ a :: t := by
  obtain ⟨h1, h2⟩ := path_links a t a h.2
  have hperm : ∀ {y}, y ∈ t ++ [a] ↔ y ∈ a :: t := by intro y; simp [or_comm]
  intro x hx
  exact ⟨(h2 x (hperm.2 hx)).1, (h1 x hx).1, hperm.1 (h1 x hx).2, (h2 x (hperm.2 hx)).2⟩

theorem ring_pv_ne {nx pv : Nat → Nat} {a : Nat} {t : List Nat} (h : IsRing nx pv a t) (ht : t ≠ []) :
    ∀ x ∈ a :: t, pv x ≠ x := by
  intro x hx e
  have h1 := (ring_links h x hx).1
  rw [e] at h1
  exact ring_nx_ne h ht x hx h1

/-- Linking `n` in front of the node `c` that follows `s` in the ring (`c` is the head when nothing follows:
    `n` goes to the end): `n->next = c; n->prev = c->prev; c->prev->next = n; c->prev = n`. -/
theorem ring_link {nx pv : Nat → Nat} {a n : Nat} {s u : List Nat}
    (h : IsRing nx pv a (s ++ u)) (hn : n ∉ a :: (s ++ u)) :
    IsRing (upd (upd nx n (u.headD a)) (pv (u.headD a)) n) (upd (upd pv n (pv (u.headD a))) (u.headD a) n)
      a (s ++ n :: u) := by
  cases u with
  | nil => simpa using add_ref (by simpa using h) (by simpa using hn)
  | cons c u =>
    have hn' : n ∉ c :: (u ++ a :: s) := by
      simp only [List.mem_cons, List.mem_append, not_or] at hn ⊢
      exact ⟨hn.2.2.1, hn.2.2.2, hn.1, hn.2.1⟩
    have := ring_rotate_to (s := u) (x := a) (u := s ++ [n]) (by simpa using add_ref (ring_rotate_to h) hn')
    simpa using this

theorem ring_alone {nx pv : Nat → Nat} {a x : Nat} {t : List Nat} (h : IsRing nx pv a t)
    (hx : x ∈ a :: t) (he : nx x = x) : t = [] ∧ x = a := by
  by_cases ht : t = []
  · subst ht; exact ⟨rfl, List.mem_singleton.1 hx⟩
  · exact absurd he (ring_nx_ne h ht x hx)

theorem ring_alone_iff {nx pv : Nat → Nat} {a : Nat} {t : List Nat} (h : IsRing nx pv a t) :
    (nx a = a ↔ t = []) ∧ (pv a = a ↔ t = []) := by
  refine ⟨⟨fun e => ?_, fun e => ?_⟩, ⟨fun e => ?_, fun e => ?_⟩⟩
  · exact (ring_alone h (by simp) e).1
  · subst e; exact (ring_single_iff.1 h).1
  · exact Classical.byContradiction fun ht => ring_pv_ne h ht a (by simp) e
  · subst e; exact (ring_single_iff.1 h).2

end Morfuse.Ring
