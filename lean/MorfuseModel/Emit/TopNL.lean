import MorfuseModel.Emit.CodeStep
/-!
`EvalPrevValue` reads code bytes back only when the previous opcode is `OP_STORE_INT1 … OP_STORE_INT8` or
`OP_STORE_FLOAT`.  The steps an expression node other than a literal or a unary minus ends with leave none of those
on top (`T`), in either manager.
-/
namespace Morfuse.Emit
open Morfuse.Gen.EmitConsts

/-- the literal opcodes whose operand bytes `EvalPrevValue` reads back -/
def byteLit (op : Nat) : Bool := decide ((OP_STORE_INT1 ≤ op ∧ op ≤ OP_STORE_INT8) ∨ op = OP_STORE_FLOAT)

theorem litOf_isSome (op : Nat) : (litOf op).isSome = byteLit op := by
  unfold litOf byteLit
  repeat' split
  all_goals simp_all [OP_STORE_INT1, OP_STORE_INT2, OP_STORE_INT3, OP_STORE_INT4, OP_STORE_INT8, OP_STORE_FLOAT]
  all_goals omega

def NL (s : St) : Prop := byteLit (ent s 0).op = false

abbrev T (s : St) : Prop := WOk s ∧ NL s

theorem T.of_top {s : St} {op : Nat} (hop : byteLit op = false) (h : WOk s ∧ (ent s 0).op = op) : T s :=
  ⟨h.1, by unfold NL; rw [h.2]; exact hop⟩

theorem T.congr {s s' : St} (h : T s) (h1 : s'.prev = s.prev) (h2 : s'.prevPos = s.prevPos) : T s' :=
  ⟨wok_congr h.1 h1 h2, by unfold NL; rw [ent_congr h1 h2]; exact h.2⟩

theorem T.accumulate {s : St} (hw : WOk s) (op : Nat) (off : Int) (hop : byteLit (op % 256) = false) :
    T (s.accumulate op off) :=
  .of_top hop ⟨accumulate_ok s hw op off, by rw [ent_accumulate_zero s hw]⟩

theorem T.cleared {s : St} (hw : WOk s) : T s.cleared :=
  .of_top (by decide) ⟨cleared_ok s hw, ent_cleared_zero s hw⟩

theorem write_T (s : St) (bs : List Nat) (h : T s) : wp (s.write bs) T (fun _ => True) :=
  wp_post (write_win s bs) fun _ ⟨e1, e2⟩ => h.congr e1 e2

theorem emitOp_T (s : St) (op : Nat) (hw : WOk s) (hop : byteLit (op % 256) = false) :
    wp (s.emitOp op) T (fun _ => True) :=
  wp_post (emitOp_top s op hw) fun _ => T.of_top hop

theorem emitOpWith_T (s : St) (op : Nat) (off : Int) (hw : WOk s) (hop : byteLit (op % 256) = false) :
    wp (s.emitOpWith op off) T (fun _ => True) :=
  wp_post (emitOpWith_top s op off hw) fun _ => T.of_top hop

theorem clearPrev_T (s : St) (hw : WOk s) : wp s.clearPrev T (fun _ => True) := by
  rw [clearPrev_eq s hw]; exact T.cleared hw

theorem emitOpBytes_T (s : St) (op : Nat) (bs : List Nat) (hw : WOk s) (hop : byteLit (op % 256) = false) :
    wp (s.emitOpBytes op bs) T (fun _ => True) := by
  unfold St.emitOpBytes
  exact wp_then (emitOp_T s op hw hop) fun s1 h1 => write_T s1 bs h1

theorem emitExec_T (s : St) (a b n : Nat) (off : Int) (ev : Nat) (hw : WOk s)
    (ha : n ≤ 5 → byteLit ((a + n) % 256) = false) (hb : byteLit (b % 256) = false) :
    wp (s.emitExec a b n off ev) T (fun _ => True) := by
  unfold St.emitExec
  by_cases h : n > 5
  · rw [if_pos h]
    refine wp_then (emitOpWith_T s b off hw hb) fun s1 h1 => ?_
    exact wp_then (write_T s1 _ h1) fun s2 h2 => write_T s2 _ h2
  · rw [if_neg h]
    exact wp_then (emitOp_T s _ hw (ha (by omega))) fun s1 h1 => write_T s1 _ h1

theorem execMethod_nl (n : Nat) (h : n ≤ 5) : byteLit ((OP_EXEC_METHOD0 + n) % 256) = false := by
  have : n = 0 ∨ n = 1 ∨ n = 2 ∨ n = 3 ∨ n = 4 ∨ n = 5 := by omega
  rcases this with h | h | h | h | h | h <;> subst h <;> decide

theorem boolToVar_T (s : St) (hw : WOk s) : wp s.boolToVar T (fun _ => True) := by
  unfold St.boolToVar
  rw [prevOp_eq s hw, ok_bind]
  split
  · exact wp_then (absorb_wok s hw) fun s1 h1 => emitOp_T s1 _ h1 (by decide)
  · exact T.accumulate hw _ _ (by decide)

theorem nl_of_untested {op : Nat} (h : tested op = false) : byteLit op = false := by
  cases hb : byteLit op
  · rfl
  · have := of_decide_eq_true hb
    have : tested op = true := decide_eq_true (by
      rcases this with h1 | h1
      · exact Or.inl ⟨Nat.le_trans (by decide) h1.1, h1.2⟩
      · exact Or.inr (Or.inr (Or.inr (Or.inr (Or.inr (Or.inr (Or.inl h1)))))))
    rw [this] at h; cases h

/-- operands after which both passes make the same decision in `EmitFunc1(OP_UN_MINUS)`: a literal just emitted, a node
that ends in an opcode without operand-literal, or again a unary minus on such an operand -/
def Node.evOk : Node → Bool
  | .int _ | .float _ => true
  | .f1 op x => if op = OP_UN_MINUS then x.evOk else !byteLit (op % 256)
  | .field _ _ _ _ l => match l with | .listener b => decide (b ≤ 6) | _ => true
  | .f2 op _ _ => !byteLit (op % 256)
  | .listener b => !byteLit ((OP_STORE_GAME + b) % 256)
  | .str _ | .nil | .null | .vec _ _ _ | .idx _ _ | .carr _ _ | .marr _ | .cmdx _ _ _ | .mcmdx _ _ _ _
  | .not_ _ | .and_ _ _ | .or_ _ _ => true
  | _ => false

theorem evalPrev_nl {s : St} (hw : WOk s) (h : NL s) :
    s.evalPrev = .ok (if (ent s 0).op = OP_STORE_INT0 then some (false, 0) else none) := by
  have hb : byteLit (ent s 0).op = false := h
  have hl : litOf (ent s 0).op = none := Option.not_isSome_iff_eq_none.mp (by rw [litOf_isSome, hb]; exact Bool.false_ne_true)
  rw [evalPrev_top hw, hl]; rfl

end Morfuse.Emit
