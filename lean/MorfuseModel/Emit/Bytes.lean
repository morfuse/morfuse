import MorfuseModel.Emit.CodeStep
/-! Reading back what was just written: the 32-byte ring of the counting manager and the program buffer. -/
namespace Morfuse.Emit
open Morfuse.Gen.EmitConsts

theorem ringWrite_cur (bs : List Nat) (s : St) (h : s.ringCur < 32) :
    (s.ringWrite bs).ringCur = (s.ringCur + bs.length) % 32 := by
  induction bs generalizing s with
  | nil => simp [St.ringWrite]; omega
  | cons b bs ih =>
    unfold St.ringWrite
    rw [ih _ (by simp only [ringSize_eq]; omega)]
    simp only [ringSize_eq, List.length_cons]; omega

theorem ringWrite_frame (bs : List Nat) (s : St) (j : Nat) (hs : s.ring.data.size = 32) (hc : s.ringCur < 32)
    (hj : ∀ i, i < bs.length → (s.ringCur + i) % 32 ≠ j) : (s.ringWrite bs).ring.get j = s.ring.get j := by
  induction bs generalizing s with
  | nil => rfl
  | cons b bs ih =>
    unfold St.ringWrite
    rw [ih _ (by simp [Tbl.set, hs]) (by simp only [ringSize_eq]; omega)]
    · simp only
      rw [Tbl.get_set _ _ _ _ (by rw [hs]; exact hc), if_neg]
      have := hj 0 (by simp); omega
    · intro i hi
      have := hj (i + 1) (by simp; omega)
      simp only [ringSize_eq]; omega

theorem ringWrite_get (bs : List Nat) (s : St) (hs : s.ring.data.size = 32) (hc : s.ringCur < 32) (hn : bs.length ≤ 32)
    (i : Nat) (hi : i < bs.length) : (s.ringWrite bs).ring.get ((s.ringCur + i) % 32) = bs[i] := by
  induction bs generalizing s i with
  | nil => simp at hi
  | cons b bs ih =>
    unfold St.ringWrite
    cases i with
    | zero =>
      rw [ringWrite_frame _ _ _ (by simp [Tbl.set, hs]) (by simp only [ringSize_eq]; omega)]
      · simp only [Nat.add_zero, List.getElem_cons_zero]
        rw [Nat.mod_eq_of_lt hc, Tbl.get_set _ _ _ _ (by rw [hs]; exact hc), if_pos rfl]
      · intro k hk
        simp only [ringSize_eq]
        simp at hn; omega
    | succ i =>
      have := ih { s with ring := s.ring.set s.ringCur b, ringCur := (s.ringCur + 1) % ringSize }
        (by simp [Tbl.set, hs]) (by simp only [ringSize_eq]; omega) (by simp at hn; omega) i (by simp at hi; omega)
      simp only [List.getElem_cons_succ]
      rw [← this]
      congr 1
      simp only [ringSize_eq]; omega

theorem ring_readBack (bs : List Nat) (s : St) (hb : BOk s) (hn : bs.length < 32) (hcnt : (s.ringWrite bs).counting = true) :
    (s.ringWrite bs).readBack bs.length bs.length = bs := by
  unfold St.readBack
  rw [if_pos hcnt, ringWrite_cur _ _ hb.rcur]
  apply List.ext_getElem
  · simp
  · intro i h1 h2
    simp only [List.getElem_map, List.getElem_range, ringSize_eq]
    have hi : i < bs.length := by simpa using h1
    rw [← ringWrite_get bs s hb.rsize hb.rcur (by omega) i hi]
    congr 1
    have := hb.rcur
    omega

theorem foldSet_frame (bs : List Nat) (t : Tbl Nat) (k j : Nat) (hj : j < k) :
    (bs.foldl (fun (acc : Tbl Nat × Nat) b => (acc.1.set acc.2 b, acc.2 + 1)) (t, k)).1.get j = t.get j := by
  induction bs generalizing t k with
  | nil => rfl
  | cons b bs ih =>
    simp only [List.foldl_cons]
    rw [ih _ _ (by omega)]
    unfold Tbl.set Tbl.get
    simp [Array.getD]
    split <;> simp_all [Array.getElem_setIfInBounds] <;> omega

theorem foldSet_get (bs : List Nat) (t : Tbl Nat) (k : Nat) (hk : k + bs.length ≤ t.data.size) (i : Nat) (hi : i < bs.length) :
    (bs.foldl (fun (acc : Tbl Nat × Nat) b => (acc.1.set acc.2 b, acc.2 + 1)) (t, k)).1.get (k + i) = bs[i] := by
  induction bs generalizing t k i with
  | nil => simp at hi
  | cons b bs ih =>
    simp only [List.foldl_cons]
    cases i with
    | zero =>
      rw [foldSet_frame _ _ _ _ (by omega)]
      simp only [Nat.add_zero, List.getElem_cons_zero]
      rw [Tbl.get_set _ _ _ _ (by simp at hk; omega), if_pos rfl]
    | succ i =>
      have := ih (t.set k b) (k + 1) (by simp [Tbl.set] at hk ⊢; omega) i (by simp at hi; omega)
      simp only [List.getElem_cons_succ]
      rw [← this]
      congr 1
      omega

theorem write_counting (c : St) (bs : List Nat) (h : c.counting = true) :
    c.write bs = .ok (({ c with info := { c.info with progLength := c.info.progLength + bs.length } } : St).ringWrite bs) := by
  unfold St.write; rw [if_pos h]

theorem write_program (p : St) (bs : List Nat) (h : p.counting = false) :
    p.write bs = if p.pos + bs.length > p.progLen then .error (.ub .codeOverflow) else
      .ok { p with buf := (bs.foldl (fun (acc : Tbl Nat × Nat) b => (acc.1.set acc.2 b, acc.2 + 1)) (p.buf, p.pos)).1,
                   pos := p.pos + bs.length, gross := p.gross + bs.length, fresh := p.fresh + bs.length } := by
  unfold St.write; rw [if_neg (by rw [h]; exact Bool.false_ne_true)]

theorem literal_spec {s s1 : St} (hw : WOk s) (hb : BOk s) (op : Nat) (bs : List Nat) (hn : bs.length < 32)
    (hx : s.emitOpBytes op bs = .ok s1) :
    WOk s1 ∧ (ent s1 0).op = op % 256 ∧ s1.readBack bs.length bs.length = bs := by
  unfold St.emitOpBytes at hx
  cases h1 : s.emitOp op with
  | error e => rw [h1] at hx; cases hx
  | ok t =>
    rw [h1, ok_bind] at hx
    obtain ⟨wt, tt⟩ := wp_of_eq_ok (emitOp_top s op hw) h1
    have hbt : BOk t := (wp_of_eq_ok (emitOp_fits s op) h1).bok hb
    obtain ⟨e1, e2⟩ := wp_of_eq_ok (write_win t bs) hx
    refine ⟨wok_congr wt e1 e2, by rw [ent_congr e1 e2, tt], ?_⟩
    cases hct : t.counting with
    | true =>
      rw [write_counting _ _ hct] at hx
      injection hx with hx
      subst hx
      exact ring_readBack bs _ ⟨hbt.rsize, hbt.rcur, hbt.bsize⟩ hn (by rw [ringWrite_eq]; exact hct)
    | false =>
      rw [write_program _ _ hct] at hx
      split at hx
      · cases hx
      · rename_i hfit
        injection hx with hx
        subst hx
        unfold St.readBack
        simp only [hct, Bool.false_eq_true, ↓reduceIte]
        rw [if_pos (by omega)]
        apply List.ext_getElem
        · simp
        · intro i h1 h2
          simp only [List.getElem_map, List.getElem_range]
          have hi : i < bs.length := by simpa using h1
          rw [← foldSet_get bs t.buf t.pos (by rw [hbt.bsize]; omega) i hi]
          congr 1
          omega

end Morfuse.Emit
