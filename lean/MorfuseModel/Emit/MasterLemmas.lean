import MorfuseModel.Emit.Master
import MorfuseModel.Common.Assoc
namespace Morfuse.Emit

theorem find_filter_self (l : List (Nat × Script)) (n : Nat) :
    (l.filter (fun e => !(e.1 == n))).find? (·.1 == n) = none :=
  List.find?_eq_none.2 fun _ he => by simpa using (List.mem_filter.1 he).2

theorem Master.find_erase_self (m : Master) (n : Nat) : (m.erase n).find n = none :=
  (Assoc.find_erase m.scripts n n).trans (if_pos rfl)

theorem Master.find_erase_other (m : Master) (n k : Nat) (hk : k ≠ n) : (m.erase n).find k = m.find k :=
  (Assoc.find_erase m.scripts n k).trans (if_neg hk)

theorem Master.find_put_self (m : Master) (n : Nat) (sc : Script) : (m.put n sc).find n = some sc :=
  (Assoc.find_cons (n, sc) _ n).trans (if_pos rfl)

theorem Master.find_put_other (m : Master) (n k : Nat) (sc : Script) (hk : k ≠ n) : (m.put n sc).find k = m.find k :=
  (Assoc.find_cons (n, sc) _ k).trans ((if_neg (Ne.symm hk)).trans (m.find_erase_other n k hk))

theorem load_ok_iff (dev : Bool) (src : Source) : (load dev src).2 = .ok () ↔ (load dev src).1.successCompile = true := by
  unfold load
  cases src with
  | none => simp
  | some root => simp only; split <;> simp

theorem Master.put_dev (m : Master) (n : Nat) (sc : Script) : (m.put n sc).dev = m.dev := rfl
theorem Master.erase_dev (m : Master) (n : Nat) : (m.erase n).dev = m.dev := rfl

end Morfuse.Emit
