import MorfuseModel.Emit.Model
namespace Morfuse.Emit
/-- what the coupling behind `C01_code_fits` says at the end of a compile (`Rel.gross`, `Rel.pos`), evaluated on one
tree: the program pass writes or skips exactly as many bytes (ignoring moves back) as the counting pass counted.  The
check demands `true` on every generated tree. -/
def certify (dev : Bool) (root : Node) : Bool :=
  match compile dev root with
  | .ok r => r.final.gross == r.info.progLength && decide (r.final.pos ≤ r.final.gross)
  | .error _ => true
end Morfuse.Emit
