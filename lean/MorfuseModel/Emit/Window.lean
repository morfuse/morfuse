import MorfuseModel.Emit.Wp
/-!
`prev_opcodes[MAX_PREV_OPCODES]` is a ring indexed by `prev_opcode_pos`.  The two passes can differ in one way: the
`LOAD_x_VAR → LOAD_STORE_x_VAR` fusion fires in one and not in the other, after which one window holds one entry more.
The emitter's decisions read the top entry and `AbsorbPrevOpcode` exposes the one below, so the windows are compared
by depth below the top: they agree down to the first entry whose opcode no decision tests.  What `EvalPrevValue`
returns is a function of the top entry as well (`evalPrev_top`).
-/
namespace Morfuse.Emit
open Morfuse.Gen.EmitConsts

/-- the opcodes some decision of the emitter compares the previous opcode with -/
def tested (op : Nat) : Bool :=
  decide ((OP_STORE_INT0 ≤ op ∧ op ≤ OP_STORE_INT8) ∨ op = OP_BOOL_TO_VAR ∨ op = OP_BOOL_STORE_TRUE ∨ op = OP_BOOL_STORE_FALSE
    ∨ op = OP_BOOL_UN_NOT ∨ op = OP_UN_CAST_BOOLEAN ∨ op = OP_STORE_FLOAT ∨ op = OP_DONE
    ∨ (OP_LOAD_GAME_VAR ≤ op ∧ op ≤ OP_LOAD_GAME_VAR + 6))

/- `ent`, `WOk`, `BOk` are written with the literals 100 and 32 (`AbsorbPrevOpcode` has the literal too, and `omega`
computes with them); `prevMax_eq` and `ringSize_eq` are where the regenerated constants come in. -/
theorem prevMax_eq : prevMax = 100 := by decide

/-- the entry `k` below the top -/
def ent (s : St) (k : Nat) : PrevOp := s.prev.get ((s.prevPos + (100 - k)) % 100)

structure WOk (s : St) : Prop where
  size : s.prev.data.size = 100
  pos : s.prevPos < 100

theorem ent_congr {s t : St} (h1 : t.prev = s.prev) (h2 : t.prevPos = s.prevPos) (k : Nat) : ent t k = ent s k := by
  simp only [ent, h1, h2]

theorem wok_congr {s s' : St} (h : WOk s) (h1 : s'.prev = s.prev) (h2 : s'.prevPos = s.prevPos) : WOk s' :=
  ⟨by rw [h1]; exact h.size, by rw [h2]; exact h.pos⟩

theorem accumulate_ok (s : St) (h : WOk s) (op : Nat) (off : Int) : WOk (s.accumulate op off) := by
  obtain ⟨hs, hp⟩ := h
  constructor
  · simp [St.accumulate, Tbl.set, hs]
  · simp only [St.accumulate, prevMax_eq]; omega

theorem ent_accumulate_zero (s : St) (h : WOk s) (op : Nat) (off : Int) :
    ent (s.accumulate op off) 0 = ⟨op % 256, toInt8 off⟩ := by
  obtain ⟨hs, hp⟩ := h
  simp only [ent, St.accumulate, prevMax_eq]
  have h1 : ((s.prevPos + 1) % 100 + (100 - 0)) % 100 = (s.prevPos + 1) % 100 := by omega
  rw [h1, Tbl.get_set _ _ _ _ (by simp [Tbl.set, hs]; omega), if_neg (by omega),
    Tbl.get_set _ _ _ _ (by rw [hs]; omega), if_pos rfl]

theorem ent_accumulate_succ (s : St) (h : WOk s) (op : Nat) (off : Int) (k : Nat) (hk : k + 1 ≤ 98) :
    ent (s.accumulate op off) (k + 1) = ent s k := by
  obtain ⟨hs, hp⟩ := h
  simp only [ent, St.accumulate, prevMax_eq]
  have h1 : ((s.prevPos + 1) % 100 + (100 - (k + 1))) % 100 = (s.prevPos + (100 - k)) % 100 := by omega
  rw [h1, Tbl.get_set _ _ _ _ (by simp [Tbl.set, hs]; omega), if_neg (by omega),
    Tbl.get_set _ _ _ _ (by rw [hs]; omega), if_neg (by omega)]

theorem ent_accumulate_last (s : St) (h : WOk s) (op : Nat) (off : Int) :
    (ent (s.accumulate op off) 99).op = OP_PREVIOUS := by
  obtain ⟨hs, hp⟩ := h
  simp only [ent, St.accumulate, prevMax_eq]
  have h1 : ((s.prevPos + 1) % 100 + (100 - 99)) % 100 = ((s.prevPos + 1) % 100 + 1) % 100 := by omega
  rw [h1, Tbl.get_set _ _ _ _ (by simp [Tbl.set, hs]; omega), if_pos rfl]

/-- the window part of `AbsorbPrevOpcode` -/
def St.pop (s : St) : St := { s with prevPos := (if s.prevPos = 0 then 100 else s.prevPos) - 1 }

theorem pop_ok (s : St) (h : WOk s) : WOk s.pop := by
  obtain ⟨hs, hp⟩ := h
  exact ⟨hs, by simp only [St.pop]; split <;> omega⟩

theorem ent_pop (s : St) (h : WOk s) (k : Nat) (hk : k ≤ 98) : ent s.pop k = ent s (k + 1) := by
  obtain ⟨hs, hp⟩ := h
  simp only [ent, St.pop]
  congr 1
  split <;> omega

/-- the state after `ClearPrevOpcode` -/
def St.cleared (s : St) : St := { s with prev := s.prev.set s.prevPos { s.prev.get s.prevPos with op := OP_PREVIOUS } }

theorem clearPrev_eq (s : St) (h : WOk s) : s.clearPrev = .ok s.cleared := by
  unfold St.clearPrev
  rw [if_pos (by rw [prevMax_eq]; exact h.pos)]
  rfl

theorem cleared_ok (s : St) (h : WOk s) : WOk s.cleared := ⟨by simp [St.cleared, Tbl.set, h.size], h.pos⟩

theorem ent_cleared_zero (s : St) (h : WOk s) : (ent s.cleared 0).op = OP_PREVIOUS := by
  obtain ⟨hs, hp⟩ := h
  simp only [ent, St.cleared]
  have h1 : (s.prevPos + (100 - 0)) % 100 = s.prevPos := by omega
  rw [h1, Tbl.get_set _ _ _ _ (by rw [hs]; exact hp), if_pos rfl]

theorem prevOp_eq (s : St) (h : WOk s) : s.prevOp = .ok (ent s 0) := by
  unfold St.prevOp ent
  rw [if_pos (by rw [prevMax_eq]; exact h.pos)]
  have h1 : (s.prevPos + (100 - 0)) % 100 = s.prevPos := by have := h.pos; omega
  rw [h1]

/-- a ring of `prevopSize` bytes with its cursor inside (`ScriptCountManager`), a buffer of `progLength` bytes
(`ScriptProgramManager`); each manager leaves the other's alone -/
structure BOk (s : St) : Prop where
  rsize : s.ring.data.size = 32
  rcur : s.ringCur < 32
  bsize : s.buf.data.size = s.progLen

theorem ringSize_eq : ringSize = 32 := by decide

/-- the windows of the two passes agree down to the first entry no decision tests -/
structure W (c p : St) : Prop where
  vc : WOk c
  vp : WOk p
  bc : BOk c
  bp : BOk p
  agree : ∃ d, d ≤ 99 ∧ (∀ k, k < d → ent c k = ent p k ∧ tested (ent c k).op = true) ∧
    tested (ent c d).op = false ∧ tested (ent p d).op = false

/-- the field `W.agree` under a name, for what speaks of the windows' contents alone -/
def Agree (c p : St) : Prop :=
  ∃ d, d ≤ 99 ∧ (∀ k, k < d → ent c k = ent p k ∧ tested (ent c k).op = true) ∧
    tested (ent c d).op = false ∧ tested (ent p d).op = false

theorem W.agrees {c p : St} (h : W c p) : Agree c p := h.agree

theorem W.of_agree {c p : St} (vc : WOk c) (vp : WOk p) (bc : BOk c) (bp : BOk p) (h : Agree c p) : W c p :=
  ⟨vc, vp, bc, bp, h⟩

theorem Agree.congr {c p c' p' : St} (h : Agree c p) (h1 : c'.prev = c.prev) (h2 : c'.prevPos = c.prevPos)
    (h3 : p'.prev = p.prev) (h4 : p'.prevPos = p.prevPos) : Agree c' p' := by
  obtain ⟨d, hd, hag, ha, hb⟩ := h
  simp only [Agree, ent_congr h1 h2, ent_congr h3 h4]
  exact ⟨d, hd, hag, ha, hb⟩

theorem W.congr {c p c' p' : St} (h : W c p) (h1 : c'.prev = c.prev) (h2 : c'.prevPos = c.prevPos)
    (h3 : p'.prev = p.prev) (h4 : p'.prevPos = p.prevPos)
    (hbc : BOk c → BOk c' := by exact fun hb => ⟨hb.rsize, hb.rcur, hb.bsize⟩)
    (hbp : BOk p → BOk p' := by exact fun hb => ⟨hb.rsize, hb.rcur, hb.bsize⟩) : W c' p' :=
  .of_agree (wok_congr h.vc h1 h2) (wok_congr h.vp h3 h4) (hbc h.bc) (hbp h.bp) (h.agrees.congr h1 h2 h3 h4)

theorem tested_previous : tested OP_PREVIOUS = false := by decide

theorem W.top {c p : St} (h : W c p) :
    (ent p 0 = ent c 0) ∨ (tested (ent c 0).op = false ∧ tested (ent p 0).op = false) := by
  obtain ⟨d, _, hag, h1, h2⟩ := h.agree
  cases d with
  | zero => exact .inr ⟨h1, h2⟩
  | succ d => exact .inl (hag 0 (by omega)).1.symm

/-- the fusion: the passes push different entries, neither of them tested -/
theorem Agree.of_untested {c p : St} (h1 : tested (ent c 0).op = false) (h2 : tested (ent p 0).op = false) : Agree c p :=
  ⟨0, Nat.zero_le _, nofun, h1, h2⟩

theorem W.of_untested {c p : St} (hc : WOk c) (hp : WOk p) (bc : BOk c) (bp : BOk p) (h1 : tested (ent c 0).op = false)
    (h2 : tested (ent p 0).op = false) : W c p :=
  .of_agree hc hp bc bp (.of_untested h1 h2)

theorem W.accumulate {c p : St} (h : W c p) (op : Nat) (off : Int) : W (c.accumulate op off) (p.accumulate op off) := by
  obtain ⟨d, hd, hag, h1, h2⟩ := h.agree
  refine ⟨accumulate_ok c h.vc op off, accumulate_ok p h.vp op off, ⟨h.bc.rsize, h.bc.rcur, h.bc.bsize⟩,
    ⟨h.bp.rsize, h.bp.rcur, h.bp.bsize⟩, ?_⟩
  by_cases ht : tested (op % 256) = true
  · have top : ∀ k, k < d + 1 → k ≤ 98 → ent (c.accumulate op off) k = ent (p.accumulate op off) k ∧
        tested (ent (c.accumulate op off) k).op = true := by
      intro k hk hk98
      cases k with
      | zero => rw [ent_accumulate_zero c h.vc, ent_accumulate_zero p h.vp]; exact ⟨rfl, ht⟩
      | succ k =>
        rw [ent_accumulate_succ c h.vc _ _ k hk98, ent_accumulate_succ p h.vp _ _ k hk98]
        exact hag k (by omega)
    by_cases hd98 : d + 1 ≤ 98
    · refine ⟨d + 1, by omega, fun k hk => top k hk (by omega), ?_, ?_⟩
      · rw [ent_accumulate_succ c h.vc _ _ d hd98]; exact h1
      · rw [ent_accumulate_succ p h.vp _ _ d hd98]; exact h2
    · refine ⟨99, by omega, fun k hk => top k (by omega) (by omega), ?_, ?_⟩
      · rw [ent_accumulate_last c h.vc]; exact tested_previous
      · rw [ent_accumulate_last p h.vp]; exact tested_previous
  · refine ⟨0, by omega, fun k hk => by omega, ?_, ?_⟩
    · rw [ent_accumulate_zero c h.vc]; simpa using ht
    · rw [ent_accumulate_zero p h.vp]; simpa using ht

theorem W.cleared {c p : St} (h : W c p) : W c.cleared p.cleared :=
  W.of_untested (cleared_ok c h.vc) (cleared_ok p h.vp) ⟨h.bc.rsize, h.bc.rcur, h.bc.bsize⟩ ⟨h.bp.rsize, h.bp.rcur, h.bp.bsize⟩
    (by rw [ent_cleared_zero c h.vc]; exact tested_previous) (by rw [ent_cleared_zero p h.vp]; exact tested_previous)

theorem W.pop {c p : St} (h : W c p) (ht : tested (ent c 0).op = true) : W c.pop p.pop := by
  obtain ⟨d, hd, hag, h1, h2⟩ := h.agree
  cases d with
  | zero => rw [ht] at h1; cases h1
  | succ d =>
    refine ⟨pop_ok c h.vc, pop_ok p h.vp, ⟨h.bc.rsize, h.bc.rcur, h.bc.bsize⟩, ⟨h.bp.rsize, h.bp.rcur, h.bp.bsize⟩, d, by omega, ?_, ?_, ?_⟩
    · intro k hk
      rw [ent_pop c h.vc k (by omega), ent_pop p h.vp k (by omega)]
      exact hag (k + 1) (by omega)
    · rw [ent_pop c h.vc d (by omega)]; exact h1
    · rw [ent_pop p h.vp d (by omega)]; exact h2

/-- the literal opcodes whose operand bytes `EvalPrevValue` reads back: float?, number of bytes -/
def litOf (op : Nat) : Option (Bool × Nat) :=
  if op = OP_STORE_INT1 then some (false, 1)
  else if op = OP_STORE_INT2 then some (false, 2)
  else if op = OP_STORE_INT3 then some (false, 3)
  else if op = OP_STORE_INT4 then some (false, 4)
  else if op = OP_STORE_INT8 then some (false, 8)
  else if op = OP_STORE_FLOAT then some (true, 4)
  else none

theorem evalPrev_eq (s : St) : s.evalPrev = s.prevOp >>= fun p => .ok
    (if p.op = OP_STORE_INT0 then some (false, 0) else (litOf p.op).map fun x => (x.1, unle (s.readBack x.2 x.2))) := by
  unfold St.evalPrev litOf
  simp only [apply_ite (Option.map _), apply_ite (Except.ok (ε := Err)), Option.map_some, Option.map_none]

theorem evalPrev_top {s : St} (hw : WOk s) : s.evalPrev = .ok
    (if (ent s 0).op = OP_STORE_INT0 then some (false, 0)
      else (litOf (ent s 0).op).map fun x => (x.1, unle (s.readBack x.2 x.2))) := by
  rw [evalPrev_eq, prevOp_eq s hw]; rfl

theorem evalPrev_int0 {s : St} (hw : WOk s) (h : (ent s 0).op = OP_STORE_INT0) : s.evalPrev = .ok (some (false, 0)) := by
  rw [evalPrev_top hw, if_pos h]

theorem evalPrev_lit {s : St} (hw : WOk s) (f : Bool) (k : Nat) (h : litOf (ent s 0).op = some (f, k)) :
    s.evalPrev = .ok (some (f, unle (s.readBack k k))) := by
  rw [evalPrev_top hw, if_neg (fun e => by rw [e] at h; cases h), h]; rfl

end Morfuse.Emit
