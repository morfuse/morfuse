import MorfuseModel.Emit.Hoare
/-! `AddLabel`, `CreateSwitchStateScript`, `CreateCatchStateScript`, and entering / leaving a label set change nothing but
the arena cursor, the label sets and the counters of the counting manager, and fail only with an arena overflow; so does
`Preallocate`, a chain of such steps from the fresh program-manager state. -/
namespace Morfuse.Emit

def ArenaStep (s t : St) : Prop :=
  t = { s with arenaUsed := t.arenaUsed, info := { t.info with progLength := s.info.progLength }, cur := t.cur,
               curSet := t.curSet, mainSet := t.mainSet, swCont := t.swCont, switches := t.switches,
               caCont := t.caCont, catches := t.catches }

def ArenaErr (e : Err) : Prop := e = .ub .arenaOverflow

theorem ArenaStep.refl (s : St) : ArenaStep s s := rfl
theorem ArenaStep.trans {s t u : St} (h1 : ArenaStep s t) (h2 : ArenaStep t u) : ArenaStep s u := by
  unfold ArenaStep at *
  rw [h2, h1]

theorem alloc_arena (s : St) (n : Nat) : wp (s.alloc n) (ArenaStep s) ArenaErr := by
  unfold St.alloc
  split
  · rfl
  · rfl

theorem resize_arena (ls : LabelSet) (n : Nat) (s : St) : wp (ls.resize n s) (fun r => ArenaStep s r.2) ArenaErr := by
  unfold LabelSet.resize
  split
  · rfl
  · rw [wp_bind]; exact wp_post (alloc_arena s _) (fun _ h => h)

theorem arena_bind {α β : Type} {s : St} {x : R α} {f : α → R β} {p : α → St} {q : β → St}
    (hx : wp x (fun a => ArenaStep s (p a)) ArenaErr) (hf : ∀ a, wp (f a) (fun b => ArenaStep (p a) (q b)) ArenaErr) :
    wp (x >>= f) (fun b => ArenaStep s (q b)) ArenaErr := by
  exact wp_then hx fun a ha => wp_post (hf a) (fun _ h => ha.trans h)

theorem labelSetAdd_arena (ls : LabelSet) (k o : Nat) (p : Bool) (s : St) :
    wp (ls.add k o p s) (fun r => ArenaStep s r.2) ArenaErr := by
  unfold LabelSet.add
  dsimp only
  split
  · rfl
  · split
    · exact arena_bind (p := (·.2)) (resize_arena _ _ s) fun r => arena_bind (p := id) (alloc_arena r.2 _) fun _ => rfl
    · exact arena_bind (p := id) (alloc_arena s _) fun _ => rfl

theorem contAdd_arena (c : Cont) (sz : Nat) (s : St) : wp (c.add sz s) (fun r => ArenaStep s r.2) ArenaErr := by
  unfold Cont.add
  dsimp only
  have grow : ∀ (c : Cont) (t : St),
      wp (if c.num ≥ c.cap.getD 0 then
            if max (c.num * 2) c.num = 0 then
              (.ok ({ cap := none, num := c.num + 1 }, t) : R (Cont × St))
            else t.alloc (sz * max (c.num * 2) c.num) >>= fun u =>
              .ok ({ cap := some (max (c.num * 2) c.num), num := c.num + 1 }, u)
          else .ok ({ cap := c.cap, num := c.num + 1 }, t))
        (fun r => ArenaStep t r.2) ArenaErr := by
    intro c t
    split
    · split
      · rfl
      · exact arena_bind (p := id) (alloc_arena t _) fun _ => rfl
    · rfl
  split
  · exact arena_bind (p := id) (alloc_arena s _) fun s1 => grow ⟨some 10, c.num⟩ s1
  · exact grow c s

theorem addLabel_arena (s : St) (i : Nat) (p c : Bool) : wp (s.addLabel i p c) (fun r => ArenaStep s r.2) ArenaErr := by
  unfold St.addLabel
  split
  · split <;> rfl
  · refine arena_bind (p := (·.2)) (labelSetAdd_arena _ _ _ _ s) fun r => ?_
    obtain ⟨o, t⟩ := r
    cases o <;> exact rfl

theorem createSwitch_arena (s : St) (n : Nat) : wp (s.createSwitch n) (fun r => ArenaStep s r.2) ArenaErr := by
  unfold St.createSwitch
  split
  · rfl
  · refine arena_bind (p := (·.2)) (contAdd_arena _ _ s) fun r => ?_
    refine arena_bind (p := (·.2)) (resize_arena _ _ r.2) fun q => ?_
    exact rfl

theorem createCatch_arena (s : St) (tb n : Nat) : wp (s.createCatch tb n) (fun r => ArenaStep s r.2) ArenaErr := by
  unfold St.createCatch
  split
  · rfl
  · refine arena_bind (p := (·.2)) (contAdd_arena _ _ s) fun r => ?_
    refine arena_bind (p := (·.2)) (resize_arena _ _ r.2) fun q => ?_
    exact rfl

theorem enter_arena (s : St) (r : Option SetRef) : ArenaStep s (s.enter r) := by
  unfold St.enter
  split <;> rfl

theorem leave_arena (s : St) (o : SetRef) (os : LabelSet) : ArenaStep s (s.leave o os) := by
  unfold St.leave St.storeCur
  split
  · rfl
  · split <;> rfl

theorem arena_opt {c : Prop} [Decidable c] {s : St} {x : R St} {u : St → St} {k : St → R St}
    (hx : wp x (ArenaStep s) ArenaErr) (hu : ∀ t, ArenaStep t (u t)) (hk : ∀ t, wp (k t) (ArenaStep t) ArenaErr) :
    wp (if c then x >>= fun t => Except.ok (u t) >>= k else Except.ok s >>= k) (ArenaStep s) ArenaErr := by
  split
  · exact arena_bind (p := id) (q := id) hx fun t => wp_post (hk (u t)) (fun _ h => (hu t).trans h)
  · exact hk s

theorem preallocate_arena (dev : Bool) (i : SizeInfo) :
    wp (preallocate dev i)
      (ArenaStep { St.init false with dev := dev, arenaSize := arenaFormula dev i, progLen := i.progLength,
                                       buf := Tbl.mk' i.progLength 0 }) ArenaErr := by
  unfold preallocate
  refine arena_opt (u := id) (alloc_arena _ _) (fun _ => rfl) fun s1 => ?_
  refine arena_opt (alloc_arena s1 _) (fun _ => rfl) fun s2 => arena_opt (alloc_arena s2 _) (fun _ => rfl) fun s3 => ?_
  refine arena_bind (p := id) (q := id) (alloc_arena s3 _) fun s4 => ?_
  exact arena_bind (p := Prod.snd) (q := id) (resize_arena _ _ s4) fun _ => rfl

section
variable {I : St → Prop} {Q : St → St → Prop} {E : Err → Prop}
  (hA : ∀ s t, ArenaStep s t → I s → I t ∧ Q s t) (hE : E (.ub .arenaOverflow))
include hA hE

theorem addLabel_of_arena (s : St) (i : Nat) (p c : Bool) (hp : I s) :
    wp (s.addLabel i p c) (fun r => r.1 = true → I r.2 ∧ Q s r.2) E :=
  wp_mono (addLabel_arena s i p c) (fun _ h _ => hA _ _ h hp) (fun _ he => he ▸ hE)

theorem InvLaws.ofArena (P : Prims (IPre I) (IPost I Q) E)
    (init : ∀ cb cc sd, I { St.init true with canBreak := cb, canContinue := cc, switchDepth := sd }) : InvLaws I Q E :=
  { P with
    createSwitch := fun s n hp => wp_mono (createSwitch_arena s n) (fun _ h => hA _ _ h hp) (fun _ he => he ▸ hE)
    createCatch := fun s tb n hp => wp_mono (createCatch_arena s tb n) (fun _ h => hA _ _ h hp) (fun _ he => he ▸ hE)
    enter := fun s r _ hp => hA _ _ (enter_arena s r) hp
    leave := fun s o os _ hp => hA _ _ (leave_arena s o os) hp
    init }

end

end Morfuse.Emit
