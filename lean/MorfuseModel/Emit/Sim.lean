import MorfuseModel.Emit.Window
import MorfuseModel.Emit.Mono
/-! The counting pass and the program pass in lock-step: the judgement `SimQ L Γ c x y Q` (`Sim` where `Q` is the coupling
`Rel L`), its rule for sequencing (`Sim.bind`), one lemma `X_sim` per primitive of the emitter.  The manager operations and
the window bookkeeping are not compared run against run: each is known on its own by its byte count (`Eff`, `Fits` in
`CodeStep`), and two runs with the same count keep the coupling (`Rel.step`, `Sim.ofFits`).  What is followed in lock-step is
the decisions. -/
namespace Morfuse.Emit
open Morfuse.Gen.EmitConsts

/-- the coupling of a counting-manager state `c` and a program-manager state `p` at corresponding points of the two
passes; `L` is the length of the program buffer -/
structure Rel (L : Nat) (c p : St) : Prop where
  cc : c.counting = true
  pc : p.counting = false
  w : W c p
  gross : pl c = p.gross
  pos : p.pos ≤ p.gross
  len : p.progLen = L
  nb : c.nBrk = p.nBrk
  nc : c.nCont = p.nCont
  cb : c.canBreak = p.canBreak
  cct : c.canContinue = p.canContinue
  sd : c.switchDepth = p.switchDepth

/-- lock-step judgement: whenever the counting side returns `c'` and the final count stays within the buffer, the
program side returns a related state or fails with something else than a code overflow -/
def J (L : Nat) (x y : R St) (Q : St → St → Prop) : Prop :=
  ∀ c', x = .ok c' → pl c' ≤ L → wp y (fun p' => Q c' p') ECO

/-- `J` for a first step that returns its state inside a value, where `π` finds it (`AddLabel`,
`CreateSwitchStateScript`, `CreateCatchStateScript`: a pair) -/
def JV {α : Type} (π : α → St) (L : Nat) (x y : R α) (Q : α → α → Prop) : Prop :=
  ∀ a, x = .ok a → pl (π a) ≤ L → wp y (fun b => Q a b) ECO

/-- the bound `pl c'' ≤ L` is known at the end only; `hm` carries it back over the rest of the counting side -/
theorem JV.bind {α : Type} {π : α → St} {L : Nat} {x1 y1 : R α} {f1 f2 : α → R St} {Q1 : α → α → Prop} {Q : St → St → Prop}
    (h1 : JV π L x1 y1 Q1) (hm : ∀ a, Mono (π a) (f1 a)) (h2 : ∀ a b, Q1 a b → J L (f1 a) (f2 b) Q) :
    J L (x1 >>= f1) (y1 >>= f2) Q := by
  intro c'' hx hL
  cases hx1 : x1 with
  | error e => rw [hx1] at hx; cases hx
  | ok a =>
    rw [hx1] at hx
    have hf : f1 a = .ok c'' := hx
    have hmono : pl (π a) ≤ pl c'' := by have := hm a; rw [hf] at this; exact this
    exact wp_then (h1 a hx1 (Nat.le_trans hmono hL)) (fun b hb => h2 a b hb c'' hf hL)

theorem J.bind {L : Nat} {x1 y1 : R St} {f1 f2 : St → R St} {Q1 Q : St → St → Prop}
    (h1 : J L x1 y1 Q1) (hm : ∀ c1, Mono c1 (f1 c1)) (h2 : ∀ c1 p1, Q1 c1 p1 → J L (f1 c1) (f2 p1) Q) :
    J L (x1 >>= f1) (y1 >>= f2) Q :=
  JV.bind (π := id) h1 hm h2

theorem J.mono {L : Nat} {x y : R St} {Q Q' : St → St → Prop} (h : J L x y Q) (hq : ∀ c p, Q c p → Q' c p) : J L x y Q' :=
  fun c' hx hL => wp_post (h c' hx hL) (fun p hp => hq c' p hp)

theorem J.ok {L : Nat} {c p : St} {Q : St → St → Prop} (h : Q c p) : J L (.ok c) (.ok p) Q := by
  intro c' hx _; cases hx; exact h

theorem J.error_left {L : Nat} {e : Err} {y : R St} {Q : St → St → Prop} : J L (.error e) y Q := by
  intro c' hx; cases hx

theorem J.error_right {L : Nat} {x : R St} {e : Err} {Q : St → St → Prop} (h : ECO e) : J L x (.error e) Q :=
  fun _ _ _ => h

theorem J.ite {L : Nat} {cnd : Prop} [Decidable cnd] {a b a' b' : R St} {Q : St → St → Prop}
    (ht : cnd → J L a a' Q) (hf : ¬ cnd → J L b b' Q) : J L (if cnd then a else b) (if cnd then a' else b') Q := by
  by_cases h : cnd
  · rw [if_pos h, if_pos h]; exact ht h
  · rw [if_neg h, if_neg h]; exact hf h

/-- `x` is the counting pass run from `c`, `y` the program pass.  `x` never lowers `progLength`, under no assumption
(`J.bind` asks this of all that follows a step); under `Γ`, in all uses at least the coupling of the two start states, the
runs are in lock-step and end in `Q` -/
def SimQ (L : Nat) (Γ : Prop) (c : St) (x y : R St) (Q : St → St → Prop) : Prop := Mono c x ∧ (Γ → J L x y Q)

abbrev Sim (L : Nat) (Γ : Prop) (c : St) (x y : R St) : Prop := SimQ L Γ c x y (Rel L)

theorem Sim.bindV {α : Type} {π : α → St} {L : Nat} {Γ : Prop} {c : St} {x1 y1 : R α} {f1 f2 : α → R St}
    {Q1 : α → α → Prop} {Q : St → St → Prop} (m1 : wp x1 (fun a => pl c ≤ pl (π a)) (fun _ => True))
    (j1 : Γ → JV π L x1 y1 Q1) (h2 : ∀ a b, SimQ L (Q1 a b) (π a) (f1 a) (f2 b) Q) :
    SimQ L Γ c (x1 >>= f1) (y1 >>= f2) Q :=
  ⟨wp_then m1 (fun a ha => wp_mono (h2 a a).1 (fun _ h => Nat.le_trans ha h) (fun _ h => h)),
    fun g => JV.bind (j1 g) (fun a => (h2 a a).1) (fun a b hr => (h2 a b).2 hr)⟩

theorem Sim.bind {L : Nat} {Γ : Prop} {c : St} {x1 y1 : R St} {f1 f2 : St → R St} {Q1 Q : St → St → Prop}
    (h1 : SimQ L Γ c x1 y1 Q1) (h2 : ∀ c1 p1, SimQ L (Q1 c1 p1) c1 (f1 c1) (f2 p1) Q) :
    SimQ L Γ c (x1 >>= f1) (y1 >>= f2) Q :=
  Sim.bindV (π := id) h1.1 h1.2 h2

theorem Sim.ok {L : Nat} {Γ : Prop} {c c' p' : St} {Q : St → St → Prop} (hle : pl c ≤ pl c') (h : Γ → Q c' p') :
    SimQ L Γ c (.ok c') (.ok p') Q :=
  ⟨hle, fun g => J.ok (h g)⟩

theorem Sim.error {L : Nat} {Γ : Prop} {c : St} {e : Err} {y : R St} {Q : St → St → Prop} : SimQ L Γ c (.error e) y Q :=
  ⟨trivial, fun _ => J.error_left⟩

theorem Sim.ite {L : Nat} {Γ : Prop} {c : St} {cnd : Prop} [Decidable cnd] {a b a' b' : R St} {Q : St → St → Prop}
    (ht : cnd → SimQ L Γ c a a' Q) (hf : ¬ cnd → SimQ L Γ c b b' Q) :
    SimQ L Γ c (if cnd then a else b) (if cnd then a' else b') Q := by
  by_cases h : cnd
  · rw [if_pos h, if_pos h]; exact ht h
  · rw [if_neg h, if_neg h]; exact hf h

theorem Sim.pre {L : Nat} {Γ Γ' : Prop} {c c' : St} {x y : R St} {Q : St → St → Prop} (hle : pl c ≤ pl c') (hΓ : Γ → Γ')
    (h : SimQ L Γ' c' x y Q) : SimQ L Γ c x y Q :=
  ⟨wp_post h.1 (fun _ h' => Nat.le_trans hle h'), fun g => h.2 (hΓ g)⟩

theorem SimQ.mono {L : Nat} {Γ : Prop} {c : St} {x y : R St} {Q Q' : St → St → Prop} (h : SimQ L Γ c x y Q)
    (hq : ∀ c' p', Q c' p' → Q' c' p') : SimQ L Γ c x y Q' :=
  ⟨h.1, fun g => (h.2 g).mono hq⟩

theorem J.and {L : Nat} {x y : R St} {Q : St → St → Prop} {A B : St → Prop} (h : J L x y Q)
    (hx : wp x A (fun _ => True)) (hy : wp y B (fun _ => True)) : J L x y (fun c' p' => Q c' p' ∧ A c' ∧ B p') := by
  intro c' hc hL
  have hA : A c' := wp_of_eq_ok hx hc
  have := h c' hc hL
  cases hp : y with
  | error e => rw [hp] at this; exact this
  | ok p' => rw [hp] at this hy; exact ⟨this, hA, hy⟩

theorem SimQ.and {L : Nat} {Γ : Prop} {c : St} {x y : R St} {Q : St → St → Prop} {A B : St → Prop} (h : SimQ L Γ c x y Q)
    (hx : Γ → wp x A (fun _ => True)) (hy : Γ → wp y B (fun _ => True)) :
    SimQ L Γ c x y (fun c' p' => Q c' p' ∧ A c' ∧ B p') :=
  ⟨h.1, fun g => (h.2 g).and (hx g) (hy g)⟩

/-- the fields of the coupling that belong to one side -/
structure Side (s s' : St) : Prop where
  cnt : s'.counting = s.counting
  len : s'.progLen = s.progLen
  nb : s'.nBrk = s.nBrk
  nc : s'.nCont = s.nCont
  cb : s'.canBreak = s.canBreak
  cct : s'.canContinue = s.canContinue
  sd : s'.switchDepth = s.switchDepth
  bok : BOk s → BOk s'

theorem Side.refl (s : St) : Side s s := ⟨rfl, rfl, rfl, rfl, rfl, rfl, rfl, fun h => h⟩

theorem CodeStep.side {s t : St} (h : CodeStep s t) : Side s t := by
  refine ⟨?_, ?_, ?_, ?_, ?_, ?_, ?_, h.bok⟩ <;> rw [h.eq]

/-- all that the coupling says beyond the windows is in `Eff` -/
theorem Rel.step {L k : Nat} {c p c' p' : St} (h : Rel L c p) (ec : Eff k c c') (ep : Eff k p p') (ha : Agree c' p') :
    Rel L c' p' := by
  have sc := ec.side; have sp := ep.side
  have h1 : cnt c = pl c := if_pos h.cc
  have h2 : cnt c' = pl c' := if_pos (sc.cnt.trans h.cc)
  have h3 : cnt p = p.gross := if_neg (by rw [h.pc]; exact Bool.false_ne_true)
  have h4 : cnt p' = p'.gross := if_neg (by rw [sp.cnt, h.pc]; exact Bool.false_ne_true)
  have := ec.cnt; have := ep.cnt; have := ep.pos; have := h.gross; have := h.pos
  exact ⟨sc.cnt.trans h.cc, sp.cnt.trans h.pc, .of_agree (ec.wok h.w.vc) (ep.wok h.w.vp) (sc.bok h.w.bc) (sp.bok h.w.bp) ha,
    by omega, by omega, sp.len.trans h.len, (sc.nb.trans h.nb).trans sp.nb.symm, (sc.nc.trans h.nc).trans sp.nc.symm,
    (sc.cb.trans h.cb).trans sp.cb.symm, (sc.cct.trans h.cct).trans sp.cct.symm, (sc.sd.trans h.sd).trans sp.sd.symm⟩

theorem Rel.still {L k : Nat} {c p c' p' : St} (h : Rel L c p) (ec : Still k c c') (ep : Still k p p') : Rel L c' p' :=
  h.step ec.toEff ep.toEff (h.w.agrees.congr ec.prev ec.prevPos ep.prev ep.prevPos)

theorem Rel.arena {L : Nat} {c p c' p' : St} (h : Rel L c p) (hc : ArenaStep c c') (hp : ArenaStep p p') : Rel L c' p' := by
  rw [hc, hp]
  exact ⟨h.cc, h.pc, h.w.congr rfl rfl rfl rfl, h.gross, h.pos, h.len, h.nb, h.nc, h.cb, h.cct, h.sd⟩

/-- The fix-up tables, their counters and the flags: the coupling asks only that counters and flags are the same. -/
theorem Rel.aside {L : Nat} {c p : St} (h : Rel L c p) {t1 t2 u1 u2 : Tbl Nat} {n1 n2 m1 m2 d1 d2 : Nat} {b1 b2 k1 k2 : Bool}
    (hn : n1 = n2) (hm : m1 = m2) (hb : b1 = b2) (hk : k1 = k2) (hd : d1 = d2) :
    Rel L { c with brk := t1, cont := u1, nBrk := n1, nCont := m1, canBreak := b1, canContinue := k1, switchDepth := d1 }
      { p with brk := t2, cont := u2, nBrk := n2, nCont := m2, canBreak := b2, canContinue := k2, switchDepth := d2 } :=
  ⟨h.cc, h.pc, h.w.congr rfl rfl rfl rfl, h.gross, h.pos, h.len, hn, hm, hb, hk, hd⟩

theorem Rel.flags {L : Nat} {c p : St} (h : Rel L c p) {b1 b2 k1 k2 : Bool} {d1 d2 : Nat} (hb : b1 = b2) (hk : k1 = k2)
    (hd : d1 = d2) :
    Rel L { c with canBreak := b1, canContinue := k1, switchDepth := d1 }
      { p with canBreak := b2, canContinue := k2, switchDepth := d2 } :=
  h.aside h.nb h.nc hb hk hd

/-- `Rel.step` for runs that can fail; `A`, `B`: what each run does to its window.  The counting side's `k` bytes are within
`L`, so the program side has room for its own. -/
theorem SimQ.ofFits {L k : Nat} {c p : St} {x y : R St} {A B : St → Prop} (hx : Fits k c x) (hy : Fits k p y)
    (ax : WOk c → wp x A (fun _ => True)) (ay : WOk p → wp y B (fun _ => True))
    (ha : ∀ c' p', W c p → A c' → B p' → Agree c' p') :
    SimQ L (Rel L c p) c x y (fun c' p' => Rel L c' p' ∧ A c' ∧ B p') := by
  refine ⟨hx.mono, fun h c' hc hL => ?_⟩
  have ec := wp_of_eq_ok hx hc
  have a := wp_of_eq_ok (ax h.w.vc) hc
  have h1 : cnt c = pl c := if_pos h.cc
  have h2 : cnt c' = pl c' := if_pos (ec.counting.trans h.cc)
  have := ec.cnt; have := h.gross; have := h.pos; have := h.len
  refine wp_mono (wp_and hy (ay h.w.vp)) (fun p' ⟨ep, b⟩ => ⟨h.step ec ep (ha c' p' h.w a b), a, b⟩) fun e he => ?_
  rcases he.1 with he | ⟨_, ⟨_, hr⟩ | he | he⟩
  · exact he.eco
  · omega
  · exact he ▸ nofun
  · exact he ▸ nofun

theorem Sim.ofFits {L k : Nat} {c p : St} {x y : R St} {A B : St → Prop} (hx : Fits k c x) (hy : Fits k p y)
    (ax : WOk c → wp x A (fun _ => True)) (ay : WOk p → wp y B (fun _ => True))
    (ha : ∀ c' p', W c p → A c' → B p' → Agree c' p') : Sim L (Rel L c p) c x y :=
  (SimQ.ofFits hx hy ax ay ha).mono fun _ _ h => h.1

theorem Sim.ofStill {L k : Nat} {c p : St} {x y : R St} (hx : FitsS k c x) (hy : FitsS k p y) :
    Sim L (Rel L c p) c x y :=
  Sim.ofFits hx.fits hy.fits (fun _ => wp_mono hx (fun _ h => And.intro h.prev h.prevPos) (fun _ _ => trivial))
    (fun _ => wp_mono hy (fun _ h => And.intro h.prev h.prevPos) (fun _ _ => trivial))
    fun _ _ hw a b => hw.agrees.congr a.1 a.2 b.1 b.2

/-- `WriteOpcodeValue`: the two passes may write different bytes (string indices), but the same number of them -/
theorem write_sim {L : Nat} {c p : St} (bs1 bs2 : List Nat) (hl : bs1.length = bs2.length) :
    Sim L (Rel L c p) c (c.write bs1) (p.write bs2) :=
  Sim.ofStill (write_fits c bs1) (hl ▸ write_fits p bs2)

theorem setAt_sim {L : Nat} {c p : St} (a1 a2 : Nat) (bs1 bs2 : List Nat) :
    Sim L (Rel L c p) c (c.setAt a1 bs1) (p.setAt a2 bs2) :=
  Sim.ofStill (setAt_fits c a1 bs1) (setAt_fits p a2 bs2)

theorem Rel.moveFwd {L : Nat} {c p : St} (h : Rel L c p) (k : Nat) : Rel L (c.moveFwd k) (p.moveFwd k) :=
  h.still (moveFwd_still c k) (moveFwd_still p k)

theorem Rel.accumulate {L : Nat} {c p : St} (h : Rel L c p) (op : Nat) (off : Int) :
    Rel L (c.accumulate op off) (p.accumulate op off) :=
  h.step (accumulate_eff c op off) (accumulate_eff p op off) (h.w.accumulate op off).agrees

theorem Rel.trackStack {L : Nat} {c p : St} (h : Rel L c p) (e : Bool) (o1 o2 : Int) :
    Rel L (c.trackStack e o1) (p.trackStack e o2) :=
  h.still (trackStack_still c e o1) (trackStack_still p e o2)

theorem Rel.addString {L : Nat} {c p : St} (h : Rel L c p) (i : Nat) : Rel L (c.addString i).2 (p.addString i).2 :=
  h.still (addString_still c i) (addString_still p i)

theorem Sim.addString {L : Nat} {c p : St} {x y : R St} {Q : St → St → Prop} (i : Nat)
    (h : SimQ L (Rel L (c.addString i).2 (p.addString i).2) (c.addString i).2 x y Q) : SimQ L (Rel L c p) c x y Q :=
  Sim.pre (addString_still c i).pl (fun g => g.addString i) h

theorem clearPrev_sim {L : Nat} {c p : St} : Sim L (Rel L c p) c c.clearPrev p.clearPrev :=
  Sim.ofFits (clearPrev_fits c) (clearPrev_fits p) (A := (· = c.cleared)) (B := (· = p.cleared))
    (fun hw => by rw [clearPrev_eq c hw]; rfl) (fun hw => by rw [clearPrev_eq p hw]; rfl)
    fun _ _ hw a b => a ▸ b ▸ hw.cleared.agrees

theorem skipClear_sim {L : Nat} {c p : St} (k : Nat) :
    Sim L (Rel L c p) c (c.moveFwd k).clearPrev (p.moveFwd k).clearPrev :=
  Sim.pre (pl_moveFwd c k) (fun g => g.moveFwd k) clearPrev_sim

theorem emitOpWith_sim {L : Nat} {c p : St} (op : Nat) (off : Int) :
    Sim L (Rel L c p) c (c.emitOpWith op off) (p.emitOpWith op off) :=
  Sim.ofFits (emitOpWith_fits c op off) (emitOpWith_fits p op off) (fun _ => emitOpWith_win c op off)
    (fun _ => emitOpWith_win p op off) fun _ _ hw a b => (hw.accumulate op off).agrees.congr a.1 a.2 b.1 b.2

theorem emitOp_sim {L : Nat} {c p : St} (op : Nat) : Sim L (Rel L c p) c (c.emitOp op) (p.emitOp op) := by
  unfold St.emitOp
  dsimp only
  cases opStack? (op % 256) with
  | none => exact Sim.error
  | some o => exact emitOpWith_sim _ o

theorem emitOpBytes_sim {L : Nat} {c p : St} (op : Nat) (bs1 bs2 : List Nat) (hl : bs1.length = bs2.length) :
    Sim L (Rel L c p) c (c.emitOpBytes op bs1) (p.emitOpBytes op bs2) :=
  Sim.bind (emitOp_sim op) fun _ _ => write_sim bs1 bs2 hl

theorem emitInteger_sim {L : Nat} {c p : St} (v : Nat) : Sim L (Rel L c p) c (c.emitInteger v) (p.emitInteger v) := by
  unfold St.emitInteger
  refine Sim.ite (fun _ => emitOp_sim _) fun _ => ?_
  refine Sim.ite (fun _ => emitOpBytes_sim _ _ _ rfl) fun _ => ?_
  refine Sim.ite (fun _ => emitOpBytes_sim _ _ _ rfl) fun _ => ?_
  refine Sim.ite (fun _ => emitOpBytes_sim _ _ _ rfl) fun _ => ?_
  exact Sim.ite (fun _ => emitOpBytes_sim _ _ _ rfl) fun _ => emitOpBytes_sim _ _ _ rfl

/-- a step that starts by reading the previous opcode: the passes read the same entry, or two that no test tells apart -/
theorem J.top {L : Nat} {c p : St} (h : Rel L c p) {F G : PrevOp → R St} {Q : St → St → Prop}
    (heq : J L (F (ent c 0)) (G (ent c 0)) Q)
    (hun : tested (ent c 0).op = false → tested (ent p 0).op = false → J L (F (ent c 0)) (G (ent p 0)) Q) :
    J L (c.prevOp >>= F) (p.prevOp >>= G) Q := by
  rw [prevOp_eq c h.w.vc, prevOp_eq p h.w.vp]
  rcases h.w.top with e | ⟨h1, h2⟩
  · rw [e]; exact heq
  · exact hun h1 h2

theorem untested_ne {op k : Nat} (h : tested op = false) (hk : tested k = true) : op ≠ k :=
  fun e => by rw [e, hk] at h; cases h

theorem tested_int {op : Nat} (h : op > OP_STORE_INT0 ∧ op ≤ OP_STORE_INT8) : tested op = true :=
  decide_eq_true (Or.inl ⟨Nat.le_of_lt h.1, h.2⟩)

theorem untested_int {op : Nat} (h : tested op = false) : ¬ (op > OP_STORE_INT0 ∧ op ≤ OP_STORE_INT8) :=
  fun hr => by rw [tested_int hr] at h; cases h

/-- `ht`: the top entry is one the windows agree on -/
theorem absorb_sim {L : Nat} {c p : St} (ht : tested (ent c 0).op = true) : Sim L (Rel L c p) c c.absorb p.absorb :=
  Sim.ofFits (absorb_fits c) (absorb_fits p) (fun _ => absorb_win c) (fun _ => absorb_win p) fun _ _ hw a b =>
    (hw.pop ht).agrees.congr a.1 a.2 b.1 b.2

theorem absorbOp_sim {L : Nat} {c p : St} (ht : tested (ent c 0).op = true) (op : Nat) :
    Sim L (Rel L c p) c (c.absorb >>= fun s => s.emitOp op) (p.absorb >>= fun s => s.emitOp op) :=
  Sim.bind (absorb_sim ht) fun _ _ => emitOp_sim op

theorem varToBool_sim {L : Nat} {c p : St} : Sim L (Rel L c p) c c.varToBool p.varToBool := by
  refine ⟨mono_of (plLaws.varToBool c), fun h => ?_⟩
  unfold St.varToBool
  refine J.top h ?_ fun h1 h2 => ?_
  · refine J.ite (fun e => (absorbOp_sim (by rw [e]; decide) _).2 h) fun _ => ?_
    refine J.ite (fun e => (absorbOp_sim (tested_int e) _).2 h) fun _ => ?_
    exact J.ite (fun e => (absorb_sim (by rw [e]; decide)).2 h) fun _ => (emitOp_sim _).2 h
  · rw [if_neg (untested_ne h1 (by decide)), if_neg (untested_int h1), if_neg (untested_ne h1 (by decide)),
      if_neg (untested_ne h2 (by decide)), if_neg (untested_int h2), if_neg (untested_ne h2 (by decide))]
    exact (emitOp_sim _).2 h

theorem boolNot_sim {L : Nat} {c p : St} : Sim L (Rel L c p) c c.boolNot p.boolNot := by
  refine ⟨mono_of (plLaws.boolNot c), fun h => ?_⟩
  unfold St.boolNot
  refine J.top h ?_ fun h1 h2 => ?_
  · refine J.ite (fun e => (absorbOp_sim (by rw [e]; decide) _).2 h) fun _ => ?_
    refine J.ite (fun e => (absorb_sim (by rw [e.2]; decide)).2 h) fun _ => ?_
    exact J.ite (fun e => (absorbOp_sim (by rw [e]; decide) _).2 h) fun _ => (emitOp_sim _).2 h
  · rw [if_neg (untested_ne h1 (by decide)), if_neg (fun e => untested_ne h1 (by decide) e.2),
      if_neg (untested_ne h1 (by decide)), if_neg (untested_ne h2 (by decide)),
      if_neg (fun e => untested_ne h2 (by decide) e.2), if_neg (untested_ne h2 (by decide))]
    exact (emitOp_sim _).2 h

theorem boolToVar_sim {L : Nat} {c p : St} : Sim L (Rel L c p) c c.boolToVar p.boolToVar := by
  refine ⟨mono_of (plLaws.boolToVar c), fun h => ?_⟩
  unfold St.boolToVar
  refine J.top h ?_ fun h1 h2 => ?_
  · exact J.ite (fun e => (absorbOp_sim (by rw [e]; decide) _).2 h) fun _ => J.ok (h.accumulate _ _)
  · rw [if_neg (untested_ne h1 (by decide)), if_neg (untested_ne h2 (by decide))]
    exact J.ok (h.accumulate _ _)

theorem boolJump_sim {L : Nat} {c p : St} (t : Bool) : Sim L (Rel L c p) c (c.boolJump t) (p.boolJump t) := by
  refine ⟨mono_of (plLaws.boolJump c t), fun h => ?_⟩
  unfold St.boolJump
  refine J.top h ?_ fun h1 h2 => ?_
  · exact J.ite (fun e => (absorbOp_sim (by rw [e]; decide) _).2 h) fun _ => (emitOp_sim _).2 h
  · rw [if_neg (untested_ne h1 (by decide)), if_neg (untested_ne h2 (by decide))]
    exact (emitOp_sim _).2 h

theorem emitNot_sim {L : Nat} {c p : St} : Sim L (Rel L c p) c c.emitNot p.emitNot := by
  refine ⟨mono_of (plLaws.emitNot c), fun h => ?_⟩
  unfold St.emitNot
  refine J.top h ?_ fun h1 h2 => ?_
  · exact J.ite (fun e => (Sim.bind (absorb_sim (by rw [e]; decide)) fun _ _ => boolJump_sim true).2 h)
      fun _ => (boolJump_sim false).2 h
  · rw [if_neg (untested_ne h1 (by decide)), if_neg (untested_ne h2 (by decide))]
    exact (boolJump_sim false).2 h

theorem emitEof_sim {L : Nat} {c p : St} : Sim L (Rel L c p) c c.emitEof p.emitEof := by
  refine ⟨mono_of (plLaws.emitEof c), fun h => ?_⟩
  unfold St.emitEof
  refine J.top h ?_ fun h1 h2 => ?_
  · exact J.ite (fun _ => (emitOp_sim _).2 h) fun _ => J.ok h
  · rw [if_pos (untested_ne h1 (by decide)), if_pos (untested_ne h2 (by decide))]
    exact (emitOp_sim _).2 h

theorem addJumpLocation_sim {L : Nat} {c p : St} (a1 a2 : Nat) :
    Sim L (Rel L c p) c (c.addJumpLocation a1) (p.addJumpLocation a2) :=
  Sim.bind (setAt_sim _ _ _ _) fun _ _ => clearPrev_sim

theorem emitJumpBack_sim {L : Nat} {c p : St} (a1 a2 : Nat) :
    Sim L (Rel L c p) c (c.emitJumpBack a1) (p.emitJumpBack a2) :=
  Sim.bind (emitOp_sim _) fun _ _ => Sim.bind (write_sim _ _ (by rw [le_length, le_length])) fun _ _ => clearPrev_sim

theorem emitParameter_sim {L : Nat} {c p : St} (n : Node) :
    Sim L (Rel L c p) c (c.emitParameter n) (p.emitParameter n) := by
  unfold St.emitParameter
  split
  · refine Sim.ite (fun _ => Sim.error) fun _ => Sim.ite (fun _ => Sim.error) fun _ => ?_
    refine Sim.bind (emitOp_sim _) fun c1 p1 => Sim.bind (emitOp_sim _) fun c2 p2 => ?_
    exact Sim.addString _ (write_sim _ _ (by simp only [List.length_append, le_length]))
  · exact Sim.error
  · exact Sim.error

theorem emitParameters_sim : ∀ (ps : Nodes) {L : Nat} {c p : St},
    Sim L (Rel L c p) c (St.emitParameters ps c) (St.emitParameters ps p)
  | .nil, _, _, _ => by unfold St.emitParameters; exact Sim.ok (Nat.le_refl _) id
  | .cons x xs, _, _, _ => by
    unfold St.emitParameters
    exact Sim.bind (emitParameter_sim x) fun _ _ => emitParameters_sim xs

theorem emitLabelParameterList_sim {L : Nat} {c p : St} (hp : Bool) (ps : Nodes) :
    Sim L (Rel L c p) c (c.emitLabelParameterList hp ps) (p.emitLabelParameterList hp ps) := by
  unfold St.emitLabelParameterList
  refine Sim.bind clearPrev_sim fun c1 p1 => Sim.ite (fun _ => ?_) fun _ => Sim.ok (Nat.le_refl _) id
  exact Sim.bind (emitOp_sim _) fun _ _ => Sim.bind (emitParameters_sim ps) fun _ _ => emitOp_sim _

theorem emitExec_sim {L : Nat} {c p : St} (a b n : Nat) (off : Int) (ev : Nat) :
    Sim L (Rel L c p) c (c.emitExec a b n off ev) (p.emitExec a b n off ev) := by
  unfold St.emitExec
  by_cases hn : n > 5
  · simp only [hn, ↓reduceIte]
    exact Sim.bind (emitOpWith_sim _ _) fun _ _ => Sim.bind (write_sim _ _ rfl) fun _ _ => write_sim _ _ rfl
  · simp only [hn, ↓reduceIte]
    exact Sim.bind (emitOp_sim _) fun _ _ => write_sim _ _ rfl

theorem addBreak_sim {L : Nat} {c p : St} (a1 a2 : Nat) : Sim L (Rel L c p) c (c.addBreak a1) (p.addBreak a2) := by
  refine ⟨mono_of (plLaws.addBreak c a1), fun h => ?_⟩
  unfold St.addBreak
  rw [← h.nb]
  refine J.ite (fun _ => J.ok ?_) (fun _ => J.error_left)
  exact h.aside rfl h.nc h.cb h.cct h.sd

theorem addContinue_sim {L : Nat} {c p : St} (a1 a2 : Nat) :
    Sim L (Rel L c p) c (c.addContinue a1) (p.addContinue a2) := by
  refine ⟨mono_of (plLaws.addContinue c a1), fun h => ?_⟩
  unfold St.addContinue
  rw [← h.nc]
  refine J.ite (fun _ => J.ok ?_) (fun _ => J.error_left)
  exact h.aside h.nb rfl h.cb h.cct h.sd

theorem processBreakLoop_sim : ∀ (n : Nat) {L : Nat} {c p : St},
    Sim L (Rel L c p) c (St.processBreakLoop n c) (St.processBreakLoop n p)
  | 0, _, _, _ => by unfold St.processBreakLoop; exact Sim.ok (Nat.le_refl _) id
  | n + 1, L, c, p => by
    refine ⟨processBreakLoop_pl (n + 1) c, fun h => ?_⟩
    unfold St.processBreakLoop
    simp only [error_bind, throw_eq]
    rw [← h.nb]
    refine J.ite (fun _ => J.error_left) (fun _ => ?_)
    have hr : Rel L { c with nBrk := c.nBrk - 1 } { p with nBrk := c.nBrk - 1 } :=
      h.aside rfl h.nc h.cb h.cct h.sd
    exact (Sim.bind (setAt_sim _ _ _ _) fun _ _ => processBreakLoop_sim n).2 hr

theorem processContinueLoop_sim : ∀ (n : Nat) {L : Nat} {c p : St},
    Sim L (Rel L c p) c (St.processContinueLoop n c) (St.processContinueLoop n p)
  | 0, _, _, _ => by unfold St.processContinueLoop; exact Sim.ok (Nat.le_refl _) id
  | n + 1, L, c, p => by
    refine ⟨processContinueLoop_pl (n + 1) c, fun h => ?_⟩
    unfold St.processContinueLoop
    simp only [error_bind, throw_eq]
    rw [← h.nc]
    refine J.ite (fun _ => J.error_left) (fun _ => ?_)
    have hr : Rel L { c with nCont := c.nCont - 1 } { p with nCont := c.nCont - 1 } :=
      h.aside h.nb rfl h.cb h.cct h.sd
    exact (Sim.bind (setAt_sim _ _ _ _) fun _ _ => processContinueLoop_sim n).2 hr

theorem processBreak_sim {L : Nat} {c p : St} (k : Nat) : Sim L (Rel L c p) c (c.processBreak k) (p.processBreak k) := by
  refine ⟨mono_of (plLaws.processBreak c k), fun h => ?_⟩
  unfold St.processBreak
  rw [← h.nb]
  exact J.ite (fun _ => (Sim.bind (processBreakLoop_sim _) fun _ _ => clearPrev_sim).2 h) (fun _ => J.ok h)

theorem processContinue_sim {L : Nat} {c p : St} (k : Nat) :
    Sim L (Rel L c p) c (c.processContinue k) (p.processContinue k) := by
  refine ⟨mono_of (plLaws.processContinue c k), fun h => ?_⟩
  unfold St.processContinue
  rw [← h.nc]
  exact J.ite (fun _ => (Sim.bind (processContinueLoop_sim _) fun _ _ => clearPrev_sim).2 h) (fun _ => J.ok h)

theorem emitBreak_sim {L : Nat} {c p : St} : Sim L (Rel L c p) c c.emitBreak p.emitBreak := by
  refine ⟨mono_of (plLaws.emitBreak c), fun h => ?_⟩
  unfold St.emitBreak
  rw [← h.cb]
  refine J.ite (fun _ => ?_) (fun _ => J.error_left)
  exact (Sim.bind (emitOp_sim _) fun _ _ => Sim.bind (skipClear_sim 4) fun _ _ => addBreak_sim _ _).2 h

theorem emitContinue_sim {L : Nat} {c p : St} : Sim L (Rel L c p) c c.emitContinue p.emitContinue := by
  refine ⟨mono_of (plLaws.emitContinue c), fun h => ?_⟩
  unfold St.emitContinue
  rw [← h.cct]
  refine J.ite (fun _ => ?_) (fun _ => J.error_left)
  exact (Sim.bind (emitOp_sim _) fun _ _ => Sim.bind (skipClear_sim 4) fun _ _ => addContinue_sim _ _).2 h

end Morfuse.Emit
