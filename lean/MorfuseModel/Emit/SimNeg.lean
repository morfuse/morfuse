import MorfuseModel.Emit.SimEmit
import MorfuseModel.Emit.Bytes
/-! The two passes in lock-step through a unary minus folded into the literal before it (`EvalPrevValue`): both read
the same value before, fold it alike, and read the same value after. -/
namespace Morfuse.Emit
open Morfuse.Gen.EmitConsts

theorem evalPrev_some_tested {c : St} (hw : WOk c) (x : Bool × Nat) (h : c.evalPrev = .ok (some x)) :
    tested (ent c 0).op = true := by
  cases ht : tested (ent c 0).op
  · rw [evalPrev_nl hw (nl_of_untested ht), if_neg (untested_ne ht (by decide))] at h; cases h
  · rfl

theorem emitFunc1_minus_sim {L : Nat} {c p : St} :
    Sim L (Rel L c p ∧ c.evalPrev = p.evalPrev) c (c.emitFunc1 OP_UN_MINUS) (p.emitFunc1 OP_UN_MINUS) := by
  refine ⟨emitFunc1_pl c _, fun ⟨h, hev⟩ => ?_⟩
  unfold St.emitFunc1
  simp only [↓reduceIte]
  rw [← hev]
  cases hc : c.evalPrev with
  | error e => exact J.error_left
  | ok r =>
    simp only [ok_bind]
    cases r with
    | none => exact (emitOp_sim _).2 h
    | some x =>
      obtain ⟨f, v⟩ := x
      have ht := evalPrev_some_tested h.w.vc _ hc
      simp only []
      exact (Sim.bind (absorb_sim ht) fun _ _ =>
        Sim.ite (fun _ => emitOpBytes_sim _ _ _ rfl) fun _ => emitInteger_sim _).2 h

/-- the value `EvalPrevValue` finds right after `EmitInteger(v)` -/
def afterInt (v : Nat) : Nat :=
  if v = 0 then 0
  else if v < 256 then unle (le 1 v)
  else if v < 65536 then unle (le 2 v)
  else if v < 16777216 then unle (le 3 v)
  else if v < 4294967296 then unle (le 4 v)
  else unle (le 8 v)

theorem literal_ev {s s1 : St} (hw : WOk s) (hb : BOk s) (op k v : Nat) (f : Bool) (hk : k < 32)
    (hlit : litOf (op % 256) = some (f, k)) (hx : s.emitOpBytes op (le k v) = .ok s1) :
    s1.evalPrev = .ok (some (f, unle (le k v))) := by
  obtain ⟨w1, t1, rb⟩ := literal_spec hw hb op (le k v) (by rw [le_length]; exact hk) hx
  rw [le_length] at rb
  rw [evalPrev_lit w1 f k (by rw [t1]; exact hlit), rb]

theorem emitInteger_ev {s s1 : St} (hw : WOk s) (hb : BOk s) (v : Nat) (hx : s.emitInteger v = .ok s1) :
    s1.evalPrev = .ok (some (false, afterInt v)) := by
  unfold St.emitInteger at hx
  unfold afterInt
  split at hx
  · next h0 =>
    rw [if_pos h0]
    obtain ⟨w1, t1⟩ := wp_of_eq_ok (emitOp_top s _ hw) hx
    exact evalPrev_int0 w1 t1
  rename_i h0; rw [if_neg h0]
  split at hx
  · next h => rw [if_pos h]; exact literal_ev hw hb _ 1 v false (by decide) rfl hx
  rename_i h1; rw [if_neg h1]
  split at hx
  · next h => rw [if_pos h]; exact literal_ev hw hb _ 2 v false (by decide) rfl hx
  rename_i h2; rw [if_neg h2]
  split at hx
  · next h => rw [if_pos h]; exact literal_ev hw hb _ 3 v false (by decide) rfl hx
  rename_i h3; rw [if_neg h3]
  split at hx
  · next h => rw [if_pos h]; exact literal_ev hw hb _ 4 v false (by decide) rfl hx
  rename_i h4; rw [if_neg h4]
  exact literal_ev hw hb _ 8 v false (by decide) rfl hx

theorem emitFloat_ev {s s1 : St} (hw : WOk s) (hb : BOk s) (bits : Nat)
    (hx : s.emitOpBytes OP_STORE_FLOAT (le 4 bits) = .ok s1) :
    s1.evalPrev = .ok (some (true, unle (le 4 bits))) :=
  literal_ev hw hb _ 4 bits true (by decide) rfl hx

theorem ms_int (v : Nat) : MSP (.int v) :=
  .expr rfl fun _ => ((emitInteger_sim v).and (fun g => wp_of_ok fun _ => emitInteger_ev g.w.vc g.w.bc v)
    (fun g => wp_of_ok fun _ => emitInteger_ev g.w.vp g.w.bp v)).mono fun _ _ ⟨hr, ec, ep⟩ => ⟨hr, fun _ => ec.trans ep.symm⟩

theorem ms_float (bits : Nat) : MSP (.float bits) :=
  .expr rfl fun _ => ((emitOpBytes_sim _ _ _ rfl).and (fun g => wp_of_ok fun _ => emitFloat_ev g.w.vc g.w.bc bits)
    (fun g => wp_of_ok fun _ => emitFloat_ev g.w.vp g.w.bp bits)).mono fun _ _ ⟨hr, ec, ep⟩ => ⟨hr, fun _ => ec.trans ep.symm⟩

/-- what `EvalPrevValue` finds after `EmitFunc1(OP_UN_MINUS)`, as a function of what it found before -/
def negEv : Option (Bool × Nat) → Option (Bool × Nat)
  | some (false, v) => some (false, afterInt ((18446744073709551616 - v) % 18446744073709551616))
  | some (true, v) => some (true, unle (le 4 (if v ≥ 2147483648 then v - 2147483648 else v + 2147483648)))
  | none => none

theorem emitFunc1_minus_ev {s : St} (hw : WOk s) (hb : BOk s) {r : Option (Bool × Nat)} (hr : s.evalPrev = .ok r) :
    wp (s.emitFunc1 OP_UN_MINUS) (fun s' => s'.evalPrev = .ok (negEv r)) (fun _ => True) := by
  unfold St.emitFunc1
  rw [if_pos rfl, hr, ok_bind]
  match r with
  | none =>
    refine wp_post (emitOp_top s _ hw) fun s' ⟨w, e⟩ => ?_
    rw [evalPrev_nl w (T.of_top (by decide) ⟨w, e⟩).2, e]; rfl
  | some (f, v) =>
    simp only []
    cases ha : s.absorb with
    | error e => trivial
    | ok s1 =>
      have w1 := wp_of_eq_ok (absorb_wok s hw) ha
      have b1 := (wp_of_eq_ok (absorb_fits s) ha).bok hb
      rw [ok_bind]
      cases f
      · exact wp_of_ok fun _ => emitInteger_ev w1 b1 _
      · exact wp_of_ok fun _ => emitFloat_ev w1 b1 _

theorem emitFunc1_minus_simE {L : Nat} {c p : St} :
    SimQ L (RelE L true c p) c (c.emitFunc1 OP_UN_MINUS) (p.emitFunc1 OP_UN_MINUS) (RelE L true) := by
  refine ⟨emitFunc1_pl c _, fun ⟨h, hev⟩ => ?_⟩
  replace hev := hev rfl
  cases hr : c.evalPrev with
  | error e =>
    have : c.emitFunc1 OP_UN_MINUS = .error e := by unfold St.emitFunc1; rw [if_pos rfl, hr]; rfl
    rw [this]; exact J.error_left
  | ok r =>
    exact ((emitFunc1_minus_sim.2 ⟨h, hev⟩).and (emitFunc1_minus_ev h.w.vc h.w.bc hr)
      (emitFunc1_minus_ev h.w.vp h.w.bp (hev ▸ hr))).mono fun _ _ ⟨hr', ec, ep⟩ => ⟨hr', fun _ => ec.trans ep.symm⟩

theorem J_negInt {L : Nat} {c p : St} (h : Rel L c p) (v : Nat) :
    J L (c.emitInteger v >>= fun s => s.emitFunc1 OP_UN_MINUS) (p.emitInteger v >>= fun s => s.emitFunc1 OP_UN_MINUS) (Rel L) :=
  ((Sim.bind ((ms_int v).e rfl) fun _ _ => emitFunc1_minus_simE).2 h).mono fun _ _ h => h.1

theorem J_negFloat {L : Nat} {c p : St} (h : Rel L c p) (bits : Nat) :
    J L (c.emitOpBytes OP_STORE_FLOAT (le 4 bits) >>= fun s => s.emitFunc1 OP_UN_MINUS)
      (p.emitOpBytes OP_STORE_FLOAT (le 4 bits) >>= fun s => s.emitFunc1 OP_UN_MINUS) (Rel L) :=
  ((Sim.bind ((ms_float bits).e rfl) fun _ _ => emitFunc1_minus_simE).2 h).mono fun _ _ h => h.1

theorem ms_f1 (op : Nat) (x : Node) (ih1 : MSP x) : MSP (.f1 op x) :=
  .expr rfl fun hpl {L c p} => by
    have hx : x.plain = true := (Bool.and_eq_true_iff.mp hpl).2
    by_cases hop : op = OP_UN_MINUS
    · -- the operand's agreement is the premise of the folding step, which hands it on
      subst hop
      have hxe : x.evOk = true := (Bool.or_eq_true_iff.mp (Bool.and_eq_true_iff.mp hpl).1).resolve_left (by decide)
      exact (Sim.bind (ih1.e hx) fun c1 p1 =>
        Sim.pre (Nat.le_refl _) (fun g => ⟨g.1, fun _ => g.2 hxe⟩) emitFunc1_minus_simE).mono fun _ _ h => ⟨h.1, fun _ => h.2 rfl⟩
    · refine Sim.bind (ih1.sim hx) fun c1 p1 => ?_
      unfold St.emitFunc1
      rw [if_neg hop, if_neg hop]
      exact emitOp_simE op fun h => (Bool.not_eq_true' _).mp ((if_neg hop).symm.trans h)

end Morfuse.Emit
