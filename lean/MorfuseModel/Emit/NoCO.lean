import MorfuseModel.Emit.ArenaStep
/-! A counting emitter stays one and never reports a code overflow: `ScriptCountManager::WriteOpcodeValue` has no
buffer. -/
namespace Morfuse.Emit

theorem cnt_accumulate (s : St) (op : Nat) (o : Int) : (s.accumulate op o).counting = s.counting := rfl
theorem cnt_arena {s t : St} (h : ArenaStep s t) : t.counting = s.counting := by rw [h]

theorem alloc_nc (s : St) (n : Nat) (hc : s.counting = true) : wp (s.alloc n) (fun s' => s'.counting = true) ECO := by
  unfold St.alloc; split
  · simp [ECO]
  · exact hc

theorem cntLaws : InvLaws (fun s => s.counting = true) (fun _ _ => True) ECO :=
  InvLaws.ofArena (fun _ _ h hc => ⟨(cnt_arena h).trans hc, trivial⟩) nofun
    (Prims.ofCore
      -- the buffer errors need a program manager
      { Graded.ofInv (fun _ => trivial) (fun _ _ => trivial) with
        step := fun _ _ _ hc h => ⟨h.counting.trans hc, trivial⟩
        buf := fun _ _ _ hc hp => absurd (hc.symm.trans hp) nofun
        err := fun _ h => h _, tbl := fun _ h => h.eco }
      nofun nofun (fun _ _ _ _ _ hc => ⟨hc, trivial⟩) (fun _ _ _ _ hc => ⟨hc, trivial⟩) (fun _ _ _ _ hc => ⟨hc, trivial⟩)
      (addLabel_of_arena (fun _ _ h hc => ⟨(cnt_arena h).trans hc, trivial⟩) nofun))
    (fun _ _ _ => rfl)

structure NCL (xs : Nodes) : Prop where
  l : ∀ s, s.counting = true → wp (emitList xs s) (fun s' => s'.counting = true) ECO

theorem emit_nc (n : Node) (s : St) (hc : s.counting = true) : wp (emit n s) (fun s' => s'.counting = true) ECO :=
  wp_post ((cntLaws.walk n).e s hc) (fun _ h => h.1)

theorem nc_allL (xs : Nodes) : NCL xs :=
  ⟨fun s hc => wp_post ((cntLaws.walkL xs).l s hc) (fun _ h => h.1)⟩

theorem emitEof_nc (s : St) (hc : s.counting = true) : wp s.emitEof (fun s' => s'.counting = true) ECO :=
  wp_post (cntLaws.emitEof s 0 hc) (fun _ h => h.1)

end Morfuse.Emit
