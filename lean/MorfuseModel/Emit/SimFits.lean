import MorfuseModel.Emit.SimWalk
import MorfuseModel.Emit.NoCO
/-! The program pass of a compile stays within the length the counting pass computed (class `Node.plain`). -/
namespace Morfuse.Emit

/-- The two passes start coupled: `Preallocate` only takes from the arena (`preallocate_arena`), which the coupling does
not look at (`Rel.arena`), so this is a fact about the two fresh states. -/
theorem rel_start (dev : Bool) (A L : Nat) :
    Rel L (St.init true) { St.init false with dev := dev, arenaSize := A, progLen := L, buf := Tbl.mk' L 0 } := by
  have wok : ∀ b, WOk (St.init b) := fun b => ⟨by simp [St.init, Tbl.mk', prevMax_eq], by simp [St.init]⟩
  have top : ∀ b, tested (ent (St.init b) 0).op = false := fun b => by
    simp [ent, St.init, Tbl.mk', Tbl.get, prevMax_eq]; decide
  exact ⟨rfl, rfl, W.of_untested (wok true) ⟨(wok false).size, (wok false).pos⟩
    ⟨by simp [St.init, Tbl.mk', ringSize_eq], by simp [St.init], by simp [St.init, Tbl.mk']⟩
    ⟨by simp [St.init, Tbl.mk', ringSize_eq], by simp [St.init], by simp [Tbl.mk']⟩ (top true) (top false),
    rfl, Nat.le_refl _, rfl, rfl, rfl, rfl, rfl, rfl⟩

/-- the program pass never writes past the buffer whose length the counting pass computed
(`ScriptProgramManager::WriteOpcodeValue`'s assert, hook H3 kind 1) -/
theorem plain_code_fits (dev : Bool) (root : Node) (hpl : root.plain = true) (c : St)
    (hc : emitRoot root (St.init true) = .ok c) :
    wp (preallocate dev c.info) (fun s => emitRoot root s ≠ .error (.ub .codeOverflow)) ECO := by
  refine wp_mono (preallocate_arena dev c.info) (fun s hs he => ?_) (fun _ h => h ▸ nofun)
  have hj : J c.info.progLength (emitRoot root (St.init true)) (emitRoot root s) (Rel c.info.progLength) :=
    (Sim.bind ((ms_all root).sim hpl) fun _ _ => emitEof_sim).2 ((rel_start dev _ _).arena (ArenaStep.refl _) hs)
  have := hj c hc (Nat.le_refl _)
  rw [he] at this
  exact this rfl

/-- not the counting pass (it has no buffer), not `Preallocate`, not the program pass -/
theorem plain_compile_fits (dev : Bool) (root : Node) (hpl : root.plain = true) :
    compile dev root ≠ .error (.ub .codeOverflow) := by
  have h : wp (compile dev root) (fun _ => True) ECO := by
    unfold compile
    cases hc : emitRoot root (St.init true) with
    | error e =>
      have hcnt : wp (emitRoot root (St.init true)) (fun _ => True) ECO :=
        wp_then (emit_nc root _ rfl) fun t ht => wp_post (emitEof_nc t ht) fun _ _ => trivial
      rw [hc] at hcnt
      exact hcnt
    | ok c =>
      rw [ok_bind]
      refine wp_then (plain_code_fits dev root hpl c hc) fun s hs => ?_
      cases hr : emitRoot root s with
      | error e => exact fun he => hs (he ▸ hr)
      | ok s' => trivial
  exact fun hcmp => wp_of_eq_error h hcmp rfl

end Morfuse.Emit
