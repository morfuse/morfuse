import MorfuseModel.Emit.ArenaStep
/-!
`progLength` of the counting manager never decreases: `ScriptCountManager::MoveCodeBack` only moves the ring cursor.
For the program manager this is trivial (`info` is not touched).
-/
namespace Morfuse.Emit

abbrev Mono (s : St) (x : R St) : Prop := wp x (fun s' => pl s ≤ pl s') (fun _ => True)

theorem pl_accumulate (s : St) (op : Nat) (o : Int) : pl (s.accumulate op o) = pl s := rfl
theorem pl_moveFwd (s : St) (k : Nat) : pl s ≤ pl (s.moveFwd k) := (moveFwd_still s k).pl
theorem pl_arena {s t : St} (h : ArenaStep s t) : pl t = pl s := by rw [h]
theorem pl_enter (s : St) (r : Option SetRef) : pl (s.enter r) = pl s := pl_arena (enter_arena s r)
theorem pl_leave (s : St) (o : SetRef) (os : LabelSet) : pl (s.leave o os) = pl s := pl_arena (leave_arena s o os)

theorem Fits.mono {k : Nat} {s : St} {x : R St} (h : Fits k s x) : Mono s x :=
  wp_mono h (fun _ h => h.pl) (fun _ _ => trivial)

theorem mono_of {s : St} {x : R St}
    (h : Nt (IPre fun _ => True) (IPost (fun _ => True) fun s t => pl s ≤ pl t) (fun _ => True) s x) : Mono s x :=
  wp_post (h 0 trivial) (fun _ h => h.2)

theorem plSeq : Graded (IPre fun _ => True) (IPost (fun _ => True) fun s t => pl s ≤ pl t) :=
  Graded.ofInv (fun _ => Nat.le_refl _) Nat.le_trans

theorem plLaws : InvLaws (fun _ => True) (fun s t => pl s ≤ pl t) (fun _ => True) :=
  InvLaws.ofArena (fun _ _ h _ => ⟨trivial, Nat.le_of_eq (pl_arena h).symm⟩) trivial
    (Prims.ofCore
      (Core.ofStep plSeq fun _ _ _ _ h => ⟨trivial, h.pl⟩)
      trivial trivial (fun s _ _ _ _ _ => ⟨trivial, Nat.le_refl (pl s)⟩) (fun s _ _ _ _ => ⟨trivial, Nat.le_refl (pl s)⟩)
      (fun s _ _ _ _ => ⟨trivial, Nat.le_refl (pl s)⟩)
      (addLabel_of_arena (fun _ _ h _ => ⟨trivial, Nat.le_of_eq (pl_arena h).symm⟩) trivial))
    (fun _ _ _ => trivial)

theorem emitList_pl (xs : Nodes) (s : St) : Mono s (emitList xs s) :=
  wp_post ((plLaws.walkL xs).l s trivial) (fun _ h => h.2)

theorem emitFunc1_pl (s : St) (op : Nat) : Mono s (s.emitFunc1 op) := mono_of (plLaws.emitFunc1 s op)
theorem processBreakLoop_pl (n : Nat) (s : St) : Mono s (St.processBreakLoop n s) :=
  mono_of (plSeq.processBreakLoop trivial plLaws.setAt (fun s _ _ => ⟨trivial, Nat.le_refl (pl s)⟩) n s)
theorem processContinueLoop_pl (n : Nat) (s : St) : Mono s (St.processContinueLoop n s) :=
  mono_of (plSeq.processContinueLoop trivial plLaws.setAt (fun s _ _ => ⟨trivial, Nat.le_refl (pl s)⟩) n s)

end Morfuse.Emit
