import MorfuseModel.Emit.Hoare
/-! What the counting pass counts is determined by the shape of the parse tree: it is `n.syn`. -/
namespace Morfuse.Emit

def EA (e : Err) : Prop := e ≠ .ub .arenaOverflow

/-- a graded specification that reads the arena frame only: every primitive but `AddLabel` leaves the frame alone -/
theorem Prims.ofFrA {P : Syn → FrA → Prop} {Q : Syn → FrA → FrA → Prop}
    (S : Graded (fun y s => P y (frA s)) (fun y s t => Q y (frA s) (frA t)))
    (addLabel : ∀ s i p c, P Syn.label (frA s) →
      wp (s.addLabel i p c) (fun r => r.1 = true → Q Syn.label (frA s) (frA r.2)) EA) :
    Prims (fun y s => P y (frA s)) (fun y s t => Q y (frA s) (frA t)) EA :=
  have keep : ∀ {y s t}, P y (frA s) → frA t = frA s → Q 0 (frA s) (frA t) := fun hp h => by
    rw [h]; exact S.refl (S.pre_zero hp)
  Prims.ofCore (Core.ofFrames S (fun _ _ _ hp hs => keep hp hs.2) (fun _ h => h.1)) nofun nofun
    (fun _ _ _ _ _ hp => keep hp rfl) (fun _ _ _ _ hp => keep hp rfl) (fun _ _ _ _ hp => keep hp rfl) addLabel

/-- effect of emitting a tree with contribution `y` on the counters of the counting manager -/
def CPost (y : Syn) (f f' : FrA) : Prop :=
  f'.counting = true ∧ f'.numLabels + f'.numCaseLabels = f.numLabels + f.numCaseLabels + y.lab ∧
  f'.numSwitches = f.numSwitches + y.sw ∧ f'.numCatches = f.numCatches + y.ca

theorem frA_enter_counting (s : St) (r : Option SetRef) : (s.enter r).counting = s.counting := by
  unfold St.enter; split <;> rfl
theorem frA_leave_counting (s : St) (o : SetRef) (os : LabelSet) (h : s.counting = true) : frA (s.leave o os) = frA s := by
  unfold St.leave; simp [h]

theorem addLabel_count (s : St) (i : Nat) (p c : Bool) (h : s.counting = true) :
    wp (s.addLabel i p c) (fun r => r.1 = true ∧ CPost Syn.label (frA s) (frA r.2)) EA := by
  unfold St.addLabel
  simp only [h, ↓reduceIte, wp_ok, true_and]
  cases c <;> simp [CPost, frA, Syn.label, h] <;> omega

theorem createSwitch_count (s : St) (n : Nat) (h : s.counting = true) :
    wp (s.createSwitch n) (fun r => r.1 = none ∧ CPost ⟨0, 0, 1, 0, 0⟩ (frA s) (frA r.2)) EA := by
  unfold St.createSwitch
  simp [h, CPost, frA]

theorem createCatch_count (s : St) (t n : Nat) (h : s.counting = true) :
    wp (s.createCatch t n) (fun r => r.1 = none ∧ CPost ⟨0, 0, 0, 1, 0⟩ (frA s) (frA r.2)) EA := by
  unfold St.createCatch
  simp [h, CPost, frA]

theorem enter_none (s : St) : s.enter none = s := rfl

abbrev CPre : Syn → St → Prop := fun _ s => s.counting = true
abbrev CSt : Syn → St → St → Prop := fun y s t => CPost y (frA s) (frA t)

theorem sp_count_congr {y z : Syn} {s : St} {x : R St} (h1 : y.lab = z.lab) (h2 : y.sw = z.sw) (h3 : y.ca = z.ca)
    (h : Sp CPre CSt EA y s x) : Sp CPre CSt EA z s x := by
  intro hp
  refine wp_post (h hp) (fun t ht => ?_)
  unfold CSt CPost at *
  rw [← h1, ← h2, ← h3]; exact ht

theorem cSeq : Graded CPre CSt where
  refl := fun h => ⟨h, rfl, rfl, rfl⟩
  trans := fun h1 h2 => by
    obtain ⟨_, l1, s1, k1⟩ := h1
    obtain ⟨c2, l2, s2, k2⟩ := h2
    refine ⟨c2, ?_, ?_, ?_⟩ <;> simp only [Syn.add_lab, Syn.add_sw, Syn.add_ca] <;> omega
  split := fun h => h
  next := fun _ h => h.1

theorem cPrims : Prims CPre CSt EA :=
  Prims.ofFrA (P := fun _ f => f.counting = true) (Q := CPost) cSeq fun s i p c hc =>
    wp_post (addLabel_count s i p c hc) (fun _ h _ => h.2)

theorem cNt_leave (s : St) (o : SetRef) (os : LabelSet) : Nt CPre CSt EA s (.ok (s.leave o os)) :=
  fun _ hc => by
    show CPost 0 (frA s) (frA (s.leave o os))
    rw [frA_leave_counting s o os hc]; exact cSeq.refl hc

/-- the counting manager creates no state script: `try` counts one catch block on top of its two sub-trees -/
theorem count_try (b c : Node) (wb : Walk CPre CSt EA b) (wc : Walk CPre CSt EA c) (s : St) :
    Sp CPre CSt EA (Node.try_ b c).syn s (emit (.try_ b c) s) := by
  have P := cPrims
  rw [emit]
  refine sp_count_congr (y := b.syn + ((⟨0, 0, 0, 1, 0⟩ : Syn) + c.syn)) (show _ + (0 + _) = _ + _ by rw [Nat.zero_add])
    (show _ + (0 + _) = _ + _ by rw [Nat.zero_add]) (show _ + (1 + _) = _ + _ + 1 by omega) ?_
  refine P.nt_then (P.clearPrev s) fun s1 => P.sp_bind (wb.e s1) fun s2 => P.nt_then (P.emitOp s2 _) fun s3 =>
    P.nt_then (P.skipClear s3 4) fun s4 => sp_withPre fun hc => ?_
  dsimp only
  rw [if_pos hc]
  refine P.sp_bind_pair (A := fun r => r = none) (fun _ => createCatch_count s4 _ _ hc) fun r hr => ?_
  obtain ⟨o, t⟩ := r
  cases hr
  exact P.sp_then (wc.e t) fun s5 => P.nt_pure_then (cNt_leave s5 _ _) (P.addJumpLocation _ _)

theorem count_switch (e b : Node) (we : Walk CPre CSt EA e) (wb : Walk CPre CSt EA b) (s : St) :
    Sp CPre CSt EA (Node.switch e b).syn s (emit (.switch e b) s) := by
  have P := cPrims
  rw [emit]
  refine sp_count_congr (y := e.syn + ((⟨0, 0, 1, 0, 0⟩ : Syn) + b.syn)) (show _ + (0 + _) = _ + _ by rw [Nat.zero_add])
    (show _ + (1 + _) = _ + _ + 1 by omega) (show _ + (0 + _) = _ + _ by rw [Nat.zero_add]) ?_
  refine P.sp_bind (we.e s) fun s1 => ?_
  have h12 := P.flags s1 s1.canBreak s1.canContinue (s1.switchDepth + 1)
  generalize ({ s1 with switchDepth := s1.switchDepth + 1 } : St) = s2 at h12 ⊢
  refine P.pure_then h12 (sp_withPre fun hc => ?_)
  dsimp only
  rw [if_pos hc]
  refine P.sp_bind_pair (A := fun r => r = none) (fun _ => createSwitch_count s2 _ hc) fun r hr => ?_
  obtain ⟨o, t⟩ := r
  cases hr
  refine P.nt_then (P.emitSwitchOp (t.enter none)) fun s3 => ?_
  refine P.pure_then (P.flags s3 true s3.canContinue s3.switchDepth) ?_
  refine P.nt_then (P.emitBreak _) fun s4 => P.sp_then (wb.e s4) fun s5 => P.nt_bind (P.processBreak s5 _) fun s6 => ?_
  exact P.nt_pure_then (P.flags s6 s3.canBreak s6.canContinue (s6.switchDepth - 1)) (cNt_leave _ _ _)

theorem cLaws : Laws CPre CSt EA := { cPrims with try_ := count_try, switch := count_switch }

theorem mc_all (n : Node) : Walk CPre CSt EA n := cLaws.walk n

structure MCL (xs : Nodes) : Prop where
  l : ∀ s, s.counting = true → wp (emitList xs s) (fun s' => CPost xs.syn (frA s) (frA s')) EA

theorem mc_allL (xs : Nodes) : MCL xs := ⟨(cLaws.walkL xs).l⟩

end Morfuse.Emit
