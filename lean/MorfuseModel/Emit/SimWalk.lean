import MorfuseModel.Emit.Fuse
import MorfuseModel.Emit.SimNest
import MorfuseModel.Emit.SimNeg
/-! The two passes in lock-step: fields, and the walk over the parse tree. -/
namespace Morfuse.Emit
open Morfuse.Gen.EmitConsts

theorem operands_length (i1 i2 ev : Nat) : (le 4 i1 ++ le 4 ev).length = (le 4 i2 ++ le 4 ev).length := by
  simp only [List.length_append, le_length]

/-- a field of an object; the string index is taken before the object is emitted -/
theorem fieldOf_sim {l : Node} (ih : MSP l) (hl : l.plain = true) (idx ev op : Nat) (b : Bool) (hop : byteLit (op % 256) = false)
    {L : Nat} {c p : St} :
    SimQ L (Rel L c p) c
      (emit l (c.addString idx).2 >>= fun s => s.emitOp op >>= fun s => s.write (le 4 (c.addString idx).1 ++ le 4 ev))
      (emit l (p.addString idx).2 >>= fun s => s.emitOp op >>= fun s => s.write (le 4 (p.addString idx).1 ++ le 4 ev))
      (RelE L b) :=
  Sim.addString idx <| Sim.bind (ih.sim hl) fun _ _ => emitOpBytes_simE _ _ _ (operands_length _ _ _) b hop

theorem operands_sim (idx ev : Nat) {L : Nat} {c p : St} :
    Sim L (Rel L c p) c ((c.addString idx).2.write (le 4 (c.addString idx).1 ++ le 4 ev))
      ((p.addString idx).2.write (le 4 (p.addString idx).1 ++ le 4 ev)) :=
  Sim.addString idx (write_sim _ _ (operands_length _ _ _))

theorem ms_field (idx : Nat) (ev : Nat) (rd : Nat) (wr : Nat) (l : Node) (ih1 : MSP l) : MSP (.field idx ev rd wr l) := by
  refine ⟨fun hpl {L c p} => ?_, fun hpl {L c p} => ?_, fun hpl {L c p} => ?_⟩
  · -- `EmitField`: on a listener `rd` decides (2 an error, 1 through the field, 0 the variable opcodes, with the fusion)
    simp only [emit]
    split
    · rename_i b
      have hb : b ≤ 6 := of_decide_eq_true (Bool.and_eq_true_iff.mp hpl).2
      by_cases h2 : rd = 2
      · simp only [if_pos h2]; exact Sim.error
      · simp only [if_neg h2, ok_bind]
        by_cases h1 : rd = 1
        · simp only [if_pos (decide_eq_true h1)]; exact fieldOf_sim ih1 rfl idx ev _ _ (by decide)
        · simp only [if_neg (fun h => h1 (of_decide_eq_true h))]
          -- whichever branch a pass takes, an opcode no decision tests ends up on top
          exact Sim.addString idx <| (gameVar_sim b _ _ _ _ ev hb).mono fun _ _ ⟨hr, tc, tp⟩ =>
            ⟨hr, fun _ => evalPrev_eq_of_nl hr (nl_of_untested tc) (nl_of_untested tp)⟩
    · have hp : l.plain = true := (Bool.and_eq_true_iff.mp hpl).1
      simp only [ok_bind, ↓reduceIte]; exact fieldOf_sim ih1 hp idx ev _ _ (by decide)
  · simp only [emitRef]
    exact (fieldOf_sim ih1 hpl idx ev _ false (by decide)).mono fun _ _ h => h.1
  · -- `EmitAssignmentStatement` on a field: `wr` decides likewise
    have hp : l.plain = true := hpl
    simp only [emitAssign]
    split
    · rename_i b
      by_cases h2 : wr = 2
      · simp only [if_pos h2]; exact Sim.error
      · simp only [if_neg h2, ok_bind]
        by_cases h1 : wr = 1
        · simp only [if_pos (decide_eq_true h1)]
          exact Sim.bind (ih1.sim hp) fun _ _ => Sim.bind (emitOp_sim _) fun _ _ => operands_sim idx ev
        · simp only [if_neg (fun h => h1 (of_decide_eq_true h))]
          exact Sim.bind (emitOp_sim _) fun _ _ => operands_sim idx ev
    · simp only [ok_bind, ↓reduceIte]
      exact Sim.bind (ih1.sim hp) fun _ _ => Sim.bind (emitOp_sim _) fun _ _ => operands_sim idx ev

theorem constArray_sim (n : Nat) (off : Int) {L : Nat} {c p : St} :
    SimQ L (Rel L c p) c
      (checkCount n arrayParmNumMax >>= fun _ => c.emitOpWith OP_LOAD_CONST_ARRAY1 off >>= fun s => s.write (le 2 n))
      (checkCount n arrayParmNumMax >>= fun _ => p.emitOpWith OP_LOAD_CONST_ARRAY1 off >>= fun s => s.write (le 2 n))
      (RelE L true) :=
  Sim.checkCount <| SimQ.top _ (Sim.bind (emitOpWith_sim _ _) fun _ _ => write_sim _ _ rfl)
    (fun g => wp_then (emitOpWith_T c _ _ g.w.vc (by decide)) fun s1 h1 => write_T s1 _ h1)
    (fun g => wp_then (emitOpWith_T p _ _ g.w.vp (by decide)) fun s1 h1 => write_T s1 _ h1)

/-- `EmitMethodExpression` -/
theorem methodExpr_sim (n ev : Nat) {L : Nat} {c p : St} :
    SimQ L (Rel L c p) c
      (checkCount n parmNumMax >>= fun _ => c.emitExec OP_EXEC_METHOD0 OP_EXEC_METHOD_COUNT1 n (-(n : Int)) ev)
      (checkCount n parmNumMax >>= fun _ => p.emitExec OP_EXEC_METHOD0 OP_EXEC_METHOD_COUNT1 n (-(n : Int)) ev)
      (RelE L true) :=
  Sim.checkCount <| SimQ.top _ (emitExec_sim _ _ _ _ _)
    (fun g => emitExec_T c _ _ n _ ev g.w.vc (execMethod_nl n) (by decide))
    (fun g => emitExec_T p _ _ n _ ev g.w.vp (execMethod_nl n) (by decide))

theorem boolToVar_simE {L : Nat} {c p : St} : SimQ L (Rel L c p) c c.boolToVar p.boolToVar (RelE L true) :=
  SimQ.top _ boolToVar_sim (fun g => boolToVar_T c g.w.vc) (fun g => boolToVar_T p g.w.vp)

mutual
/-- the cases follow `Laws.walk`, with `Sim.bind` in the place of the unary sequencing rules -/
theorem ms_all (n : Node) : MSP n :=
  match n with
  | .none => .stmt rfl rfl fun _ => Sim.ok (Nat.le_refl _) id
  | .next n => .stmt rfl rfl fun hpl => (ms_all n).sim hpl
  | .list xs => .stmt rfl rfl fun hpl => (ms_allL xs).sim hpl
  | .label _ _ _ => .stmt rfl rfl fun _ =>
      Sim.labelled _ _ _ _ fun _ _ => Sim.bind clearPrev_sim fun _ _ => emitLabelParameterList_sim _ _
  | .plabel _ _ _ => .stmt rfl rfl fun _ => Sim.labelled _ _ _ _ fun _ _ => emitLabelParameterList_sim _ _
  | .case _ _ _ _ _ => .stmt rfl rfl fun _ =>
      Sim.ite (fun _ => Sim.error) fun _ => Sim.labelled _ _ _ _ fun _ _ => emitLabelParameterList_sim _ _
  | .assign lhs rhs => .stmt rfl rfl fun hpl =>
      have hp := Bool.and_eq_true_iff.mp hpl
      Sim.bind ((ms_all rhs).sim hp.2) fun _ _ => (ms_all lhs).a hp.1
  | .if_ c t => .stmt rfl rfl fun hpl =>
      have hp := Bool.and_eq_true_iff.mp hpl
      Sim.cond (ms_all c) hp.1 fun _ _ => Sim.slot emitNot_sim fun _ _ _ _ =>
        Sim.bind ((ms_all t).sim hp.2) fun _ _ => addJumpLocation_sim _ _
  | .ifelse c t e => .stmt rfl rfl fun hpl =>
      have hp := Bool.and_eq_true_iff.mp hpl
      have hp1 := Bool.and_eq_true_iff.mp hp.1
      Sim.cond (ms_all c) hp1.1 fun _ _ => Sim.slot emitNot_sim fun _ _ _ _ =>
        Sim.bind ((ms_all t).sim hp1.2) fun _ _ => Sim.slot (emitOp_sim _) fun _ _ _ _ =>
        Sim.bind (addJumpLocation_sim _ _) fun _ _ => Sim.bind ((ms_all e).sim hp.2) fun _ _ => addJumpLocation_sim _ _
  | .while_ c b i => .stmt rfl rfl fun hpl {L c0 p0} =>
      have hp := Bool.and_eq_true_iff.mp hpl
      have hp1 := Bool.and_eq_true_iff.mp hp.1
      Sim.bind clearPrev_sim fun _ _ => Sim.cond (ms_all c) hp1.1 fun _ _ => Sim.slot emitNot_sim fun c3 p3 c4 p4 =>
        Sim.saved (F := fun cnt brk oc ob => whileTail b i cnt brk c0.pos c3.pos oc ob c4)
          (G := fun cnt brk oc ob => whileTail b i cnt brk p0.pos p3.pos oc ob p4) fun cnt brk oc ob =>
            Sim.loopBody (ms_all b) (ms_all i) hp1.2 hp.2 cnt oc fun _ _ => loopEnd_sim _ _ _ _ _ _
  | .do_ b c => .stmt rfl rfl fun hpl {L c0 p0} =>
      have hp := Bool.and_eq_true_iff.mp hpl
      Sim.bind clearPrev_sim fun c1 p1 =>
        Sim.saved (F := fun cnt brk oc ob => doTail b c cnt brk c0.pos oc ob c1)
          (G := fun cnt brk oc ob => doTail b c cnt brk p0.pos oc ob p1) fun cnt brk oc ob =>
            Sim.loopBody (ms_all b) (ms_all c) hp.1 hp.2 cnt oc fun _ _ => Sim.bind varToBool_sim fun _ _ =>
              Sim.bind emitNot_sim fun _ _ => Sim.pre (pl_moveFwd _ 4) (fun g => g.moveFwd 4) (loopEnd_sim _ _ _ _ _ _)
  | .and_ a b => .expr rfl fun hpl =>
      have hp := Bool.and_eq_true_iff.mp hpl
      logical_sim (ms_all a) (ms_all b) hp.1 hp.2 _
  | .or_ a b => .expr rfl fun hpl =>
      have hp := Bool.and_eq_true_iff.mp hpl
      logical_sim (ms_all a) (ms_all b) hp.1 hp.2 _
  | .mcmd _ l hasPs ps => .stmt rfl rfl fun hpl =>
      have hp := Bool.and_eq_true_iff.mp hpl
      Sim.ite (fun _ => Sim.error) fun _ => Sim.params (ms_allL ps) hp.2 hasPs fun _ _ => Sim.checkCount <|
        Sim.bind ((ms_all l).sim hp.1) fun _ _ => emitExec_sim _ _ _ _ _
  | .mcmdx _ l hasPs ps => .expr rfl fun hpl =>
      have hp := Bool.and_eq_true_iff.mp hpl
      Sim.ite (fun _ => Sim.error) fun _ => Sim.params (ms_allL ps) hp.2 hasPs fun _ _ =>
        Sim.bind ((ms_all l).sim hp.1) fun _ _ => methodExpr_sim _ _
  | .cmd _ hasPs ps => .stmt rfl rfl fun hpl =>
      Sim.ite (fun _ => Sim.error) fun _ => Sim.params (ms_allL ps) hpl hasPs fun _ _ =>
        Sim.checkCount (emitExec_sim _ _ _ _ _)
  | .cmdx _ hasPs ps => .expr rfl fun hpl =>
      Sim.ite (fun _ => Sim.error) fun _ => Sim.params (ms_allL ps) hpl hasPs fun _ _ =>
        Sim.bind (emitOp_sim _) fun _ _ => methodExpr_sim _ _
  | .field idx ev rd wr l => ms_field idx ev rd wr l (ms_all l)
  | .listener _ => .expr rfl fun _ => emitOp_simE _ (Bool.not_eq_true' _).mp
  | .str idx => .expr rfl fun _ =>
      Sim.addString idx (emitOpBytes_simE _ _ _ (by rw [le_length, le_length]) _ (by decide))
  | .int v => ms_int v
  | .float bits => ms_float bits
  | .vec a b c => .expr rfl fun hpl =>
      have hp := Bool.and_eq_true_iff.mp hpl
      have hp1 := Bool.and_eq_true_iff.mp hp.1
      Sim.bind ((ms_all a).sim hp1.1) fun _ _ => Sim.bind ((ms_all b).sim hp1.2) fun _ _ =>
        Sim.bind ((ms_all c).sim hp.2) fun _ _ => emitOp_simE _ fun _ => by decide
  | .nil => .expr rfl fun _ => emitOp_simE _ fun _ => by decide
  | .null => .expr rfl fun _ => emitOp_simE _ fun _ => by decide
  | .f1 op x => ms_f1 op x (ms_all x)
  | .f2 _ a b => .expr rfl fun hpl =>
      have hp := Bool.and_eq_true_iff.mp hpl
      Sim.bind ((ms_all a).sim hp.1) fun _ _ => Sim.bind ((ms_all b).sim hp.2) fun _ _ => emitOp_simE _ (Bool.not_eq_true' _).mp
  | .not_ x => .expr rfl fun hpl =>
      Sim.cond (ms_all x) hpl fun _ _ => Sim.bind boolNot_sim fun _ _ => boolToVar_simE
  | .idx a i =>
      ⟨fun hpl =>
          have hp := Bool.and_eq_true_iff.mp hpl
          Sim.bind ((ms_all a).sim hp.1) fun _ _ => Sim.bind ((ms_all i).sim hp.2) fun _ _ => emitOp_simE _ fun _ => by decide,
        fun hpl =>
          have hp := Bool.and_eq_true_iff.mp hpl
          Sim.bind ((ms_all a).r hp.1) fun _ _ => Sim.bind ((ms_all i).sim hp.2) fun _ _ => emitOp_sim _,
        fun hpl =>
          have hp := Bool.and_eq_true_iff.mp hpl
          Sim.bind ((ms_all a).r hp.1) fun _ _ => Sim.bind ((ms_all i).sim hp.2) fun _ _ => emitOp_sim _⟩
  | .carr a xs => .expr rfl fun hpl =>
      have hp := Bool.and_eq_true_iff.mp hpl
      Sim.bind ((ms_all a).sim hp.1) fun _ _ => Sim.bind ((ms_allL xs).sim hp.2) fun _ _ => constArray_sim _ _
  | .marr xs => .expr rfl fun hpl =>
      Sim.bind ((ms_allL xs).sim hpl) fun _ _ => constArray_sim _ _
  | .try_ b c => .stmt rfl rfl fun hpl {L c0 p0} =>
      have hp := Bool.and_eq_true_iff.mp hpl
      Sim.bind clearPrev_sim fun _ _ => Sim.bind ((ms_all b).sim hp.1) fun _ _ => Sim.slot (emitOp_sim _) fun c3 p3 c4 p4 =>
        Sim.subEmitter c _ _ rfl fun n1 n2 => catchRest_sim (ms_all c) hp.2 c0.pos p0.pos c3.pos p3.pos n1 n2
  | .switch e b => .stmt rfl rfl fun hpl =>
      have hp := Bool.and_eq_true_iff.mp hpl
      Sim.bind ((ms_all e).sim hp.1) fun c1 p1 => Sim.subEmitter b _ _ rfl fun n1 n2 =>
        Sim.pre (Nat.le_refl _) (fun g => g.flags g.cb g.cct (congrArg (· + 1) g.sd)) <|
        Sim.arena2 (createSwitch_arena _ n1) (createSwitch_arena _ n2) fun r r' =>
        Sim.pre (Nat.le_of_eq (pl_enter r.2 r.1).symm) (fun g => g.arena (enter_arena r.2 r.1) (enter_arena r'.2 r'.1)) <|
        Sim.bind emitSwitchOp_sim fun c3 p3 =>
        Sim.saved (F := fun _ brk _ ob => switchTail b brk ob c1.cur c1.curSet c3)
          (G := fun _ brk _ ob => switchTail b brk ob p1.cur p1.curSet p3) fun _ brk _ ob =>
            switchTail_sim (ms_all b) hp.2 brk ob _ _ _ _
  | .brk => .stmt rfl rfl fun _ => emitBreak_sim
  | .cont => .stmt rfl rfl fun _ => emitContinue_sim
  | .unknown _ => .stmt rfl rfl fun _ => Sim.error
theorem ms_allL (xs : Nodes) : MSPL xs :=
  match xs with
  | .nil => ⟨fun _ _ _ _ h => J.ok h⟩
  | .cons x xs => ⟨fun hpl _ _ _ h =>
      have hp := Bool.and_eq_true_iff.mp hpl
      (Sim.bind ((ms_all x).sim hp.1) fun _ _ => (ms_allL xs).sim hp.2).2 h⟩
end

end Morfuse.Emit
