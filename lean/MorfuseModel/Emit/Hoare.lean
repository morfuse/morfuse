import MorfuseModel.Emit.CodeStep
import MorfuseModel.Emit.Syn
/-! One Hoare rule for the emitter.  A specification is a precondition `Pre y s`, a postcondition `Post y s t` and a predicate
`E` on errors, graded by the contribution `y : Syn` of what is emitted; grades add along sequencing.  If it follows from the
footprint of the code-writing primitives (`Core`), the fix-up tables and `addLabel` meet it (`Prims`), and `try` and `switch`,
which open a label set so that their grade is not a sum, meet it at theirs, then `emit n` meets it at grade `n.syn` for every
tree (`Laws.walk`).  An invariant of the emitter state is the case that ignores the grade (`InvLaws.walk`).  `wp_of_eq_ok` reads
a specification on a successful run `emit n s = .ok s'`. -/
namespace Morfuse.Emit

section
variable (Pre : Syn → St → Prop) (Post : Syn → St → St → Prop) (E : Err → Prop)

def Sp (y : Syn) (s : St) (x : R St) : Prop := Pre y s → wp x (Post y s) E

/-- grade `0`, whatever is still to come -/
def Nt (s : St) (x : R St) : Prop := ∀ y, Pre y s → wp x (Post 0 s) E

def Rd {α} (x : R α) : Prop := wp x (fun _ => True) E

structure Graded : Prop where
  refl : ∀ {s}, Pre 0 s → Post 0 s s
  trans : ∀ {a b s t u}, Post a s t → Post b t u → Post (a + b) s u
  split : ∀ {a b s}, Pre (a + b) s → Pre a s
  next : ∀ {a b s t}, Pre (a + b) s → Post a s t → Pre b t

end

variable {Pre : Syn → St → Prop} {Post : Syn → St → St → Prop} {E : Err → Prop}

theorem sp_cast {y z s x} (h : y = z) (hx : Sp Pre Post E y s x) : Sp Pre Post E z s x := h ▸ hx

theorem sp_withPre {y s x} (h : Pre y s → Sp Pre Post E y s x) : Sp Pre Post E y s x := fun hp => h hp hp

theorem sp_error {y s e} (h : E e) : Sp Pre Post E y s (.error e) := fun _ => h

theorem sp_ite {c : Prop} [Decidable c] {y s} {a b : R St} (ha : c → Sp Pre Post E y s a) (hb : ¬ c → Sp Pre Post E y s b) :
    Sp Pre Post E y s (if c then a else b) :=
  fun hp => wp_ite (fun hc => ha hc hp) (fun hc => hb hc hp)

theorem nt_sp {s x} (h : Nt Pre Post E s x) : Sp Pre Post E 0 s x := fun hp => h 0 hp

theorem nt_error {s : St} {e : Err} (h : E e) : Nt Pre Post E s (.error e) := fun _ _ => h

theorem rd_then_nt {α} {s} {x : R α} {f : α → R St} (hx : Rd E x) (hf : ∀ a, Nt Pre Post E s (f a)) :
    Nt Pre Post E s (x >>= f) := by
  intro y hp
  exact wp_then hx fun a _ => hf a y hp

theorem aux_then {α} {y s} {x : R α} {A : α → Prop} {f : α → R St} (hx : wp x A E)
    (hf : ∀ a, A a → Sp Pre Post E y s (f a)) : Sp Pre Post E y s (x >>= f) := by
  intro hp
  exact wp_then hx fun a ha => hf a ha hp

namespace Graded
variable (S : Graded Pre Post)
include S

theorem pre_step {y s t} (h : Pre y s) (ht : Post 0 s t) : Pre y t :=
  S.next (a := 0) (by rw [Syn.zero_add]; exact h) ht
theorem post_stepL {y s t u} (h1 : Post 0 s t) (h2 : Post y t u) : Post y s u := by
  have := S.trans h1 h2; rwa [Syn.zero_add] at this
theorem post_stepR {y s t u} (h1 : Post y s t) (h2 : Post 0 t u) : Post y s u := by
  have := S.trans h1 h2; rwa [Syn.add_zero] at this
theorem pre_zero {y s} (h : Pre y s) : Pre 0 s :=
  S.split (b := y) (by rw [Syn.zero_add]; exact h)

theorem sp_ok {s : St} : Sp Pre Post E 0 s (.ok s) := fun h => S.refl h

theorem sp_bind {y z s} {x : R St} {f : St → R St} (hx : Sp Pre Post E y s x) (hf : ∀ t, Sp Pre Post E z t (f t)) :
    Sp Pre Post E (y + z) s (x >>= f) := by
  intro hp
  refine wp_then (hx (S.split hp)) fun t ht => ?_
  exact wp_post (hf t (S.next hp ht)) (fun u hu => S.trans ht hu)

/-- a graded step that also returns a value (`CreateSwitchStateScript`, `CreateCatchStateScript`) -/
theorem sp_bind_pair {α} {y z s} {x : R (α × St)} {A : α → Prop} {f : α × St → R St}
    (hx : Pre y s → wp x (fun r => A r.1 ∧ Post y s r.2) E) (hf : ∀ r, A r.1 → Sp Pre Post E z r.2 (f r)) :
    Sp Pre Post E (y + z) s (x >>= f) := by
  intro hp
  refine wp_then (hx (S.split hp)) fun r hr => ?_
  exact wp_post (hf r hr.1 (S.next hp hr.2)) (fun u hu => S.trans hr.2 hu)

theorem nt_refl {s : St} : Nt Pre Post E s (.ok s) := fun _ h => S.refl (S.pre_zero h)

theorem nt_bind {s} {x : R St} {f : St → R St} (hx : Nt Pre Post E s x) (hf : ∀ t, Nt Pre Post E t (f t)) :
    Nt Pre Post E s (x >>= f) := by
  intro y hp
  refine wp_then (hx y hp) fun t ht => ?_
  exact wp_post (hf t y (S.pre_step hp ht)) (fun u hu => S.post_stepL ht hu)

theorem nt_then {y s} {x : R St} {f : St → R St} (hx : Nt Pre Post E s x) (hf : ∀ t, Sp Pre Post E y t (f t)) :
    Sp Pre Post E y s (x >>= f) := by
  intro hp
  refine wp_then (hx y hp) fun t ht => ?_
  exact wp_post (hf t (S.pre_step hp ht)) (fun u hu => S.post_stepL ht hu)

theorem sp_then {y s} {x : R St} {f : St → R St} (hx : Sp Pre Post E y s x) (hf : ∀ t, Nt Pre Post E t (f t)) :
    Sp Pre Post E y s (x >>= f) := by
  intro hp
  refine wp_then (hx hp) fun t ht => ?_
  have hp0 : Pre 0 t := S.next (b := 0) (by rw [Syn.add_zero]; exact hp) ht
  exact wp_post (hf t 0 hp0) (fun u hu => S.post_stepR ht hu)

theorem pure_then {y s t x} (h : Nt Pre Post E s (.ok t)) (hx : Sp Pre Post E y t x) : Sp Pre Post E y s x := by
  intro hp
  have ht : Post 0 s t := h y hp
  exact wp_post (hx (S.pre_step hp ht)) (fun u hu => S.post_stepL ht hu)

theorem nt_pure_then {s t x} (h : Nt Pre Post E s (.ok t)) (hx : Nt Pre Post E t x) : Nt Pre Post E s x :=
  fun y hp =>
    have ht : Post 0 s t := h y hp
    wp_post (hx y (S.pre_step hp ht)) (fun _ hu => S.post_stepL ht hu)

theorem processBreakLoop (hE : E (.ub .breakIndex)) (setAt : ∀ s p bs, Nt Pre Post E s (s.setAt p bs))
    (dec : ∀ s, Nt Pre Post E s (.ok { s with nBrk := s.nBrk - 1 })) :
    ∀ n s, Nt Pre Post E s (St.processBreakLoop n s)
  | 0, _ => S.nt_refl
  | n + 1, s => by
    unfold St.processBreakLoop
    dsimp only
    split
    · exact nt_error hE
    · exact S.nt_pure_then (dec s) (S.nt_bind (setAt _ _ _) fun t => processBreakLoop hE setAt dec n t)

theorem processBreak (hE : E (.ub .breakIndex)) (setAt : ∀ s p bs, Nt Pre Post E s (s.setAt p bs))
    (clearPrev : ∀ s, Nt Pre Post E s s.clearPrev) (dec : ∀ s, Nt Pre Post E s (.ok { s with nBrk := s.nBrk - 1 }))
    (s : St) (k : Nat) : Nt Pre Post E s (s.processBreak k) := by
  unfold St.processBreak
  split
  · exact S.nt_bind (S.processBreakLoop hE setAt dec _ s) fun t => clearPrev t
  · exact S.nt_refl

theorem processContinueLoop (hE : E (.ub .continueIndex)) (setAt : ∀ s p bs, Nt Pre Post E s (s.setAt p bs))
    (dec : ∀ s, Nt Pre Post E s (.ok { s with nCont := s.nCont - 1 })) :
    ∀ n s, Nt Pre Post E s (St.processContinueLoop n s)
  | 0, _ => S.nt_refl
  | n + 1, s => by
    unfold St.processContinueLoop
    dsimp only
    split
    · exact nt_error hE
    · exact S.nt_pure_then (dec s) (S.nt_bind (setAt _ _ _) fun t => processContinueLoop hE setAt dec n t)

theorem processContinue (hE : E (.ub .continueIndex)) (setAt : ∀ s p bs, Nt Pre Post E s (s.setAt p bs))
    (clearPrev : ∀ s, Nt Pre Post E s s.clearPrev) (dec : ∀ s, Nt Pre Post E s (.ok { s with nCont := s.nCont - 1 }))
    (s : St) (k : Nat) : Nt Pre Post E s (s.processContinue k) := by
  unfold St.processContinue
  split
  · exact S.nt_bind (S.processContinueLoop hE setAt dec _ s) fun t => clearPrev t
  · exact S.nt_refl

end Graded

section
variable (Pre : Syn → St → Prop) (Post : Syn → St → St → Prop) (E : Err → Prop)

/-- for the primitives that touch neither the fix-up tables nor the label sets: the specification follows from `CodeStep`
and admits the buffer errors where the manager can raise them, the `TblErr` and what is no undefined behaviour -/
structure Core : Prop extends Graded Pre Post where
  step : ∀ y s t, Pre y s → CodeStep s t → Post 0 s t
  buf : ∀ y s e, Pre y s → s.counting = false → BufErr e → E e
  err : ∀ e, (∀ u, e ≠ .ub u) → E e
  tbl : ∀ e, TblErr e → E e

structure Prims : Prop extends Core Pre Post E where
  flags : ∀ s cb cc sd, Nt Pre Post E s (.ok { s with canBreak := cb, canContinue := cc, switchDepth := sd })
  addBreak : ∀ s p, Nt Pre Post E s (s.addBreak p)
  addContinue : ∀ s p, Nt Pre Post E s (s.addContinue p)
  processBreak : ∀ s k, Nt Pre Post E s (s.processBreak k)
  processContinue : ∀ s k, Nt Pre Post E s (s.processContinue k)
  addLabel : ∀ s i p c, Pre Syn.label s → wp (s.addLabel i p c) (fun r => r.1 = true → Post Syn.label s r.2) E

end

namespace Core
variable (L : Core Pre Post E)
include L

theorem pure {s t : St} (h : CodeStep s t) : Nt Pre Post E s (.ok t) := fun y hp => L.step y s t hp h

theorem run {k : Nat} {s : St} {x : R St} (h : Fits k s x) : Nt Pre Post E s x :=
  fun y hp => wp_mono h (fun t ht => L.step y s t hp ht.toCodeStep) fun e h => h.elim (L.tbl e) fun h => L.buf y s e hp h.1 h.bufErr

theorem write (s : St) (bs : List Nat) : Nt Pre Post E s (s.write bs) := L.run (write_fits s bs).fits
theorem moveFwd (s : St) (k : Nat) : Nt Pre Post E s (.ok (s.moveFwd k)) := L.pure (moveFwd_still s k).toCodeStep
theorem setAt (s : St) (p : Nat) (bs : List Nat) : Nt Pre Post E s (s.setAt p bs) := L.run (setAt_fits s p bs).fits
theorem addString (s : St) (i : Nat) : Nt Pre Post E s (.ok (s.addString i).2) := L.pure (addString_still s i).toCodeStep
theorem clearPrev (s : St) : Nt Pre Post E s s.clearPrev := L.run (clearPrev_fits s)
theorem accumulate (s : St) (op : Nat) (off : Int) : Nt Pre Post E s (.ok (s.accumulate op off)) :=
  L.pure (accumulate_eff s op off).toCodeStep
theorem absorb (s : St) : Nt Pre Post E s s.absorb := L.run (absorb_fits s)
theorem emitOpWith (s : St) (op : Nat) (off : Int) : Nt Pre Post E s (s.emitOpWith op off) :=
  L.run (emitOpWith_fits s op off)
theorem emitOp (s : St) (op : Nat) : Nt Pre Post E s (s.emitOp op) := L.run (emitOp_fits s op)

theorem prevOp (s : St) : Rd E s.prevOp := by
  unfold St.prevOp
  split
  · trivial
  · exact L.tbl _ (.inl rfl)

theorem checkCount (n m : Nat) : Rd E (checkCount n m) := by
  unfold Emit.checkCount
  split
  · exact L.err _ nofun
  · trivial

theorem evalPrev (s : St) : Rd E s.evalPrev := by
  rw [evalPrev_eq]; exact wp_then (L.prevOp s) fun _ _ => trivial

theorem emitOpBytes (s : St) (op : Nat) (bs : List Nat) : Nt Pre Post E s (s.emitOpBytes op bs) :=
  L.nt_bind (L.emitOp s op) fun t => L.write t bs

theorem absorbOp (s : St) (op : Nat) : Nt Pre Post E s (s.absorb >>= fun t => t.emitOp op) :=
  L.nt_bind (L.absorb s) fun t => L.emitOp t op

theorem emitInteger (s : St) (v : Nat) : Nt Pre Post E s (s.emitInteger v) := by
  unfold St.emitInteger
  repeat' split
  · exact L.emitOp s _
  all_goals exact L.emitOpBytes s _ _

theorem varToBool (s : St) : Nt Pre Post E s s.varToBool := by
  unfold St.varToBool
  refine rd_then_nt (L.prevOp s) fun p => ?_
  repeat' split
  · exact L.absorbOp s _
  · exact L.absorbOp s _
  · exact L.absorb s
  · exact L.emitOp s _

theorem boolNot (s : St) : Nt Pre Post E s s.boolNot := by
  unfold St.boolNot
  refine rd_then_nt (L.prevOp s) fun p => ?_
  repeat' split
  · exact L.absorbOp s _
  · exact L.absorb s
  · exact L.absorbOp s _
  · exact L.emitOp s _

theorem boolToVar (s : St) : Nt Pre Post E s s.boolToVar := by
  unfold St.boolToVar
  refine rd_then_nt (L.prevOp s) fun p => ?_
  split
  · exact L.absorbOp s _
  · exact L.accumulate s _ _

theorem boolJump (s : St) (onTrue : Bool) : Nt Pre Post E s (s.boolJump onTrue) := by
  unfold St.boolJump
  refine rd_then_nt (L.prevOp s) fun p => ?_
  split
  · exact L.absorbOp s _
  · exact L.emitOp s _

theorem emitNot (s : St) : Nt Pre Post E s s.emitNot := by
  unfold St.emitNot
  refine rd_then_nt (L.prevOp s) fun p => ?_
  split
  · exact L.nt_bind (L.absorb s) fun t => L.boolJump t true
  · exact L.boolJump s false

/-- the operand of a forward jump is left open -/
theorem skipClear (s : St) (k : Nat) : Nt Pre Post E s (s.moveFwd k).clearPrev :=
  L.nt_bind (L.moveFwd s k) fun t => L.clearPrev t

theorem addJumpLocation (s : St) (p : Nat) : Nt Pre Post E s (s.addJumpLocation p) :=
  L.nt_bind (L.setAt s p _) fun t => L.clearPrev t

theorem emitJumpBack (s : St) (p : Nat) : Nt Pre Post E s (s.emitJumpBack p) :=
  L.nt_bind (L.emitOp s _) fun t => L.nt_bind (L.write t _) fun u => L.clearPrev u

theorem emitEof (s : St) : Nt Pre Post E s s.emitEof := by
  unfold St.emitEof
  refine rd_then_nt (L.prevOp s) fun p => ?_
  split
  · exact L.emitOp s _
  · exact L.nt_refl

theorem emitFunc1 (s : St) (op : Nat) : Nt Pre Post E s (s.emitFunc1 op) := by
  unfold St.emitFunc1
  split
  · refine rd_then_nt (L.evalPrev s) fun r => ?_
    split
    · refine L.nt_bind (L.absorb s) fun t => ?_
      split
      · exact L.emitOpBytes t _ _
      · exact L.emitInteger t _
    · exact L.emitOp s _
  · exact L.emitOp s _

theorem emitParameter (s : St) (p : Node) : Nt Pre Post E s (s.emitParameter p) := by
  unfold St.emitParameter
  split
  · repeat' split
    · exact nt_error (L.err _ nofun)
    · exact nt_error (L.err _ nofun)
    · exact L.nt_bind (L.emitOp s _) fun t => L.nt_bind (L.emitOp t _) fun u =>
        L.nt_bind (L.addString u _) fun v => L.write v _
  · exact nt_error (L.err _ nofun)
  · exact nt_error (L.err _ nofun)

theorem emitParameters : ∀ (ps : Nodes) (s : St), Nt Pre Post E s (St.emitParameters ps s)
  | .nil, _ => L.nt_refl
  | .cons p ps, s => L.nt_bind (L.emitParameter s p) fun t => emitParameters ps t

theorem emitLabelParameterList (s : St) (hasPs : Bool) (ps : Nodes) :
    Nt Pre Post E s (s.emitLabelParameterList hasPs ps) := by
  unfold St.emitLabelParameterList
  refine L.nt_bind (L.clearPrev s) fun t => ?_
  split
  · exact L.nt_bind (L.emitOp t _) fun u => L.nt_bind (L.emitParameters ps u) fun v => L.emitOp v _
  · exact L.nt_refl

theorem emitExec (s : St) (op0 opCount n : Nat) (off : Int) (ev : Nat) :
    Nt Pre Post E s (s.emitExec op0 opCount n off ev) := by
  unfold St.emitExec
  dsimp only
  split
  · exact L.nt_bind (L.emitOpWith s _ _) fun t => L.nt_bind (L.write t _) fun u => L.write u _
  · exact L.nt_bind (L.emitOp s _) fun t => L.write t _

theorem emitSwitchOp (s : St) : Nt Pre Post E s s.emitSwitchOp := L.emitOpBytes s _ _

end Core

namespace Prims
variable (L : Prims Pre Post E)
include L

theorem emitBreak (s : St) : Nt Pre Post E s s.emitBreak := by
  unfold St.emitBreak
  split
  · exact L.nt_bind (L.emitOp s _) fun t => L.nt_bind (L.skipClear t 4) fun u => L.addBreak u _
  · exact nt_error (L.err _ nofun)

theorem emitContinue (s : St) : Nt Pre Post E s s.emitContinue := by
  unfold St.emitContinue
  split
  · exact L.nt_bind (L.emitOp s _) fun t => L.nt_bind (L.skipClear t 4) fun u => L.addContinue u _
  · exact nt_error (L.err _ nofun)

theorem labelled {s : St} {i : Nat} {p c : Bool} {f : Bool × St → R St} (hdup : ∀ t, f (false, t) = .error .duplicateLabel)
    (hf : ∀ t, Nt Pre Post E t (f (true, t))) : Sp Pre Post E Syn.label s (s.addLabel i p c >>= f) := by
  intro hp
  refine wp_then (L.addLabel s i p c hp) fun r hr => ?_
  obtain ⟨ok, t⟩ := r
  cases ok
  · rw [hdup]; exact L.err _ nofun
  · have ht := hr rfl
    have hp0 : Pre 0 t := L.next (b := 0) (by rw [Syn.add_zero]; exact hp) ht
    exact wp_post (hf t 0 hp0) (fun u hu => L.post_stepR ht hu)

end Prims

def Node.isLValue : Node → Bool
  | .field .. | .idx .. => true
  | _ => false

theorem Node.notLValue {n : Node} (h : n.isLValue = false) (s : St) :
    emitRef n s = .error .badLValue ∧ emitAssign n s = .error .badLValue := by
  cases n <;> first | exact ⟨rfl, rfl⟩ | cases h

theorem Node.listener_or (l : Node) : (∃ b, l = .listener b) ∨ ∀ b, l = .listener b → False := by
  cases l <;> first | exact Or.inl ⟨_, rfl⟩ | exact Or.inr (fun _ h => nomatch h)

section
variable (Pre : Syn → St → Prop) (Post : Syn → St → St → Prop) (E : Err → Prop)

structure Walk (n : Node) : Prop where
  e : ∀ s, Sp Pre Post E n.syn s (emit n s)
  r : ∀ s, Sp Pre Post E n.syn s (emitRef n s)
  a : ∀ s, Sp Pre Post E n.syn s (emitAssign n s)

structure WalkL (xs : Nodes) : Prop where
  l : ∀ s, Sp Pre Post E xs.syn s (emitList xs s)

end

namespace Prims
variable (L : Prims Pre Post E)
include L

theorem withParams {ps : Nodes} (ih : WalkL Pre Post E ps) (hasPs : Bool) {y : Syn} {s : St} {k : St → R St}
    (hk : ∀ t, Sp Pre Post E y t (k t)) :
    Sp Pre Post E ((if hasPs then ps.syn else 0) + y) s (if hasPs = true then emitList ps s >>= k else .ok s >>= k) := by
  cases hasPs
  · exact L.sp_bind L.sp_ok hk
  · exact L.sp_bind (ih.l s) hk

theorem notLValue {y : Syn} {n : Node} (h : n.isLValue = false) :
    (∀ s, Sp Pre Post E y s (emitRef n s)) ∧ (∀ s, Sp Pre Post E y s (emitAssign n s)) :=
  ⟨fun s => (Node.notLValue h s).1 ▸ sp_error (L.err _ nofun), fun s => (Node.notLValue h s).2 ▸ sp_error (L.err _ nofun)⟩

theorem node {n : Node} (h : n.isLValue = false) (e : ∀ s, Sp Pre Post E n.syn s (emit n s)) : Walk Pre Post E n :=
  ⟨e, (L.notLValue h).1, (L.notLValue h).2⟩

theorem fieldOperand (s : St) (idx ev : Nat) :
    Nt Pre Post E s (match s.addString idx with | (i, s) => s.write (le 4 i ++ le 4 ev)) :=
  L.nt_pure_then (L.addString s idx) (L.write _ _)

theorem field_listener (idx ev rd wr b : Nat) (s : St) :
    Nt Pre Post E s (emit (.field idx ev rd wr (.listener b)) s) := by
  rw [emit]
  refine L.nt_pure_then (L.addString s idx) ?_
  dsimp only
  split
  · exact nt_error (L.err _ nofun)
  · simp only [ok_bind]
    split
    · exact L.nt_bind (L.emitOp _ _) fun t => L.nt_bind (L.emitOp t _) fun u => L.write u _
    · refine rd_then_nt (L.prevOp _) fun p => ?_
      split
      · exact L.nt_bind (L.emitOp _ _) fun t => L.write t _
      · exact L.nt_bind (L.absorb _) fun t => L.nt_bind (L.emitOp t _) fun u => L.moveFwd u 8

theorem assign_listener (idx ev rd wr b : Nat) (s : St) :
    Nt Pre Post E s (emitAssign (.field idx ev rd wr (.listener b)) s) := by
  rw [emitAssign]
  dsimp only
  split
  · exact nt_error (L.err _ nofun)
  · simp only [ok_bind]
    split
    · exact L.nt_bind (L.emitOp _ _) fun t => L.nt_bind (L.emitOp t _) fun u => L.fieldOperand u idx ev
    · exact L.nt_bind (L.emitOp _ _) fun t => L.fieldOperand t idx ev

end Prims

section
variable (Pre : Syn → St → Prop) (Post : Syn → St → St → Prop) (E : Err → Prop)

structure Laws : Prop extends Prims Pre Post E where
  try_ : ∀ b c, Walk Pre Post E b → Walk Pre Post E c → ∀ s, Sp Pre Post E (Node.try_ b c).syn s (emit (.try_ b c) s)
  switch : ∀ e b, Walk Pre Post E e → Walk Pre Post E b → ∀ s, Sp Pre Post E (Node.switch e b).syn s (emit (.switch e b) s)

end

namespace Laws
variable (L : Laws Pre Post E)
include L

mutual
/-- Each case but `field` is applied to `emit (…) s` as it stands and unification unfolds the definition; rewriting with
the equation of `emit` first is slow to check. -/
theorem walk : ∀ n : Node, Walk Pre Post E n
  | .none => L.node rfl fun _ => L.sp_ok
  | .next n => L.node rfl fun s => (walk n).e s
  | .list xs => L.node rfl fun s => (walkL xs).l s
  | .label idx hasPs ps => L.node rfl fun s =>
      L.labelled (fun _ => rfl) fun t => L.nt_bind (L.clearPrev t) fun u => L.emitLabelParameterList u _ _
  | .plabel idx hasPs ps => L.node rfl fun s =>
      L.labelled (fun _ => rfl) fun t => L.emitLabelParameterList t _ _
  | .case kind idx ty hasPs ps => L.node rfl fun s => sp_ite (fun _ => sp_error (L.err _ nofun)) fun _ =>
      L.labelled (fun _ => rfl) fun t => L.emitLabelParameterList t _ _
  | .assign lhs rhs => L.node rfl fun s => L.sp_bind ((walk rhs).e s) fun t => (walk lhs).a t
  | .if_ c t => L.node rfl fun s =>
      L.sp_bind ((walk c).e s) fun s1 => L.nt_then (L.varToBool s1) fun s2 => L.nt_then (L.emitNot s2) fun s3 =>
        L.nt_then (L.skipClear s3 4) fun s4 => L.sp_then ((walk t).e s4) fun s5 => L.addJumpLocation s5 _
  | .ifelse c t e => L.node rfl fun s =>
      sp_cast (Syn.add_assoc _ _ _).symm <|
      L.sp_bind ((walk c).e s) fun s1 => L.nt_then (L.varToBool s1) fun s2 => L.nt_then (L.emitNot s2) fun s3 =>
        L.nt_then (L.skipClear s3 4) fun s4 => L.sp_bind ((walk t).e s4) fun s5 => L.nt_then (L.emitOp s5 _) fun s6 =>
        L.nt_then (L.skipClear s6 4) fun s7 => L.nt_then (L.addJumpLocation s7 _) fun s8 =>
        L.sp_then ((walk e).e s8) fun s9 => L.addJumpLocation s9 _
  | .while_ c b i => L.node rfl fun s =>
      sp_cast (Syn.add_assoc _ _ _).symm <|
      L.nt_then (L.clearPrev s) fun s1 => L.sp_bind ((walk c).e s1) fun s2 => L.nt_then (L.varToBool s2) fun s3 =>
        L.nt_then (L.emitNot s3) fun s4 => L.nt_then (L.skipClear s4 4) fun s5 =>
        L.pure_then (L.flags s5 true true s5.switchDepth) <| L.sp_bind ((walk b).e _) fun s6 =>
        L.nt_then (L.processContinue s6 _) fun s7 => L.pure_then (L.flags s7 s7.canBreak s5.canContinue s7.switchDepth) <|
        L.sp_then ((walk i).e _) fun s8 => L.nt_bind (L.emitJumpBack s8 _) fun s9 => L.nt_bind (L.clearPrev s9) fun s10 =>
        L.nt_bind (L.addJumpLocation s10 _) fun s11 => L.nt_bind (L.processBreak s11 _) fun s12 =>
        L.flags s12 s5.canBreak s12.canContinue s12.switchDepth
  | .do_ b c => L.node rfl fun s =>
      L.nt_then (L.clearPrev s) fun s1 => L.pure_then (L.flags s1 true true s1.switchDepth) <|
        L.sp_bind ((walk b).e _) fun s2 => L.nt_then (L.processContinue s2 _) fun s3 =>
        L.pure_then (L.flags s3 s3.canBreak s1.canContinue s3.switchDepth) <| L.sp_then ((walk c).e _) fun s4 =>
        L.nt_bind (L.varToBool s4) fun s5 => L.nt_bind (L.emitNot s5) fun s6 =>
        L.nt_pure_then (L.moveFwd s6 4) <| L.nt_bind (L.emitJumpBack _ _) fun s7 => L.nt_bind (L.clearPrev s7) fun s8 =>
        L.nt_bind (L.addJumpLocation s8 _) fun s9 => L.nt_bind (L.processBreak s9 _) fun s10 =>
        L.flags s10 s1.canBreak s10.canContinue s10.switchDepth
  | .and_ a b => L.node rfl fun s =>
      L.sp_bind ((walk a).e s) fun s1 => L.nt_then (L.varToBool s1) fun s2 => L.nt_then (L.emitOp s2 _) fun s3 =>
        L.nt_then (L.skipClear s3 4) fun s4 => L.sp_then ((walk b).e s4) fun s5 => L.nt_bind (L.varToBool s5) fun s6 =>
        L.nt_bind (L.addJumpLocation s6 _) fun s7 => L.accumulate s7 _ _
  | .or_ a b => L.node rfl fun s =>
      L.sp_bind ((walk a).e s) fun s1 => L.nt_then (L.varToBool s1) fun s2 => L.nt_then (L.emitOp s2 _) fun s3 =>
        L.nt_then (L.skipClear s3 4) fun s4 => L.sp_then ((walk b).e s4) fun s5 => L.nt_bind (L.varToBool s5) fun s6 =>
        L.nt_bind (L.addJumpLocation s6 _) fun s7 => L.accumulate s7 _ _
  | .mcmd ev l hasPs ps => L.node rfl fun s => sp_ite (fun _ => sp_error (L.err _ nofun)) fun _ =>
      L.withParams (walkL ps) hasPs fun s1 => aux_then (L.checkCount _ _) fun _ _ =>
          L.sp_then ((walk l).e s1) fun s2 => L.emitExec s2 _ _ _ _ _
  | .mcmdx ev l hasPs ps => L.node rfl fun s => sp_ite (fun _ => sp_error (L.err _ nofun)) fun _ =>
      L.withParams (walkL ps) hasPs fun s1 => L.sp_then ((walk l).e s1) fun s2 =>
          rd_then_nt (L.checkCount _ _) fun _ => L.emitExec s2 _ _ _ _ _
  | .cmd ev hasPs ps => L.node rfl fun s => sp_ite (fun _ => sp_error (L.err _ nofun)) fun _ =>
      sp_cast (Syn.add_zero _) <| L.withParams (walkL ps) hasPs fun s1 =>
          nt_sp <| rd_then_nt (L.checkCount _ _) fun _ => L.emitExec s1 _ _ _ _ _
  | .cmdx ev hasPs ps => L.node rfl fun s => sp_ite (fun _ => sp_error (L.err _ nofun)) fun _ =>
      sp_cast (Syn.add_zero _) <| L.withParams (walkL ps) hasPs fun s1 =>
          nt_sp <| L.nt_bind (L.emitOp s1 _) fun s2 => rd_then_nt (L.checkCount _ _) fun _ => L.emitExec s2 _ _ _ _ _
  | .field idx ev rd wr l =>
    ⟨fun s => by
      rcases l.listener_or with ⟨b, rfl⟩ | hl
      · exact nt_sp (L.field_listener idx ev rd wr b s)
      · rw [emit]
        · exact L.pure_then (L.addString s idx) <| L.sp_then ((walk l).e _) fun s1 => L.nt_bind (L.emitOp s1 _) fun s2 =>
            L.write s2 _
        · exact hl,
     fun s =>
      L.pure_then (L.addString s idx) <| L.sp_then ((walk l).e _) fun s1 => L.nt_bind (L.emitOp s1 _) fun s2 =>
        L.write s2 _,
     fun s => by
      rcases l.listener_or with ⟨b, rfl⟩ | hl
      · exact nt_sp (L.assign_listener idx ev rd wr b s)
      · rw [emitAssign]
        · exact L.sp_then ((walk l).e s) fun s1 => L.nt_bind (L.emitOp s1 _) fun s2 => L.fieldOperand s2 idx ev
        · exact hl⟩
  | .listener b => L.node rfl fun s => nt_sp (L.emitOp s _)
  | .str idx => L.node rfl fun s => nt_sp (L.nt_pure_then (L.addString s idx) (L.emitOpBytes _ _ _))
  | .int v => L.node rfl fun s => nt_sp (L.emitInteger s v)
  | .float bits => L.node rfl fun s => nt_sp (L.emitOpBytes s _ _)
  | .vec a b c => L.node rfl fun s =>
      sp_cast (Syn.add_assoc _ _ _).symm <|
      L.sp_bind ((walk a).e s) fun s1 => L.sp_bind ((walk b).e s1) fun s2 => L.sp_then ((walk c).e s2) fun s3 =>
        L.emitOp s3 _
  | .nil => L.node rfl fun s => nt_sp (L.emitOp s _)
  | .null => L.node rfl fun s => nt_sp (L.emitOp s _)
  | .f1 op x => L.node rfl fun s => L.sp_then ((walk x).e s) fun t => L.emitFunc1 t op
  | .f2 op a b => L.node rfl fun s =>
      L.sp_bind ((walk a).e s) fun s1 => L.sp_then ((walk b).e s1) fun s2 => L.emitOp s2 op
  | .not_ x => L.node rfl fun s =>
      L.sp_then ((walk x).e s) fun s1 => L.nt_bind (L.varToBool s1) fun s2 => L.nt_bind (L.boolNot s2) fun s3 =>
        L.boolToVar s3
  | .idx a i =>
    ⟨fun s =>
      L.sp_bind ((walk a).e s) fun s1 => L.sp_then ((walk i).e s1) fun s2 => L.emitOp s2 _,
     fun s =>
      L.sp_bind ((walk a).r s) fun s1 => L.sp_then ((walk i).e s1) fun s2 => L.emitOp s2 _,
     fun s =>
      L.sp_bind ((walk a).r s) fun s1 => L.sp_then ((walk i).e s1) fun s2 => L.emitOp s2 _⟩
  | .carr a xs => L.node rfl fun s =>
      L.sp_bind ((walk a).e s) fun s1 => L.sp_then ((walkL xs).l s1) fun s2 =>
        rd_then_nt (L.checkCount _ _) fun _ => L.nt_bind (L.emitOpWith s2 _ _) fun s3 => L.write s3 _
  | .marr xs => L.node rfl fun s =>
      L.sp_then ((walkL xs).l s) fun s1 =>
        rd_then_nt (L.checkCount _ _) fun _ => L.nt_bind (L.emitOpWith s1 _ _) fun s2 => L.write s2 _
  | .try_ b c => L.node rfl (L.try_ b c (walk b) (walk c))
  | .switch e b => L.node rfl (L.switch e b (walk e) (walk b))
  | .brk => L.node rfl fun s => nt_sp (L.emitBreak s)
  | .cont => L.node rfl fun s => nt_sp (L.emitContinue s)
  | .unknown _ => L.node rfl fun _ => sp_error (L.err _ nofun)
theorem walkL : ∀ xs : Nodes, WalkL Pre Post E xs
  | .nil => ⟨fun _ => L.sp_ok⟩
  | .cons x xs => ⟨fun s => L.sp_bind ((walk x).e s) fun t => (walkL xs).l t⟩
end

end Laws

section
variable (I : St → Prop) (Q : St → St → Prop) (E : Err → Prop)

abbrev IPre : Syn → St → Prop := fun _ s => I s
abbrev IPost : Syn → St → St → Prop := fun _ s t => I t ∧ Q s t

/-- an invariant `I` with a reflexive, transitive relation `Q` between the states before and after; `init`: the start state of
the counting sub-emitter of `try` / `switch` -/
structure InvLaws : Prop extends Prims (IPre I) (IPost I Q) E where
  createSwitch : ∀ s n, I s → wp (s.createSwitch n) (fun r => I r.2 ∧ Q s r.2) E
  createCatch : ∀ s tb n, I s → wp (s.createCatch tb n) (fun r => I r.2 ∧ Q s r.2) E
  enter : ∀ s r, Nt (IPre I) (IPost I Q) E s (.ok (s.enter r))
  leave : ∀ s o os, Nt (IPre I) (IPost I Q) E s (.ok (s.leave o os))
  init : ∀ cb cc sd, I { St.init true with canBreak := cb, canContinue := cc, switchDepth := sd }

end

variable {I : St → Prop} {Q : St → St → Prop}

theorem regrade {y z s x} (h : Sp (IPre I) (IPost I Q) E y s x) : Sp (IPre I) (IPost I Q) E z s x := h

namespace InvLaws
variable (L : InvLaws I Q E)
include L

/-- `CreateSwitchStateScript` / `CreateCatchStateScript`, then `stateScript = newStateScript` -/
theorem opened {y : Syn} {s : St} {x : R (Option SetRef × St)} {f : Option SetRef × St → R St}
    (hx : I s → wp x (fun r => I r.2 ∧ Q s r.2) E) (hf : ∀ r, Sp (IPre I) (IPost I Q) E y r.2 (f r)) :
    Sp (IPre I) (IPost I Q) E y s (x >>= f) := by
  intro hp
  refine wp_then (hx hp) fun r hr => ?_
  exact wp_post (hf r hr.1) (fun u hu => L.trans (a := y) (b := y) hr hu)

theorem subCount {n : Node} (w : Walk (IPre I) (IPost I Q) E n) (cb cc : Bool) (sd : Nat) {y : Syn} {s : St}
    {k : Nat → R St} (hk : ∀ m, Sp (IPre I) (IPost I Q) E y s (k m)) :
    Sp (IPre I) (IPost I Q) E y s
      (emit n { St.init true with canBreak := cb, canContinue := cc, switchDepth := sd } >>= fun t =>
        t.emitEof >>= fun t => .ok (t.info.numLabels + t.info.numCaseLabels) >>= k) :=
  aux_then (w.e _ (L.init cb cc sd)) fun t ht => aux_then (L.toPrims.emitEof t 0 ht.1) fun _ _ => hk _

theorem try_ (b c : Node) (wb : Walk (IPre I) (IPost I Q) E b) (wc : Walk (IPre I) (IPost I Q) E c) (s : St) :
    Sp (IPre I) (IPost I Q) E (Node.try_ b c).syn s (emit (.try_ b c) s) := by
  have P := L.toPrims
  rw [emit]
  refine regrade (y := b.syn + c.syn) <| P.nt_then (P.clearPrev s) fun s1 => P.sp_bind (wb.e s1) fun s2 => P.nt_then (P.emitOp s2 _) fun s3 =>
    P.nt_then (P.skipClear s3 4) fun s4 => ?_
  have tail : ∀ m, Sp (IPre I) (IPost I Q) E c.syn s4 (s4.createCatch s.pos m >>= fun r =>
      emit c (r.2.enter r.1) >>= fun s5 => (s5.leave s4.cur s4.curSet).addJumpLocation s3.pos) := fun m =>
    L.opened (L.createCatch s4 _ m) fun r => P.pure_then (L.enter r.2 r.1) <| P.sp_then (wc.e _) fun s5 =>
      P.nt_pure_then (L.leave s5 _ _) (P.addJumpLocation _ _)
  dsimp only
  split
  · exact tail 0
  · exact L.subCount wc _ _ _ tail

theorem switchBody {b : Node} (wb : Walk (IPre I) (IPost I Q) E b) (s : St) (m : Nat) :
    Sp (IPre I) (IPost I Q) E b.syn s (s.createSwitch m >>= fun r =>
      (r.2.enter r.1).emitSwitchOp >>= fun s3 => { s3 with canBreak := true }.emitBreak >>= fun s4 => emit b s4 >>= fun s5 =>
      s5.processBreak s3.nBrk >>= fun s6 =>
      .ok ({ s6 with canBreak := s3.canBreak, switchDepth := s6.switchDepth - 1 }.leave s.cur s.curSet)) := by
  have P := L.toPrims
  refine L.opened (L.createSwitch s m) fun r => ?_
  refine P.pure_then (L.enter r.2 r.1) ?_
  refine P.nt_then (P.emitSwitchOp (r.2.enter r.1)) fun s3 => ?_
  refine P.pure_then (P.flags s3 true s3.canContinue s3.switchDepth) ?_
  refine P.nt_then (P.emitBreak _) fun s4 => P.sp_then (wb.e s4) fun s5 => P.nt_bind (P.processBreak s5 _) fun s6 => ?_
  exact P.nt_pure_then (P.flags s6 s3.canBreak s6.canContinue (s6.switchDepth - 1)) (L.leave _ _ _)

theorem switch (e b : Node) (we : Walk (IPre I) (IPost I Q) E e) (wb : Walk (IPre I) (IPost I Q) E b) (s : St) :
    Sp (IPre I) (IPost I Q) E (Node.switch e b).syn s (emit (.switch e b) s) := by
  have P := L.toPrims
  rw [emit]
  refine regrade (y := e.syn + b.syn) <| P.sp_bind (we.e s) fun s1 => ?_
  have h12 := P.flags s1 s1.canBreak s1.canContinue (s1.switchDepth + 1)
  generalize ({ s1 with switchDepth := s1.switchDepth + 1 } : St) = s2 at h12 ⊢
  refine P.pure_then h12 ?_
  dsimp only
  split
  · exact L.switchBody wb s2 0
  · exact L.subCount wb _ _ _ (L.switchBody wb s2)

theorem laws : Laws (IPre I) (IPost I Q) E := { L.toPrims with try_ := L.try_, switch := L.switch }

theorem walk (n : Node) : Walk (IPre I) (IPost I Q) E n := L.laws.walk n
theorem walkL (xs : Nodes) : WalkL (IPre I) (IPost I Q) E xs := L.laws.walkL xs

end InvLaws

theorem Graded.ofInv (hrefl : ∀ s, Q s s) (htrans : ∀ {s t u}, Q s t → Q t u → Q s u) : Graded (IPre I) (IPost I Q) where
  refl := fun h => ⟨h, hrefl _⟩
  trans := fun h1 h2 => ⟨h2.1, htrans h1.2 h2.2⟩
  split := fun h => h
  next := fun _ h => h.1

/-- for a specification that does not look at the fix-up tables and admits their out-of-range accesses -/
theorem Prims.ofCore (C : Core Pre Post E) (hbi : E (.ub .breakIndex)) (hci : E (.ub .continueIndex))
    (flags : ∀ s cb cc sd, Nt Pre Post E s (.ok { s with canBreak := cb, canContinue := cc, switchDepth := sd }))
    (brk : ∀ s b n, Nt Pre Post E s (.ok { s with brk := b, nBrk := n }))
    (cont : ∀ s b n, Nt Pre Post E s (.ok { s with cont := b, nCont := n }))
    (addLabel : ∀ s i p c, Pre Syn.label s → wp (s.addLabel i p c) (fun r => r.1 = true → Post Syn.label s r.2) E) :
    Prims Pre Post E :=
  { C with
    flags
    addBreak := fun s p => by
      unfold St.addBreak
      split
      · exact brk s _ _
      · exact nt_error (C.err _ nofun)
    addContinue := fun s p => by
      unfold St.addContinue
      split
      · exact cont s _ _
      · exact nt_error (C.err _ nofun)
    processBreak := C.toGraded.processBreak hbi C.setAt C.clearPrev fun s => brk s s.brk _
    processContinue := C.toGraded.processContinue hci C.setAt C.clearPrev fun s => cont s s.cont _
    addLabel }

/-- specifications that read the two frames only -/
theorem Core.ofFrames (S : Graded Pre Post) (hS : ∀ y s t, Pre y s → Same s t → Post 0 s t) (hE : ∀ e, Quiet e → E e) :
    Core Pre Post E :=
  { S with
    step := fun y s t hp h => hS y s t hp h.same
    buf := fun _ _ e _ _ h => hE e (by rcases h with h | h | h <;> subst h <;> exact ⟨nofun, nofun, nofun⟩)
    err := fun _ h => hE _ (quiet_of_ne_ub h)
    tbl := fun e h => hE e (by rcases h with h | h | h <;> subst h <;> exact ⟨nofun, nofun, nofun⟩) }

theorem Core.ofStep (S : Graded Pre Post) (step : ∀ y s t, Pre y s → CodeStep s t → Post 0 s t) :
    Core Pre Post (fun _ => True) :=
  { S with step, buf := fun _ _ _ _ _ _ => trivial, err := fun _ _ => trivial, tbl := fun _ _ => trivial }

theorem neutralCore : Core (fun _ _ => True) (fun _ s t => Same s t) Quiet :=
  Core.ofFrames ⟨fun _ => Same.refl _, Same.trans, fun h => h, fun h _ => h⟩ (fun _ _ _ _ h => h) (fun _ h => h)

theorem neutral_of {s : St} {x : R St} (h : Nt (fun _ _ => True) (fun _ s t => Same s t) Quiet s x) : Neutral s x :=
  h 0 trivial

theorem setAt_neutral (s : St) (p : Nat) (bs : List Nat) : Neutral s (s.setAt p bs) := neutral_of (neutralCore.setAt s p bs)
theorem clearPrev_neutral (s : St) : Neutral s s.clearPrev := neutral_of (neutralCore.clearPrev s)
theorem emitEof_neutral (s : St) : Neutral s s.emitEof := neutral_of (neutralCore.emitEof s)

end Morfuse.Emit
