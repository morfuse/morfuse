import MorfuseModel.Emit.Model
import MorfuseModel.Common.Except
/-!
`wp x Q E`: `x : R α` returns a value satisfying `Q` or fails with an error satisfying `E`.  Two frames carry what
the C01 theorems on the fix-up tables and the arena speak of: `frB`, the fix-up table counters (`iBreakJumpLocCount`,
`iContinueJumpLocCount`), and `frA`, all that the arena accounting reads.  Every primitive that touches neither tables
nor arena keeps both and fails only with errors other than the undefined behaviours those theorems exclude (`Neutral`).
-/
namespace Morfuse.Emit

def wp {α : Type} (x : R α) (Q : α → Prop) (E : Err → Prop) : Prop :=
  match x with
  | .ok a => Q a
  | .error e => E e

@[simp] theorem wp_ok {α} (a : α) (Q : α → Prop) (E : Err → Prop) : wp (.ok a) Q E = Q a := rfl
@[simp] theorem wp_error {α} (e : Err) (Q : α → Prop) (E : Err → Prop) : wp (.error e : R α) Q E = E e := rfl
@[simp] theorem wp_pure {α} (a : α) (Q : α → Prop) (E : Err → Prop) : wp (pure a : R α) Q E = Q a := rfl
@[simp] theorem wp_throw {α} (e : Err) (Q : α → Prop) (E : Err → Prop) : wp (throw e : R α) Q E = E e := rfl

theorem wp_bind {α β} (x : R α) (f : α → R β) (Q : β → Prop) (E : Err → Prop) :
    wp (x >>= f) Q E = wp x (fun a => wp (f a) Q E) E := by
  cases x <;> rfl

theorem wp_mono {α} {x : R α} {Q Q' : α → Prop} {E E' : Err → Prop}
    (h : wp x Q E) (hq : ∀ a, Q a → Q' a) (he : ∀ e, E e → E' e) : wp x Q' E' := by
  cases x with
  | ok a => exact hq a h
  | error e => exact he e h

theorem wp_post {α} {x : R α} {Q Q' : α → Prop} {E : Err → Prop} (h : wp x Q E) (hq : ∀ a, Q a → Q' a) : wp x Q' E :=
  wp_mono h hq (fun _ h => h)

theorem wp_then {α β} {x : R α} {f : α → R β} {P : α → Prop} {Q : β → Prop} {E : Err → Prop}
    (hx : wp x P E) (hf : ∀ a, P a → wp (f a) Q E) : wp (x >>= f) Q E := by
  rw [wp_bind]; exact wp_post hx hf

theorem wp_and {α} {x : R α} {Q Q' : α → Prop} {E E' : Err → Prop} (h : wp x Q E) (h' : wp x Q' E') :
    wp x (fun a => Q a ∧ Q' a) (fun e => E e ∧ E' e) := by
  cases x <;> exact ⟨h, h'⟩

theorem wp_ite {α} {c : Prop} [Decidable c] {a b : R α} {Q : α → Prop} {E : Err → Prop}
    (ha : c → wp a Q E) (hb : ¬ c → wp b Q E) : wp (if c then a else b) Q E := by
  split
  · exact ha ‹_›
  · exact hb ‹_›

theorem wp_of_eq_ok {α} {x : R α} {a : α} {Q : α → Prop} {E : Err → Prop} (h : wp x Q E) (hx : x = .ok a) : Q a := by
  subst hx; exact h

theorem wp_of_eq_error {α} {x : R α} {e : Err} {Q : α → Prop} {E : Err → Prop} (h : wp x Q E) (hx : x = .error e) : E e := by
  subst hx; exact h

theorem wp_of_ok {α} {x : R α} {Q : α → Prop} (h : ∀ a, x = .ok a → Q a) : wp x Q (fun _ => True) := by
  cases x with
  | ok a => exact h a rfl
  | error e => trivial

structure FrB where
  nBrk : Nat
  nCont : Nat
  deriving DecidableEq

structure FrA where
  counting : Bool
  dev : Bool
  progLen : Nat
  arenaUsed : Nat
  arenaSize : Nat
  mainSet : LabelSet
  switches : Array LabelSet
  catches : Array CatchBlk
  swCont : Cont
  caCont : Cont
  cur : SetRef
  curSet : LabelSet
  numLabels : Nat
  numCaseLabels : Nat
  numSwitches : Nat
  numCatches : Nat

def frB (s : St) : FrB := ⟨s.nBrk, s.nCont⟩

def frA (s : St) : FrA :=
  { counting := s.counting, dev := s.dev, progLen := s.progLen, arenaUsed := s.arenaUsed, arenaSize := s.arenaSize,
    mainSet := s.mainSet, switches := s.switches, catches := s.catches, swCont := s.swCont, caCont := s.caCont,
    cur := s.cur, curSet := s.curSet, numLabels := s.info.numLabels, numCaseLabels := s.info.numCaseLabels,
    numSwitches := s.info.numSwitches, numCatches := s.info.numCatches }

def Same (s s' : St) : Prop := frB s' = frB s ∧ frA s' = frA s

theorem Same.refl (s : St) : Same s s := ⟨rfl, rfl⟩
theorem Same.trans {a b c : St} (h1 : Same a b) (h2 : Same b c) : Same a c :=
  ⟨h2.1.trans h1.1, h2.2.trans h1.2⟩

def Quiet (e : Err) : Prop :=
  e ≠ .ub .arenaOverflow ∧ e ≠ .ub .breakIndex ∧ e ≠ .ub .continueIndex

abbrev Neutral (s : St) (x : R St) : Prop := wp x (fun s' => Same s s') Quiet

theorem Neutral.bind {s : St} {x : R St} {f : St → R St} (hx : Neutral s x) (hf : ∀ s', Same s s' → Neutral s' (f s')) :
    Neutral s (x >>= f) := by
  unfold Neutral at *
  refine wp_then hx ?_
  intro a ha
  exact wp_post (hf a ha) (fun b hb => ha.trans hb)

theorem Neutral.ok {s s' : St} (h : Same s s') : Neutral s (.ok s') := h
theorem Neutral.pure {s s' : St} (h : Same s s') : Neutral s (pure s') := h

theorem Tbl.get_set {α} [Inhabited α] (t : Tbl α) (i j : Nat) (v : α) (hi : i < t.data.size) :
    (t.set i v).get j = if i = j then v else t.get j := by
  unfold Tbl.set Tbl.get
  by_cases h : i = j
  · subst h; simp [Array.getD, hi]
  · simp [Array.getD, h]
    split <;> simp_all

theorem Tbl.size_set {α} (t : Tbl α) (i : Nat) (v : α) : (t.set i v).data.size = t.data.size := by
  simp [Tbl.set]

@[simp] theorem le_length (k n : Nat) : (le k n).length = k := by
  induction k generalizing n with
  | zero => rfl
  | succ k ih => simp only [le, List.length_cons, ih]

theorem ringWrite_eq (bs : List Nat) (s : St) :
    s.ringWrite bs = { s with ring := (s.ringWrite bs).ring, ringCur := (s.ringWrite bs).ringCur } := by
  induction bs generalizing s with
  | nil => rfl
  | cons b bs ih => unfold St.ringWrite; rw [ih]

theorem accumulate_same (s : St) (op : Nat) (off : Int) : Same s (s.accumulate op off) := ⟨rfl, rfl⟩

theorem Neutral.bindRead {α} {s : St} {x : R α} {f : α → R St} (hx : wp x (fun _ => True) Quiet) (hf : ∀ a, Neutral s (f a)) :
    Neutral s (x >>= f) := by
  unfold Neutral at *
  exact wp_then hx fun a _ => hf a

theorem quiet_of_ne_ub {e : Err} (h : ∀ u, e ≠ .ub u) : Quiet e := ⟨h _, h _, h _⟩

theorem opLen_read (op : Nat) : wp (match opLen? op with | some l => (.ok l : R Nat) | none => .error (.ub .opcodeTable)) (fun _ => True) Quiet := by
  split
  · trivial
  · simp [Quiet]

theorem opStack_read (op : Nat) : wp (match opStack? op with | some l => (.ok l : R Int) | none => .error (.ub .opcodeTable)) (fun _ => True) Quiet := by
  split
  · trivial
  · simp [Quiet]

theorem opExt_read (op : Nat) : wp (match opExt? op with | some l => (.ok l : R Bool) | none => .error (.ub .opcodeTable)) (fun _ => True) Quiet := by
  split
  · trivial
  · simp [Quiet]

@[simp] theorem ok_bind {α β} (a : α) (f : α → R β) : ((Except.ok a : R α) >>= f) = f a := Except.ok_bind a f
@[simp] theorem error_bind {α β} (e : Err) (f : α → R β) : ((Except.error e : R α) >>= f) = Except.error e :=
  Except.error_bind e f
theorem throw_eq {α} (e : Err) : (throw e : R α) = Except.error e := rfl
theorem pure_eq {α} (a : α) : (pure a : R α) = Except.ok a := rfl

theorem same_iff (s s' : St) : Same s s' ↔ (frB s' = frB s ∧ frA s' = frA s) := Iff.rfl

theorem frB_trackStack (s : St) (ext : Bool) (off : Int) : frB (s.trackStack ext off) = frB s := by
  unfold St.trackStack; cases ext <;> rfl
theorem frB_accumulate (s : St) (op : Nat) (off : Int) : frB (s.accumulate op off) = frB s := rfl
theorem frA_accumulate (s : St) (op : Nat) (off : Int) : frA (s.accumulate op off) = frA s := rfl
theorem frB_moveFwd (s : St) (k : Nat) : frB (s.moveFwd k) = frB s := by unfold St.moveFwd; split <;> rfl
theorem frB_addString (s : St) (k : Nat) : frB (s.addString k).2 = frB s := by unfold St.addString; split <;> rfl
theorem frB_enter (s : St) (r : Option SetRef) : frB (s.enter r) = frB s := by
  unfold St.enter; split <;> rfl
theorem frB_leave (s : St) (o : SetRef) (os : LabelSet) : frB (s.leave o os) = frB s := by
  unfold St.leave St.storeCur; split
  · rfl
  · split <;> rfl

/-- normalise a `wp` goal: binds become nested `wp`s, join points are inlined -/
macro "wp_simp" : tactic =>
  `(tactic| try simp only [Neutral, ok_bind, error_bind, wp_bind, wp_ok, wp_error, throw_eq, pure_eq])

/- no rules: `fix_walk` (Fixup.lean), which nothing calls, names it -/
syntax "wp_prim" : tactic

end Morfuse.Emit
