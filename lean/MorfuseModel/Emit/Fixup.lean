import MorfuseModel.Emit.ArenaStep
/-!
`apucBreakJumpLocations[BREAK_JUMP_LOCATION_COUNT]`, `apucContinueJumpLocations[CONTINUE_JUMP_LOCATION_COUNT]`:
`AddBreakJumpLocation` / `AddContinueJumpLocation` check the counter before they store, and
`ProcessBreakJumpLocations` / `ProcessContinueJumpLocations` walk it down to a saved start value.  So `PB` (both
counters within capacity) is kept by every step of the emitter, in both passes, and under it no table access is out
of range (`Ub.breakIndex`, `Ub.continueIndex` are never the outcome).
-/
namespace Morfuse.Emit
open Morfuse.Gen.EmitConsts

def PBf (f : FrB) : Prop := f.nBrk ≤ breakMax ∧ f.nCont ≤ continueMax
def PB (s : St) : Prop := PBf (frB s)
def EB (e : Err) : Prop := e ≠ .ub .breakIndex ∧ e ≠ .ub .continueIndex

theorem EB_of_quiet {e : Err} (h : Quiet e) : EB e := ⟨h.2.1, h.2.2⟩

theorem PB_of_frB {s t : St} (h : frB t = frB s) (hp : PB s) : PB t := by
  unfold PB; rw [h]; exact hp

theorem PB_of_same {s s' : St} (h : Same s s') (hp : PB s) : PB s' := PB_of_frB h.1 hp

theorem PB_init (cb cc : Bool) (sd : Nat) :
    PB { St.init true with canBreak := cb, canContinue := cc, switchDepth := sd } := by
  simp [PB, PBf, frB, St.init]

/-- close a `PB` goal from the `Same` / `PB` facts in the context -/
macro "pb_close" : tactic =>
  `(tactic| (simp only [PB, same_iff, frB_trackStack, frB_accumulate, frB_moveFwd, frB_addString, frB_enter, frB_leave] at *; grind [frB, PBf]))

theorem addBreak_pb (s : St) (p : Nat) (h : PB s) : wp (s.addBreak p) PB EB := by
  unfold St.addBreak
  split
  · simp only [wp_ok, PB, PBf, frB] at *; omega
  · simp [EB]

theorem addContinue_pb (s : St) (p : Nat) (h : PB s) : wp (s.addContinue p) PB EB := by
  unfold St.addContinue
  split
  · simp only [wp_ok, PB, PBf, frB] at *; omega
  · simp [EB]

theorem processBreakLoop_pb : ∀ (n : Nat) (s : St), PB s → n ≤ s.nBrk → wp (St.processBreakLoop n s) PB EB
  | 0, s, h, _ => h
  | n + 1, s, h, hn => by
    unfold St.processBreakLoop
    wp_simp
    split
    · exfalso; simp only [PB, PBf, frB] at h; omega
    · wp_simp
      refine wp_mono (setAt_neutral _ _ _) ?_ (fun _ => EB_of_quiet)
      intro a ha
      have hb : frB a = ⟨s.nBrk - 1, s.nCont⟩ := ha.1
      refine processBreakLoop_pb n a ?_ ?_
      · simp only [PB, PBf, frB] at *
        have := congrArg FrB.nBrk hb; have := congrArg FrB.nCont hb; simp only at *; omega
      · have := congrArg FrB.nBrk hb; simp only [frB] at this; omega

theorem processBreak_pb (s : St) (start : Nat) (h : PB s) : wp (s.processBreak start) PB EB := by
  unfold St.processBreak
  split
  · wp_simp
    refine wp_post (processBreakLoop_pb _ s h (by omega)) ?_
    intro a ha
    refine wp_mono (clearPrev_neutral _) ?_ (fun _ => EB_of_quiet)
    intro b hb
    exact PB_of_same hb ha
  · exact h

theorem processContinueLoop_pb : ∀ (n : Nat) (s : St), PB s → n ≤ s.nCont → wp (St.processContinueLoop n s) PB EB
  | 0, s, h, _ => h
  | n + 1, s, h, hn => by
    unfold St.processContinueLoop
    wp_simp
    split
    · exfalso; simp only [PB, PBf, frB] at h; omega
    · wp_simp
      refine wp_mono (setAt_neutral _ _ _) ?_ (fun _ => EB_of_quiet)
      intro a ha
      have hb : frB a = ⟨s.nBrk, s.nCont - 1⟩ := ha.1
      refine processContinueLoop_pb n a ?_ ?_
      · simp only [PB, PBf, frB] at *
        have := congrArg FrB.nBrk hb; have := congrArg FrB.nCont hb; simp only at *; omega
      · have := congrArg FrB.nCont hb; simp only [frB] at this; omega

theorem processContinue_pb (s : St) (start : Nat) (h : PB s) : wp (s.processContinue start) PB EB := by
  unfold St.processContinue
  split
  · wp_simp
    refine wp_post (processContinueLoop_pb _ s h (by omega)) ?_
    intro a ha
    refine wp_mono (clearPrev_neutral _) ?_ (fun _ => EB_of_quiet)
    intro b hb
    exact PB_of_same hb ha
  · exact h

theorem frB_arena {s t : St} (h : ArenaStep s t) : frB t = frB s := by rw [h]; rfl

/-- run through one case of the emitter -/
macro "fix_walk" e:ident l:ident r:ident a:ident : tactic =>
  `(tactic| repeat' (first
    | (wp_simp; wp_prim; intro _ _)
    | (wp_simp; with_reducible refine wp_mono ($e _ _ ?_) (fun _ _ => ?_) (fun _ h => h))
    | (wp_simp; with_reducible refine wp_mono ($l _ _ ?_) (fun _ _ => ?_) (fun _ h => h))
    | (wp_simp; with_reducible refine wp_mono ($r _ _ ?_) (fun _ _ => ?_) (fun _ h => h))
    | (wp_simp; with_reducible refine wp_mono ($a _ _ ?_) (fun _ _ => ?_) (fun _ h => h))
    | (wp_simp; with_reducible refine wp_mono (emitBreak_pb _ ?_) (fun _ _ => ?_) (fun _ h => h))
    | (wp_simp; with_reducible refine wp_mono (emitContinue_pb _ ?_) (fun _ _ => ?_) (fun _ h => h))
    | (wp_simp; with_reducible refine wp_mono (processBreak_pb _ _ ?_) (fun _ _ => ?_) (fun _ h => h))
    | (wp_simp; with_reducible refine wp_mono (processContinue_pb _ _ ?_) (fun _ _ => ?_) (fun _ h => h))
    | (wp_simp; with_reducible refine wp_mono (addLabel_frB _ _ _ _) (fun _ _ => ?_) (fun _ h => h))
    | (wp_simp; with_reducible refine wp_mono (createSwitch_frB _ _) (fun _ _ => ?_) (fun _ h => h))
    | (wp_simp; with_reducible refine wp_mono (createCatch_frB _ _ _) (fun _ _ => ?_) (fun _ h => h))
    | (wp_simp; with_reducible show PB _; first | exact PB_init _ _ _ | pb_close)
    | (wp_simp; with_reducible show EB _; simp [EB]; done)
    | (wp_simp; split)))

theorem pb_arena {s t : St} (h : ArenaStep s t) (hp : PB s) : PB t ∧ True := ⟨PB_of_frB (frB_arena h) hp, trivial⟩

theorem pbLaws : InvLaws PB (fun _ _ => True) EB :=
  InvLaws.ofArena (fun _ _ => pb_arena) ⟨nofun, nofun⟩
    { Core.ofFrames (Graded.ofInv (fun _ => trivial) (fun _ _ => trivial))
        (fun _ _ _ hp hs => ⟨PB_of_same hs hp, trivial⟩) (fun _ => EB_of_quiet) with
      flags := fun _ _ _ _ _ hp => ⟨hp, trivial⟩
      addBreak := fun s p _ hp => wp_post (addBreak_pb s p hp) (fun _ h => ⟨h, trivial⟩)
      addContinue := fun s p _ hp => wp_post (addContinue_pb s p hp) (fun _ h => ⟨h, trivial⟩)
      processBreak := fun s k _ hp => wp_post (processBreak_pb s k hp) (fun _ h => ⟨h, trivial⟩)
      processContinue := fun s k _ hp => wp_post (processContinue_pb s k hp) (fun _ h => ⟨h, trivial⟩)
      addLabel := addLabel_of_arena (fun _ _ => pb_arena) ⟨nofun, nofun⟩ }
    PB_init

structure MBL (xs : Nodes) : Prop where
  l : ∀ s, PB s → wp (emitList xs s) PB EB

theorem emit_pb (n : Node) (s : St) (h : PB s) : wp (emit n s) PB EB :=
  wp_post ((pbLaws.walk n).e s h) (fun _ h => h.1)

theorem pb_allL (xs : Nodes) : MBL xs :=
  ⟨fun s h => wp_post ((pbLaws.walkL xs).l s h) (fun _ h => h.1)⟩

theorem emitRoot_pb (root : Node) (s : St) (h : PB s) : wp (emitRoot root s) PB EB := by
  unfold emitRoot
  refine wp_then (emit_pb root s h) fun a ha => ?_
  exact wp_mono (emitEof_neutral a) (fun b hb => PB_of_same hb ha) (fun _ => EB_of_quiet)

theorem PB_init_plain (c : Bool) : PB (St.init c) := by
  simp [PB, PBf, frB, St.init]

theorem preallocate_pb (dev : Bool) (i : SizeInfo) : wp (preallocate dev i) PB EB :=
  wp_mono (preallocate_arena dev i) (fun _ h => PB_of_frB (frB_arena h) (PB_init_plain false))
    (fun _ h => h ▸ ⟨nofun, nofun⟩)

theorem compile_EB (dev : Bool) (root : Node) : wp (compile dev root) (fun _ => True) EB := by
  unfold compile
  exact wp_then (emitRoot_pb root _ (PB_init_plain true)) fun c _ => wp_then (preallocate_pb dev _) fun s hs =>
    wp_then (emitRoot_pb root s hs) fun _ _ => trivial

end Morfuse.Emit
