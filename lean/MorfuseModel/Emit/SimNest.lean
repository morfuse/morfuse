import MorfuseModel.Emit.SimEmit
import MorfuseModel.Emit.NoCO
/-! The two passes in lock-step through `try` / `catch` and `switch`: state scripts, counting sub-emitters. -/
namespace Morfuse.Emit

/-- the program side alone runs something first: the counting sub-emitter of `EmitCatch` / `EmitSwitch` -/
theorem J.right_bind {α : Type} {L : Nat} {x : R St} {z : R α} {f : α → R St} {P : α → Prop} {Q : St → St → Prop}
    (hs : wp z P ECO) (hk : ∀ a, P a → J L x (f a) Q) : J L x (z >>= f) Q := by
  intro c' hx hL
  exact wp_then hs fun a ha => hk a ha c' hx hL

theorem Rel.leave {L : Nat} {c p : St} (h : Rel L c p) (o1 o2 : SetRef) (s1 s2 : LabelSet) :
    Rel L (c.leave o1 s1) (p.leave o2 s2) :=
  h.arena (leave_arena c o1 s1) (leave_arena p o2 s2)

theorem subEmitter_eco (n : Node) (cb cc : Bool) (sd : Nat) :
    wp (emit n { St.init true with canBreak := cb, canContinue := cc, switchDepth := sd } >>= fun t => t.emitEof >>= fun t =>
        (Except.ok (t.info.numLabels + t.info.numCaseLabels) : R Nat)) (fun _ => True) ECO := by
  refine wp_then (emit_nc n _ rfl) ?_
  intro t ht
  exact wp_then (emitEof_nc t ht) fun _ _ => trivial

/-- the label count of a state script: the counting pass passes 0, the program pass first runs a counting sub-emitter
over the body (from `s2`); that run touches nothing of the program pass, and the count is used for allocation only -/
theorem Sim.subEmitter (b : Node) (s1 s2 : St) (hs2 : s2.counting = true) {L : Nat} {c p : St} {f1 f2 : Nat → R St}
    (k : ∀ n1 n2, Sim L (Rel L c p) c (f1 n1) (f2 n2)) :
    Sim L (Rel L c p) c
      (if c.counting = true then Except.ok 0 >>= f1 else
        emit b s1 >>= fun t => t.emitEof >>= fun t => Except.ok (t.info.numLabels + t.info.numCaseLabels) >>= f1)
      (if p.counting = true then Except.ok 0 >>= f2 else
        emit b s2 >>= fun t => t.emitEof >>= fun t => Except.ok (t.info.numLabels + t.info.numCaseLabels) >>= f2) := by
  have any : ∀ {α} (z : R α), wp z (fun _ => True) (fun _ => True) := fun z => by cases z <;> trivial
  refine ⟨?_, fun g => ?_⟩
  · by_cases hc : c.counting = true
    · rw [if_pos hc]; exact (k 0 0).1
    · rw [if_neg hc]; exact wp_then (any _) fun t _ => wp_then (any _) fun t _ => (k _ 0).1
  · rw [if_pos g.cc, if_neg (by rw [g.pc]; exact Bool.false_ne_true)]
    exact J.right_bind (emit_nc b s2 hs2) fun t ht => J.right_bind (emitEof_nc t ht) fun t2 _ => (k 0 _).2 g

theorem emitSwitchOp_sim {L : Nat} {c p : St} : Sim L (Rel L c p) c c.emitSwitchOp p.emitSwitchOp := by
  unfold St.emitSwitchOp
  exact emitOpBytes_sim _ _ _ (by rw [le_length, le_length])

/-- `EmitCatch` from the creation of the state script on -/
def catchRest (b : Node) (tb jmp n : Nat) (s : St) : R St :=
  s.createCatch tb n >>= fun x => emit b (x.2.enter x.1) >>= fun s' => (s'.leave s.cur s.curSet).addJumpLocation jmp

theorem catchRest_sim {b : Node} (ih : MSP b) (hb : b.plain = true) (tb1 tb2 j1 j2 n1 n2 : Nat) {L : Nat} {c p : St} :
    Sim L (Rel L c p) c (catchRest b tb1 j1 n1 c) (catchRest b tb2 j2 n2 p) :=
  Sim.arena2 (createCatch_arena c tb1 n1) (createCatch_arena p tb2 n2) fun r r' =>
    Sim.pre (Nat.le_of_eq (pl_enter r.2 r.1).symm) (fun g => g.arena (enter_arena r.2 r.1) (enter_arena r'.2 r'.1)) <|
      Sim.bind (ih.sim hb) fun c2 _ =>
      Sim.pre (Nat.le_of_eq (pl_leave c2 _ _).symm) (fun g => g.leave _ _ _ _) (addJumpLocation_sim _ _)

/-- `EmitSwitch` after the `OP_SWITCH`; the jump over the body is a break -/
def switchTail (b : Node) (brk : Nat) (ob : Bool) (cur : SetRef) (set : LabelSet) (s : St) : R St :=
  St.emitBreak { s with canBreak := true } >>= fun s => emit b s >>= fun s => s.processBreak brk >>= fun s =>
    .ok (St.leave { s with canBreak := ob, switchDepth := s.switchDepth - 1 } cur set)

theorem switchTail_sim {b : Node} (ih : MSP b) (hb : b.plain = true) (brk : Nat) (ob : Bool) (o1 o2 : SetRef)
    (s1 s2 : LabelSet) {L : Nat} {c p : St} :
    Sim L (Rel L c p) c (switchTail b brk ob o1 s1 c) (switchTail b brk ob o2 s2 p) :=
  Sim.pre (Nat.le_refl _) (fun g => g.flags rfl g.cct g.sd) <| Sim.bind emitBreak_sim fun _ _ =>
    Sim.bind (ih.sim hb) fun _ _ => Sim.bind (processBreak_sim _) fun c3 _ =>
      Sim.ok (Nat.le_of_eq (pl_leave { c3 with canBreak := ob, switchDepth := c3.switchDepth - 1 } _ _).symm) fun g =>
        (g.flags rfl g.cct (congrArg (· - 1) g.sd)).leave _ _ _ _

end Morfuse.Emit
