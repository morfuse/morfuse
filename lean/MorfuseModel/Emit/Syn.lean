import MorfuseModel.Emit.Model
/-!
`Node.syn`: what a sub-tree contributes to the arena accounting, read off the parse tree alone.  The counting pass
counts it and the program pass consumes it.
-/
namespace Morfuse.Emit
open Morfuse.Gen.EmitConsts

/-- labels (all / those that land in the set current at the root), switch and catch blocks, arena bytes taken while
the program pass emits the sub-tree -/
structure Syn where
  lab : Nat := 0
  here : Nat := 0
  sw : Nat := 0
  ca : Nat := 0
  arena : Nat := 0

instance : Add Syn := ⟨fun a b => ⟨a.lab + b.lab, a.here + b.here, a.sw + b.sw, a.ca + b.ca, a.arena + b.arena⟩⟩
instance : OfNat Syn 0 := ⟨{}⟩

@[simp] theorem Syn.add_lab (a b : Syn) : (a + b).lab = a.lab + b.lab := rfl
@[simp] theorem Syn.add_here (a b : Syn) : (a + b).here = a.here + b.here := rfl
@[simp] theorem Syn.add_sw (a b : Syn) : (a + b).sw = a.sw + b.sw := rfl
@[simp] theorem Syn.add_ca (a b : Syn) : (a + b).ca = a.ca + b.ca := rfl
@[simp] theorem Syn.add_arena (a b : Syn) : (a + b).arena = a.arena + b.arena := rfl
@[simp] theorem Syn.zero_lab : (0 : Syn).lab = 0 := rfl
@[simp] theorem Syn.zero_here : (0 : Syn).here = 0 := rfl
@[simp] theorem Syn.zero_sw : (0 : Syn).sw = 0 := rfl
@[simp] theorem Syn.zero_ca : (0 : Syn).ca = 0 := rfl
@[simp] theorem Syn.zero_arena : (0 : Syn).arena = 0 := rfl

theorem Syn.zero_add (y : Syn) : 0 + y = y := by
  cases y; simp only [HAdd.hAdd, Add.add, OfNat.ofNat]; simp
theorem Syn.add_zero (y : Syn) : y + 0 = y := by
  cases y; simp only [HAdd.hAdd, Add.add, OfNat.ofNat]; simp
theorem Syn.add_assoc (a b c : Syn) : a + b + c = a + (b + c) := by
  cases a; cases b; cases c; simp only [HAdd.hAdd, Add.add]; simp [Nat.add_assoc]

/-- `set::resize(n)`: the bytes of one table -/
def tbl (n : Nat) : Nat := if n ≤ 1 then 0 else szPtr * n

/-- one label: one entry -/
def Syn.label : Syn := ⟨1, 1, 0, 0, szEntry⟩

mutual
def Node.syn : Node → Syn
  | .next n => n.syn
  | .list xs => xs.syn
  | .label _ _ _ | .plabel _ _ _ | .case _ _ _ _ _ => Syn.label
  | .assign l r => r.syn + l.syn
  | .if_ c t => c.syn + t.syn
  | .ifelse c t e => c.syn + t.syn + e.syn
  | .while_ c b i => c.syn + b.syn + i.syn
  | .do_ b c => b.syn + c.syn
  | .and_ a b | .or_ a b => a.syn + b.syn
  | .mcmd _ l h ps | .mcmdx _ l h ps => (if h then ps.syn else 0) + l.syn
  | .cmd _ h ps | .cmdx _ h ps => if h then ps.syn else 0
  | .field _ _ _ _ l => l.syn
  | .vec a b c => a.syn + b.syn + c.syn
  | .f1 _ x => x.syn
  | .f2 _ a b => a.syn + b.syn
  | .not_ x => x.syn
  | .idx a i => a.syn + i.syn
  | .carr a xs => a.syn + xs.syn
  | .marr xs => xs.syn
  | .try_ b c =>
    ⟨b.syn.lab + c.syn.lab, b.syn.here, b.syn.sw + c.syn.sw, b.syn.ca + c.syn.ca + 1,
     b.syn.arena + tbl c.syn.lab + c.syn.arena⟩
  | .switch e b =>
    ⟨e.syn.lab + b.syn.lab, e.syn.here, e.syn.sw + b.syn.sw + 1, e.syn.ca + b.syn.ca,
     e.syn.arena + tbl b.syn.lab + b.syn.arena⟩
  | _ => 0
def Nodes.syn : Nodes → Syn
  | .nil => 0
  | .cons x xs => x.syn + xs.syn
end

/-- `nest`: a body in a label set of its own (`try`: one more catch block, `switch`: one more switch) -/
structure SynClosed (C : Syn → Prop) : Prop where
  zero : C 0
  label : C Syn.label
  add : ∀ {a b}, C a → C b → C (a + b)
  nest : ∀ {a b} (dsw dca : Nat), dsw + dca = 1 → C a → C b →
    C ⟨a.lab + b.lab, a.here, a.sw + b.sw + dsw, a.ca + b.ca + dca, a.arena + tbl b.lab + b.arena⟩

section
variable {C : Syn → Prop} (h : SynClosed C)
include h

mutual
theorem Node.syn_ind : ∀ n : Node, C n.syn
  | .none | .listener _ | .str _ | .int _ | .float _ | .nil | .null | .brk | .cont | .unknown _ => h.zero
  | .next n | .field _ _ _ _ n | .f1 _ n | .not_ n => Node.syn_ind n
  | .list xs | .marr xs => Nodes.syn_ind xs
  | .label _ _ _ | .plabel _ _ _ | .case _ _ _ _ _ => h.label
  | .assign l r => h.add (Node.syn_ind r) (Node.syn_ind l)
  | .if_ a b | .do_ a b | .and_ a b | .or_ a b | .f2 _ a b | .idx a b => h.add (Node.syn_ind a) (Node.syn_ind b)
  | .carr a xs => h.add (Node.syn_ind a) (Nodes.syn_ind xs)
  | .ifelse a b c | .while_ a b c | .vec a b c => h.add (h.add (Node.syn_ind a) (Node.syn_ind b)) (Node.syn_ind c)
  | .mcmd _ l hasPs ps | .mcmdx _ l hasPs ps => by
    cases hasPs
    · exact h.add h.zero (Node.syn_ind l)
    · exact h.add (Nodes.syn_ind ps) (Node.syn_ind l)
  | .cmd _ hasPs ps | .cmdx _ hasPs ps => by
    cases hasPs
    · exact h.zero
    · exact Nodes.syn_ind ps
  | .try_ b c => h.nest 0 1 rfl (Node.syn_ind b) (Node.syn_ind c)
  | .switch e b => h.nest 1 0 rfl (Node.syn_ind e) (Node.syn_ind b)
theorem Nodes.syn_ind : ∀ xs : Nodes, C xs.syn
  | .nil => h.zero
  | .cons x xs => h.add (Node.syn_ind x) (Nodes.syn_ind xs)
end

end

end Morfuse.Emit
