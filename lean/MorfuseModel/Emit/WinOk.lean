import MorfuseModel.Emit.ArenaStep
/-! The previous-opcode window stays well-formed (`prev_opcode_pos < MAX_PREV_OPCODES`, all 100 slots) through every
step of the emitter, with either manager, for every tree (`wkLaws.walk`). -/
namespace Morfuse.Emit

theorem wok_init (c cb cc : Bool) (sd : Nat) : WOk { St.init c with canBreak := cb, canContinue := cc, switchDepth := sd } :=
  ⟨by simp [St.init, Tbl.mk', prevMax_eq], by simp [St.init]⟩

theorem wok_arena {s t : St} (h : ArenaStep s t) (hw : WOk s) : WOk t ∧ True :=
  ⟨wok_congr hw (by rw [h]) (by rw [h]), trivial⟩

theorem wkLaws : InvLaws WOk (fun _ _ => True) (fun _ => True) :=
  InvLaws.ofArena (fun _ _ => wok_arena) trivial
    (Prims.ofCore
      (Core.ofStep (Graded.ofInv (fun _ => trivial) (fun _ _ => trivial)) fun _ _ _ hw h => ⟨h.wok hw, trivial⟩)
      trivial trivial (fun _ _ _ _ _ hw => ⟨wok_congr hw rfl rfl, trivial⟩) (fun _ _ _ _ hw => ⟨wok_congr hw rfl rfl, trivial⟩)
      (fun _ _ _ _ hw => ⟨wok_congr hw rfl rfl, trivial⟩) (addLabel_of_arena (fun _ _ => wok_arena) trivial))
    (wok_init true)

end Morfuse.Emit
