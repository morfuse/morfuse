import MorfuseModel.Emit.Sim
/-! The one step where the two passes may take different branches: reading a plain variable of a listener (`EmitField`,
`LOAD_x_VAR → LOAD_STORE_x_VAR` fusion).  It is not followed in lock-step: each pass on its own, whichever branch it takes,
accounts for 9 bytes (`gameVar_fits`) and leaves an opcode on top of its window that no decision tests (`gameVar_top`). -/
namespace Morfuse.Emit
open Morfuse.Gen.EmitConsts

theorem untested_storevar (b : Nat) (hb : b ≤ 6) :
    tested ((OP_STORE_GAME_VAR + b) % 256) = false ∧ tested ((OP_LOAD_STORE_GAME_VAR + b) % 256) = false := by
  have : b = 0 ∨ b = 1 ∨ b = 2 ∨ b = 3 ∨ b = 4 ∨ b = 5 ∨ b = 6 := by omega
  rcases this with h | h | h | h | h | h | h <;> subst h <;> decide

/-- the tail of `EmitField` -/
def gameVarBlock (s : St) (b index prevIndex ev : Nat) : R St := do
  let p ← s.prevOp
  if p.op ≠ OP_LOAD_GAME_VAR + b ∨ prevIndex ≠ index then
    let s ← s.emitOp (OP_STORE_GAME_VAR + b)
    s.write (le 4 index ++ le 4 ev)
  else
    let s ← s.absorb
    let s ← s.emitOp (OP_LOAD_STORE_GAME_VAR + b)
    .ok (s.moveFwd 8)

/-- opcode and operands, or the fused opcode over the old one with its operands kept: 9 bytes either way -/
theorem gameVar_fits (s : St) (b i pi ev : Nat) : Fits 9 s (gameVarBlock s b i pi ev) := by
  unfold gameVarBlock St.prevOp
  split
  · rw [ok_bind]
    split
    · have h8 : (le 4 i ++ le 4 ev).length = 8 := by rw [List.length_append, le_length, le_length]
      exact Fits.bind (emitOp_fits s _) fun t => h8 ▸ (write_fits t _).fits
    · exact Fits.bind (absorb_fits s) fun t => Fits.bind (emitOp_fits t _) fun u => Fits.ok (moveFwd_still u 8).toEff
  · exact .inl (.inl rfl)

theorem gameVar_top {s : St} (hw : WOk s) (b i pi ev : Nat) (hb : b ≤ 6) :
    wp (gameVarBlock s b i pi ev) (fun t => tested (ent t 0).op = false) (fun _ => True) := by
  unfold gameVarBlock
  rw [prevOp_eq s hw, ok_bind]
  obtain ⟨hu1, hu2⟩ := untested_storevar b hb
  split
  · refine wp_then (emitOp_top s _ hw) fun s1 ⟨_, t1⟩ => wp_post (write_win s1 _) fun _ ⟨e1, e2⟩ => ?_
    rw [ent_congr e1 e2, t1]; exact hu1
  · refine wp_then (absorb_wok s hw) fun s1 w1 => wp_then (emitOp_top s1 _ w1) fun s2 ⟨_, t2⟩ => ?_
    rw [wp_ok, ent_congr (moveFwd_still s2 8).prev (moveFwd_still s2 8).prevPos, t2]; exact hu2

theorem gameVar_sim {L : Nat} {c p : St} (b i1 pi1 i2 pi2 ev : Nat) (hb : b ≤ 6) :
    SimQ L (Rel L c p) c (gameVarBlock c b i1 pi1 ev) (gameVarBlock p b i2 pi2 ev)
      (fun c' p' => Rel L c' p' ∧ tested (ent c' 0).op = false ∧ tested (ent p' 0).op = false) :=
  SimQ.ofFits (gameVar_fits c b i1 pi1 ev) (gameVar_fits p b i2 pi2 ev) (fun hw => gameVar_top hw b i1 pi1 ev hb)
    (fun hw => gameVar_top hw b i2 pi2 ev hb) fun _ _ _ tc tp => .of_untested tc tp

end Morfuse.Emit
