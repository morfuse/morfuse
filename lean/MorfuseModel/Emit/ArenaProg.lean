import MorfuseModel.Emit.Arena
/-! Given room, the program pass takes exactly `n.syn.arena` bytes from the arena: no `rehash`, no container growth. -/
namespace Morfuse.Emit
open Morfuse.Gen.EmitConsts

def capN (c : Cont) : Nat := c.cap.getD 0

theorem Cont.eq_with_num {c c' : Cont} {n : Nat} (h1 : c'.cap = c.cap) (h2 : c'.num = n) : c' = { c with num := n } := by
  cases c'; cases c; simp_all

/-- room for a tree with contribution `y`: in the current label set, in the two containers, in the arena -/
def PPre (y : Syn) (f : FrA) : Prop :=
  f.counting = false ∧ f.curSet.count + y.here ≤ f.curSet.threshold ∧
  f.swCont.num + y.sw ≤ capN f.swCont ∧ f.caCont.num + y.ca ≤ capN f.caCont ∧
  f.arenaUsed + y.arena ≤ f.arenaSize

def PPost (y : Syn) (f f' : FrA) : Prop :=
  f'.counting = false ∧ f'.arenaSize = f.arenaSize ∧ f'.arenaUsed = f.arenaUsed + y.arena ∧
  f'.curSet.count = f.curSet.count + y.here ∧ f'.curSet.threshold = f.curSet.threshold ∧
  f'.swCont.cap = f.swCont.cap ∧ f'.swCont.num = f.swCont.num + y.sw ∧
  f'.caCont.cap = f.caCont.cap ∧ f'.caCont.num = f.caCont.num + y.ca

theorem alloc_prog (s : St) (n : Nat) (h : s.arenaUsed + n ≤ s.arenaSize) :
    s.alloc n = .ok { s with arenaUsed := s.arenaUsed + n } := by
  unfold St.alloc
  rw [if_neg (by omega)]

theorem addLabel_prog (s : St) (i : Nat) (p c : Bool) (hc : s.counting = false)
    (hroom : s.curSet.count < s.curSet.threshold) (ha : s.arenaUsed + szEntry ≤ s.arenaSize) :
    wp (s.addLabel i p c) (fun r => r.1 = true → PPost Syn.label (frA s) (frA r.2)) EA := by
  unfold St.addLabel
  simp only [hc, Bool.false_eq_true, ↓reduceIte]
  unfold LabelSet.add
  split
  · simp
  · rw [if_neg (by omega)]
    simp only [ok_bind, alloc_prog s szEntry ha, wp_ok]
    intro _
    simp [PPost, frA, Syn.label, hc]

theorem resize_prog (ls : LabelSet) (k : Nat) (s : St) (ha : s.arenaUsed + tbl k ≤ s.arenaSize) :
    ls.resize k s = .ok ((if k ≤ 1 then ls else { ls with tableLength := k, threshold := k }),
                         { s with arenaUsed := s.arenaUsed + tbl k }) := by
  unfold LabelSet.resize
  by_cases hk : k ≤ 1
  · simp [hk, tbl]
  · have : s.arenaUsed + szPtr * k ≤ s.arenaSize := by simpa [tbl, hk] using ha
    simp only [hk, ↓reduceIte, alloc_prog s _ this, ok_bind, tbl]

theorem contAdd_prog (c : Cont) (sz : Nat) (s : St) (h : c.num + 1 ≤ capN c) :
    c.add sz s = .ok ({ c with num := c.num + 1 }, s) := by
  unfold Cont.add
  cases hcap : c.cap with
  | none => simp [capN, hcap] at h
  | some n =>
    have hn : ¬ n ≤ c.num := by simp [capN, hcap] at h; omega
    simp [hcap, hn]

/-- a fresh set with room for `k` labels became the current one -/
def EnterPost (f t : FrA) (k dsw dca : Nat) : Prop :=
  t.counting = false ∧ t.arenaSize = f.arenaSize ∧ t.arenaUsed = f.arenaUsed + tbl k ∧
  t.curSet.count = 0 ∧ k ≤ t.curSet.threshold ∧
  t.swCont.cap = f.swCont.cap ∧ t.swCont.num = f.swCont.num + dsw ∧
  t.caCont.cap = f.caCont.cap ∧ t.caCont.num = f.caCont.num + dca

theorem createSwitch_prog (s : St) (k : Nat) (hc : s.counting = false) (hcont : s.swCont.num + 1 ≤ capN s.swCont)
    (ha : s.arenaUsed + tbl k ≤ s.arenaSize) :
    wp (s.createSwitch k) (fun r => EnterPost (frA s) (frA (r.2.enter r.1)) k 1 0) EA := by
  unfold St.createSwitch
  simp only [hc, Bool.false_eq_true, ↓reduceIte, contAdd_prog _ _ s hcont, ok_bind]
  rw [resize_prog _ k s ha]
  simp only [ok_bind, wp_ok, St.enter]
  simp [EnterPost, frA, hc]
  split <;> simp <;> omega

theorem createCatch_prog (s : St) (tb k : Nat) (hc : s.counting = false) (hcont : s.caCont.num + 1 ≤ capN s.caCont)
    (ha : s.arenaUsed + tbl k ≤ s.arenaSize) :
    wp (s.createCatch tb k) (fun r => EnterPost (frA s) (frA (r.2.enter r.1)) k 0 1) EA := by
  unfold St.createCatch
  simp only [hc, Bool.false_eq_true, ↓reduceIte, contAdd_prog _ _ s hcont, ok_bind]
  rw [resize_prog _ k s ha]
  simp only [ok_bind, wp_ok, St.enter]
  simp [EnterPost, frA, hc]
  split <;> simp <;> omega

theorem leave_frA (s : St) (o : SetRef) (os : LabelSet) :
    (frA (s.leave o os)).counting = (frA s).counting ∧ (frA (s.leave o os)).arenaUsed = (frA s).arenaUsed ∧
    (frA (s.leave o os)).arenaSize = (frA s).arenaSize ∧ (frA (s.leave o os)).swCont = (frA s).swCont ∧
    (frA (s.leave o os)).caCont = (frA s).caCont ∧
    ((frA s).counting = false → (frA (s.leave o os)).curSet = os) := by
  unfold St.leave St.storeCur
  split
  · simp_all [frA]
  · split <;> simp [frA]

theorem subcount_spec (n : Node) (cb cc : Bool) (sd : Nat) :
    wp (emit n { St.init true with canBreak := cb, canContinue := cc, switchDepth := sd })
      (fun t => (frA t).counting = true ∧ (frA t).numLabels + (frA t).numCaseLabels = n.syn.lab) EA := by
  refine wp_post ((mc_all n).e _ rfl) ?_
  intro t ht
  refine ⟨ht.1, ?_⟩
  have := ht.2.1
  simpa [frA, St.init] using this

theorem hereLeLab : SynClosed fun y => y.here ≤ y.lab where
  zero := Nat.le_refl 0
  label := Nat.le_refl 1
  add := fun ha hb => Nat.add_le_add ha hb
  nest := fun _ _ _ ha _ => Nat.le_trans ha (Nat.le_add_right _ _)

theorem Node.here_le_lab : ∀ n : Node, n.syn.here ≤ n.syn.lab := Node.syn_ind hereLeLab
theorem Nodes.here_le_lab : ∀ xs : Nodes, xs.syn.here ≤ xs.syn.lab := Nodes.syn_ind hereLeLab

abbrev PPreS : Syn → St → Prop := fun y s => PPre y (frA s)
abbrev PPostS : Syn → St → St → Prop := fun y s t => PPost y (frA s) (frA t)

theorem pSeq : Graded PPreS PPostS where
  refl := fun h => ⟨h.1, rfl, rfl, rfl, rfl, rfl, rfl, rfl, rfl⟩
  trans := fun h1 h2 => by
    obtain ⟨_, a1, a2, a3, a4, a5, a6, a7, a8⟩ := h1
    obtain ⟨b0, b1, b2, b3, b4, b5, b6, b7, b8⟩ := h2
    exact ⟨b0, b1.trans a1, by rw [b2, a2, Syn.add_arena, Nat.add_assoc], by rw [b3, a3, Syn.add_here, Nat.add_assoc],
      b4.trans a4, b5.trans a5, by rw [b6, a6, Syn.add_sw, Nat.add_assoc], b7.trans a7,
      by rw [b8, a8, Syn.add_ca, Nat.add_assoc]⟩
  split := fun h => by
    obtain ⟨h0, h1, h2, h3, h4⟩ := h
    simp only [Syn.add_arena, Syn.add_here, Syn.add_sw, Syn.add_ca] at h1 h2 h3 h4
    exact ⟨h0, by omega, by omega, by omega, by omega⟩
  next := fun h p => by
    obtain ⟨h0, h1, h2, h3, h4⟩ := h
    obtain ⟨p0, p1, p2, p3, p4, p5, p6, p7, p8⟩ := p
    simp only [Syn.add_arena, Syn.add_here, Syn.add_sw, Syn.add_ca, capN] at h1 h2 h3 h4
    show PPre _ _
    unfold PPre capN
    rw [p5, p7]
    exact ⟨p0, by omega, by omega, by omega, by omega⟩

theorem pPrims : Prims PPreS PPostS EA :=
  Prims.ofFrA pSeq fun s i p c hp =>
    addLabel_prog s i p c hp.1 (by have := hp.2.1; simp only [Syn.label, frA] at this; omega)
      (by have := hp.2.2.2.2; simp only [Syn.label, frA] at this; exact this)

theorem sp_prog_congr {y z : Syn} {s : St} {x : R St} (h1 : y.here = z.here) (h2 : y.sw = z.sw) (h3 : y.ca = z.ca)
    (h4 : y.arena = z.arena) (h : Sp PPreS PPostS EA y s x) : Sp PPreS PPostS EA z s x := by
  intro hp
  have hp' : PPreS y s := by
    unfold PPreS PPre at *; rw [h1, h2, h3, h4]; exact hp
  refine wp_post (h hp') (fun t ht => ?_)
  unfold PPostS PPost at *
  rw [← h1, ← h2, ← h3, ← h4]; exact ht

/-- what the body of a `try` / `switch` contributes outside: its labels land in a set of their own, whose table
comes from the arena -/
def Syn.nested (y : Syn) (dsw dca : Nat) : Syn := ⟨y.lab, 0, y.sw + dsw, y.ca + dca, tbl y.lab + y.arena⟩

theorem closed {n : Node} {s t0 s5 : St} {dsw dca : Nat}
    (he : EnterPost (frA s) (frA t0) n.syn.lab dsw dca) (hb : PPost n.syn (frA t0) (frA s5)) :
    PPost (n.syn.nested dsw dca) (frA s) (frA (s5.leave s.cur s.curSet)) := by
  obtain ⟨l0, l1, l2, l3, l4, l5⟩ := leave_frA s5 s.cur s.curSet
  obtain ⟨_, e1, e2, e3, e4, e5, e6, e7, e8⟩ := he
  obtain ⟨b0, b1, b2, b3, b4, b5, b6, b7, b8⟩ := hb
  have hc5 : (frA s5).counting = false := b0
  have hcur : (frA (s5.leave s.cur s.curSet)).curSet = (frA s).curSet := l5 hc5
  unfold PPost Syn.nested
  dsimp only
  rw [l0, l1, l2, l3, l4, hcur]
  exact ⟨b0, b1.trans e1, by rw [b2, e2]; omega, rfl, rfl, b5.trans e5, by rw [b6, e6]; omega, b7.trans e7,
    by rw [b8, e8]; omega⟩

theorem room {n : Node} {s t0 : St} {dsw dca : Nat} (hp : PPre (n.syn.nested dsw dca) (frA s))
    (he : EnterPost (frA s) (frA t0) n.syn.lab dsw dca) : PPre n.syn (frA t0) := by
  obtain ⟨_, e1, e2, e3, e4, e5, e6, e7, e8⟩ := he
  obtain ⟨_, p1, p2, p3, p4⟩ := hp
  have := n.here_le_lab
  unfold Syn.nested capN at *
  unfold PPre capN
  rw [e5, e7]
  simp only at p1 p2 p3 p4
  exact ⟨‹_›, by omega, by omega, by omega, by omega⟩

theorem subCount {n : Node} (cb cc : Bool) (sd : Nat) {y : Syn} {s : St} {k : Nat → R St}
    (hk : Sp PPreS PPostS EA y s (k n.syn.lab)) :
    Sp PPreS PPostS EA y s
      (emit n { St.init true with canBreak := cb, canContinue := cc, switchDepth := sd } >>= fun t =>
        t.emitEof >>= fun t => .ok (t.info.numLabels + t.info.numCaseLabels) >>= k) := by
  refine aux_then (subcount_spec n cb cc sd) fun t ht => ?_
  refine aux_then (A := fun u => frA u = frA t) (wp_mono (emitEof_neutral t) (fun _ h => h.2) (fun _ h => h.1)) fun u hu => ?_
  have : u.info.numLabels + u.info.numCaseLabels = n.syn.lab := by
    have h1 : (frA u).numLabels = (frA t).numLabels := by rw [hu]
    have h2 : (frA u).numCaseLabels = (frA t).numCaseLabels := by rw [hu]
    exact (by rw [h1, h2] : (frA u).numLabels + (frA u).numCaseLabels = _).trans ht.2
  rw [ok_bind, this]
  exact hk

theorem prog_try (b c : Node) (wb : Walk PPreS PPostS EA b) (wc : Walk PPreS PPostS EA c) (s : St) :
    Sp PPreS PPostS EA (Node.try_ b c).syn s (emit (.try_ b c) s) := by
  have P := pPrims
  rw [emit]
  refine sp_prog_congr (y := b.syn + c.syn.nested 0 1) rfl rfl (Nat.add_assoc _ _ _).symm (Nat.add_assoc _ _ _).symm ?_
  refine P.nt_then (P.clearPrev s) fun s1 => P.sp_bind (wb.e s1) fun s2 => P.nt_then (P.emitOp s2 _) fun s3 =>
    P.nt_then (P.skipClear s3 4) fun s4 => sp_withPre fun hp => ?_
  -- The grade `nested` is not the sum of the grades of its steps, so this part is no `sp_bind` chain: the steps are taken
  -- with `wp_then`, where `room` gives the tree its precondition inside the new set and `closed` the result outside.
  have body : Sp PPreS PPostS EA (c.syn.nested 0 1) s4 (s4.createCatch s.pos c.syn.lab >>= fun r =>
      emit c (r.2.enter r.1) >>= fun s5 => (s5.leave s4.cur s4.curSet).addJumpLocation s3.pos) := by
    intro _
    have hca : s4.caCont.num + 1 ≤ capN s4.caCont := by have := hp.2.2.2.1; simp only [Syn.nested, frA] at this; omega
    have har : s4.arenaUsed + tbl c.syn.lab ≤ s4.arenaSize := by have := hp.2.2.2.2; simp only [Syn.nested, frA] at this; omega
    refine wp_then (createCatch_prog s4 _ _ hp.1 hca har) fun r hr => ?_
    refine wp_then (wc.e _ (room hp hr)) fun s5 h5 => ?_
    refine wp_mono (neutral_of (neutralCore.addJumpLocation _ _)) (fun s6 h6 => ?_) (fun _ h => h.1)
    show PPost _ _ (frA s6)
    rw [h6.2]
    exact closed hr h5
  dsimp only
  have hc : s4.counting = false := hp.1
  rw [if_neg (ne_true_of_eq_false hc)]
  exact subCount _ _ _ body

theorem prog_switch (e b : Node) (we : Walk PPreS PPostS EA e) (wb : Walk PPreS PPostS EA b) (s : St) :
    Sp PPreS PPostS EA (Node.switch e b).syn s (emit (.switch e b) s) := by
  have P := pPrims
  rw [emit]
  refine sp_prog_congr (y := e.syn + b.syn.nested 1 0) rfl (Nat.add_assoc _ _ _).symm rfl (Nat.add_assoc _ _ _).symm ?_
  refine P.sp_bind (we.e s) fun s1 => ?_
  have h12 := P.flags s1 s1.canBreak s1.canContinue (s1.switchDepth + 1)
  generalize ({ s1 with switchDepth := s1.switchDepth + 1 } : St) = s2 at h12 ⊢
  refine P.pure_then h12 (sp_withPre fun hp => ?_)
  have hc : s2.counting = false := hp.1
  -- with `wp_then`, `room` and `closed`, as in `prog_try`
  have body : Sp PPreS PPostS EA (b.syn.nested 1 0) s2 (s2.createSwitch b.syn.lab >>= fun r =>
      (r.2.enter r.1).emitSwitchOp >>= fun s3 => { s3 with canBreak := true }.emitBreak >>= fun s4 => emit b s4 >>= fun s5 =>
      s5.processBreak s3.nBrk >>= fun s6 =>
      .ok ({ s6 with canBreak := s3.canBreak, switchDepth := s6.switchDepth - 1 }.leave s2.cur s2.curSet)) := by
    intro _
    have hsw : s2.swCont.num + 1 ≤ capN s2.swCont := by have := hp.2.2.1; simp only [Syn.nested, frA] at this; omega
    have har : s2.arenaUsed + tbl b.syn.lab ≤ s2.arenaSize := by have := hp.2.2.2.2; simp only [Syn.nested, frA] at this; omega
    refine wp_then (createSwitch_prog s2 _ hc hsw har) fun r hr => ?_
    generalize r.2.enter r.1 = t at hr ⊢
    have p0 : PPreS b.syn t := room hp hr
    refine wp_then (P.emitSwitchOp t _ p0) fun s3 h3 => ?_
    have p3 : PPreS b.syn s3 := P.pre_step p0 h3
    refine wp_then (P.emitBreak { s3 with canBreak := true } _ p3) fun s4 (h4 : PPostS 0 s3 s4) => ?_
    have p4 : PPreS b.syn s4 := P.pre_step p3 h4
    refine wp_then (wb.e s4 p4) fun s5 h5 => ?_
    refine wp_then (P.processBreak s5 _ 0 (P.next (b := 0) (by rw [Syn.add_zero]; exact p4) h5)) fun s6 h6 => ?_
    exact closed (s5 := { s6 with canBreak := s3.canBreak, switchDepth := s6.switchDepth - 1 }) hr
      (P.post_stepL h3 (P.post_stepL h4 (P.post_stepR h5 h6)))
  dsimp only
  rw [if_neg (ne_true_of_eq_false hc)]
  exact subCount _ _ _ body

theorem pLaws : Laws PPreS PPostS EA := { pPrims with try_ := prog_try, switch := prog_switch }

theorem mp_all (n : Node) : Walk PPreS PPostS EA n := pLaws.walk n

structure MPL (xs : Nodes) : Prop where
  l : ∀ s, PPre xs.syn (frA s) → wp (emitList xs s) (fun s' => PPost xs.syn (frA s) (frA s')) EA

theorem mp_allL (xs : Nodes) : MPL xs := ⟨(pLaws.walkL xs).l⟩

end Morfuse.Emit
