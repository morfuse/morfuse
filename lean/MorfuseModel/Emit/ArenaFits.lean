import MorfuseModel.Emit.ArenaProg
/-! `Preallocate` reserves enough: no allocation of a whole compile runs past the arena. -/
namespace Morfuse.Emit
open Morfuse.Gen.EmitConsts

theorem tbl_le (k L : Nat) (h : k ≤ L) : tbl k ≤ szPtr * L := by
  unfold tbl; split
  · omega
  · exact Nat.mul_le_mul_left _ h

/-- one entry per label plus, per switch / catch, one table of `L ≥` all labels: what `Preallocate` reserves -/
def ABound (y : Syn) : Prop := ∀ L, y.lab ≤ L → y.arena ≤ szEntry * y.lab + szPtr * L * (y.sw + y.ca)

theorem ABound.zero : ABound 0 := by intro L _; simp
theorem ABound.label : ABound Syn.label := by intro L _; simp [Syn.label]
theorem ABound.add {a b : Syn} (ha : ABound a) (hb : ABound b) : ABound (a + b) := by
  intro L hL
  simp only [Syn.add_lab, Syn.add_arena, Syn.add_sw, Syn.add_ca] at *
  have h1 := ha L (by omega)
  have h2 := hb L (by omega)
  generalize szPtr * L = M at *
  simp only [Nat.mul_add] at *
  omega
theorem ABound.nest {a b : Syn} (ha : ABound a) (hb : ABound b) (dsw dca : Nat) (h1 : dsw + dca = 1) (hh : Nat) :
    ABound ⟨a.lab + b.lab, hh, a.sw + b.sw + dsw, a.ca + b.ca + dca, a.arena + tbl b.lab + b.arena⟩ := by
  intro L hL
  simp only at *
  have h1 := ha L (by omega)
  have h2 := hb L (by omega)
  have h3 := tbl_le b.lab L (by omega)
  generalize szPtr * L = M at *
  have : M * (a.sw + b.sw + dsw + (a.ca + b.ca + dca)) = M * (a.sw + a.ca) + M * (b.sw + b.ca) + M := by
    have : a.sw + b.sw + dsw + (a.ca + b.ca + dca) = (a.sw + a.ca) + (b.sw + b.ca) + 1 := by omega
    rw [this]; simp [Nat.mul_add]
  rw [this]
  simp only [Nat.mul_add] at *
  omega

theorem aboundClosed : SynClosed ABound where
  zero := ABound.zero
  label := ABound.label
  add := ABound.add
  nest := fun dsw dca hd ha hb => ABound.nest ha hb dsw dca hd _

theorem Node.abound : ∀ n : Node, ABound n.syn := Node.syn_ind aboundClosed
theorem Nodes.abound : ∀ xs : Nodes, ABound xs.syn := Nodes.syn_ind aboundClosed

/-- what `Preallocate` itself takes from the arena -/
def preFixed (dev : Bool) (i : SizeInfo) : Nat :=
  (if dev then szSourcePos * i.progLength else 0) + (if i.numCatches ≠ 0 then szCatchBlock * i.numCatches else 0)
  + (if i.numSwitches ≠ 0 then szStateScript * i.numSwitches else 0) + i.progLength + tbl (i.numLabels + i.numCaseLabels)

/-- the program manager while `Preallocate` runs -/
structure Stage (A u sw ca : Nat) (s : St) : Prop where
  cnt : s.counting = false
  size : s.arenaSize = A
  used : s.arenaUsed = u
  set : s.curSet = {}
  swNum : s.swCont.num = 0
  swCap : capN s.swCont = sw
  caNum : s.caCont.num = 0
  caCap : capN s.caCont = ca

theorem Stage.alloc {A u sw ca n : Nat} {s : St} (h : Stage A u sw ca s) (hfit : u + n ≤ A) :
    wp (s.alloc n) (Stage A (u + n) sw ca) EA := by
  rw [alloc_prog s n (by rw [h.used, h.size]; exact hfit)]
  exact ⟨h.cnt, h.size, congrArg (· + n) h.used, h.set, h.swNum, h.swCap, h.caNum, h.caCap⟩

/-- one of the optional reservations of `Preallocate` -/
theorem Stage.opt {c : Prop} [Decidable c] {A u u' sw ca sw' ca' n : Nat} {s : St} {upd : St → St} {k : St → R St}
    {Q : St → Prop} (h : Stage A u sw ca s) (hfit : c → u + n ≤ A)
    (hyes : c → ∀ t, Stage A (u + n) sw ca t → Stage A u' sw' ca' (upd t)) (hno : ¬ c → Stage A u' sw' ca' s)
    (hk : ∀ t, Stage A u' sw' ca' t → wp (k t) Q EA) :
    wp (if c then s.alloc n >>= fun t => Except.ok (upd t) >>= k else Except.ok s >>= k) Q EA := by
  split
  · next hc => exact wp_then (h.alloc (hfit hc)) fun t ht => hk _ (hyes hc t ht)
  · next hc => exact hk s (hno hc)

theorem Stage.init (dev : Bool) (i : SizeInfo) :
    Stage (arenaFormula dev i) 0 0 0
      { St.init false with dev := dev, arenaSize := arenaFormula dev i, progLen := i.progLength,
                           buf := Tbl.mk' i.progLength 0 } :=
  ⟨rfl, rfl, rfl, rfl, rfl, rfl, rfl, rfl⟩

theorem preallocate_spec (dev : Bool) (i : SizeInfo) (h : preFixed dev i ≤ arenaFormula dev i) :
    wp (preallocate dev i) (fun s =>
      s.counting = false ∧ s.arenaUsed = preFixed dev i ∧ s.arenaSize = arenaFormula dev i ∧
      s.curSet.count = 0 ∧ i.numLabels + i.numCaseLabels ≤ s.curSet.threshold ∧
      s.swCont.num = 0 ∧ capN s.swCont = i.numSwitches ∧ s.caCont.num = 0 ∧ capN s.caCont = i.numCatches) EA := by
  unfold preFixed at *
  generalize ha1 : (if dev = true then szSourcePos * i.progLength else 0) = a1 at h ⊢
  generalize ha2 : (if i.numCatches ≠ 0 then szCatchBlock * i.numCatches else 0) = a2 at h ⊢
  generalize ha3 : (if i.numSwitches ≠ 0 then szStateScript * i.numSwitches else 0) = a3 at h ⊢
  have h0 := Stage.init dev i
  unfold preallocate
  refine h0.opt (upd := id) (u' := a1) (sw' := 0) (ca' := 0) (fun hc => by rw [if_pos hc] at ha1; omega)
    (fun hc t ht => by rw [if_pos hc] at ha1; rw [← ha1, ← Nat.zero_add (szSourcePos * i.progLength)]; exact ht)
    (fun hc => by rw [if_neg hc] at ha1; rw [← ha1]; exact h0) fun s1 h1 => ?_
  refine h1.opt (u' := a1 + a2) (sw' := 0) (ca' := i.numCatches) (fun hc => by rw [if_pos hc] at ha2; omega)
    (fun hc t ht => by rw [if_pos hc] at ha2; rw [← ha2]; exact ⟨ht.cnt, ht.size, ht.used, ht.set, ht.swNum, ht.swCap, rfl, rfl⟩)
    (fun hc => by
      rw [if_neg hc] at ha2
      rw [← ha2, Nat.add_zero, Decidable.not_not.mp hc]
      exact ⟨h1.cnt, h1.size, h1.used, h1.set, h1.swNum, h1.swCap, h1.caNum, h1.caCap⟩) fun s2 h2 => ?_
  refine h2.opt (u' := a1 + a2 + a3) (sw' := i.numSwitches) (ca' := i.numCatches) (fun hc => by rw [if_pos hc] at ha3; omega)
    (fun hc t ht => by rw [if_pos hc] at ha3; rw [← ha3]; exact ⟨ht.cnt, ht.size, ht.used, ht.set, rfl, rfl, ht.caNum, ht.caCap⟩)
    (fun hc => by
      rw [if_neg hc] at ha3
      rw [← ha3, Nat.add_zero, Decidable.not_not.mp hc]
      exact ⟨h2.cnt, h2.size, h2.used, h2.set, h2.swNum, h2.swCap, h2.caNum, h2.caCap⟩) fun s3 h3 => ?_
  refine wp_then (h3.alloc (n := i.progLength) (by omega)) fun s4 h4 => ?_
  rw [h4.set, resize_prog _ _ s4 (by rw [h4.used, h4.size]; omega), ok_bind, wp_ok]
  refine ⟨h4.cnt, by rw [h4.used], h4.size, ?_, ?_, h4.swNum, h4.swCap, h4.caNum, h4.caCap⟩
  · split <;> rfl
  · unfold tbl
    split
    · assumption
    · exact Nat.le_refl _

theorem emitRoot_count (root : Node) :
    wp (emitRoot root (St.init true)) (fun c => c.info.numLabels + c.info.numCaseLabels = root.syn.lab ∧
      c.info.numSwitches = root.syn.sw ∧ c.info.numCatches = root.syn.ca) EA := by
  unfold emitRoot
  refine wp_then ((mc_all root).e (St.init true) rfl) fun a ha => ?_
  refine wp_mono (emitEof_neutral a) (fun b hb => ?_) (fun _ h => h.1)
  have hb' : CPost root.syn (frA (St.init true)) (frA b) := hb.2 ▸ ha
  simpa [CPost, frA, St.init] using hb'.2

theorem ceb_ge (n : Nat) : szEntry * n + tbl n ≤ countEntryBytes n := by
  unfold countEntryBytes tbl
  by_cases h : n ≤ 1
  · have : n = 0 ∨ n = 1 := by omega
    rcases this with h0 | h1
    · subst h0; simp
    · subst h1; simp
  · rw [if_neg h, if_pos (by omega)]
    simp [Nat.add_mul]

theorem fixed_le (dev : Bool) (i : SizeInfo) (y : Syn) (hl : i.numLabels + i.numCaseLabels = y.lab)
    (hs : i.numSwitches = y.sw) (hc : i.numCatches = y.ca) (hb : ABound y) :
    preFixed dev i + y.arena ≤ arenaFormula dev i := by
  have h1 := hb y.lab (Nat.le_refl _)
  have h2 := ceb_ge y.lab
  unfold preFixed arenaFormula
  simp only [hl, hs, hc]
  generalize szPtr * y.lab * (y.sw + y.ca) = X at *
  cases dev <;> by_cases h3 : y.ca = 0 <;> by_cases h4 : y.sw = 0 <;> simp [h3, h4] <;> omega

theorem storeCur_true (s : St) : True := trivial

theorem compile_EA (dev : Bool) (root : Node) : wp (compile dev root) (fun _ => True) EA := by
  unfold compile
  refine wp_then (emitRoot_count root) fun c ⟨hl, hs, hca⟩ => ?_
  have hfix := fixed_le dev c.info root.syn hl hs hca root.abound
  refine wp_then (preallocate_spec dev c.info (by omega)) fun s ⟨h0, h1, h2, h3, h4, h5, h6, h7, h8⟩ => ?_
  unfold emitRoot
  have hpre : PPre root.syn (frA s) := by
    have := root.here_le_lab
    simp only [PPre, frA]
    refine ⟨h0, ?_, ?_, ?_, ?_⟩ <;> omega
  refine wp_then (wp_then ((mp_all root).e s hpre) fun a _ =>
    wp_mono (emitEof_neutral a) (fun _ _ => trivial) (fun _ h => h.1)) fun _ _ => trivial

end Morfuse.Emit
