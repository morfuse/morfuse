import MorfuseModel.Emit.Sim
import MorfuseModel.Emit.TopNL
/-! The class `Node.plain` of trees the simulation is proved for, the statement at one node (`MSP`), and the blocks the
constructors share.  After an expression node the statement also says that `EvalPrevValue` would find the same in both
passes (`RelE`): the last step of the node shows it, a non-literal opcode on top in either pass (`SimQ.top`) or the literal
just written. -/
namespace Morfuse.Emit
open Morfuse.Gen.EmitConsts

def Node.isLit : Node → Bool
  | .int _ | .float _ => true
  | _ => false

mutual
/-- the operand of a unary minus is an expression in the sense of `Node.evOk`: a literal (its constant folding reads
code bytes back; either manager reads the literal just emitted back correctly), a node whose emission ends with an
opcode that is no operand-literal (nothing is read back), or again a unary minus on such an operand; listener bytes of
fields as the parser produces them (`≤ 6`) -/
def Node.plain : Node → Bool
  | .next n => n.plain
  | .list xs => xs.plain
  | .assign l r => l.plainA && r.plain
  | .if_ c t => c.plain && t.plain
  | .ifelse c t e => c.plain && t.plain && e.plain
  | .while_ c b i => c.plain && b.plain && i.plain
  | .do_ b c => b.plain && c.plain
  | .and_ a b | .or_ a b => a.plain && b.plain
  | .mcmd _ l _ ps | .mcmdx _ l _ ps => l.plain && ps.plain
  | .cmd _ _ ps | .cmdx _ _ ps => ps.plain
  | .field _ _ _ _ l => l.plain && (match l with | .listener b => decide (b ≤ 6) | _ => true)
  | .vec a b c => a.plain && b.plain && c.plain
  | .f1 op x => (decide (op ≠ OP_UN_MINUS) || x.evOk) && x.plain
  | .f2 _ a b => a.plain && b.plain
  | .not_ x => x.plain
  | .idx a i => a.plain && i.plain
  | .carr a xs => a.plain && xs.plain
  | .marr xs => xs.plain
  | .try_ b c => b.plain && c.plain
  | .switch e b => e.plain && b.plain
  | _ => true
/-- lvalues (`EmitAssignmentStatement`, `EmitRef`): a field of anything in the class, or an element of an lvalue -/
def Node.plainA : Node → Bool
  | .field _ _ _ _ l => l.plain
  | .idx a i => a.plainA && i.plain
  | _ => true
def Nodes.plain : Nodes → Bool
  | .nil => true
  | .cons x xs => x.plain && xs.plain
end

theorem Sim.checkCount {L : Nat} {Γ : Prop} {c : St} {n m : Nat} {f1 f2 : Unit → R St} {Q : St → St → Prop}
    (h : SimQ L Γ c (f1 ()) (f2 ()) Q) : SimQ L Γ c (checkCount n m >>= f1) (checkCount n m >>= f2) Q := by
  unfold Morfuse.Emit.checkCount
  by_cases hc : n > m
  · rw [if_pos hc]; exact Sim.error
  · rw [if_neg hc]; exact h

/-- `if (!ok) throw duplicateLabel` after `AddLabel`: the counting manager never reports a duplicate -/
theorem Sim.dup {L : Nat} {c p : St} {b1 b2 : Bool} {x y : R St} (h : Sim L (Rel L c p) c x y) :
    Sim L (b1 = true ∧ Rel L c p) c (if (!b1) = true then Except.error Err.duplicateLabel else x)
      (if (!b2) = true then Except.error Err.duplicateLabel else y) := by
  cases b1 with
  | false => exact ⟨trivial, fun g => Bool.noConfusion g.1⟩
  | true =>
    refine ⟨h.1, fun g => ?_⟩
    cases b2 with
    | false => exact J.error_right (fun e => Err.noConfusion e)
    | true => exact h.2 g.2

theorem JV.arena {α : Type} {L : Nat} {c p : St} {x y : R (α × St)} (h : Rel L c p)
    (hx : wp x (fun r => ArenaStep c r.2) ArenaErr) (hy : wp y (fun r => ArenaStep p r.2) ArenaErr) :
    JV (·.2) L x y (fun r r' => Rel L r.2 r'.2) :=
  fun _ hr _ =>
    wp_mono hy (fun _ hr' => h.arena (wp_of_eq_ok (Q := fun r => ArenaStep c r.2) hx hr) hr') (fun _ he => he ▸ nofun)

theorem Sim.arena2 {α : Type} {L : Nat} {c p : St} {x y : R (α × St)} {f1 f2 : α × St → R St}
    (hx : wp x (fun r => ArenaStep c r.2) ArenaErr) (hy : wp y (fun r => ArenaStep p r.2) ArenaErr)
    (k : ∀ r r', Sim L (Rel L r.2 r'.2) r.2 (f1 r) (f2 r')) : Sim L (Rel L c p) c (x >>= f1) (y >>= f2) :=
  Sim.bindV (wp_mono hx (fun _ h => Nat.le_of_eq (pl_arena h).symm) (fun _ _ => trivial)) (fun g => JV.arena g hx hy) k

theorem JV_addLabel {L : Nat} {c p : St} (i : Nat) (pr cl1 cl2 : Bool) (h : Rel L c p) :
    JV (·.2) L (c.addLabel i pr cl1) (p.addLabel i pr cl2) (fun r r' => r.1 = true ∧ Rel L r.2 r'.2) := by
  intro r hx hL
  refine wp_post (JV.arena h (addLabel_arena c i pr cl1) (addLabel_arena p i pr cl2) r hx hL) (fun _ hr' => ⟨?_, hr'⟩)
  unfold St.addLabel at hx
  rw [if_pos h.cc] at hx
  injection hx with hx
  rw [← hx]

theorem Sim.labelled {L : Nat} {c p : St} (i : Nat) (pr cl1 cl2 : Bool) {f1 f2 : St → R St}
    (k : ∀ c1 p1, Sim L (Rel L c1 p1) c1 (f1 c1) (f2 p1)) :
    Sim L (Rel L c p) c
      (c.addLabel i pr cl1 >>= fun r => if (!r.1) = true then Except.error Err.duplicateLabel else f1 r.2)
      (p.addLabel i pr cl2 >>= fun r => if (!r.1) = true then Except.error Err.duplicateLabel else f2 r.2) :=
  Sim.bindV (wp_mono (addLabel_arena c i pr cl1) (fun _ h => Nat.le_of_eq (pl_arena h).symm) (fun _ _ => trivial))
    (JV_addLabel i pr cl1 cl2) fun r r' => Sim.dup (k r.2 r'.2)

theorem evalPrev_eq_of_nl {L : Nat} {c p : St} (h : Rel L c p) (hc : NL c) (hp : NL p) : c.evalPrev = p.evalPrev := by
  rw [evalPrev_nl h.w.vc hc, evalPrev_nl h.w.vp hp]
  rcases h.w.top with heq | ⟨h1, h2⟩
  · rw [heq]
  · rw [if_neg (untested_ne h1 (by decide)), if_neg (untested_ne h2 (by decide))]

/-- the coupling after an expression (`b`): `EvalPrevValue` finds the same in both passes -/
def RelE (L : Nat) (b : Bool) (c p : St) : Prop := Rel L c p ∧ (b = true → c.evalPrev = p.evalPrev)

theorem RelE.of_rel {L : Nat} {c p : St} (h : Rel L c p) : RelE L false c p := ⟨h, nofun⟩

/-- both passes end with an opcode that carries no operand-literal -/
theorem SimQ.top {L : Nat} {Γ : Prop} {c : St} {x y : R St} (b : Bool) (h : Sim L Γ c x y)
    (hx : Γ → wp x T (fun _ => True)) (hy : Γ → wp y T (fun _ => True)) : SimQ L Γ c x y (RelE L b) :=
  (h.and hx hy).mono fun _ _ ⟨hr, tc, tp⟩ => ⟨hr, fun _ => evalPrev_eq_of_nl hr tc.2 tp.2⟩

theorem emitOp_simE {L : Nat} {c p : St} (op : Nat) {b : Bool} (hop : b = true → byteLit (op % 256) = false) :
    SimQ L (Rel L c p) c (c.emitOp op) (p.emitOp op) (RelE L b) := by
  cases b
  · exact (emitOp_sim op).mono fun _ _ => RelE.of_rel
  · exact SimQ.top _ (emitOp_sim op) (fun g => emitOp_T c op g.w.vc (hop rfl)) (fun g => emitOp_T p op g.w.vp (hop rfl))

theorem emitOpBytes_simE {L : Nat} {c p : St} (op : Nat) (bs1 bs2 : List Nat) (hl : bs1.length = bs2.length) (b : Bool)
    (hop : byteLit (op % 256) = false) :
    SimQ L (Rel L c p) c (c.emitOpBytes op bs1) (p.emitOpBytes op bs2) (RelE L b) :=
  SimQ.top b (emitOpBytes_sim op bs1 bs2 hl) (fun g => emitOpBytes_T c op bs1 g.w.vc hop)
    (fun g => emitOpBytes_T p op bs2 g.w.vp hop)

/-- the three functions, under membership in the class; after a node of a kind that can be the operand of a unary
minus (`Node.evOk`) both passes read the same previous value -/
structure MSP (n : Node) : Prop where
  e : n.plain = true → ∀ {L c p}, SimQ L (Rel L c p) c (emit n c) (emit n p) (RelE L n.evOk)
  r : n.plainA = true → ∀ {L c p}, Sim L (Rel L c p) c (emitRef n c) (emitRef n p)
  a : n.plainA = true → ∀ {L c p}, Sim L (Rel L c p) c (emitAssign n c) (emitAssign n p)

theorem MSP.sim {n : Node} (h : MSP n) (hpl : n.plain = true) {L : Nat} {c p : St} :
    Sim L (Rel L c p) c (emit n c) (emit n p) :=
  (h.e hpl).mono fun _ _ h => h.1

theorem MSP.expr {n : Node} (hlv : n.isLValue = false)
    (e : n.plain = true → ∀ {L c p}, SimQ L (Rel L c p) c (emit n c) (emit n p) (RelE L n.evOk)) : MSP n :=
  ⟨e, fun _ {L c p} => by rw [(Node.notLValue hlv c).1]; exact Sim.error,
    fun _ {L c p} => by rw [(Node.notLValue hlv c).2]; exact Sim.error⟩

theorem MSP.stmt {n : Node} (hlv : n.isLValue = false) (hev : n.evOk = false)
    (e : n.plain = true → ∀ {L c p}, Sim L (Rel L c p) c (emit n c) (emit n p)) : MSP n :=
  .expr hlv fun hpl => (e hpl).mono fun _ _ h => hev ▸ RelE.of_rel h

structure MSPL (xs : Nodes) : Prop where
  l : xs.plain = true → ∀ {L c p}, Rel L c p → J L (emitList xs c) (emitList xs p) (Rel L)

theorem MSPL.sim {xs : Nodes} (ih : MSPL xs) (hpl : xs.plain = true) {L : Nat} {c p : St} :
    Sim L (Rel L c p) c (emitList xs c) (emitList xs p) :=
  ⟨emitList_pl xs c, ih.l hpl⟩

theorem Sim.cond {n : Node} (ih : MSP n) (hpl : n.plain = true) {L : Nat} {c p : St} {f1 f2 : St → R St}
    {Q : St → St → Prop} (k : ∀ c1 p1, SimQ L (Rel L c1 p1) c1 (f1 c1) (f2 p1) Q) :
    SimQ L (Rel L c p) c (emit n c >>= fun s => s.varToBool >>= f1) (emit n p >>= fun s => s.varToBool >>= f2) Q :=
  Sim.bind (ih.sim hpl) fun _ _ => Sim.bind varToBool_sim k

/-- a jump whose operand is filled in later: the rest gets the state at the slot -/
theorem Sim.slot {L : Nat} {Γ : Prop} {c : St} {x1 y1 : R St} {f1 f2 : St → St → R St} {Q : St → St → Prop}
    (h1 : Sim L Γ c x1 y1) (k : ∀ c1 p1 c2 p2, SimQ L (Rel L c2 p2) c2 (f1 c1 c2) (f2 p1 p2) Q) :
    SimQ L Γ c (x1 >>= fun s => (s.moveFwd 4).clearPrev >>= f1 s) (y1 >>= fun s => (s.moveFwd 4).clearPrev >>= f2 s) Q :=
  Sim.bind h1 fun c1 p1 => Sim.bind (skipClear_sim 4) (k c1 p1)

theorem logical_sim {a b : Node} (ih1 : MSP a) (ih2 : MSP b) (ha : a.plain = true) (hb : b.plain = true) (op : Nat)
    {L : Nat} {c p : St} :
    SimQ L (Rel L c p) c
      (emit a c >>= fun s => s.varToBool >>= fun s => s.emitOp op >>= fun s => (s.moveFwd 4).clearPrev >>= fun s' =>
        emit b s' >>= fun s' => s'.varToBool >>= fun s' => s'.addJumpLocation s.pos >>= fun s' =>
          .ok (s'.accumulate OP_BOOL_LOGICAL_AND 0))
      (emit a p >>= fun s => s.varToBool >>= fun s => s.emitOp op >>= fun s => (s.moveFwd 4).clearPrev >>= fun s' =>
        emit b s' >>= fun s' => s'.varToBool >>= fun s' => s'.addJumpLocation s.pos >>= fun s' =>
          .ok (s'.accumulate OP_BOOL_LOGICAL_AND 0)) (RelE L true) := by
  refine Sim.cond ih1 ha fun _ _ => Sim.slot (emitOp_sim _) fun _ _ _ _ => Sim.cond ih2 hb fun _ _ => ?_
  -- the result opcode is recorded without being written
  exact Sim.bind (addJumpLocation_sim _ _) fun _ _ => Sim.ok (Nat.le_refl _) fun g =>
    ⟨g.accumulate _ _, fun _ => evalPrev_eq_of_nl (g.accumulate _ _) (T.accumulate g.w.vc _ _ (by decide)).2
      (T.accumulate g.w.vp _ _ (by decide)).2⟩

/-- the end of `EmitWhileJump` / `EmitDoWhileJump` -/
def loopEnd (brk a j : Nat) (ob : Bool) (s : St) : R St :=
  s.emitJumpBack a >>= fun s => s.clearPrev >>= fun s => s.addJumpLocation j >>= fun s => s.processBreak brk >>= fun s =>
    .ok { s with canBreak := ob }

theorem loopEnd_sim {L : Nat} {c p : St} (brk a1 a2 j1 j2 : Nat) (ob : Bool) :
    Sim L (Rel L c p) c (loopEnd brk a1 j1 ob c) (loopEnd brk a2 j2 ob p) :=
  Sim.bind (emitJumpBack_sim _ _) fun _ _ => Sim.bind clearPrev_sim fun _ _ => Sim.bind (addJumpLocation_sim _ _) fun _ _ =>
    Sim.bind (processBreak_sim _) fun _ _ => Sim.ok (Nat.le_refl _) fun g => g.flags rfl g.cct g.sd

theorem Sim.loopBody {b x : Node} (ihb : MSP b) (ihx : MSP x) (hb : b.plain = true) (hx : x.plain = true) (cnt : Nat) (oc : Bool)
    {L : Nat} {c p : St} {f1 f2 : St → R St} (k : ∀ c1 p1, Sim L (Rel L c1 p1) c1 (f1 c1) (f2 p1)) :
    Sim L (Rel L c p) c
      (emit b { c with canBreak := true, canContinue := true } >>= fun s => s.processContinue cnt >>= fun s =>
        emit x { s with canContinue := oc } >>= f1)
      (emit b { p with canBreak := true, canContinue := true } >>= fun s => s.processContinue cnt >>= fun s =>
        emit x { s with canContinue := oc } >>= f2) :=
  Sim.pre (Nat.le_refl _) (fun g => g.flags rfl rfl g.sd) <| Sim.bind (ihb.sim hb) fun _ _ =>
    Sim.bind (processContinue_sim _) fun _ _ =>
      Sim.pre (Nat.le_refl _) (fun g => g.flags g.cb rfl g.sd) <| Sim.bind (ihx.sim hx) k

def whileTail (b i : Node) (cnt brk a j : Nat) (oc ob : Bool) (s : St) : R St :=
  emit b { s with canBreak := true, canContinue := true } >>= fun s => s.processContinue cnt >>= fun s =>
    emit i { s with canContinue := oc } >>= loopEnd brk a j ob

def doTail (b x : Node) (cnt brk a : Nat) (oc ob : Bool) (s : St) : R St :=
  emit b { s with canBreak := true, canContinue := true } >>= fun s => s.processContinue cnt >>= fun s =>
    emit x { s with canContinue := oc } >>= fun s => s.varToBool >>= fun s => s.emitNot >>= fun s =>
      loopEnd brk a s.pos ob (s.moveFwd 4)

/-- What a loop saves on entry (the two fix-up counts, the two flags) is read from the entry state of each pass; the coupling
of the entry states says they are the same. -/
theorem Sim.saved {L : Nat} {c p : St} {F G : Nat → Nat → Bool → Bool → R St}
    (h : ∀ cnt brk oc ob, Sim L (Rel L c p) c (F cnt brk oc ob) (G cnt brk oc ob)) :
    Sim L (Rel L c p) c (F c.nCont c.nBrk c.canContinue c.canBreak) (G p.nCont p.nBrk p.canContinue p.canBreak) :=
  ⟨(h _ _ _ _).1, fun g => by rw [← g.nc, ← g.nb, ← g.cct, ← g.cb]; exact (h _ _ _ _).2 g⟩

theorem Sim.params {ps : Nodes} (ih : MSPL ps) (hpl : ps.plain = true) (hasPs : Bool) {L : Nat} {c p : St}
    {f1 f2 : St → R St} {Q : St → St → Prop} (k : ∀ c1 p1, SimQ L (Rel L c1 p1) c1 (f1 c1) (f2 p1) Q) :
    SimQ L (Rel L c p) c (if hasPs = true then emitList ps c >>= f1 else Except.ok c >>= f1)
      (if hasPs = true then emitList ps p >>= f2 else Except.ok p >>= f2) Q :=
  Sim.ite (fun _ => Sim.bind (ih.sim hpl) k) fun _ => k c p

end Morfuse.Emit
