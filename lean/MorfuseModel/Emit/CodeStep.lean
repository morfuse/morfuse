import MorfuseModel.Emit.Wp
import MorfuseModel.Emit.Window
/-! What the code-writing primitives of the emitter (`WriteOpcodeValue`, `MoveCodeBack` / `Forward`,
`SetValueAtCodePosition`, `AddString`, the previous-opcode window, the stack bookkeeping) do to the state, said once and
for either manager: the footprint `CodeStep`, with the byte count `Eff k`, with the window left alone `Still k`; `Fits` for
a primitive that can fail.  Both halves of the development rest on these facts: the specifications of the single emitter
(`Core` in `Hoare`) and the coupling of the two passes (`Rel.step` in `Sim`). -/
namespace Morfuse.Emit

/-- `sizeInfo_t::progLength` -/
abbrev pl (s : St) : Nat := s.info.progLength

structure CodeStep (s t : St) : Prop where
  eq : t = { s with info := { s.info with progLength := t.info.progLength, numStrings := t.info.numStrings },
                    ring := t.ring, ringCur := t.ringCur, buf := t.buf, pos := t.pos, gross := t.gross,
                    fresh := t.fresh, prev := t.prev, prevPos := t.prevPos, varStack := t.varStack,
                    maxInt := t.maxInt, maxExt := t.maxExt }
  pl : pl s ≤ pl t
  wok : WOk s → WOk t
  bok : BOk s → BOk t

namespace CodeStep

theorem refl (s : St) : CodeStep s s := ⟨rfl, Nat.le_refl _, id, id⟩

theorem trans {s t u : St} (h1 : CodeStep s t) (h2 : CodeStep t u) : CodeStep s u :=
  ⟨by rw [h2.eq, h1.eq], Nat.le_trans h1.pl h2.pl, fun h => h2.wok (h1.wok h), fun h => h2.bok (h1.bok h)⟩

theorem counting {s t : St} (h : CodeStep s t) : t.counting = s.counting := by rw [h.eq]
theorem progLen {s t : St} (h : CodeStep s t) : t.progLen = s.progLen := by rw [h.eq]
theorem same {s t : St} (h : CodeStep s t) : Same s t := by rw [h.eq]; exact ⟨rfl, rfl⟩

end CodeStep

/-- the bytes accounted for so far: what the counting manager has counted, what the program manager has written or
skipped -/
def cnt (s : St) : Nat := if s.counting then pl s else s.gross

structure Eff (k : Nat) (s t : St) : Prop extends CodeStep s t where
  cnt : cnt t = cnt s + k
  pos : t.pos ≤ s.pos + k

structure Still (k : Nat) (s t : St) : Prop extends Eff k s t where
  prev : t.prev = s.prev
  prevPos : t.prevPos = s.prevPos

/-- no write past the code buffer: `assert(code_pos + size <= prog_end_ptr)`, hook H3 kind 1 -/
def ECO (e : Err) : Prop := e ≠ .ub .codeOverflow

/-- the undefined behaviours of the program manager's code buffer; the counting manager has none of them -/
def BufErr (e : Err) : Prop := e = .ub .codeOverflow ∨ e = .ub .codeUnderflow ∨ e = .ub .fixupOutside

def NoRoom (k : Nat) (s : St) (e : Err) : Prop :=
  s.counting = false ∧ (e = .ub .codeOverflow ∧ s.progLen < s.pos + k ∨ e = .ub .codeUnderflow ∨ e = .ub .fixupOutside)

/-- the out-of-range accesses that `Fits` admits whatever the room in the buffer -/
def TblErr (e : Err) : Prop := e = .ub .windowIndex ∨ e = .ub .opcodeTable ∨ e = .ub .sourceMapIndex

theorem TblErr.eco {e : Err} (h : TblErr e) : ECO e := by
  rcases h with h | h | h <;> exact h ▸ nofun

abbrev Fits (k : Nat) (s : St) (x : R St) : Prop := wp x (Eff k s) (fun e => TblErr e ∨ NoRoom k s e)
abbrev FitsS (k : Nat) (s : St) (x : R St) : Prop := wp x (Still k s) (fun e => TblErr e ∨ NoRoom k s e)

theorem NoRoom.bufErr {k : Nat} {s : St} {e : Err} (h : NoRoom k s e) : BufErr e :=
  h.2.elim (fun h => .inl h.1) .inr

theorem Eff.trans {j k : Nat} {s t u : St} (h1 : Eff j s t) (h2 : Eff k t u) : Eff (j + k) s u :=
  ⟨h1.toCodeStep.trans h2.toCodeStep, by rw [h2.cnt, h1.cnt, Nat.add_assoc], by have := h1.pos; have := h2.pos; omega⟩

theorem NoRoom.after {j k : Nat} {s t : St} {e : Err} (ht : Eff j s t) (h : NoRoom k t e) : NoRoom (j + k) s e :=
  ⟨ht.counting.symm.trans h.1, h.2.imp (fun h => ⟨h.1, by have := h.2; have := ht.pos; rw [← ht.progLen]; omega⟩) id⟩

theorem FitsS.fits {k : Nat} {s : St} {x : R St} (h : FitsS k s x) : Fits k s x :=
  wp_post h fun _ h => h.toEff

theorem Fits.ok {k : Nat} {s t : St} (h : Eff k s t) : Fits k s (.ok t) := h

theorem Fits.bind {j k : Nat} {s : St} {x : R St} {f : St → R St} (hx : Fits j s x)
    (hf : ∀ t, Fits k t (f t)) : Fits (j + k) s (x >>= f) := by
  cases x with
  | error e => exact hx.imp id fun h => ⟨h.1, h.2.imp (fun h => ⟨h.1, by have := h.2; omega⟩) id⟩
  | ok t => exact wp_mono (hf t) (fun _ hu => Eff.trans hx hu) fun e he => he.imp id (NoRoom.after hx)

theorem Fits.pre {k : Nat} {s t : St} {x : R St} (h : Eff 0 s t) (hx : Fits k t x) : Fits k s x :=
  wp_mono hx (fun _ hu => Nat.zero_add k ▸ h.trans hu) fun _ he => he.imp id fun he => Nat.zero_add k ▸ NoRoom.after h he

theorem ringWrite_bok (bs : List Nat) (s : St) (h : BOk s) : BOk (s.ringWrite bs) := by
  induction bs generalizing s with
  | nil => exact h
  | cons b bs ih =>
    unfold St.ringWrite
    refine ih _ ⟨(Tbl.size_set _ _ _).trans h.rsize, ?_, h.bsize⟩
    simp only [ringSize_eq]; omega

theorem foldSet_size (bs : List Nat) (t : Tbl Nat) (k : Nat) :
    (bs.foldl (fun (acc : Tbl Nat × Nat) b => (acc.1.set acc.2 b, acc.2 + 1)) (t, k)).1.data.size = t.data.size := by
  induction bs generalizing t k with
  | nil => rfl
  | cons b bs ih => simp only [List.foldl_cons]; rw [ih]; exact Tbl.size_set _ _ _

theorem write_fits (s : St) (bs : List Nat) : FitsS bs.length s (s.write bs) := by
  unfold St.write
  split
  · next hc =>
    dsimp only
    rw [ringWrite_eq]
    exact ⟨⟨⟨rfl, Nat.le_add_right _ _, fun h => wok_congr h rfl rfl,
      fun h => by rw [← ringWrite_eq]; exact ringWrite_bok _ _ ⟨h.rsize, h.rcur, h.bsize⟩⟩, by simp [cnt, hc], Nat.le_add_right _ _⟩,
      rfl, rfl⟩
  · next hc =>
    split
    · exact .inr ⟨Bool.eq_false_iff.mpr hc, .inl ⟨rfl, by omega⟩⟩
    · exact ⟨⟨⟨rfl, Nat.le_refl _, fun h => wok_congr h rfl rfl, fun h => ⟨h.rsize, h.rcur, by simp only [foldSet_size]; exact h.bsize⟩⟩,
        by simp [cnt, hc], Nat.le_refl _⟩, rfl, rfl⟩

theorem moveBack_fits (s : St) (k : Nat) : FitsS 0 s (s.moveBack k) := by
  unfold St.moveBack
  split
  · exact ⟨⟨⟨rfl, Nat.le_refl _, fun h => wok_congr h rfl rfl, fun h => ⟨h.rsize, by simp only [ringSize_eq]; omega, h.bsize⟩⟩,
      rfl, Nat.le_refl _⟩, rfl, rfl⟩
  · next hc =>
    split
    · exact .inr ⟨Bool.eq_false_iff.mpr hc, .inr (.inl rfl)⟩
    · exact ⟨⟨⟨rfl, Nat.le_refl _, fun h => wok_congr h rfl rfl, fun h => ⟨h.rsize, h.rcur, h.bsize⟩⟩, by simp [cnt, hc],
        Nat.sub_le _ _⟩, rfl, rfl⟩

theorem setAt_fits (s : St) (p : Nat) (bs : List Nat) : FitsS 0 s (s.setAt p bs) := by
  unfold St.setAt
  split
  · exact ⟨⟨CodeStep.refl s, rfl, Nat.le_refl _⟩, rfl, rfl⟩
  · next hc =>
    split
    · exact .inr ⟨Bool.eq_false_iff.mpr hc, .inr (.inr rfl)⟩
    · exact ⟨⟨⟨rfl, Nat.le_refl _, fun h => wok_congr h rfl rfl, fun h => ⟨h.rsize, h.rcur, by simp only [foldSet_size]; exact h.bsize⟩⟩,
        rfl, Nat.le_refl _⟩, rfl, rfl⟩

theorem clearPrev_fits (s : St) : Fits 0 s s.clearPrev := by
  unfold St.clearPrev
  split
  · exact ⟨⟨rfl, Nat.le_refl _, fun h => cleared_ok s h, fun h => ⟨h.rsize, h.rcur, h.bsize⟩⟩, rfl, Nat.le_refl _⟩
  · exact .inl (.inl rfl)

theorem moveFwd_still (s : St) (k : Nat) : Still k s (s.moveFwd k) := by
  unfold St.moveFwd
  split
  · next hc =>
    exact ⟨⟨⟨rfl, Nat.le_add_right _ _, fun h => wok_congr h rfl rfl, fun h => ⟨h.rsize, by simp only [ringSize_eq]; omega, h.bsize⟩⟩,
      by simp [cnt, hc], Nat.le_add_right _ _⟩, rfl, rfl⟩
  · next hc =>
    exact ⟨⟨⟨rfl, Nat.le_refl _, fun h => wok_congr h rfl rfl, fun h => ⟨h.rsize, h.rcur, h.bsize⟩⟩, by simp [cnt, hc], Nat.le_refl _⟩,
      rfl, rfl⟩

theorem addString_still (s : St) (i : Nat) : Still 0 s (s.addString i).2 := by
  unfold St.addString
  split
  · exact ⟨⟨⟨rfl, Nat.le_refl _, fun h => wok_congr h rfl rfl, fun h => ⟨h.rsize, h.rcur, h.bsize⟩⟩, rfl, Nat.le_refl _⟩, rfl, rfl⟩
  · exact ⟨⟨CodeStep.refl s, rfl, Nat.le_refl _⟩, rfl, rfl⟩

theorem trackStack_still (s : St) (ext : Bool) (off : Int) : Still 0 s (s.trackStack ext off) := by
  unfold St.trackStack
  cases ext <;>
    exact ⟨⟨⟨rfl, Nat.le_refl _, fun h => wok_congr h rfl rfl, fun h => ⟨h.rsize, h.rcur, h.bsize⟩⟩, rfl, Nat.le_refl _⟩, rfl, rfl⟩

theorem varStack_still (s : St) (v : Int) : Still 0 s { s with varStack := v } :=
  ⟨⟨⟨rfl, Nat.le_refl _, fun h => wok_congr h rfl rfl, fun h => ⟨h.rsize, h.rcur, h.bsize⟩⟩, rfl, Nat.le_refl _⟩, rfl, rfl⟩

theorem accumulate_eff (s : St) (op : Nat) (off : Int) : Eff 0 s (s.accumulate op off) :=
  ⟨⟨rfl, Nat.le_refl _, fun h => accumulate_ok s h op off, fun h => ⟨h.rsize, h.rcur, h.bsize⟩⟩, rfl, Nat.le_refl _⟩

theorem pop_eff (s : St) : Eff 0 s s.pop :=
  ⟨⟨rfl, Nat.le_refl _, pop_ok s, fun h => ⟨h.rsize, h.rcur, h.bsize⟩⟩, rfl, Nat.le_refl _⟩

/-! `EmitOpcodeWithStack` and `AbsorbPrevOpcode`, of which the other primitives are made: the byte count (`_fits`) and what
happens to the window (`_win`) -/

theorem write_win (s : St) (bs : List Nat) :
    wp (s.write bs) (fun t => t.prev = s.prev ∧ t.prevPos = s.prevPos) (fun _ => True) :=
  wp_mono (write_fits s bs) (fun _ h => ⟨h.prev, h.prevPos⟩) (fun _ _ => trivial)

theorem emitOpWith_fits (s : St) (op : Nat) (off : Int) : Fits 1 s (s.emitOpWith op off) := by
  unfold St.emitOpWith
  dsimp only
  split
  · exact .inl (.inr (.inr rfl))
  · split
    · exact Fits.pre ((trackStack_still s _ _).toEff.trans (accumulate_eff _ _ _)) (write_fits _ _).fits
    · exact .inl (.inr (.inl rfl))

theorem emitOpWith_win (s : St) (op : Nat) (off : Int) :
    wp (s.emitOpWith op off) (fun t => t.prev = (s.accumulate op off).prev ∧ t.prevPos = (s.accumulate op off).prevPos)
      (fun _ => True) := by
  unfold St.emitOpWith
  dsimp only
  split
  · trivial
  · split
    · next e _ =>
      refine wp_post (write_win _ _) fun t ⟨e1, e2⟩ => ?_
      rw [e1, e2]
      simp only [St.accumulate, Nat.mod_mod, (trackStack_still s e off).prev, (trackStack_still s e off).prevPos, and_self]
    · trivial

theorem emitOpWith_top (s : St) (op : Nat) (off : Int) (hw : WOk s) :
    wp (s.emitOpWith op off) (fun t => WOk t ∧ (ent t 0).op = op % 256) (fun _ => True) :=
  wp_post (emitOpWith_win s op off) fun _ ⟨e1, e2⟩ =>
    ⟨wok_congr (accumulate_ok s hw op off) e1 e2, by rw [ent_congr e1 e2, ent_accumulate_zero s hw]⟩

theorem emitOp_fits (s : St) (op : Nat) : Fits 1 s (s.emitOp op) := by
  unfold St.emitOp
  dsimp only
  split
  · exact emitOpWith_fits s _ _
  · exact .inl (.inr (.inl rfl))

theorem emitOp_top (s : St) (op : Nat) (hw : WOk s) :
    wp (s.emitOp op) (fun t => WOk t ∧ (ent t 0).op = op % 256) (fun _ => True) := by
  unfold St.emitOp
  dsimp only
  split
  · exact wp_post (emitOpWith_top s _ _ hw) fun _ h => ⟨h.1, h.2.trans (Nat.mod_mod _ _)⟩
  · trivial

theorem absorb_fits (s : St) : Fits 0 s s.absorb := by
  unfold St.absorb St.prevOp
  split
  · rw [ok_bind]
    split
    · exact Fits.bind (j := 0) (k := 0) (Fits.pre (varStack_still s _).toEff (moveBack_fits _ _).fits) fun t => Fits.ok (pop_eff t)
    · exact .inl (.inr (.inl rfl))
  · exact .inl (.inl rfl)

theorem absorb_wok (s : St) (hw : WOk s) : wp s.absorb WOk (fun _ => True) :=
  wp_mono (absorb_fits s) (fun _ h => h.wok hw) (fun _ _ => trivial)

theorem absorb_win (s : St) : wp s.absorb (fun t => t.prev = s.prev ∧ t.prevPos = s.pop.prevPos) (fun _ => True) := by
  unfold St.absorb St.prevOp
  split
  · rw [ok_bind]
    split
    · rw [ok_bind]
      refine wp_then (wp_mono (moveBack_fits _ _) (fun _ h => h) (fun _ _ => trivial)) fun t ht => ?_
      exact ⟨ht.prev, by show _ - 1 = _ - 1; rw [ht.prevPos]⟩
    · trivial
  · trivial

end Morfuse.Emit
