import MorfuseModel.SafePtr.Model
import MorfuseModel.Common.Ring
import MorfuseModel.Common.Lists
/-!
# Invariant of the SafePtr model and its preservation by every operation

`Linked s T`: for every constructed object `o` the links form one ring through exactly the references `r` with
`T r = o`.  The target function is a parameter because `AddReference` and `RemoveReference` run while `ptr` is not yet,
or no longer, written: each moves one reference into or out of one ring (`Linked.step`).  Every operation is a
composition of five moves: re-pointing a constructed reference (`Inv.retarget`), birth and death of a reference that
points nowhere, birth and death of an object that nothing points at.
-/
namespace Morfuse.SafePtr
open Morfuse.Ring

def RingOf (s : State) (o : Nat) : List Nat → Prop
  | [] => s.head.get o = 0
  | a :: t => s.head.get o = a ∧ IsRing s.nx.get s.pv.get a t

theorem ringOf_congr {s s' : State} {o : Nat} {l : List Nat}
    (hh : s'.head.get o = s.head.get o)
    (hl : ∀ x ∈ l, s'.nx.get x = s.nx.get x ∧ s'.pv.get x = s.pv.get x)
    (h : RingOf s o l) : RingOf s' o l := by
  cases l with
  | nil => simpa [RingOf, hh] using h
  | cons a t =>
    exact ⟨by rw [hh]; exact h.1, h.2.congr (fun x hx => (hl x hx).1) (fun x hx => (hl x hx).2)⟩

theorem RingOf.nodup {s : State} {o : Nat} : ∀ {l : List Nat}, RingOf s o l → l.Nodup
  | [], _ => List.nodup_nil
  | _ :: _, h => h.2.1

@[simp] theorem addReference_ptr (s : State) (r o : Nat) : (addReference s r o).ptr = s.ptr := by
  unfold addReference; split <;> rfl
@[simp] theorem addReference_liveR (s : State) (r o : Nat) : (addReference s r o).liveR = s.liveR := by
  unfold addReference; split <;> rfl
@[simp] theorem addReference_liveO (s : State) (r o : Nat) : (addReference s r o).liveO = s.liveO := by
  unfold addReference; split <;> rfl
@[simp] theorem addReference_refs (s : State) (r o : Nat) : (addReference s r o).refs = s.refs := by
  unfold addReference; split <;> rfl

@[simp] theorem removeReference_ptr (s : State) (r o : Nat) : (removeReference s r o).ptr = s.ptr := by
  unfold removeReference unlink; split <;> (try split) <;> rfl
@[simp] theorem removeReference_liveR (s : State) (r o : Nat) : (removeReference s r o).liveR = s.liveR := by
  unfold removeReference unlink; split <;> (try split) <;> rfl
@[simp] theorem removeReference_liveO (s : State) (r o : Nat) : (removeReference s r o).liveO = s.liveO := by
  unfold removeReference unlink; split <;> (try split) <;> rfl
@[simp] theorem removeReference_refs (s : State) (r o : Nat) : (removeReference s r o).refs = s.refs := by
  unfold removeReference unlink; split <;> (try split) <;> rfl

theorem addReference_head (s : State) (r o : Nat) {o' : Nat} (e : o' ≠ o) :
    (addReference s r o).head.get o' = s.head.get o' := by
  unfold addReference; split
  · simp [Mem.get_set, e]
  · rfl

theorem addReference_ring {s : State} {o r : Nat} {l : List Nat} (h : RingOf s o l) (hr : r ∉ l) (h0 : 0 ∉ l) :
    RingOf (addReference s r o) o (l ++ [r]) := by
  cases l with
  | nil =>
    have hh : s.head.get o = 0 := h
    simp [addReference, hh, RingOf, IsRing, Path]
  | cons a t =>
    obtain ⟨hh, hring⟩ := h
    have hne : ¬ s.head.get o = 0 := by rw [hh]; exact fun e => h0 (by simp [e])
    simp only [addReference, hne, if_false, List.cons_append, RingOf]
    exact ⟨hh, by simpa [hh, Mem.get_set_fun] using add_ref hring hr⟩

theorem addReference_frame {s : State} {o r x : Nat} {l : List Nat} (h : RingOf s o l) (hr : x ≠ r) (hx : x ∉ l) :
    (addReference s r o).nx.get x = s.nx.get x ∧ (addReference s r o).pv.get x = s.pv.get x := by
  cases l with
  | nil =>
    have hh : s.head.get o = 0 := h
    simp [addReference, hh, Mem.get_set, hr]
  | cons a t =>
    obtain ⟨hh, hring⟩ := h
    have ha : x ≠ a := fun e => hx (by simp [e])
    have hp : x ≠ s.pv.get a := fun e => hx (e ▸ (ring_links hring a (by simp)).2.2.2)
    unfold addReference; split <;> simp [Mem.get_set, hr, hh, ha, hp]

theorem unlink_links (s : State) (r : Nat) (hne : s.pv.get r ≠ r) :
    (unlink s r).nx.get = upd (upd s.nx.get (s.pv.get r) (s.nx.get r)) r r ∧
    (unlink s r).pv.get = upd (upd s.pv.get (s.nx.get r) (s.pv.get r)) r r := by
  have : (s.nx.set (s.pv.get r) (s.nx.get r)).get r = s.nx.get r := by
    simp [Mem.get_set, hne.symm]
  simp [unlink, Mem.get_set_fun, this]

theorem removeReference_head (s : State) (r o : Nat) {o' : Nat} (e : o' ≠ o) :
    (removeReference s r o).head.get o' = s.head.get o' := by
  unfold removeReference unlink
  split <;> (try split) <;> simp [Mem.get_set, e]

theorem removeReference_ring {s : State} {o r : Nat} {l : List Nat} (h : RingOf s o l) (hr : r ∈ l) :
    RingOf (removeReference s r o) o (l.erase r) := by
  obtain ⟨l₁, l₂, hn, rfl, he⟩ := List.exists_erase_eq hr
  rw [he]
  cases l₁ with
  | nil =>
    -- `r` is the head: the successor, if there is one, becomes the head
    obtain ⟨hh, hring⟩ := h
    cases l₂ with
    | nil =>
      have hn : s.nx.get r = r := (ring_single_iff.1 hring).1
      simp [removeReference, hh, hn, RingOf]
    | cons m u =>
      have hn : s.nx.get r = m := hring.2.1
      have hmr : m ≠ r := by
        intro e; subst e; simpa using hring.1
      have hul := unlink_links { s with head := s.head.set o (s.nx.get r) } r (ring_pv_ne hring (by simp) r (by simp))
      simp only [removeReference, hh, if_true, hn, hmr, if_false, RingOf, List.nil_append]
      refine ⟨by simp [unlink, hn], ?_⟩
      rw [hn] at hul
      simp only [] at hul
      rw [hul.1, hul.2]
      simpa [hn] using ring_remove_head hring
  | cons a s1 =>
    obtain ⟨hh, hring⟩ := h
    have hhr : ¬ s.head.get o = r := by rw [hh]; exact fun e => hn (by simp [e])
    have hul := unlink_links s r (ring_pv_ne hring (by simp) r (by simp))
    simp only [removeReference, hhr, if_false, RingOf, List.cons_append]
    refine ⟨by simp [unlink, hh], ?_⟩
    rw [hul.1, hul.2]
    exact ring_remove_mid hring

theorem removeReference_frame {s : State} {o r x : Nat} {l : List Nat} (h : RingOf s o l) (hr : r ∈ l) (hx : x ∉ l) :
    (removeReference s r o).nx.get x = s.nx.get x ∧ (removeReference s r o).pv.get x = s.pv.get x := by
  cases l with
  | nil => cases hr
  | cons a t =>
    have hl := ring_links h.2 r hr
    have h1 : x ≠ r := fun e => hx (e ▸ hr)
    have h2 : x ≠ s.pv.get r := fun e => hx (e ▸ hl.2.2.2)
    have h3 : x ≠ s.nx.get r := fun e => hx (e ▸ hl.2.2.1)
    unfold removeReference unlink
    split <;> (try split) <;> simp [Mem.get_set, h1, h2, h3]

/-- link-level invariant: mentions only `head nx pv liveO` -/
structure Linked (s : State) (T : Nat → Nat) : Prop where
  ring : ∀ o, aliveObj s o → ∃ l, RingOf s o l ∧ ∀ r, r ∈ l ↔ T r = o
  tgt0 : T 0 = 0
  obj0 : ¬ aliveObj s 0

theorem Linked.keep {s s' : State} {T T' : Nat → Nat} (h : Linked s T) {o : Nat} (ho : aliveObj s o)
    (hh : s'.head.get o = s.head.get o)
    (hl : ∀ r, T r = o → T' r = o ∧ s'.nx.get r = s.nx.get r ∧ s'.pv.get r = s.pv.get r)
    (hT : ∀ r, T' r = o → T r = o) : ∃ l, RingOf s' o l ∧ ∀ r, r ∈ l ↔ T' r = o := by
  obtain ⟨l, hr, hm⟩ := h.ring o ho
  exact ⟨l, ringOf_congr hh (fun x hx => (hl x ((hm x).1 hx)).2) hr,
    fun r => ⟨fun hx => (hl r ((hm r).1 hx)).1, fun hx => (hm r).2 (hT r hx)⟩⟩

theorem Linked.congr {s s' : State} {T : Nat → Nat} (h : Linked s T)
    (h1 : s'.head = s.head) (h2 : s'.nx = s.nx) (h3 : s'.pv = s.pv) (h4 : s'.liveO = s.liveO) : Linked s' T := by
  have al : ∀ o, aliveObj s' o ↔ aliveObj s o := fun o => by simp [aliveObj, h4]
  exact ⟨fun o ho => h.keep ((al o).1 ho) (by rw [h1]) (fun r hr => ⟨hr, by rw [h2], by rw [h3]⟩) (fun _ hr => hr),
    h.tgt0, mt (al 0).1 h.obj0⟩

/-- One step on the ring `l` of object `o`: reference `r` joins it from no ring (`v = o`) or leaves it (`v = 0`).  The
    other rings stay: their nodes have other targets. -/
theorem Linked.step {s s' : State} {T : Nat → Nat} {o r v : Nat} {l l' : List Nat} (h : Linked s T)
    (hO : s'.liveO = s.liveO) (hm : ∀ q, q ∈ l ↔ T q = o)
    (hhead : ∀ o', o' ≠ o → s'.head.get o' = s.head.get o')
    (hlinks : ∀ x, x ≠ r → x ∉ l → s'.nx.get x = s.nx.get x ∧ s'.pv.get x = s.pv.get x)
    (hown : RingOf s' o l') (hm' : ∀ q, q ∈ l' ↔ upd T r v q = o)
    (hr0 : r ≠ 0) (hr : T r = o ∨ T r = 0) (hv : v = o ∨ v = 0) : Linked s' (upd T r v) := by
  have al : ∀ o', aliveObj s' o' ↔ aliveObj s o' := fun o' => by simp [aliveObj, hO]
  refine ⟨fun o' ho' => ?_, by rw [upd_ne _ _ _ _ hr0.symm]; exact h.tgt0, mt (al 0).1 h.obj0⟩
  by_cases e : o' = o
  · subst e; exact ⟨l', hown, hm'⟩
  · have ho := (al o').1 ho'
    have e0 : o' ≠ 0 := fun e0 => h.obj0 (e0 ▸ ho)
    have far : ∀ x, x = o ∨ x = 0 → x ≠ o' := fun x hx e' =>
      hx.elim (fun h1 => e (e'.symm.trans h1)) (fun h1 => e0 (e'.symm.trans h1))
    refine h.keep ho (hhead o' e) (fun q hq => ?_) (fun q hq => ?_)
    · have hqr : q ≠ r := fun e' => far _ hr (e' ▸ hq)
      exact ⟨by rw [upd_ne _ _ _ _ hqr]; exact hq, hlinks q hqr fun hx => e (hq.symm.trans ((hm q).1 hx))⟩
    · by_cases hqr : q = r
      · rw [hqr, upd_same] at hq; exact absurd hq (far _ hv)
      · rwa [upd_ne _ _ _ _ hqr] at hq

theorem Linked.add {s : State} {T : Nat → Nat} {r o : Nat} (h : Linked s T) (ho : aliveObj s o) (hr : T r = 0)
    (hr0 : r ≠ 0) : Linked (addReference s r o) (upd T r o) := by
  obtain ⟨l, hl, hm⟩ := h.ring o ho
  have ho0 : o ≠ 0 := fun e => h.obj0 (e ▸ ho)
  have hrl : r ∉ l := fun hx => ho0 (((hm r).1 hx).symm.trans hr)
  have h0l : 0 ∉ l := fun hx => ho0 (((hm 0).1 hx).symm.trans h.tgt0)
  refine h.step (addReference_liveO s r o) hm (fun o' => addReference_head s r o)
    (fun x hxr => addReference_frame hl hxr) (addReference_ring hl hrl h0l) (fun q => ?_) hr0 (Or.inr hr) (Or.inl rfl)
  by_cases e : q = r
  · simp [e]
  · simp [upd_ne _ _ _ _ e, e, hm]

theorem Linked.remove {s : State} {T : Nat → Nat} {r o : Nat} (h : Linked s T) (hr : T r = o) (ho : aliveObj s o) :
    Linked (removeReference s r o) (upd T r 0) := by
  obtain ⟨l, hl, hm⟩ := h.ring o ho
  have ho0 : o ≠ 0 := fun e => h.obj0 (e ▸ ho)
  have hrl : r ∈ l := (hm r).2 hr
  have hr0 : r ≠ 0 := fun e => ho0 (hr.symm.trans (e ▸ h.tgt0))
  refine h.step (removeReference_liveO s r o) hm (fun o' => removeReference_head s r o)
    (fun x _ => removeReference_frame hl hrl) (removeReference_ring hl hrl) (fun q => ?_) hr0 (Or.inl hr) (Or.inr rfl)
  rw [hl.nodup.mem_erase_iff, hm]
  by_cases e : q = r
  · simp [e, ho0.symm]
  · simp [upd_ne _ _ _ _ e, e]

structure Inv (s : State) : Prop where
  linked : Linked s s.ptr.get
  ptr_ok : ∀ r, s.ptr.get r ≠ 0 → liveRef s r ∧ aliveObj s (s.ptr.get r)
  zeroR : ¬ liveRef s 0
  refs_iff : ∀ r, r ∈ s.refs ↔ liveRef s r
  refs_nodup : s.refs.Nodup

theorem init_inv : Inv init := by
  refine ⟨⟨?_, ?_, ?_⟩, ?_, ?_, ?_, ?_⟩ <;> simp [init, aliveObj, liveRef]

theorem Inv.okTarget_ptr {s : State} (h : Inv s) (q : Nat) : okTarget s (s.ptr.get q) :=
  Decidable.byCases Or.inl fun e => Or.inr (h.ptr_ok q e).2

/-- Re-pointing a constructed reference `r` to `o`: once the links are right (`hl`), the rest of the invariant
    follows from what the step does to `ptr`. -/
theorem Inv.retarget {s s' : State} {r o : Nat} (h : Inv s) (hr : liveRef s r) (ho : okTarget s o)
    (hl : Linked s' (upd s.ptr.get r o)) (hptr : ∀ q, s'.ptr.get q = if q = r then o else s.ptr.get q)
    (hR : s'.liveR = s.liveR) (hO : s'.liveO = s.liveO) (hrefs : s'.refs = s.refs) : Inv s' := by
  refine ⟨(funext hptr : s'.ptr.get = upd s.ptr.get r o) ▸ hl, fun q hq => ?_, ?_, ?_, ?_⟩
  · simp only [liveRef, aliveObj, hR, hO, hptr] at hq ⊢
    by_cases e : q = r
    · simp only [e, if_true] at hq ⊢; exact ⟨hr, ho.resolve_left hq⟩
    · simp only [e, if_false] at hq ⊢; exact h.ptr_ok q hq
  · simpa [liveRef, hR] using h.zeroR
  · simpa [liveRef, hR, hrefs] using h.refs_iff
  · rw [hrefs]; exact h.refs_nodup

theorem Inv.refBorn {s : State} {r : Nat} (h : Inv s) (hr0 : r ≠ 0) (hr : ¬ liveRef s r) :
    Inv { s with liveR := s.liveR.set r 1, refs := r :: s.refs } := by
  refine ⟨h.linked.congr rfl rfl rfl rfl, fun q hq => ?_, ?_, fun q => ?_, ?_⟩
  · have := h.ptr_ok q hq
    have e : q ≠ r := fun e => hr (e ▸ this.1)
    exact ⟨by simpa [liveRef, Mem.get_set, e] using this.1, this.2⟩
  · simpa [liveRef, Mem.get_set, hr0.symm] using h.zeroR
  · by_cases e : q = r
    · simp [liveRef, e]
    · simpa [liveRef, Mem.get_set, e] using h.refs_iff q
  · exact List.nodup_cons.2 ⟨fun hm => hr ((h.refs_iff r).1 hm), h.refs_nodup⟩

theorem Inv.refDies {s : State} {r : Nat} (h : Inv s) (hp : s.ptr.get r = 0) :
    Inv { s with liveR := s.liveR.set r 0, refs := s.refs.erase r } := by
  refine ⟨h.linked.congr rfl rfl rfl rfl, fun q hq => ?_, ?_, fun q => ?_, h.refs_nodup.erase r⟩
  · have e : q ≠ r := fun e => hq (e ▸ hp)
    have := h.ptr_ok q hq
    exact ⟨by simpa [liveRef, Mem.get_set, e] using this.1, this.2⟩
  · simp only [liveRef, Mem.get_set]; split
    · simp
    · exact h.zeroR
  · rw [h.refs_nodup.mem_erase_iff, h.refs_iff]
    by_cases e : q = r <;> simp [liveRef, Mem.get_set, e]

theorem Inv.objBorn {s : State} {o : Nat} (h : Inv s) (ho0 : o ≠ 0) (ho : ¬ aliveObj s o) :
    Inv { s with head := s.head.set o 0, liveO := s.liveO.set o 1 } := by
  refine ⟨⟨fun o' ho' => ?_, h.linked.tgt0, ?_⟩, fun q hq => ?_, h.zeroR, h.refs_iff, h.refs_nodup⟩
  · by_cases e : o' = o
    · subst e
      exact ⟨[], by simp [RingOf], fun q => ⟨nofun,
        fun hq => absurd (hq ▸ (h.ptr_ok q (hq ▸ ho0)).2) ho⟩⟩
    · have : aliveObj s o' := by simpa [aliveObj, Mem.get_set, e] using ho'
      exact h.linked.keep this (by simp [Mem.get_set, e]) (fun _ hr => ⟨hr, rfl, rfl⟩) (fun _ hr => hr)
  · simpa [aliveObj, Mem.get_set, ho0.symm] using h.linked.obj0
  · have := h.ptr_ok q hq
    refine ⟨this.1, ?_⟩
    simp only [aliveObj, Mem.get_set]; split
    · rfl
    · exact this.2

theorem Inv.objDies {s : State} {o : Nat} (h : Inv s) (hp : ∀ q, s.ptr.get q ≠ o) :
    Inv { s with liveO := s.liveO.set o 0 } := by
  refine ⟨⟨fun o' ho' => ?_, h.linked.tgt0, ?_⟩, fun q hq => ?_, h.zeroR, h.refs_iff, h.refs_nodup⟩
  · have e : o' ≠ o := by
      intro e; subst e; simp [aliveObj] at ho'
    have : aliveObj s o' := by simpa [aliveObj, Mem.get_set, e] using ho'
    exact h.linked.keep this rfl (fun _ hr => ⟨hr, rfl, rfl⟩) (fun _ hr => hr)
  · simp only [aliveObj, Mem.get_set]; split
    · simp
    · exact h.linked.obj0
  · have := h.ptr_ok q hq
    exact ⟨this.1, by simpa [aliveObj, Mem.get_set, hp q] using this.2⟩

theorem clear_ptr (s : State) (r q : Nat) :
    (clear s r).ptr.get q = if q = r then 0 else s.ptr.get q := by
  unfold clear
  split
  · simp [Mem.get_set]
  · rename_i h
    by_cases hq : q = r
    · subst hq; simpa using h
    · simp [hq]

@[simp] theorem clear_liveR (s : State) (r : Nat) : (clear s r).liveR = s.liveR := by
  unfold clear; split <;> simp
@[simp] theorem clear_liveO (s : State) (r : Nat) : (clear s r).liveO = s.liveO := by
  unfold clear; split <;> simp
@[simp] theorem clear_refs (s : State) (r : Nat) : (clear s r).refs = s.refs := by
  unfold clear; split <;> simp

/-- the `RemoveReference` that `Clear` and `InitSafePtr` start with unless `r` points nowhere -/
theorem detach_linked {s : State} (h : Inv s) (r : Nat) :
    Linked (if s.ptr.get r ≠ 0 then removeReference s r (s.ptr.get r) else s) (upd s.ptr.get r 0) := by
  split
  · rename_i hp; exact h.linked.remove rfl (h.ptr_ok r hp).2
  · rename_i hp; rw [upd_eq_self (Decidable.not_not.1 hp)]; exact h.linked

theorem clear_inv {s : State} {r : Nat} (h : Inv s) (hr : liveRef s r) : Inv (clear s r) := by
  refine h.retarget hr (Or.inl rfl) ?_ (clear_ptr s r) (clear_liveR s r) (clear_liveO s r) (clear_refs s r)
  have := detach_linked h r
  unfold clear
  by_cases hp : s.ptr.get r ≠ 0
  · rw [if_pos hp] at this ⊢; exact this.congr rfl rfl rfl rfl
  · rw [if_neg hp] at this ⊢; exact this

theorem construct_ptr (s : State) (r o q : Nat) :
    (construct s r o).ptr.get q = if q = r then o else s.ptr.get q := by
  unfold construct; split <;> simp [Mem.get_set]

@[simp] theorem construct_liveR (s : State) (r o : Nat) : (construct s r o).liveR = s.liveR := by
  unfold construct; split <;> simp
@[simp] theorem construct_liveO (s : State) (r o : Nat) : (construct s r o).liveO = s.liveO := by
  unfold construct; split <;> simp
@[simp] theorem construct_refs (s : State) (r o : Nat) : (construct s r o).refs = s.refs := by
  unfold construct; split <;> simp

theorem newRef_inv {s : State} {r o : Nat} (h : Inv s) (hr0 : r ≠ 0) (hr : ¬ liveRef s r) (ho : okTarget s o) :
    let s' := construct s r o
    Inv { s' with liveR := s'.liveR.set r 1, refs := r :: s'.refs } := by
  intro s'
  have hp : s.ptr.get r = 0 := Decidable.byContradiction fun e => hr (h.ptr_ok r e).1
  have hl : Linked s' (upd s.ptr.get r o) := by
    simp only [s', construct]
    split
    · rename_i ho0; exact Linked.add (h.linked.congr rfl rfl rfl rfl) (ho.resolve_left ho0) hp hr0
    · rename_i ho0; rw [Decidable.not_not.1 ho0, upd_eq_self hp]; exact h.linked.congr rfl rfl rfl rfl
  refine (h.refBorn hr0 hr).retarget (by simp [liveRef]) ho (hl.congr rfl rfl rfl rfl) (construct_ptr s r o) ?_ ?_ ?_
    <;> simp [s']

theorem initSafePtr_ptr (s : State) (r o q : Nat) :
    (initSafePtr s r o).ptr.get q = if q = r then o else s.ptr.get q := by
  unfold initSafePtr
  split
  · split <;> split <;> simp [Mem.get_set]
  · rename_i h
    have : s.ptr.get r = o := by simpa using h
    by_cases hq : q = r
    · subst hq; simp [this]
    · simp [hq]

@[simp] theorem initSafePtr_liveR (s : State) (r o : Nat) : (initSafePtr s r o).liveR = s.liveR := by
  unfold initSafePtr; split <;> (try split) <;> (try split) <;> simp
@[simp] theorem initSafePtr_liveO (s : State) (r o : Nat) : (initSafePtr s r o).liveO = s.liveO := by
  unfold initSafePtr; split <;> (try split) <;> (try split) <;> simp
@[simp] theorem initSafePtr_refs (s : State) (r o : Nat) : (initSafePtr s r o).refs = s.refs := by
  unfold initSafePtr; split <;> (try split) <;> (try split) <;> simp

theorem initSafePtr_inv {s : State} {r o : Nat} (h : Inv s) (hr : liveRef s r) (ho : okTarget s o) :
    Inv (initSafePtr s r o) := by
  refine h.retarget hr ho ?_ (initSafePtr_ptr s r o) (initSafePtr_liveR s r o) (initSafePtr_liveO s r o)
    (initSafePtr_refs s r o)
  unfold initSafePtr
  split
  · -- the links after the `RemoveReference`, then `AddReference` unless the new target is null
    have h1 := detach_linked h r
    have hlo : (if s.ptr.get r ≠ 0 then removeReference s r (s.ptr.get r) else s).liveO = s.liveO := by
      split <;> simp
    generalize (if s.ptr.get r ≠ 0 then removeReference s r (s.ptr.get r) else s) = s1 at h1 hlo ⊢
    have h2 : Linked { s1 with ptr := s1.ptr.set r o } (upd s.ptr.get r 0) := h1.congr rfl rfl rfl rfl
    split
    · rename_i ho0; subst ho0; exact h2
    · rename_i ho0
      have hal : aliveObj { s1 with ptr := s1.ptr.set r o } o := by simpa [aliveObj, hlo] using ho.resolve_left ho0
      simpa [upd_upd_same] using h2.add hal (upd_same _ _ _) fun e => h.zeroR (e ▸ hr)
  · rename_i hp; rw [upd_eq_self (Decidable.not_not.1 hp)]; exact h.linked

/-- `~AbstractClass`: the loop clears the references of the ring of `o`, from the head on, and no other -/
theorem destroyLoop_spec : ∀ (fuel : Nat) {s : State} {o : Nat} (l : List Nat), Inv s → RingOf s o l →
    (∀ q ∈ l, s.ptr.get q = o) → o ≠ 0 → l.length ≤ fuel →
    Inv (destroyLoop fuel s o) ∧ (destroyLoop fuel s o).head.get o = 0 ∧
    (∀ q, (destroyLoop fuel s o).ptr.get q = if q ∈ l then 0 else s.ptr.get q) ∧
    (destroyLoop fuel s o).liveR = s.liveR ∧ (destroyLoop fuel s o).liveO = s.liveO ∧
    (destroyLoop fuel s o).refs = s.refs
  | fuel, s, o, [], hi, hl, _, _, _ => by
    have hh : s.head.get o = 0 := hl
    have : destroyLoop fuel s o = s := by cases fuel <;> simp [destroyLoop, hh]
    simp [this, hi, hh]
  | fuel + 1, s, o, a :: t, hi, hl, hm, ho0, hf => by
    have hpa : s.ptr.get a = o := hm a (by simp)
    have hla : liveRef s a := (hi.ptr_ok a (hpa ▸ ho0)).1
    have ha0 : a ≠ 0 := fun e => hi.zeroR (e ▸ hla)
    have hat : a ∉ t := (List.nodup_cons.1 hl.nodup).1
    have hl1 : RingOf (clear s a) o t := by
      have := removeReference_ring hl (r := a) (by simp)
      rw [List.erase_cons_head] at this
      unfold clear; rw [if_pos (hpa ▸ ho0), hpa]; exact this
    obtain ⟨i1, i2, i3, i4, i5, i6⟩ := destroyLoop_spec fuel t (clear_inv hi hla) hl1
      (fun q hq => by rw [clear_ptr, if_neg (ne_of_mem_of_not_mem hq hat)]; exact hm q (by simp [hq]))
      ho0 (Nat.le_of_succ_le_succ hf)
    simp only [destroyLoop, hl.1, ha0, if_false]
    refine ⟨i1, i2, fun q => ?_, by simpa using i4, by simpa using i5, by simpa using i6⟩
    rw [i3 q, clear_ptr]
    by_cases hq : q = a <;> simp [hq]

/-- the fuel the model gives the loop (the number of constructed references) is enough -/
theorem destroy_spec {s : State} {o : Nat} (h : Inv s) (ho : aliveObj s o) :
    Inv (destroyLoop s.refs.length s o) ∧ (destroyLoop s.refs.length s o).head.get o = 0 ∧
    (∀ q, (destroyLoop s.refs.length s o).ptr.get q = if s.ptr.get q = o then 0 else s.ptr.get q) ∧
    (destroyLoop s.refs.length s o).liveR = s.liveR ∧ (destroyLoop s.refs.length s o).liveO = s.liveO ∧
    (destroyLoop s.refs.length s o).refs = s.refs := by
  obtain ⟨l, hl, hm⟩ := h.linked.ring o ho
  have ho0 : o ≠ 0 := fun e => h.linked.obj0 (e ▸ ho)
  have hlen : l.length ≤ s.refs.length := hl.nodup.length_le_of_subset fun q hq =>
    (h.refs_iff q).2 (h.ptr_ok q (((hm q).1 hq) ▸ ho0)).1
  simpa only [hm] using destroyLoop_spec s.refs.length l h hl (fun q hq => (hm q).1 hq) ho0 hlen

theorem step_inv {s s' : State} {op : Op} (h : Inv s) (hs : step s op = some s') : Inv s' := by
  cases op with
  | newObj o =>
    simp only [step] at hs; split at hs <;> cases hs
    rename_i hc; exact h.objBorn hc.1 hc.2
  | delObj o =>
    simp only [step] at hs; split at hs <;> cases hs
    rename_i ho
    obtain ⟨i1, _, i3, _⟩ := destroy_spec h ho
    refine i1.objDies fun q => ?_
    rw [i3]; split
    · exact fun e => h.linked.obj0 (e ▸ ho)
    · assumption
  | newRef r o =>
    simp only [step] at hs; split at hs <;> cases hs
    rename_i hc; exact newRef_inv h hc.1 hc.2.1 hc.2.2
  | copyRef r src =>
    simp only [step] at hs; split at hs <;> cases hs
    rename_i hc; exact newRef_inv h hc.1 hc.2.1 (h.okTarget_ptr src)
  | assignObj r o =>
    simp only [step] at hs; split at hs <;> cases hs
    rename_i hc; exact initSafePtr_inv h hc.1 hc.2
  | assignRef r src =>
    simp only [step] at hs; split at hs <;> cases hs
    rename_i hc; exact initSafePtr_inv h hc.1 (h.okTarget_ptr src)
  | clear r =>
    simp only [step] at hs; split at hs <;> cases hs
    rename_i hc; exact clear_inv h hc
  | delRef r =>
    simp only [step] at hs; split at hs <;> cases hs
    rename_i hc; exact (clear_inv h hc).refDies (by simp [clear_ptr])

theorem reachable_inv {s : State} (h : Reachable s) : Inv s := by
  obtain ⟨ops, hr⟩ := h
  exact run_invariant (I := Inv) (fun _ => rfl) (fun _ _ _ => rfl) step_inv ops init_inv hr

end Morfuse.SafePtr
