import MorfuseModel.Str.Inv
/-!
# Lemmas for the `mfuse::str` model: the member functions, one lemma each

The mutators first obtain a private block (`EnsureAlloced`, `EnsureDataWritable`: `Prepared`) and
then write it (`Prepared.write1/write2/same`); constructors, assignment and `clear` are the moves
of `Str/Inv`.
-/
namespace Morfuse.Str
variable {U : List Nat}

theorem setPtr_eq (s : State) (h q : Nat) : ({ s with hs := s.hs.set h q } : State) = setPtr s h q := rfl

theorem store_eq {s : State} {p : Nat} {d : Data} (hp : p ≠ 0) (hd : s.heap.get? p = some d) (bs : List UInt8)
    (w : Nat) (hw : w ≤ d.cap) : store s p bs w = .ok (setData s p { d with bytes := bs }) := by
  have : ¬ w > d.cap := by omega
  simp only [store, deref_eq hp hd, ok_bind, this, if_false]; rfl

theorem setLen_eq {s : State} {p : Nat} {d : Data} (hp : p ≠ 0) (hd : s.heap.get? p = some d) (n : Nat) :
    setLen s p n = .ok (setData s p { d with len := n }) := by
  simp only [setLen, deref_eq hp hd, ok_bind]; rfl

theorem setData_setData_ext (s : State) (p : Nat) (d1 d2 : Data) : Ext (setData s p d2) (setData (setData s p d1) p d2) := by
  refine ⟨fun x => by simp only [ptr_setData], fun x => ?_, by simp only [nextId_setData]⟩
  simp only [get_setData]; split <;> rfl

structure Prepared (U : List Nat) (s s1 : State) (h : Nat) (d : Data) : Prop where
  writes : Writes U s s1 h (cstr s h)
  priv : Priv U s1 h d

section
variable {s s1 : State} {h : Nat} {d : Data}

theorem Prepared.bytes (q : Prepared U s s1 h d) : d.bytes = cstr s h := by
  rw [← q.writes.own]; exact (cstr_of_get q.priv.get q.priv.ne).1.symm

theorem Prepared.wf (q : Prepared U s s1 h d) : WFd d := q.priv.inv.heap_wf q.priv.get

theorem Prepared.len (q : Prepared U s s1 h d) : d.len = (cstr s h).length := by
  rw [← q.bytes]; exact q.wf.2.1

theorem Prepared.fits (q : Prepared U s s1 h d) : (cstr s h).length + 1 ≤ d.cap := by
  rw [← q.bytes]; exact q.wf.2.2

theorem Prepared.deref (q : Prepared U s s1 h d) : Morfuse.Str.deref s1 (ptr s1 h) = .ok d :=
  deref_eq q.priv.ne q.priv.get

theorem Prepared.write1 (q : Prepared U s s1 h d) (bs : List UInt8) (w n : Nat) (hn : bs.length = n) (hw : w ≤ d.cap)
    (hfit : n + 1 ≤ d.cap) :
    ∃ F, (store s1 (ptr s1 h) bs w >>= fun s2 => setLen s2 (ptr s1 h) n) = .ok F ∧ Writes U s F h bs := by
  subst hn
  have e1 := store_eq q.priv.ne q.priv.get bs w hw
  have e2 := setLen_eq (s := setData s1 (ptr s1 h) { d with bytes := bs }) (d := { d with bytes := bs }) q.priv.ne
    (by simp) bs.length
  exact ⟨_, by rw [e1, ok_bind, e2], q.writes.trans ((privWrite q.priv bs hfit).ext (setData_setData_ext ..))⟩

theorem Prepared.write2 (q : Prepared U s s1 h d) (bs : List UInt8) (w n : Nat) (hn : bs.length = n) (hw : w ≤ d.cap)
    (hfit : n + 1 ≤ d.cap) :
    ∃ F, (setLen s1 (ptr s1 h) n >>= fun s2 => store s2 (ptr s1 h) bs w) = .ok F ∧ Writes U s F h bs := by
  subst hn
  have e1 := setLen_eq q.priv.ne q.priv.get bs.length
  have e2 := store_eq (s := setData s1 (ptr s1 h) { d with len := bs.length }) (d := { d with len := bs.length }) q.priv.ne
    (by simp) bs w hw
  exact ⟨_, by rw [e1, ok_bind, e2], q.writes.trans ((privWrite q.priv bs hfit).ext (setData_setData_ext ..))⟩

theorem Prepared.same (q : Prepared U s s1 h d) (bs : List UInt8) (w : Nat) (hw : w ≤ d.cap)
    (hl : bs.length = (cstr s h).length) :
    ∃ F, store s1 (ptr s1 h) bs w = .ok F ∧ Writes U s F h bs := by
  refine ⟨_, store_eq q.priv.ne q.priv.get bs w hw, q.writes.trans ?_⟩
  have := privWrite q.priv bs (by rw [hl]; exact q.fits)
  have e : ({ d with bytes := bs, len := bs.length } : Data) = { d with bytes := bs } := by rw [hl, ← q.len]
  rwa [e] at this

end

theorem ensureAlloced_null {s : State} {h : Nat} (hp : ptr s h = 0) {amount : Nat} (ha : 0 < amount) (keepold : Bool) :
    ensureAlloced s h amount keepold =
      .ok (setPtr (alloc s { refcount := 0, alloced := amount, cap := amount, len := 0, bytes := [] }).1 h s.nextId) := by
  simp only [ensureAlloced, hp, if_true, gt_iff_lt, ha]; rfl

theorem ensureAlloced_spec {s : State} (hi : Inv U s) {h : Nat} (hh : h ∈ U) (amount : Nat) (ha : 0 < amount) :
    ∃ s' d, ensureAlloced s h amount true = .ok s' ∧ Prepared U s s' h d ∧ amount ≤ d.cap := by
  by_cases hp : ptr s h = 0
  · obtain ⟨w, p⟩ := newBlock_spec hi hh (nd := { refcount := 0, alloced := amount, cap := amount, len := 0, bytes := [] })
      ⟨rfl, rfl, ha⟩ rfl (Ext.refl _)
    rw [hp, released_null hi.get_zero] at w p
    exact ⟨_, _, ensureAlloced_null hp ha true, ⟨by rw [(cstr_null hp).1]; exact w, p⟩, Nat.le_refl _⟩
  · obtain ⟨d, hd⟩ := hi.live h hh hp
    have hwd := hi.heap_wf hd
    have hc := (cstr_of_get hd hp).1
    by_cases hk : amount ≤ d.alloced ∧ d.refcount = 0
    · exact ⟨s, d, by simp [ensureAlloced, hp, deref_eq hp hd, hk], ⟨Writes.refl hi h, hi, hh, hp, hd, hk.2⟩,
        by rw [← hwd.1]; exact hk.1⟩
    · obtain ⟨am, ham⟩ : ∃ am, am = if amount < d.len + 1 then d.len + 1 else amount := ⟨_, rfl⟩
      have ham1 : d.len + 1 ≤ am ∧ amount ≤ am := by rw [ham]; split <;> omega
      obtain ⟨w, p⟩ := newBlock_spec hi hh (nd := { refcount := 0, alloced := am, cap := am, len := d.len, bytes := d.bytes })
        ⟨rfl, hwd.2.1, by rw [← hwd.2.1]; exact ham1.1⟩ rfl (Ext.refl _)
      refine ⟨_, _, ?_, ⟨by rw [hc]; exact w, p⟩, ham1.2⟩
      have hov : ¬ (d.bytes.length + 1 > am) := by rw [← hwd.2.1]; omega
      simp only [ensureAlloced, hp, if_false, deref_eq hp hd, ok_bind, hk, ← ham, if_true, hov, delRef_eq hp hd, true_and,
        alloc_snd, nextId_released]
      rfl

theorem ensureDataWritable_null {s : State} {h : Nat} (hp : ptr s h = 0) : ensureDataWritable s h = .ok s := by
  simp [ensureDataWritable, hp]

/-- the copy of `EnsureDataWritable`: fill the new block `p`, then drop the reference to the old one -/
theorem copy_eq {s : State} {p old : Nat} {nd d : Data} (hp : p ≠ 0) (ho : old ≠ 0) (hne : old ≠ p)
    (gp : s.heap.get? p = some nd) (go : s.heap.get? old = some d) (bs : List UInt8) (w n : Nat) (hw : w ≤ nd.cap) :
    (store s p bs w >>= fun s1 => setLen s1 p n >>= fun s2 => delRef s2 old) =
      .ok (released (setData (setData s p { nd with bytes := bs }) p { nd with bytes := bs, len := n }) old) := by
  rw [store_eq hp gp bs w hw, ok_bind, setLen_eq (d := { nd with bytes := bs }) hp (by simp), ok_bind,
    delRef_eq (d := d) ho (by simp [hne, go])]

theorem ensureDataWritable_spec {s : State} (hi : Inv U s) {h : Nat} (hh : h ∈ U) (hp : ptr s h ≠ 0) :
    ∃ s' d, ensureDataWritable s h = .ok s' ∧ Prepared U s s' h d := by
  obtain ⟨d, hd⟩ := hi.live h hh hp
  have hwd := hi.heap_wf hd
  by_cases hr : d.refcount = 0
  · exact ⟨s, d, by simp [ensureDataWritable, hp, deref_eq hp hd, hr], Writes.refl hi h, hi, hh, hp, hd, hr⟩
  · -- the block is shared: what the code computes is, up to the order of the updates, a new private block
    have hn0 : s.nextId ≠ 0 := Nat.ne_of_gt hi.nid
    have hne : ptr s h ≠ s.nextId := Nat.ne_of_lt (hi.ptr_lt hh)
    have htake : d.bytes.take (d.len + 1) = d.bytes := List.take_of_length_le (by rw [hwd.2.1]; omega)
    have e1 := ensureAlloced_null (s := setPtr s h 0) (h := h) (by simp) (Nat.succ_pos d.len) false
    have e2 := copy_eq (s := setPtr (alloc (setPtr s h 0) ⟨0, d.len + 1, d.len + 1, 0, []⟩).1 h s.nextId)
      (nd := ⟨0, d.len + 1, d.len + 1, 0, []⟩) (d := d) hn0 hp hne
      (by simp) (by simp [hne, hd]) d.bytes (Nat.min (d.bytes.length + 1) (d.len + 2)) d.len (by rw [← hwd.2.1]; simp)
    refine ⟨?F, ⟨0, d.len + 1, d.len + 1, d.len, d.bytes⟩, ?run, ?_⟩
    case run =>
      simp only [ensureDataWritable, hp, if_false, deref_eq hp hd, ok_bind, hr, setPtr_eq, e1, ptr_setPtr, if_true, htake]
      exact e2
    · suffices x : Ext (setPtr (alloc (released s (ptr s h)) ⟨0, d.len + 1, d.len + 1, d.len, d.bytes⟩).1 h s.nextId) _ by
        obtain ⟨w, p⟩ := newBlock_spec hi hh (nd := ⟨0, d.len + 1, d.len + 1, d.len, d.bytes⟩)
          ⟨rfl, hwd.2.1, by rw [← hwd.2.1]; exact Nat.le_refl _⟩ rfl x
        exact ⟨by rw [(cstr_of_get hd hp).1]; exact w, p⟩
      refine ⟨fun x => by by_cases hx : x = h <;> simp [hx], fun x => ?_, by simp⟩
      simp only [heap_setPtr, get_alloc, nextId_released, get_released, get_setData, hne, if_false]
      by_cases hx : x = s.nextId
      · simp [hx, Ne.symm hne]
      · simp [hx, hne]

theorem appendChar_spec {s : State} (hi : Inv U s) {h : Nat} (hh : h ∈ U) (c : UInt8) :
    ∃ s', appendChar s h c = .ok s' ∧ Writes U s s' h (if c = 0 then cstr s h else cstr s h ++ [c]) := by
  by_cases hc : c = 0
  · exact ⟨s, by simp [appendChar, hc], .same hi (by simp [hc])⟩
  · have hl := hi.length_eq hh
    obtain ⟨s1, d, e1, q, c1⟩ := ensureAlloced_spec hi hh (length s h + 1 + 1) (by omega)
    have hnl : ¬ (cstr s h).length < length s h := by omega
    have ht : (cstr s h).take (length s h) = cstr s h := by rw [hl]; exact List.take_length
    simp only [appendChar, hc, if_true, ne_eq, not_false_eq_true, e1, ok_bind, q.deref, q.bytes, hnl, if_false, ht]
    exact q.write1 _ _ _ (by simp [hl]) c1 (by omega)

theorem appendText_spec {s : State} (hi : Inv U s) {h : Nat} (hh : h ∈ U) (t : List UInt8) :
    ∃ s', appendText s h t = .ok s' ∧ Writes U s s' h (cstr s h ++ t) := by
  have hl := hi.length_eq hh
  by_cases h0 : length s h + t.length = 0
  · have h2 : t = [] := List.eq_nil_of_length_eq_zero (by omega)
    exact ⟨s, by simp [appendText, h0], .same hi (by simp [h2])⟩
  · obtain ⟨s1, d, e1, q, c1⟩ := ensureAlloced_spec hi hh (length s h + t.length + 1) (by omega)
    simp only [appendText, h0, if_false, e1, ok_bind, q.deref, q.bytes]
    exact q.write1 _ _ _ (by simp [hl]) (by omega) (by omega)

theorem appendStr_spec {s : State} (hi : Inv U s) {h g : Nat} (hh : h ∈ U) (hg : g ∈ U) :
    ∃ s', appendStr s h g = .ok s' ∧ Writes U s s' h (cstr s h ++ cstr s g) := by
  have hl := hi.length_eq hh
  have hlg := hi.length_eq hg
  by_cases h0 : length s h + length s g = 0
  · have h2 : cstr s g = [] := List.eq_nil_of_length_eq_zero (by omega)
    exact ⟨s, by simp [appendStr, h0], .same hi (by simp [h2])⟩
  · obtain ⟨s1, d, e1, q, c1⟩ := ensureAlloced_spec hi hh (length s h + length s g + 1) (by omega)
    -- `s.append(s)` reads the characters after the reallocation
    have hsrc : cstr s1 g = cstr s g := by
      by_cases hgh : g = h
      · subst hgh; exact q.writes.own
      · exact q.writes.others g hg hgh
    have hn : ¬ ((cstr s h).length < length s h ∨ (cstr s g).length < length s g) := by omega
    have ht : (cstr s h).take (length s h) ++ (cstr s g).take (length s g) = cstr s h ++ cstr s g := by
      rw [hl, hlg, List.take_length, List.take_length]
    simp only [appendStr, h0, if_false, e1, ok_bind, q.deref, q.bytes, hsrc, hn, ht]
    exact q.write1 _ _ _ (by simp [hl, hlg]) c1 (by omega)

theorem setChar_null {s : State} {h : Nat} (hp : ptr s h = 0) (i : Nat) (c : UInt8) :
    setChar s h i c = .error .nullDeref := by
  simp [setChar, ensureDataWritable_null hp, deref, hp]

theorem setChar_spec {s : State} (hi : Inv U s) {h : Nat} (hh : h ∈ U) (hp : ptr s h ≠ 0) (i : Nat) (c : UInt8) :
    ∃ s', setChar s h i c = .ok s' ∧
      Writes U s s' h (if i < (cstr s h).length then (cstr s h).set i c else cstr s h) := by
  obtain ⟨s1, d, e1, q⟩ := ensureDataWritable_spec hi hh hp
  have hf := q.fits
  simp only [setChar, e1, ok_bind, q.deref, q.len, q.bytes, ge_iff_le]
  by_cases hi' : i < (cstr s h).length
  · rw [if_neg (by omega), if_pos hi']
    exact q.same _ _ (by omega) (by simp)
  · rw [if_pos (by omega), if_neg hi']
    exact ⟨s1, rfl, q.writes⟩

theorem capLength_spec {s : State} (hi : Inv U s) {h : Nat} (hh : h ∈ U) (n : Nat) :
    ∃ s', capLength s h n = .ok s' ∧ Writes U s s' h ((cstr s h).take n) := by
  have hl := hi.length_eq hh
  by_cases hle : length s h ≤ n
  · exact ⟨s, by simp [capLength, hle], .same hi (List.take_of_length_le (by omega)).symm⟩
  · have hp : ptr s h ≠ 0 := fun e => hle (by rw [(cstr_null e).2]; exact Nat.zero_le n)
    obtain ⟨s1, d, e1, q⟩ := ensureDataWritable_spec hi hh hp
    have hf := q.fits
    simp only [capLength, hle, if_false, e1, ok_bind, q.deref, q.bytes]
    exact q.write1 _ _ _ (by simp; omega) (by omega) (by omega)

theorem minus_spec {s : State} (hi : Inv U s) {h : Nat} (hh : h ∈ U) (n : Nat) :
    ∃ s', minus s h n = .ok s' ∧ Writes U s s' h ((cstr s h).take ((cstr s h).length - n)) := by
  have hl := hi.length_eq hh
  by_cases h0 : length s h = 0
  · have h1 : cstr s h = [] := List.eq_nil_of_length_eq_zero (by omega)
    exact ⟨s, by simp [minus, h0], .same hi (by simp [h1])⟩
  · have hp : ptr s h ≠ 0 := fun e => h0 (cstr_null e).2
    obtain ⟨s1, d, e1, q⟩ := ensureDataWritable_spec hi hh hp
    have hf := q.fits
    have hm : (if n > 0 then (if n < (cstr s h).length then (cstr s h).length - n else 0) else (cstr s h).length)
        = (cstr s h).length - n := by split <;> (try split) <;> omega
    simp only [minus, hp, if_false, h0, e1, ok_bind, q.deref, q.len, q.bytes, hm]
    exact q.write2 _ _ _ (by simp) (by omega) (by omega)

theorem trim_length_le (bs : List UInt8) : (trim bs).length ≤ bs.length := by
  unfold trim
  have h1 := (List.dropWhile_sublist isSpace (l := bs)).length_le
  have h2 := (List.dropWhile_sublist isSpace (l := (bs.dropWhile isSpace).reverse)).length_le
  simp only [List.length_reverse] at h2 ⊢
  omega

theorem strip_spec {s : State} (hi : Inv U s) {h : Nat} (hh : h ∈ U) :
    ∃ s', strip s h = .ok s' ∧ Writes U s s' h (trim (cstr s h)) := by
  by_cases hp : ptr s h = 0
  · exact ⟨s, by simp [strip, hp], .same hi (by rw [(cstr_null hp).1]; rfl)⟩
  · obtain ⟨s1, d, e1, q⟩ := ensureDataWritable_spec hi hh hp
    have hf := q.fits
    have ht := trim_length_le (cstr s h)
    simp only [strip, hp, if_false, e1, ok_bind, q.deref, q.bytes]
    exact q.write2 _ _ _ rfl (by omega) (by omega)

theorem mapCase_null {s : State} {h : Nat} (hp : ptr s h = 0) (f : UInt8 → UInt8) :
    mapCase f s h = .error .nullDeref := by
  simp [mapCase, ensureDataWritable_null hp, deref, hp]

theorem mapCase_spec {s : State} (hi : Inv U s) {h : Nat} (hh : h ∈ U) (hp : ptr s h ≠ 0) (f : UInt8 → UInt8) :
    ∃ s', mapCase f s h = .ok s' ∧ Writes U s s' h ((cstr s h).map f) := by
  obtain ⟨s1, d, e1, q⟩ := ensureDataWritable_spec hi hh hp
  have hf := q.fits
  simp only [mapCase, e1, ok_bind, q.deref, q.bytes]
  exact q.same _ _ (by omega) (by simp)

theorem reserve_spec {s : State} (hi : Inv U s) {h : Nat} (hh : h ∈ U) (n : Nat) :
    ∃ s', reserve s h n = .ok s' ∧ Writes U s s' h (cstr s h) := by
  obtain ⟨s1, d, e1, q, _⟩ := ensureAlloced_spec hi hh (n + 1) (by omega)
  exact ⟨s1, e1, q.writes⟩

theorem assignN_spec {s : State} (hi : Inv U s) {h : Nat} (hh : h ∈ U) (t : List UInt8) (n : Nat) (hn : n ≤ t.length) :
    ∃ s', assignN s h t n = .ok s' ∧ Writes U s s' h (t.take n) := by
  obtain ⟨s1, d, e1, q, c1⟩ := ensureAlloced_spec hi hh (n + 1) (by omega)
  simp only [assignN, e1, ok_bind]
  exact q.write2 _ _ _ (by simp; omega) c1 c1

theorem null_ext {s : State} {t : Nat} (hp : ptr s t = 0) : Ext (setPtr s t 0) s := by
  refine ⟨fun x => ?_, fun _ => rfl, rfl⟩
  rw [ptr_setPtr]; split
  · rename_i e; rw [e, hp]
  · rfl

theorem clear_eq {s : State} (hi : Inv U s) {h : Nat} (hh : h ∈ U) :
    ∃ s', clear s h = .ok s' ∧ Ext (setPtr (released s (ptr s h)) h 0) s' := by
  by_cases hp : ptr s h = 0
  · refine ⟨s, by simp [clear, hp], ?_⟩
    rw [hp, released_null hi.get_zero]; exact null_ext hp
  · obtain ⟨d, hd⟩ := hi.live h hh hp
    exact ⟨_, by simp only [clear, ne_eq, hp, not_false_eq_true, if_true, delRef_eq hp hd, ok_bind]; rfl, Ext.refl _⟩

theorem clear_spec {s : State} (hi : Inv U s) {h : Nat} (hh : h ∈ U) :
    ∃ s', clear s h = .ok s' ∧ Writes U s s' h [] ∧ ptr s' h = 0 := by
  obtain ⟨s', e, x⟩ := clear_eq hi hh
  exact ⟨s', e, (release_spec hi hh).ext x, by rw [← x.1]; simp⟩

theorem assignText_spec {s : State} (hi : Inv U s) {h : Nat} (hh : h ∈ U) (t : List UInt8) :
    ∃ s', assignText s h t = .ok s' ∧ Writes U s s' h t := by
  obtain ⟨s1, e1, w1, p1⟩ := clear_spec hi hh
  by_cases ht : t = []
  · subst ht
    exact ⟨s1, by simp only [assignText, e1, ok_bind]; rfl, w1⟩
  · have hl : t.length ≠ 0 := by simpa using ht
    obtain ⟨w2, _⟩ := newBlock_spec w1.inv hh
      (nd := { refcount := 0, alloced := t.length + 1, cap := t.length + 1, len := t.length, bytes := t })
      ⟨rfl, rfl, Nat.le_refl _⟩ rfl (Ext.refl _)
    rw [p1, released_null w1.inv.get_zero] at w2
    exact ⟨_, by simp only [assignText, e1, ok_bind, hl, ne_eq, not_false_eq_true, if_true]; rfl, w1.trans w2⟩

/-- a constructor starts from `m_data` unset -/
theorem prep {s : State} (hi : Inv U s) {t : Nat} (hp : ptr s t = 0) : Writes U s (setPtr s t 0) t [] := by
  have e := null_ext hp
  refine ⟨e.symm'.inv hi, ?_, fun g _ _ => e.cstr g, fun g _ => e.1 g⟩
  rw [e.cstr]; exact (cstr_null hp).1

theorem ptr_prep (s : State) (t : Nat) : ptr (setPtr s t 0) t = 0 := by simp

theorem ctor_alloc {s : State} (hi : Inv U s) {t : Nat} (ht : t ∈ U) (hp : ptr s t = 0) (amount : Nat) (ha : 0 < amount) :
    ∃ s1 d, ensureAlloced (setPtr s t 0) t amount true = .ok s1 ∧ Prepared U s s1 t d ∧ amount ≤ d.cap := by
  have w0 := prep hi hp
  obtain ⟨s1, d, e1, q, c1⟩ := ensureAlloced_spec w0.inv ht amount ha
  refine ⟨s1, d, e1, ⟨?_, q.priv⟩, c1⟩
  have := w0.trans q.writes
  rwa [w0.own, ← (cstr_null hp).1] at this

theorem ctorText_spec {s : State} (hi : Inv U s) {t : Nat} (ht : t ∈ U) (hp : ptr s t = 0) (txt : List UInt8) :
    ∃ s', ctorText s t txt = .ok s' ∧ Writes U s s' t txt := by
  by_cases hl : txt.length = 0
  · have : txt = [] := List.eq_nil_of_length_eq_zero hl
    subst this
    exact ⟨setPtr s t 0, by simp [ctorText, setPtr_eq], prep hi hp⟩
  · obtain ⟨s1, d, e1, q, c1⟩ := ctor_alloc hi ht hp (txt.length + 1) (by omega)
    simp only [ctorText, setPtr_eq, hl, ne_eq, not_false_eq_true, if_true, e1, ok_bind]
    exact q.write1 _ _ _ rfl c1 c1

theorem ctorTextN_spec {s : State} (hi : Inv U s) {t : Nat} (ht : t ∈ U) (hp : ptr s t = 0) (txt : List UInt8)
    (n : Nat) (hn : n ≤ txt.length) :
    ∃ s', ctorTextN s t txt n = .ok s' ∧ Writes U s s' t (txt.take n) := by
  simp only [ctorTextN, setPtr_eq]
  by_cases hc : txt.length ≠ 0 ∧ n ≠ 0
  · obtain ⟨s1, d, e1, q, c1⟩ := ctor_alloc hi ht hp (n + 1) (by omega)
    rw [if_pos hc]
    simp only [e1, ok_bind]
    exact q.write1 _ _ _ (by simp; omega) c1 c1
  · have he : txt.take n = [] := by
      rw [List.take_eq_nil_iff]
      by_cases h1 : txt.length = 0
      · exact .inr (List.eq_nil_of_length_eq_zero h1)
      · exact .inl (Decidable.byContradiction fun h2 => hc ⟨h1, h2⟩)
    rw [if_neg hc, he]
    exact ⟨_, rfl, prep hi hp⟩

theorem ctorChar_spec {s : State} (hi : Inv U s) {t : Nat} (ht : t ∈ U) (hp : ptr s t = 0) (c : UInt8) :
    ∃ s', ctorChar s t c = .ok s' ∧ Writes U s s' t [c] := by
  obtain ⟨s1, d, e1, q, c1⟩ := ctor_alloc hi ht hp 2 (by omega)
  simp only [ctorChar, setPtr_eq, e1, ok_bind]
  exact q.write1 _ _ _ rfl c1 c1

/-- the characters `base_str(text, start, end)` copies -/
def subOf (bs : List UInt8) (start stop : Nat) : List UInt8 :=
  let stop := if stop > bs.length then bs.length else stop
  let start := if start > bs.length then bs.length else start
  (bs.drop start).take (if stop > start then stop - start else 0)

theorem ctorSub_spec {s : State} (hi : Inv U s) {t g : Nat} (ht : t ∈ U) (hg : g ∈ U) (hgt : g ≠ t) (hp : ptr s t = 0)
    (a b : Nat) :
    ∃ s', ctorSub s t g a b = .ok s' ∧ Writes U s s' t (subOf (cstr s g) a b) := by
  have w0 := prep hi hp
  have hl0 : length (setPtr s t 0) g = (cstr s g).length := by rw [w0.inv.length_eq hg, w0.others g hg hgt]
  obtain ⟨stop, hstop⟩ : ∃ stop, stop = if b > (cstr s g).length then (cstr s g).length else b := ⟨_, rfl⟩
  obtain ⟨start, hstart⟩ : ∃ start, start = if a > (cstr s g).length then (cstr s g).length else a := ⟨_, rfl⟩
  obtain ⟨len, hlen⟩ : ∃ len, len = if stop > start then stop - start else 0 := ⟨_, rfl⟩
  obtain ⟨s1, d, e1, q, c1⟩ := ctor_alloc hi ht hp (len + 1) (by omega)
  have hbl : (((cstr s g).drop start).take len).length = len := by
    have h1 : stop ≤ (cstr s g).length := by rw [hstop]; split <;> omega
    have h2 : start ≤ (cstr s g).length := by rw [hstart]; split <;> omega
    simp only [List.length_take, List.length_drop]
    rw [hlen]; split <;> omega
  simp only [ctorSub, setPtr_eq, hl0, subOf, ← hstop, ← hstart, ← hlen, e1, ok_bind, q.writes.others g hg hgt]
  exact q.write1 _ _ _ hbl c1 c1

theorem ctorCopy_spec {s : State} (hi : Inv U s) {t g : Nat} (ht : t ∈ U) (hg : g ∈ U) (hp : ptr s t = 0) :
    ∃ s', ctorCopy s t g = .ok s' ∧ Writes U s s' t (cstr s g) := by
  have hu : Usable (setPtr s t (ptr s g)) (ptr s g) := hi.usable hg
  refine ⟨acquired (setPtr s t (ptr s g)) (ptr s g), acqRef_eq hu, share_spec hi ht hg ?_⟩
  rw [hp, released_null ((hi.usable hg).acquired _).1]
  exact ⟨fun x => by simp, fun x => by simp [get_acquired], by simp⟩

/-- `h.~str(); new (&h) str(std::move(tmp))` -/
theorem installTmp_spec {s : State} (hi : Inv U s) {h t : Nat} (hh : h ∈ U) (ht : t ∈ U) (hne : h ≠ t) :
    ∃ s', (clear s h >>= fun s1 => Except.ok (ctorMove s1 h t)) = .ok s' ∧
      Reads U s' (upd1 (upd1 (cstr s) t []) h (cstr s t)) ∧ ptr s' t = 0 := by
  obtain ⟨s1, e1, x1⟩ := clear_eq hi hh
  obtain ⟨r, p, _⟩ := move_spec hi hh ht (s' := ctorMove s1 h t)
    ⟨fun x => by simp only [ptr_ctorMove, ← x1.1, ptr_setPtr, Ne.symm hne, if_false]; split <;> (try split) <;> rfl,
     x1.2.1, x1.2.2⟩
  rw [if_neg hne] at r
  exact ⟨_, by rw [e1]; rfl, r, p⟩

theorem assignStr_spec {s : State} (hi : Inv U s) {h g : Nat} (hh : h ∈ U) (hg : g ∈ U) :
    ∃ s', assignStr s h g = .ok s' ∧ Writes U s s' h (cstr s g) := by
  have e1 := acqRef_eq (hi.usable hg)
  have e2 := relRef_eq (s := acquired s (ptr s g)) ((hi.usable hh).acquired _)
  refine ⟨_, ?_, share_spec hi hh hg (Ext.refl _)⟩
  simp only [assignStr, e1, ok_bind, ptr_acquired, e2]
  rfl

theorem assignMove_spec {s : State} (hi : Inv U s) {h g : Nat} (hh : h ∈ U) (hg : g ∈ U) :
    ∃ s', assignMove s h g = .ok s' ∧
      Reads U s' (upd1 (upd1 (cstr s) g []) h (if h = g then [] else cstr s g)) ∧ ptr s' g = 0 ∧
      ∀ x, x ≠ h → x ≠ g → ptr s' x = ptr s x := by
  refine ⟨_, ?_, move_spec hi hh hg (Ext.refl _)⟩
  simp only [assignMove, relRef_eq (hi.usable hh), ok_bind]
  rfl

theorem data_eta (d : Data) : ({ d with refcount := d.refcount + 1 - 1 } : Data) = d := by
  cases d; simp

end Morfuse.Str
