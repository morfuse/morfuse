import MorfuseModel.Str.Ops
/-!
# `mfuse::str`: every operation on a family of strings is the operation on independent abstract
strings (refinement **and** isolation in one statement), refcounts count handles, nothing leaks
-/
namespace Morfuse.Str

/-- the abstract specification: a family of independent byte strings -/
def Spec.step (m : Nat → List UInt8) : Op → (Nat → List UInt8)
  | .ctorText h t => upd1 m h t
  | .ctorTextN h t n => upd1 m h (t.take n)
  | .ctorChar h c => upd1 m h [c]
  | .ctorSub h g a b => upd1 m h (subOf (m g) a b)
  | .ctorCopy h g => upd1 m h (m g)
  | .assignStr h g => upd1 m h (m g)
  | .assignMove h g => upd1 (upd1 m g []) h (if h = g then [] else m g)
  | .assignText h t => upd1 m h t
  | .assignN h t n => upd1 m h (t.take n)
  | .appendStr h g => upd1 m h (m h ++ m g)
  | .appendText h t => upd1 m h (m h ++ t)
  | .appendChar h c => upd1 m h (if c = 0 then m h else m h ++ [c])
  | .plus h a b => upd1 m h (m a ++ m b)
  | .setChar h i c => upd1 m h (if i < (m h).length then (m h).set i c else m h)
  | .capLength h n => upd1 m h ((m h).take n)
  | .minus h n => upd1 m h ((m h).take ((m h).length - n))
  | .lower h => upd1 m h ((m h).map lowerC)
  | .upper h => upd1 m h ((m h).map upperC)
  | .strip h => upd1 m h (trim (m h))
  | .reserve _ _ => m
  | .clear h => upd1 m h []

/-- the operation names only strings of `U`, and counts do not exceed the C string they index -/
def Valid (U : List Nat) : Op → Prop
  | .ctorText h _ | .ctorChar h _ | .assignText h _ | .appendText h _ | .appendChar h _ | .setChar h _ _
  | .capLength h _ | .minus h _ | .lower h | .upper h | .strip h | .reserve h _ | .clear h => h ∈ U
  | .ctorTextN h t n | .assignN h t n => h ∈ U ∧ n ≤ t.length
  | .ctorSub h g _ _ | .ctorCopy h g | .assignStr h g | .assignMove h g | .appendStr h g => h ∈ U ∧ g ∈ U
  | .plus h a b => h ∈ U ∧ a ∈ U ∧ b ∈ U

/-- the guards the C++ states only as `assert(m_data)` -/
def UB (s : State) : Op → Prop
  | .setChar h _ _ | .lower h | .upper h => ptr s h = 0
  | _ => False

/-- invariant of a history over the strings `U` (plus the expression temporary) -/
structure HInv (U : List Nat) (s : State) : Prop where
  inv : Inv (tmpH :: U) s
  tmp : ptr s tmpH = 0
  notin : tmpH ∉ U

variable {U : List Nat}

theorem HInv.mem {s : State} (_ : HInv U s) {h : Nat} (hh : h ∈ U) : h ∈ tmpH :: U := List.mem_cons_of_mem _ hh
theorem HInv.ne {s : State} (hi : HInv U s) {h : Nat} (hh : h ∈ U) : h ≠ tmpH := fun e => hi.notin (e ▸ hh)

/-- packaging for operations that write one string of `U` directly -/
theorem direct {s s' : State} (hi : HInv U s) {h : Nat} (hh : h ∈ U) {bs : List UInt8}
    (w : Writes (tmpH :: U) s s' h bs) :
    HInv U s' ∧ ∀ x ∈ U, cstr s' x = upd1 (cstr s) h bs x := by
  refine ⟨⟨w.inv, ?_, hi.notin⟩, fun x hx => w.reads.2 x (hi.mem hx)⟩
  rw [w.ptrs tmpH (Ne.symm (hi.ne hh))]; exact hi.tmp

/-- packaging for a value built in the temporary and then moved into `h` -/
theorem viaTmp {s s1 : State} (hi : HInv U s) {h : Nat} {bs : List UInt8}
    (w : Writes (tmpH :: U) s s1 tmpH bs) {s' : State}
    (r : Reads (tmpH :: U) s' (upd1 (upd1 (cstr s1) tmpH []) h (cstr s1 tmpH))) (p : ptr s' tmpH = 0) :
    HInv U s' ∧ ∀ x ∈ U, cstr s' x = upd1 (cstr s) h bs x := by
  refine ⟨⟨r.1, p, hi.notin⟩, fun x hx => ?_⟩
  rw [r.2 x (hi.mem hx)]
  have hxt : x ≠ tmpH := hi.ne hx
  unfold upd1
  split
  · exact w.own
  · exact w.others x (hi.mem hx) hxt

def StepOk (U : List Nat) (s : State) (op : Op) : Prop :=
  ¬ UB s op ∧ ∃ s', step s op = .ok s' ∧ HInv U s' ∧ ∀ x ∈ U, cstr s' x = Spec.step (cstr s) op x

theorem StepOk.direct {s : State} (hi : HInv U s) {op : Op} {h : Nat} (hh : h ∈ U) {bs : List UInt8} (hub : ¬ UB s op)
    (hs : Spec.step (cstr s) op = upd1 (cstr s) h bs)
    (w : ∃ s', step s op = .ok s' ∧ Writes (tmpH :: U) s s' h bs) : StepOk U s op := by
  obtain ⟨s', e, w⟩ := w
  exact ⟨hub, s', e, hs ▸ Morfuse.Str.direct hi hh w⟩

theorem StepOk.viaTmp {s : State} (hi : HInv U s) {op : Op} {h : Nat} (hh : h ∈ U) {bs : List UInt8} (hub : ¬ UB s op)
    (hs : Spec.step (cstr s) op = upd1 (cstr s) h bs) {f : R State}
    (hf : step s op = f >>= fun s1 => installTmp s1 h)
    (w : ∃ s1, f = .ok s1 ∧ Writes (tmpH :: U) s s1 tmpH bs) : StepOk U s op := by
  obtain ⟨s1, e1, w⟩ := w
  obtain ⟨s', e2, r, p⟩ := installTmp_spec w.inv (hi.mem hh) (List.mem_cons_self ..) (hi.ne hh)
  exact ⟨hub, s', by rw [hf, e1]; exact e2, hs ▸ Morfuse.Str.viaTmp hi w r p⟩

theorem upd1_self (m : Nat → List UInt8) (h : Nat) : upd1 m h (m h) = m := by
  funext x; unfold upd1; split
  · rename_i e; rw [e]
  · rfl

theorem step_refines {s : State} (hi : HInv U s) (op : Op) (hv : Valid U op) :
    (UB s op ∧ ∃ e, step s op = .error e) ∨ StepOk U s op := by
  have htm : tmpH ∈ tmpH :: U := List.mem_cons_self ..
  cases op with
  | ctorText h t => exact .inr (StepOk.viaTmp hi hv id rfl rfl (ctorText_spec hi.inv htm hi.tmp t))
  | ctorTextN h t n => exact .inr (StepOk.viaTmp hi hv.1 id rfl rfl (ctorTextN_spec hi.inv htm hi.tmp t n hv.2))
  | ctorChar h c => exact .inr (StepOk.viaTmp hi hv id rfl rfl (ctorChar_spec hi.inv htm hi.tmp c))
  | ctorSub h g a b =>
    exact .inr (StepOk.viaTmp hi hv.1 id rfl rfl (ctorSub_spec hi.inv htm (hi.mem hv.2) (hi.ne hv.2) hi.tmp a b))
  | ctorCopy h g => exact .inr (StepOk.viaTmp hi hv.1 id rfl rfl (ctorCopy_spec hi.inv htm (hi.mem hv.2) hi.tmp))
  | assignStr h g => exact .inr (StepOk.direct hi hv.1 id rfl (assignStr_spec hi.inv (hi.mem hv.1) (hi.mem hv.2)))
  | assignMove h g =>
    obtain ⟨s', e1, r1, _, f1⟩ := assignMove_spec hi.inv (hi.mem hv.1) (hi.mem hv.2)
    refine .inr ⟨id, s', e1, ⟨r1.1, ?_, hi.notin⟩, fun x hx => r1.2 x (hi.mem hx)⟩
    rw [f1 tmpH (Ne.symm (hi.ne hv.1)) (Ne.symm (hi.ne hv.2))]; exact hi.tmp
  | assignText h t => exact .inr (StepOk.direct hi hv id rfl (assignText_spec hi.inv (hi.mem hv) t))
  | assignN h t n => exact .inr (StepOk.direct hi hv.1 id rfl (assignN_spec hi.inv (hi.mem hv.1) t n hv.2))
  | appendStr h g => exact .inr (StepOk.direct hi hv.1 id rfl (appendStr_spec hi.inv (hi.mem hv.1) (hi.mem hv.2)))
  | appendText h t => exact .inr (StepOk.direct hi hv id rfl (appendText_spec hi.inv (hi.mem hv) t))
  | appendChar h c => exact .inr (StepOk.direct hi hv id rfl (appendChar_spec hi.inv (hi.mem hv) c))
  | plus h a b =>
    -- result(*this); result.append(b); h = std::move(result)
    obtain ⟨s1, e1, w1⟩ := ctorCopy_spec hi.inv htm (hi.mem hv.2.1) hi.tmp
    obtain ⟨s2, e2, w2⟩ := appendStr_spec w1.inv htm (hi.mem hv.2.2)
    obtain ⟨s3, e3, r3, p3, _⟩ := assignMove_spec w2.inv (hi.mem hv.1) htm
    rw [if_neg (hi.ne hv.1)] at r3
    have w := w1.trans w2
    rw [w1.own, w1.others b (hi.mem hv.2.2) (hi.ne hv.2.2)] at w
    exact .inr ⟨id, s3, by simp [step, e1, e2, e3], viaTmp hi w r3 p3⟩
  | setChar h i c =>
    by_cases hp : ptr s h = 0
    · exact .inl ⟨hp, .nullDeref, setChar_null hp i c⟩
    · exact .inr (StepOk.direct hi hv hp rfl (setChar_spec hi.inv (hi.mem hv) hp i c))
  | capLength h n => exact .inr (StepOk.direct hi hv id rfl (capLength_spec hi.inv (hi.mem hv) n))
  | minus h n => exact .inr (StepOk.direct hi hv id rfl (minus_spec hi.inv (hi.mem hv) n))
  | lower h =>
    by_cases hp : ptr s h = 0
    · exact .inl ⟨hp, .nullDeref, mapCase_null hp lowerC⟩
    · exact .inr (StepOk.direct hi hv hp rfl (mapCase_spec hi.inv (hi.mem hv) hp lowerC))
  | upper h =>
    by_cases hp : ptr s h = 0
    · exact .inl ⟨hp, .nullDeref, mapCase_null hp upperC⟩
    · exact .inr (StepOk.direct hi hv hp rfl (mapCase_spec hi.inv (hi.mem hv) hp upperC))
  | strip h => exact .inr (StepOk.direct hi hv id rfl (strip_spec hi.inv (hi.mem hv)))
  | reserve h n => exact .inr (StepOk.direct hi hv id (upd1_self _ h).symm (reserve_spec hi.inv (hi.mem hv) n))
  | clear h =>
    obtain ⟨s', e1, w1, _⟩ := clear_spec hi.inv (hi.mem hv)
    exact .inr (StepOk.direct hi hv id rfl ⟨s', e1, w1⟩)

theorem step_ok {s s' : State} (hi : HInv U s) {op : Op} (hv : Valid U op) (h : step s op = .ok s') :
    HInv U s' ∧ ∀ x ∈ U, cstr s' x = Spec.step (cstr s) op x :=
  (Except.guarded (step_refines hi op hv)).2 s' h

theorem step_error_iff {s : State} (hi : HInv U s) {op : Op} (hv : Valid U op) :
    (∃ e, step s op = .error e) ↔ UB s op :=
  (Except.guarded (step_refines hi op hv)).1

theorem hinv_init (hU : U.Nodup) (ht : tmpH ∉ U) : HInv U init :=
  ⟨inv_init _ (List.nodup_cons.mpr ⟨ht, hU⟩), ptr_init _, ht⟩

def Spec.run (m : Nat → List UInt8) : List Op → (Nat → List UInt8)
  | [] => m
  | op :: ops => Spec.run (Spec.step m op) ops

/-- the strings an operation writes -/
def targets : Op → List Nat
  | .assignMove h g => [h, g]
  | .ctorText h _ | .ctorTextN h _ _ | .ctorChar h _ | .ctorSub h _ _ _ | .ctorCopy h _ | .assignStr h _
  | .assignText h _ | .assignN h _ _ | .appendStr h _ | .appendText h _ | .appendChar h _ | .plus h _ _
  | .setChar h _ _ | .capLength h _ | .minus h _ | .lower h | .upper h | .strip h | .reserve h _ | .clear h => [h]

theorem spec_step_frame (m : Nat → List UInt8) (op : Op) (x : Nat) (hx : x ∉ targets op) : Spec.step m op x = m x := by
  cases op <;> simp only [targets, List.mem_cons, List.not_mem_nil, or_false, not_or] at hx <;>
    simp [Spec.step, upd1, hx]

theorem spec_step_congr {m m' : Nat → List UInt8} {op : Op} (hv : Valid U op) (hm : ∀ x ∈ U, m x = m' x) :
    ∀ x ∈ U, Spec.step m op x = Spec.step m' op x := by
  intro x hx
  cases op <;> simp only [Valid] at hv <;> simp only [Spec.step, upd1] <;>
    (try split) <;> simp_all

def ValidAll (U : List Nat) (ops : List Op) : Prop := ∀ op ∈ ops, Valid U op

def Reachable (U : List Nat) (s : State) : Prop := ∃ ops, ValidAll U ops ∧ run init ops = .ok s

theorem run_refines : ∀ (ops : List Op) {s s' : State} {m : Nat → List UInt8}, HInv U s → ValidAll U ops →
    (∀ x ∈ U, cstr s x = m x) → run s ops = .ok s' →
    HInv U s' ∧ ∀ x ∈ U, cstr s' x = Spec.run m ops x := by
  intro ops
  induction ops with
  | nil => intro s s' m hi _ hm h; simp [run] at h; subst h; exact ⟨hi, hm⟩
  | cons op ops ih =>
    intro s s' m hi hv hm h
    have hvo : Valid U op := hv op (List.mem_cons_self ..)
    obtain ⟨s1, h1, h⟩ := bind_eq_ok h
    obtain ⟨hi1, hs1⟩ := step_ok hi hvo h1
    refine ih hi1 (fun o ho => hv o (List.mem_cons_of_mem _ ho)) (fun x hx => ?_) h
    rw [hs1 x hx]
    exact spec_step_congr hvo hm x hx

theorem reachable_hinv (hU : U.Nodup) (ht : tmpH ∉ U) {s : State} (h : Reachable U s) : HInv U s := by
  obtain ⟨ops, hv, hr⟩ := h
  exact (run_refines ops (hinv_init hU ht) hv (fun x _ => cstr_init x) hr).1

/-- operations without an `assert(m_data)` guard -/
def Unguarded : Op → Prop
  | .setChar .. | .lower _ | .upper _ => False
  | _ => True

theorem not_ub_of_unguarded {s : State} {op : Op} (h : Unguarded op) : ¬ UB s op := by
  cases op <;> simp_all [Unguarded, UB]

/-- a history of unguarded operations never faults -/
theorem run_defined : ∀ (ops : List Op) {s : State}, HInv U s → ValidAll U ops → (∀ op ∈ ops, Unguarded op) →
    ∃ s', run s ops = .ok s' := by
  intro ops
  induction ops with
  | nil => intro s _ _ _; exact ⟨s, rfl⟩
  | cons op ops ih =>
    intro s hi hv hu
    rcases step_refines hi op (hv op (List.mem_cons_self ..)) with ⟨hub, _⟩ | ⟨_, s1, h1, hi1, _⟩
    · exact absurd hub (not_ub_of_unguarded (hu op (List.mem_cons_self ..)))
    · obtain ⟨s', hs'⟩ := ih hi1 (fun o ho => hv o (List.mem_cons_of_mem _ ho)) (fun o ho => hu o (List.mem_cons_of_mem _ ho))
      exact ⟨s', by simp [run, h1, hs']⟩

end Morfuse.Str
