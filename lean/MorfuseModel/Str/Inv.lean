import MorfuseModel.Str.Model
import MorfuseModel.Common.Except
/-!
# Lemmas for the `mfuse::str` model: heap invariant, its frame lemma and the balanced moves

`U` is the (finite, duplicate-free) family of `str` objects a history talks about.  The invariant
says: every block in the heap is well formed (`alloced` = what was allocated, `len` = `strlen`, the
terminator fits), its `refcount + 1` is the number of objects of `U` that point to it (so no block
is leaked and none is freed while in use), and no object of `U` points to a freed block.

`Inv.frame`: a step keeps the invariant when, address by address, the count stored in the heap
moves by as much as the number of handles pointing there.

Every member function lets a string go of its block (`DelRef`), possibly after taking a reference to another one
(`AddRef`), and points the string at nothing, at a new private block, or at the block of another string; or it rewrites
the characters of a block that is already private.  Each of these moves follows from the frame lemma.  The states are
described up to `Ext`, so that the order in which the code does the independent heap and pointer updates does not matter.
-/
namespace Morfuse.Str

@[simp] theorem ok_bind {β γ : Type} (a : β) (f : β → R γ) : (Except.ok a >>= f) = f a := Except.ok_bind a f
@[simp] theorem error_bind {β γ : Type} (e : Fault) (f : β → R γ) : ((Except.error e : R β) >>= f) = .error e :=
  Except.error_bind e f

theorem countP_update (f : Nat → Nat) (h q p : Nat) : ∀ (U : List Nat), U.Nodup → h ∈ U →
    (U.countP fun x => (if x = h then q else f x) = p) + (if f h = p then 1 else 0) =
      (U.countP fun x => f x = p) + (if q = p then 1 else 0) := by
  intro U hn hm
  -- `U` is `h` and the rest, on which the two functions agree
  have hp := List.perm_cons_erase hm
  have htail : ((U.erase h).countP fun x => (if x = h then q else f x) = p) = (U.erase h).countP fun x => f x = p :=
    List.countP_congr fun x hx => by rw [if_neg (hn.mem_erase_iff.mp hx).1]
  rw [hp.countP_eq, hp.countP_eq, List.countP_cons, List.countP_cons, htail, if_pos rfl]
  simp only [decide_eq_true_eq]
  omega

def setPtr (s : State) (h q : Nat) : State := { s with hs := s.hs.set h q }
def setData (s : State) (p : Nat) (d : Data) : State := { s with heap := s.heap.set p d }
def dropData (s : State) (p : Nat) : State := { s with heap := s.heap.erase p }

@[simp] theorem ptr_setPtr (s : State) (h q x : Nat) : ptr (setPtr s h q) x = if x = h then q else ptr s x := by
  simp [ptr, setPtr, Mem.get_set]
@[simp] theorem ptr_setData (s : State) (p : Nat) (d : Data) (x : Nat) : ptr (setData s p d) x = ptr s x := rfl
@[simp] theorem ptr_dropData (s : State) (p x : Nat) : ptr (dropData s p) x = ptr s x := rfl
@[simp] theorem heap_setPtr (s : State) (h q : Nat) : (setPtr s h q).heap = s.heap := rfl
@[simp] theorem get_setData (s : State) (p : Nat) (d : Data) (x : Nat) :
    (setData s p d).heap.get? x = if x = p then some d else s.heap.get? x := by
  simp [setData, Heap.get?_set]
@[simp] theorem get_dropData (s : State) (p x : Nat) :
    (dropData s p).heap.get? x = if x = p then none else s.heap.get? x := by
  simp [dropData, Heap.get?_erase]
@[simp] theorem nextId_setPtr (s : State) (h q : Nat) : (setPtr s h q).nextId = s.nextId := rfl
@[simp] theorem nextId_setData (s : State) (p : Nat) (d : Data) : (setData s p d).nextId = s.nextId := rfl
@[simp] theorem nextId_dropData (s : State) (p : Nat) : (dropData s p).nextId = s.nextId := rfl

@[simp] theorem ptr_alloc (s : State) (d : Data) (x : Nat) : ptr (alloc s d).1 x = ptr s x := rfl
@[simp] theorem get_alloc (s : State) (d : Data) (x : Nat) :
    (alloc s d).1.heap.get? x = if x = s.nextId then some d else s.heap.get? x := by
  simp [alloc, Heap.get?_set]
@[simp] theorem nextId_alloc (s : State) (d : Data) : (alloc s d).1.nextId = s.nextId + 1 := rfl
@[simp] theorem alloc_snd (s : State) (d : Data) : (alloc s d).2 = s.nextId := rfl

def cnt (U : List Nat) (s : State) (p : Nat) : Nat := U.countP fun h => ptr s h = p

def WFd (d : Data) : Prop := d.alloced = d.cap ∧ d.len = d.bytes.length ∧ d.bytes.length + 1 ≤ d.cap

structure Inv (U : List Nat) (s : State) : Prop where
  nodup : U.Nodup
  nid : 0 < s.nextId
  heap : ∀ p d, s.heap.get? p = some d → 0 < p ∧ p < s.nextId ∧ WFd d ∧ d.refcount + 1 = cnt U s p
  live : ∀ h ∈ U, ptr s h ≠ 0 → ∃ d, s.heap.get? (ptr s h) = some d

theorem Inv.heap_wf {U : List Nat} {s : State} (hi : Inv U s) {p : Nat} {d : Data} (hd : s.heap.get? p = some d) : WFd d :=
  (hi.heap p d hd).2.2.1

theorem ptr_init (h : Nat) : ptr init h = 0 := by simp [ptr, init]

theorem inv_init (U : List Nat) (hU : U.Nodup) : Inv U init where
  nodup := hU
  nid := by simp [init]
  heap := by intro p d h; simp [init] at h
  live := fun h _ hp => absurd (ptr_init h) hp

theorem cnt_setData (U : List Nat) (s : State) (p' : Nat) (d : Data) (p : Nat) : cnt U (setData s p' d) p = cnt U s p := rfl
theorem cnt_dropData (U : List Nat) (s : State) (p' p : Nat) : cnt U (dropData s p') p = cnt U s p := rfl

theorem cnt_pos_of_mem {U : List Nat} {s : State} {h : Nat} (hh : h ∈ U) : 0 < cnt U s (ptr s h) := by
  unfold cnt
  exact List.countP_pos_iff.mpr ⟨h, hh, by simp⟩

theorem Inv.ptr_lt {U : List Nat} {s : State} (hi : Inv U s) {h : Nat} (hh : h ∈ U) : ptr s h < s.nextId := by
  by_cases hp : ptr s h = 0
  · rw [hp]; exact hi.nid
  · obtain ⟨d, hd⟩ := hi.live h hh hp
    exact (hi.heap _ _ hd).2.1

theorem Inv.cnt_zero_of_free {U : List Nat} {s : State} (hi : Inv U s) {p : Nat} (hp : 0 < p)
    (hf : s.heap.get? p = none) : cnt U s p = 0 := by
  unfold cnt
  rw [List.countP_eq_zero]
  intro h hh
  simp only [decide_eq_true_eq]
  intro e
  have : ptr s h ≠ 0 := by omega
  obtain ⟨d, hd⟩ := hi.live h hh this
  rw [e, hf] at hd; cases hd

variable {U : List Nat}

theorem Inv.get_zero {s : State} (hi : Inv U s) : s.heap.get? 0 = none := by
  cases h : s.heap.get? 0 with
  | none => rfl
  | some d => have := (hi.heap 0 d h).1; omega

theorem Inv.get_fresh {s : State} (hi : Inv U s) : s.heap.get? s.nextId = none := by
  cases h : s.heap.get? s.nextId with
  | none => rfl
  | some d => have := (hi.heap _ d h).2.1; omega

theorem cnt_repoint {s s' : State} (hU : U.Nodup) {h : Nat} (hh : h ∈ U) {b : Nat}
    (hptr : ∀ x, ptr s' x = if x = h then b else ptr s x) (p : Nat) :
    cnt U s' p + (if ptr s h = p then 1 else 0) = cnt U s p + (if b = p then 1 else 0) := by
  have := countP_update (ptr s) h b p U hU hh
  simpa [cnt, hptr] using this

theorem cstr_of_get {s : State} {h : Nat} {d : Data} (hd : s.heap.get? (ptr s h) = some d) (hp : ptr s h ≠ 0) :
    cstr s h = d.bytes ∧ length s h = d.len := by
  simp [cstr, length, hd, hp]

theorem cstr_null {s : State} {h : Nat} (hp : ptr s h = 0) : cstr s h = [] ∧ length s h = 0 := by
  simp only [cstr, length, hp]
  constructor <;> split <;> rfl

theorem cstr_init (h : Nat) : cstr init h = [] := (cstr_null (ptr_init h)).1

theorem Inv.length_eq {s : State} (hi : Inv U s) {h : Nat} (hh : h ∈ U) : length s h = (cstr s h).length := by
  by_cases hp : ptr s h = 0
  · simp [cstr_null hp]
  · obtain ⟨d, hd⟩ := hi.live h hh hp
    obtain ⟨a, b⟩ := cstr_of_get hd hp
    rw [a, b]; exact (hi.heap_wf hd).2.1

theorem cstr_congr {s s' : State} {g g' : Nat} (hp : ptr s' g' = ptr s g)
    (hb : (s'.heap.get? (ptr s g)).map (·.bytes) = (s.heap.get? (ptr s g)).map (·.bytes)) :
    cstr s' g' = cstr s g := by
  simp only [cstr, hp]
  cases h1 : s.heap.get? (ptr s g) <;> cases h2 : s'.heap.get? (ptr s g) <;> simp_all

/-- the number of users the header of block `p` stands for (`0`: no block) -/
def rc (s : State) (p : Nat) : Nat :=
  match s.heap.get? p with
  | some d => d.refcount + 1
  | none => 0

theorem rc_of_get {s : State} {p : Nat} {d : Data} (hd : s.heap.get? p = some d) : rc s p = d.refcount + 1 := by
  simp [rc, hd]

theorem Inv.rc_eq {s : State} (hi : Inv U s) {p : Nat} (hp : 0 < p) : rc s p = cnt U s p := by
  unfold rc
  cases hd : s.heap.get? p with
  | none => exact (hi.cnt_zero_of_free hp hd).symm
  | some d => exact (hi.heap p d hd).2.2.2

def Blocks (s : State) : Prop := ∀ p d, s.heap.get? p = some d → 0 < p ∧ p < s.nextId ∧ WFd d

theorem Inv.blocks {s : State} (hi : Inv U s) : Blocks s := fun p d hd =>
  let ⟨a, b, c, _⟩ := hi.heap p d hd; ⟨a, b, c⟩

theorem Blocks.setPtr {s : State} (hb : Blocks s) (h q : Nat) : Blocks (setPtr s h q) := hb

theorem Inv.frame {s s' : State} (hi : Inv U s) (hn : s.nextId ≤ s'.nextId) (hblk : Blocks s')
    (hbal : ∀ p, 0 < p → rc s' p + cnt U s p = rc s p + cnt U s' p) : Inv U s' := by
  have key : ∀ p, 0 < p → rc s' p = cnt U s' p := fun p hp => by
    have := hbal p hp; have := hi.rc_eq hp; omega
  refine ⟨hi.nodup, Nat.lt_of_lt_of_le hi.nid hn, fun p d hd => ?_, fun h hh hp => ?_⟩
  · obtain ⟨a, b, c⟩ := hblk p d hd
    exact ⟨a, b, c, by rw [← key p a, rc_of_get hd]⟩
  · have := cnt_pos_of_mem (s := s') hh
    rw [← key _ (Nat.pos_of_ne_zero hp)] at this
    unfold rc at this
    cases hd : s'.heap.get? (ptr s' h) with
    | none => rw [hd] at this; cases this
    | some d => exact ⟨d, rfl⟩

def Ext (s s' : State) : Prop :=
  (∀ x, ptr s x = ptr s' x) ∧ (∀ p, s.heap.get? p = s'.heap.get? p) ∧ s.nextId = s'.nextId

theorem Ext.refl (s : State) : Ext s s := ⟨fun _ => rfl, fun _ => rfl, rfl⟩

theorem Ext.symm' {s s' : State} (e : Ext s s') : Ext s' s :=
  ⟨fun x => (e.1 x).symm, fun p => (e.2.1 p).symm, e.2.2.symm⟩

theorem Ext.trans' {s s' s'' : State} (e : Ext s s') (f : Ext s' s'') : Ext s s'' :=
  ⟨fun x => (e.1 x).trans (f.1 x), fun p => (e.2.1 p).trans (f.2.1 p), e.2.2.trans f.2.2⟩

theorem Ext.cnt {s s' : State} (e : Ext s s') (p : Nat) : cnt U s p = cnt U s' p := by
  unfold Morfuse.Str.cnt
  apply List.countP_congr
  intro x _
  simp [e.1 x]

theorem Ext.inv {s s' : State} (e : Ext s s') (hi : Inv U s) : Inv U s' :=
  hi.frame (Nat.le_of_eq e.2.2) (fun p d hd => by rw [← e.2.1] at hd; rw [← e.2.2]; exact hi.blocks p d hd)
    fun p _ => by rw [e.cnt, rc, rc, e.2.1]

theorem Ext.cstr {s s' : State} (e : Ext s s') (g : Nat) : cstr s g = cstr s' g := by
  simp [Morfuse.Str.cstr, e.1 g, e.2.1]

theorem Ext.length {s s' : State} (e : Ext s s') (g : Nat) : length s g = length s' g := by
  simp [Morfuse.Str.length, e.1 g, e.2.1]

def Writes (U : List Nat) (s s' : State) (h : Nat) (bs : List UInt8) : Prop :=
  Inv U s' ∧ cstr s' h = bs ∧ (∀ g ∈ U, g ≠ h → cstr s' g = cstr s g) ∧ (∀ g, g ≠ h → ptr s' g = ptr s g)

theorem Writes.inv {s s' : State} {h : Nat} {bs : List UInt8} (w : Writes U s s' h bs) : Inv U s' := w.1

theorem Writes.own {s s' : State} {h : Nat} {bs : List UInt8} (w : Writes U s s' h bs) : cstr s' h = bs := w.2.1

theorem Writes.others {s s' : State} {h : Nat} {bs : List UInt8} (w : Writes U s s' h bs) :
    ∀ g ∈ U, g ≠ h → cstr s' g = cstr s g := w.2.2.1

theorem Writes.ptrs {s s' : State} {h : Nat} {bs : List UInt8} (w : Writes U s s' h bs) :
    ∀ g, g ≠ h → ptr s' g = ptr s g := w.2.2.2

theorem Writes.trans {s s1 s2 : State} {h : Nat} {b1 b2 : List UInt8} (w1 : Writes U s s1 h b1)
    (w2 : Writes U s1 s2 h b2) : Writes U s s2 h b2 :=
  ⟨w2.inv, w2.own, fun g hg hgh => (w2.others g hg hgh).trans (w1.others g hg hgh),
   fun g hgh => (w2.ptrs g hgh).trans (w1.ptrs g hgh)⟩

theorem Writes.refl {s : State} (hi : Inv U s) (h : Nat) : Writes U s s h (cstr s h) :=
  ⟨hi, rfl, fun _ _ _ => rfl, fun _ _ => rfl⟩

theorem Writes.same {s : State} (hi : Inv U s) {h : Nat} {bs : List UInt8} (e : cstr s h = bs) : Writes U s s h bs :=
  e ▸ Writes.refl hi h

theorem Writes.ext {s s1 s2 : State} {h : Nat} {bs : List UInt8} (w : Writes U s s1 h bs) (e : Ext s1 s2) :
    Writes U s s2 h bs :=
  ⟨e.inv w.inv, by rw [← e.cstr]; exact w.own, fun g hg hgh => by rw [← e.cstr]; exact w.others g hg hgh,
   fun g hgh => by rw [← e.1]; exact w.ptrs g hgh⟩

theorem Inv.other_user {s : State} (hi : Inv U s) {h g : Nat} (hh : h ∈ U) (hg : g ∈ U) (hne : g ≠ h)
    (hp : ptr s g ≠ 0) : (if ptr s h = ptr s g then 1 else 0) < rc s (ptr s g) := by
  rw [hi.rc_eq (Nat.pos_of_ne_zero hp)]
  -- with `h` pointed elsewhere `g` is still counted
  have h1 := cnt_repoint (s := s) (s' := setPtr s h (ptr s g + 1)) hi.nodup hh (ptr_setPtr s h _) (ptr s g)
  have h2 : 0 < cnt U (setPtr s h (ptr s g + 1)) (ptr s g) := List.countP_pos_iff.mpr ⟨g, hg, by simp [hne]⟩
  rw [if_neg (Nat.succ_ne_self _)] at h1
  omega

/-- **Frame lemma for one string.**  The pointer of `h` goes from `ptr s h` to `b`, the stored
    counts follow, the new heap is well formed and only blocks that `h` alone uses change their
    characters. -/
theorem Writes.repoint {s s' : State} (hi : Inv U s) {h : Nat} (hh : h ∈ U) {b : Nat}
    (hptr : ∀ x, ptr s' x = if x = h then b else ptr s x) (hn : s.nextId ≤ s'.nextId) (hblk : Blocks s')
    (hrc : ∀ p, 0 < p → rc s' p + (if ptr s h = p then 1 else 0) = rc s p + (if b = p then 1 else 0))
    (hbytes : ∀ p, (if ptr s h = p then 1 else 0) < rc s p →
      (s'.heap.get? p).map (·.bytes) = (s.heap.get? p).map (·.bytes)) :
    Writes U s s' h (cstr s' h) := by
  have hi' : Inv U s' := hi.frame hn hblk fun p hp => by
    have := cnt_repoint hi.nodup hh hptr p
    have := hrc p hp
    omega
  have hoth : ∀ g, g ≠ h → ptr s' g = ptr s g := fun g hgh => by rw [hptr, if_neg hgh]
  refine ⟨hi', rfl, fun g hg hgh => ?_, hoth⟩
  by_cases h0 : ptr s g = 0
  · rw [(cstr_null ((hoth g hgh).trans h0)).1, (cstr_null h0).1]
  · exact cstr_congr (hoth g hgh) (hbytes _ (hi.other_user hh hg hgh h0))

/-- the state after `if (p) p->DelRef();` -/
def released (s : State) (p : Nat) : State :=
  match s.heap.get? p with
  | some d => if d.refcount = 0 then dropData s p else setData s p { d with refcount := d.refcount - 1 }
  | none => s

/-- the state after `if (p) p->AddRef();` -/
def acquired (s : State) (p : Nat) : State :=
  match s.heap.get? p with
  | some d => setData s p { d with refcount := d.refcount + 1 }
  | none => s

theorem deref_eq {s : State} {p : Nat} {d : Data} (hp : p ≠ 0) (hd : s.heap.get? p = some d) : deref s p = .ok d := by
  simp [deref, hp, hd]

theorem delRef_eq {s : State} {p : Nat} {d : Data} (hp : p ≠ 0) (hd : s.heap.get? p = some d) :
    delRef s p = .ok (released s p) := by
  simp only [delRef, deref_eq hp hd, ok_bind, released, hd]
  split <;> rfl

def Usable (s : State) (p : Nat) : Prop := s.heap.get? 0 = none ∧ (p ≠ 0 → ∃ d, s.heap.get? p = some d)

theorem Inv.usable {s : State} (hi : Inv U s) {h : Nat} (hh : h ∈ U) : Usable s (ptr s h) :=
  ⟨hi.get_zero, hi.live h hh⟩

theorem released_null {s : State} (h0 : s.heap.get? 0 = none) : released s 0 = s := by
  simp [released, h0]

theorem relRef_eq {s : State} {p : Nat} (hu : Usable s p) : relRef s p = .ok (released s p) := by
  by_cases hp : p = 0
  · simp [relRef, released, hp, hu.1]
  · obtain ⟨d, hd⟩ := hu.2 hp
    simp [relRef, hp, delRef_eq hp hd]

theorem acqRef_eq {s : State} {p : Nat} (hu : Usable s p) : acqRef s p = .ok (acquired s p) := by
  by_cases hp : p = 0
  · simp [acqRef, acquired, hp, hu.1]
  · obtain ⟨d, hd⟩ := hu.2 hp
    simp only [acqRef, ne_eq, hp, not_false_eq_true, if_true, addRef, deref_eq hp hd, ok_bind, acquired, hd]
    rfl

@[simp] theorem ptr_released (s : State) (p x : Nat) : ptr (released s p) x = ptr s x := by
  unfold released; split <;> (try split) <;> rfl
@[simp] theorem nextId_released (s : State) (p : Nat) : (released s p).nextId = s.nextId := by
  unfold released; split <;> (try split) <;> rfl
@[simp] theorem ptr_acquired (s : State) (p x : Nat) : ptr (acquired s p) x = ptr s x := by
  unfold acquired; split <;> rfl
@[simp] theorem nextId_acquired (s : State) (p : Nat) : (acquired s p).nextId = s.nextId := by
  unfold acquired; split <;> rfl

theorem get_released (s : State) (p x : Nat) : (released s p).heap.get? x =
    if x = p then (s.heap.get? p).bind fun d => if d.refcount = 0 then none else some { d with refcount := d.refcount - 1 }
    else s.heap.get? x := by
  unfold released
  cases hd : s.heap.get? p with
  | none => by_cases hx : x = p <;> simp [hx, hd]
  | some d => by_cases hr : d.refcount = 0 <;> simp [hr]

theorem get_acquired (s : State) (p x : Nat) : (acquired s p).heap.get? x =
    if x = p then (s.heap.get? p).map fun d => { d with refcount := d.refcount + 1 } else s.heap.get? x := by
  unfold acquired
  cases hd : s.heap.get? p with
  | none => by_cases hx : x = p <;> simp [hx, hd]
  | some d => simp

theorem Usable.acquired {s : State} {p : Nat} (hu : Usable s p) (q : Nat) : Usable (acquired s q) p := by
  refine ⟨?_, fun hp => ?_⟩
  · rw [get_acquired]; split
    · rename_i e; rw [← e, hu.1]; rfl
    · exact hu.1
  · obtain ⟨d, hd⟩ := hu.2 hp
    rw [get_acquired]; split
    · rename_i e; rw [← e, hd]; exact ⟨_, rfl⟩
    · exact ⟨d, hd⟩

@[simp] theorem rc_setPtr (s : State) (h q p : Nat) : rc (setPtr s h q) p = rc s p := rfl

theorem rc_setData (s : State) (p : Nat) (d : Data) (x : Nat) :
    rc (setData s p d) x = if x = p then d.refcount + 1 else rc s x := by
  unfold rc; rw [get_setData]; by_cases hx : x = p <;> simp [hx]

theorem rc_alloc (s : State) (d : Data) (x : Nat) :
    rc (alloc s d).1 x = if x = s.nextId then d.refcount + 1 else rc s x := by
  unfold rc; rw [get_alloc]; by_cases hx : x = s.nextId <;> simp [hx]

theorem rc_released (s : State) (p x : Nat) (h : p = x → 0 < rc s x) :
    rc (released s p) x + (if p = x then 1 else 0) = rc s x := by
  unfold rc at h ⊢
  rw [get_released]
  by_cases hx : p = x
  · subst hx
    cases hd : s.heap.get? p with
    | none => simp [hd] at h
    | some d => by_cases hr : d.refcount = 0 <;> simp [hr] <;> omega
  · simp [hx, Ne.symm hx]

theorem rc_acquired (s : State) (p x : Nat) :
    rc (acquired s p) x = if p = x ∧ 0 < rc s x then rc s x + 1 else rc s x := by
  unfold rc
  rw [get_acquired]
  by_cases hx : p = x
  · subst hx
    cases hd : s.heap.get? p <;> simp
  · simp [hx, Ne.symm hx]

theorem rc_le_acquired (s : State) (p x : Nat) : rc s x ≤ rc (acquired s p) x := by
  rw [rc_acquired]; split <;> omega

theorem bytes_released (s : State) (p x : Nat) (h : (if p = x then 1 else 0) < rc s x) :
    ((released s p).heap.get? x).map (·.bytes) = (s.heap.get? x).map (·.bytes) := by
  unfold rc at h
  rw [get_released]
  by_cases hx : p = x
  · subst hx
    cases hd : s.heap.get? p with
    | none => simp
    | some d =>
      have : d.refcount ≠ 0 := by simp [hd] at h; omega
      simp [this]
  · simp [Ne.symm hx]

theorem bytes_acquired (s : State) (p x : Nat) :
    ((acquired s p).heap.get? x).map (·.bytes) = (s.heap.get? x).map (·.bytes) := by
  rw [get_acquired]
  split
  · rename_i e; subst e; cases s.heap.get? x <;> rfl
  · rfl

theorem blocks_released {s : State} (hb : Blocks s) (p : Nat) : Blocks (released s p) := by
  intro x d' hd'
  rw [get_released] at hd'
  rw [nextId_released]
  split at hd'
  · rename_i e; subst e
    cases hd : s.heap.get? x with
    | none => simp [hd] at hd'
    | some d =>
      by_cases hr : d.refcount = 0 <;> simp [hd, hr] at hd'
      rw [← hd']; exact hb x d hd
  · exact hb x d' hd'

theorem blocks_acquired {s : State} (hb : Blocks s) (p : Nat) : Blocks (acquired s p) := by
  intro x d' hd'
  rw [get_acquired] at hd'
  rw [nextId_acquired]
  split at hd'
  · rename_i e; subst e
    cases hd : s.heap.get? x with
    | none => simp [hd] at hd'
    | some d =>
      simp [hd] at hd'
      rw [← hd']; exact hb x d hd
  · exact hb x d' hd'

theorem blocks_alloc {s : State} (hb : Blocks s) {d : Data} (hw : WFd d) (hn : 0 < s.nextId) : Blocks (alloc s d).1 := by
  intro x d' hd'
  rw [get_alloc] at hd'
  rw [nextId_alloc]
  split at hd'
  · rename_i e; cases hd'; exact ⟨by omega, by omega, hw⟩
  · obtain ⟨a, b, c⟩ := hb x d' hd'
    exact ⟨a, by omega, c⟩

/-- the private block of `h`: what `EnsureAlloced` / `EnsureDataWritable` establish -/
structure Priv (U : List Nat) (s : State) (h : Nat) (d : Data) : Prop where
  inv : Inv U s
  mem : h ∈ U
  ne : ptr s h ≠ 0
  get : s.heap.get? (ptr s h) = some d
  rc : d.refcount = 0

theorem Inv.rc_pos {s : State} (hi : Inv U s) {h : Nat} (hh : h ∈ U) {p : Nat} (e : ptr s h = p) (hp : 0 < p) :
    0 < rc s p := by
  rw [hi.rc_eq hp, ← e]; exact cnt_pos_of_mem hh

theorem Inv.rc_fresh {s : State} (hi : Inv U s) : rc s s.nextId = 0 := by
  rw [rc, hi.get_fresh]

theorem release_spec {s : State} (hi : Inv U s) {h : Nat} (hh : h ∈ U) :
    Writes U s (setPtr (released s (ptr s h)) h 0) h [] := by
  have w := Writes.repoint (s' := setPtr (released s (ptr s h)) h 0) hi hh (b := 0) (fun x => by simp) (by simp)
    ((blocks_released hi.blocks _).setPtr _ _)
    (fun p hp => by
      rw [rc_setPtr, rc_released _ _ _ (fun e => hi.rc_pos hh e hp), if_neg (Nat.ne_of_lt hp)]; rfl)
    -- `setPtr` is rewritten away first, so that unification does not unfold it against `released`
    (fun p hp => by rw [heap_setPtr]; exact bytes_released _ _ _ hp)
  rwa [(cstr_null (by simp)).1] at w

theorem newBlock_spec {s s' : State} (hi : Inv U s) {h : Nat} (hh : h ∈ U) {nd : Data} (hw : WFd nd)
    (hr : nd.refcount = 0) (e : Ext (setPtr (alloc (released s (ptr s h)) nd).1 h s.nextId) s') :
    Writes U s s' h nd.bytes ∧ Priv U s' h nd := by
  have hn0 : s.nextId ≠ 0 := Nat.ne_of_gt hi.nid
  have hlt := hi.ptr_lt hh
  have w := Writes.repoint (s' := setPtr (alloc (released s (ptr s h)) nd).1 h s.nextId) hi hh (b := s.nextId)
    (fun x => by simp) (by simp)
    ((blocks_alloc (blocks_released hi.blocks _) hw (by rw [nextId_released]; exact hi.nid)).setPtr _ _)
    (fun p hp => by
      rw [rc_setPtr, rc_alloc, nextId_released, hr]
      by_cases hpn : p = s.nextId
      · subst hpn
        rw [if_pos rfl, if_pos rfl, if_neg (Nat.ne_of_lt hlt), hi.rc_fresh]
      · rw [if_neg hpn, if_neg (Ne.symm hpn), rc_released _ _ _ (fun e => hi.rc_pos hh e hp)]; rfl)
    (fun p hp => by
      rw [heap_setPtr, get_alloc, nextId_released]
      split
      · rename_i e; rw [e, hi.rc_fresh] at hp; omega
      · exact bytes_released _ _ _ hp)
  have hp : ptr (setPtr (alloc (released s (ptr s h)) nd).1 h s.nextId) h = s.nextId := by simp
  have hg : (setPtr (alloc (released s (ptr s h)) nd).1 h s.nextId).heap.get? s.nextId = some nd := by simp
  rw [(cstr_of_get (by rw [hp]; exact hg) (by rw [hp]; exact hn0)).1] at w
  refine ⟨w.ext e, e.inv w.inv, hh, by rw [← e.1, hp]; exact hn0, by rw [← e.1, ← e.2.1, hp]; exact hg, hr⟩

/-- `h` takes a reference to the block of `g`, then lets go of its own (which may be the same) -/
theorem share_spec {s s' : State} (hi : Inv U s) {h g : Nat} (hh : h ∈ U) (hg : g ∈ U)
    (e : Ext (setPtr (released (acquired s (ptr s g)) (ptr s h)) h (ptr s g)) s') :
    Writes U s s' h (cstr s g) := by
  have hpos : ∀ p, 0 < p → ptr s h = p → 0 < rc (acquired s (ptr s g)) p := fun p hp e => by
    exact Nat.lt_of_lt_of_le (hi.rc_pos hh e hp) (rc_le_acquired ..)
  have w := Writes.repoint (s' := setPtr (released (acquired s (ptr s g)) (ptr s h)) h (ptr s g)) hi hh (b := ptr s g)
    (fun x => by simp) (by simp)
    ((blocks_released (blocks_acquired hi.blocks _) _).setPtr _ _)
    (fun p hp => by
      rw [rc_setPtr, rc_released _ _ _ (hpos p hp), rc_acquired]
      split
      · rename_i e; rw [if_pos e.1]
      · rename_i e; rw [if_neg fun e' => e ⟨e', hi.rc_pos hg e' hp⟩]; rfl)
    (fun p hp => by
      rw [heap_setPtr, bytes_released _ _ _ (Nat.lt_of_lt_of_le hp (rc_le_acquired ..)), bytes_acquired])
  refine Writes.ext ?_ e
  have : cstr (setPtr (released (acquired s (ptr s g)) (ptr s h)) h (ptr s g)) h = cstr s g := by
    by_cases hq : ptr s g = 0
    · rw [(cstr_null (by simp [hq])).1, (cstr_null hq).1]
    · refine cstr_congr (by simp) ?_
      have hq' := hi.rc_pos hg rfl (Nat.pos_of_ne_zero hq)
      have : rc (acquired s (ptr s g)) (ptr s g) = rc s (ptr s g) + 1 := by rw [rc_acquired]; exact if_pos ⟨rfl, hq'⟩
      rw [heap_setPtr, bytes_released _ _ _ (by rw [this]; split <;> omega), bytes_acquired]
  rwa [this] at w

def upd1 (m : Nat → List UInt8) (h : Nat) (bs : List UInt8) : Nat → List UInt8 := fun x => if x = h then bs else m x

def Reads (U : List Nat) (s' : State) (m : Nat → List UInt8) : Prop := Inv U s' ∧ ∀ x ∈ U, cstr s' x = m x

theorem Writes.reads {s s' : State} {h : Nat} {bs : List UInt8} (w : Writes U s s' h bs) :
    Reads U s' (upd1 (cstr s) h bs) := by
  refine ⟨w.inv, fun x hx => ?_⟩
  unfold upd1
  split
  · rename_i e; rw [e]; exact w.own
  · rename_i e; exact w.others x hx e

theorem ptr_ctorMove (s : State) (h g x : Nat) :
    ptr (ctorMove s h g) x = if x = g then 0 else if x = h then ptr s g else ptr s x := by
  show ptr (setPtr (setPtr s h (ptr s g)) g 0) x = _
  simp

@[simp] theorem heap_ctorMove (s : State) (h g : Nat) : (ctorMove s h g).heap = s.heap := rfl
@[simp] theorem nextId_ctorMove (s : State) (h g : Nat) : (ctorMove s h g).nextId = s.nextId := rfl

theorem cnt_move {s s' : State} (hU : U.Nodup) {h g : Nat} (hh : h ∈ U) (hg : g ∈ U)
    (hptr : ∀ x, ptr s' x = if x = g then 0 else if x = h then ptr s g else ptr s x) {p : Nat} (hp : 0 < p) :
    cnt U s' p + (if ptr s h = p then 1 else 0) = cnt U s p := by
  by_cases e : h = g
  · subst e
    have := cnt_repoint hU hh (s := s) (s' := s') (b := 0) (fun x => by rw [hptr]; by_cases hx : x = h <;> simp [hx]) p
    rwa [if_neg (Nat.ne_of_lt hp)] at this
  · have h1 := cnt_repoint hU hh (s := s) (s' := setPtr s h (ptr s g)) (b := ptr s g) (fun x => by simp) p
    have h2 := cnt_repoint hU hg (s := setPtr s h (ptr s g)) (s' := s') (b := 0) (fun x => by rw [hptr, ptr_setPtr]) p
    have : ptr (setPtr s h (ptr s g)) g = ptr s g := by simp [Ne.symm e]
    rw [this, if_neg (Nat.ne_of_lt hp)] at h2
    omega

/-- `h` lets go of its block and takes over the pointer of `g`, which becomes null (`h = g`: the
    string ends up empty) -/
theorem move_spec {s s' : State} (hi : Inv U s) {h g : Nat} (hh : h ∈ U) (hg : g ∈ U)
    (e : Ext (ctorMove (released s (ptr s h)) h g) s') :
    Reads U s' (upd1 (upd1 (cstr s) g []) h (if h = g then [] else cstr s g)) ∧ ptr s' g = 0 ∧
    ∀ x, x ≠ h → x ≠ g → ptr s' x = ptr s x := by
  have hptr : ∀ x, ptr s' x = if x = g then 0 else if x = h then ptr s g else ptr s x := fun x => by
    rw [← e.1, ptr_ctorMove]; simp
  have hget : ∀ p, s'.heap.get? p = (released s (ptr s h)).heap.get? p := fun p => by rw [← e.2.1, heap_ctorMove]
  have hn : s'.nextId = s.nextId := by rw [← e.2.2, nextId_ctorMove, nextId_released]
  have hi' : Inv U s' := hi.frame (Nat.le_of_eq hn.symm)
    (fun p d hd => by rw [hget] at hd; rw [← e.2.2, nextId_ctorMove]; exact blocks_released hi.blocks _ p d hd)
    (fun p hp => by
      have := cnt_move hi.nodup hh hg hptr hp
      have := rc_released s (ptr s h) p (fun e => hi.rc_pos hh e hp)
      have : rc s' p = rc (released s (ptr s h)) p := by unfold rc; rw [hget]
      omega)
  have hread : ∀ x ∈ U, x ≠ h → ∀ y, ptr s' y = ptr s x → cstr s' y = cstr s x := fun x hx hxh y hy => by
    by_cases h0 : ptr s x = 0
    · rw [(cstr_null (hy.trans h0)).1, (cstr_null h0).1]
    · exact cstr_congr hy (by rw [hget]; exact bytes_released _ _ _ (hi.other_user hh hx hxh h0))
  refine ⟨⟨hi', ?_⟩, by rw [hptr, if_pos rfl], fun x hxh hxg => by rw [hptr, if_neg hxg, if_neg hxh]⟩
  intro x hx
  unfold upd1
  by_cases hxg : x = g
  · subst hxg
    rw [(cstr_null (by rw [hptr, if_pos rfl])).1]
    by_cases hxh : x = h <;> simp [hxh]
  · by_cases hxh : x = h
    · subst hxh
      rw [if_pos rfl, if_neg hxg]
      exact hread g hg (Ne.symm hxg) x (by rw [hptr, if_neg hxg, if_pos rfl])
    · rw [if_neg hxh, if_neg hxg]
      exact hread x hx hxh x (by rw [hptr, if_neg hxg, if_neg hxh])

theorem privWrite {s : State} {h : Nat} {d : Data} (p : Priv U s h d) (bs : List UInt8) (hfit : bs.length + 1 ≤ d.cap) :
    Writes U s (setData s (ptr s h) { d with bytes := bs, len := bs.length }) h bs := by
  have w := Writes.repoint (s' := setData s (ptr s h) { d with bytes := bs, len := bs.length }) p.inv p.mem (b := ptr s h)
    (fun x => by rw [ptr_setData]; split <;> simp [*]) (Nat.le_refl _)
    (fun x dx hx => by
      rw [get_setData] at hx
      split at hx
      · rename_i e
        cases hx
        obtain ⟨a, b, c⟩ := p.inv.blocks _ _ p.get
        rw [e]; exact ⟨a, b, c.1, rfl, hfit⟩
      · exact p.inv.blocks _ _ hx)
    (fun x _ => by
      rw [rc_setData]
      split
      · rename_i e; rw [e, rc_of_get p.get]
      · rfl)
    (fun x hx => by
      rw [get_setData]
      split
      · rename_i e; rw [e, rc_of_get p.get, p.rc, if_pos rfl] at hx; omega
      · rfl)
  have hc : cstr (setData s (ptr s h) { d with bytes := bs, len := bs.length }) h = bs := by
    simp [cstr, p.ne]
  rwa [hc] at w

end Morfuse.Str
