import MorfuseModel.HashSet.Ops
/-!
# `con::set` / `con::map`: every operation is the finite-map operation
-/
namespace Morfuse.HashSet
variable {κ ν : Type} [DecidableEq κ] {hash : κ → Nat}

namespace Spec
variable [Inhabited ν]
/-- the abstract specification: a finite map, as its lookup function -/
def step (m : κ → Option ν) : Op κ ν → (κ → Option ν)
  | .put k v => fun x => if x = k then some v else m x
  | .touch k => fun x => if x = k then some ((m k).getD default) else m x
  | .addInit k v => fun x => if x = k then some ((m k).getD v) else m x
  | .find _ => m
  | .remove k => fun x => if x = k then none else m x
  | .resize _ => m
  | .shrink => m
  | .clear => fun _ => none
end Spec

theorem find_update {s s' : State κ ν} (h : Inv hash s) (h' : Inv hash s') {k : κ} {o : Option ν}
    (hk : findKeyValue hash s' k = o) (hne : ∀ y : Entry κ ν, y.key ≠ k → (y ∈ ents s' ↔ y ∈ ents s)) (x : κ) :
    findKeyValue hash s' x = if x = k then o else findKeyValue hash s x := by
  split
  · rename_i hx; rw [hx, hk]
  · rename_i hx
    refine findVal_congr h h' x fun w => exists_congr fun y => ?_
    exact ⟨fun ⟨a, b⟩ => ⟨(hne y (b.1 ▸ hx)).mp a, b⟩, fun ⟨a, b⟩ => ⟨(hne y (b.1 ▸ hx)).mpr a, b⟩⟩

theorem mem_of_perm_cons {β : Type} {l l' : List β} {e y : β} (hp : l'.Perm (e :: l)) (hy : y ≠ e) : y ∈ l' ↔ y ∈ l :=
  hp.mem_iff.trans (List.mem_cons.trans (or_iff_right hy))

/-- `addKeyValue(key[, init])`: the binding found, or a new one with the initial value -/
theorem addKeyEntry_find {s : State κ ν} (h : Inv hash s) (primes : List Nat) (k : κ) (v0 : ν) :
    Inv hash (addKeyEntry hash primes s k v0).1 ∧
    (∃ y ∈ ents (addKeyEntry hash primes s k v0).1, y.key = k) ∧
    (addKeyEntry hash primes s k v0).2.val = (findKeyValue hash s k).getD v0 ∧
    ∀ x, findKeyValue hash (addKeyEntry hash primes s k v0).1 x =
      if x = k then some ((findKeyValue hash s k).getD v0) else findKeyValue hash s x := by
  rcases addKeyEntry_spec h primes k v0 with ⟨e, he, hr⟩ | ⟨hn, a, b, e1, e2⟩
  · obtain ⟨h1, h2⟩ := (h.find_iff k e).mp he
    have hf : findKeyValue hash s k = some e.val := by simp [findKeyValue, he]
    rw [hr, hf]
    exact ⟨h, ⟨e, h1, h2⟩, rfl, find_update h h hf fun _ _ => Iff.rfl⟩
  · have hf : findKeyValue hash s k = none := by simp [findKeyValue, hn]
    have hm := e2.mem_iff.mpr (List.mem_cons_self ..)
    rw [hf]
    exact ⟨a, ⟨_, hm, b⟩, e1, find_update h a ((a.findVal_iff k v0).mpr ⟨_, hm, b, e1⟩)
      fun y hy => mem_of_perm_cons e2 fun e => hy (e ▸ b)⟩

theorem setVal_find {s : State κ ν} (h : Inv hash s) (k : κ) (v : ν) (hk : ∃ y ∈ ents s, y.key = k) :
    Inv hash (setVal hash s k v) ∧
    ∀ x, findKeyValue hash (setVal hash s k v) x = if x = k then some v else findKeyValue hash s x := by
  obtain ⟨a, b⟩ := setVal_spec h k v
  obtain ⟨y, hy, hyk⟩ := hk
  refine ⟨a, find_update h a ?_ fun z hz => ?_⟩
  · exact (a.findVal_iff k v).mpr ⟨upd k v y, b.mem_iff.mpr (List.mem_map_of_mem hy), by simp [hyk], by simp [upd, hyk]⟩
  · have hu : ∀ z : Entry κ ν, z.key ≠ k → upd k v z = z := fun z hz => by simp [upd, hz]
    rw [b.mem_iff, List.mem_map]
    exact ⟨fun ⟨z', hz', e⟩ => by rwa [← e, hu z' (by rwa [← e, upd_key] at hz)], fun hm => ⟨z, hm, hu z hz⟩⟩

theorem remove_find {s : State κ ν} (h : Inv hash s) (k : κ) :
    Inv hash (remove hash s k).1 ∧ (remove hash s k).2 = (findKeyValue hash s k).isSome ∧
    ∀ x, findKeyValue hash (remove hash s k).1 x = if x = k then none else findKeyValue hash s x := by
  cases hf : findKeyValue hash s k with
  | none =>
    rw [remove_absent s k ((h.findVal_none_iff k).mp hf)]
    exact ⟨h, rfl, find_update h h hf fun _ _ => Iff.rfl⟩
  | some w =>
    obtain ⟨y, hy, hyk, hyv⟩ := (h.findVal_iff k w).mp hf
    obtain ⟨r1, r2, r3⟩ := remove_present h k y hy hyk
    refine ⟨r2, by simpa using r1, find_update h r2 ?_ fun z hz => (mem_of_perm_cons r3.symm fun e : z = y => hz (e ▸ hyk)).symm⟩
    -- no second entry with key `k`
    have hnd : ((y :: ents (remove hash s k).1).map (·.key)).Nodup := ((r3.map _).nodup_iff).mpr h.nodup
    simp only [List.map_cons, List.nodup_cons, List.mem_map, not_exists, not_and] at hnd
    exact (r2.findVal_none_iff k).mpr fun z hz hzk => hnd.1 z hz (by rw [hzk, hyk])

variable [Inhabited ν]

def Spec.run (m : κ → Option ν) : List (Op κ ν) → (κ → Option ν)
  | [] => m
  | op :: ops => Spec.run (Spec.step m op) ops

theorem step_refines {s : State κ ν} (h : Inv hash s) (primes : List Nat) (op : Op κ ν) :
    Inv hash (step hash primes s op) ∧
    ∀ x, findKeyValue hash (step hash primes s op) x = Spec.step (findKeyValue hash s) op x := by
  cases op with
  | put k v =>
    obtain ⟨a, b, _, d⟩ := addKeyEntry_find h primes k (default : ν)
    obtain ⟨e, f⟩ := setVal_find a k v b
    refine ⟨e, fun x => ?_⟩
    simp only [step, Spec.step, f x, d x]
    split <;> rfl
  | touch k =>
    obtain ⟨a, _, _, d⟩ := addKeyEntry_find h primes k (default : ν)
    exact ⟨a, fun x => by simp only [step, Spec.step, d x]⟩
  | addInit k v =>
    obtain ⟨a, _, _, d⟩ := addKeyEntry_find h primes k v
    exact ⟨a, fun x => by simp only [step, Spec.step, d x]⟩
  | find k => exact ⟨h, fun _ => rfl⟩
  | remove k =>
    obtain ⟨a, _, c⟩ := remove_find h k
    exact ⟨a, fun x => by simp only [step, Spec.step, c x]⟩
  | resize n =>
    obtain ⟨a, b⟩ := resize_spec h n
    exact ⟨a, fun x => findVal_congr h a x (maps_perm b x)⟩
  | shrink =>
    obtain ⟨a, b⟩ := shrink_spec h
    exact ⟨a, fun x => findVal_congr h a x (maps_perm b x)⟩
  | clear =>
    obtain ⟨a, b⟩ := clear_spec s h
    refine ⟨a, fun x => ?_⟩
    simp only [step, Spec.step]
    rw [a.findVal_none_iff, b]
    intro e he; cases he

theorem run_refines {s : State κ ν} (h : Inv hash s) (primes : List Nat) (ops : List (Op κ ν)) :
    Inv hash (run hash primes s ops) ∧
    ∀ x, findKeyValue hash (run hash primes s ops) x = Spec.run (findKeyValue hash s) ops x := by
  induction ops generalizing s with
  | nil => exact ⟨h, fun _ => rfl⟩
  | cons op ops ih =>
    obtain ⟨a, b⟩ := step_refines h primes op
    have r := ih a
    rw [funext b] at r
    exact r

theorem reachable_inv {primes : List Nat} {s : State κ ν} (h : Reachable hash primes s) : Inv hash s := by
  obtain ⟨ops, rfl⟩ := h
  exact (run_refines (inv_init hash) primes ops).1

end Morfuse.HashSet
