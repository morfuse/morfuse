import MorfuseModel.HashSet.Lemmas
/-!
# `set_enum` / `map_enum`: a sweep of `NextElement` returns every entry exactly once
-/
namespace Morfuse.HashSet
variable {κ ν : Type}

def remaining (s : State κ ν) (e : Enum κ ν) : List (Entry κ ν) :=
  e.rest ++ (List.range e.idx).reverse.flatMap (bucket s)

theorem advance_spec (s : State κ ν) : ∀ i,
    (List.range i).reverse.flatMap (bucket s) = (advance s i).2 ++ (List.range (advance s i).1).reverse.flatMap (bucket s) ∧
    ((advance s i).2 = [] → (advance s i).1 = 0)
  | 0 => by simp [advance]
  | i + 1 => by
    rw [range_succ_rev_flatMap]
    cases hb : bucket s i with
    | nil =>
      have ih := advance_spec s i
      simp only [advance, hb]
      simpa using ih
    | cons x r =>
      simp only [advance, hb]
      exact ⟨trivial, fun h => by cases h⟩

/-- one `NextElement()`: it returns the head of what remains, `nullptr` exactly when nothing remains -/
theorem enumNext_spec (s : State κ ν) (e : Enum κ ν) :
    match (enumNext s e).2 with
    | some x => remaining s e = x :: remaining s (enumNext s e).1 ∧ (enumNext s e).1.cur = some x
    | none => remaining s e = [] ∧ remaining s (enumNext s e).1 = [] ∧ (enumNext s e).1.cur = none := by
  obtain ⟨a, b⟩ := advance_spec s e.idx
  unfold enumNext
  cases hr : e.rest with
  | cons x r => simp [remaining, hr]
  | nil =>
    simp only [List.isEmpty_nil, if_true, remaining, hr, List.nil_append]
    cases hc : (advance s e.idx).2 with
    | nil => rw [a, hc, b hc]; simp
    | cons x r => rw [a, hc]; simp

/-- a whole sweep with at most `n` calls -/
def drain (s : State κ ν) : Nat → Enum κ ν → List (Entry κ ν)
  | 0, _ => []
  | n + 1, e =>
    match (enumNext s e).2 with
    | some x => x :: drain s n (enumNext s e).1
    | none => []

theorem drain_eq (s : State κ ν) : ∀ (n : Nat) (e : Enum κ ν), (remaining s e).length ≤ n →
    drain s n e = remaining s e := by
  intro n
  induction n with
  | zero =>
    intro e h
    have : remaining s e = [] := List.eq_nil_of_length_eq_zero (by omega)
    simp [drain, this]
  | succ n ih =>
    intro e h
    have hs := enumNext_spec s e
    simp only [drain]
    cases hn : (enumNext s e).2 with
    | none => rw [hn] at hs; simp [hs.1]
    | some x =>
      rw [hn] at hs
      simp only
      rw [hs.1] at h ⊢
      rw [ih _ (by simpa using h)]

theorem enumAll_eq_remaining (s : State κ ν) : enumAll s = remaining s (enumStart s) := by
  simp [enumAll, remaining, enumStart]

/-- a re-bound enumerator is a fresh one: nothing of its previous sweep survives -/
theorem enumRebind_eq_start (s : State κ ν) (e : Enum κ ν) : enumRebind s e = enumStart s := rfl

/-- a default-constructed enumerator delivers nothing, on any table (`m_Index = 0`, `m_Set` never read) -/
theorem enumNext_default (s : State κ ν) : (enumNext s (enumDefault : Enum κ ν)).2 = none := by
  simp [enumNext, enumDefault, advance]

end Morfuse.HashSet
