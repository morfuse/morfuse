import MorfuseModel.HashSet.Lemmas
/-!
# Lemmas for the `con::set` model: the operations

What each operation does to the entries up to permutation, and that it keeps `Inv`.  `resize` (hence `rehash`,
`shrink`) pushes the entries, in the order `enumAll` in which an enumerator would deliver them, into an empty
table (`resize_eq`), so its one loop lemma is `pushChain_spec`; insertion, assignment through the returned
reference and `remove` replace one chain (`Inv.of_set`).
-/
namespace Morfuse.HashSet
variable {κ ν : Type} {hash : κ → Nat}

theorem placed_replicate (n : Nat) : Placed hash n (List.replicate n ([] : List (Entry κ ν))) := by
  intro b c h e he
  rw [List.getElem?_replicate] at h
  split at h
  · cases h; simp at he
  · cases h

theorem pushChain_spec (n : Nat) (hn : 0 < n) : ∀ (c : List (Entry κ ν)) (tbl : List (List (Entry κ ν))),
    tbl.length = n → Placed hash n tbl →
    (pushChain hash n tbl c).length = n ∧ (pushChain hash n tbl c).flatten.Perm (c ++ tbl.flatten) ∧
      Placed hash n (pushChain hash n tbl c) := by
  intro c
  induction c with
  | nil => intro tbl hl hp; exact ⟨hl, by simp [pushChain], hp⟩
  | cons e rest ih =>
    intro tbl hl hp
    have hi : hash e.key % n < tbl.length := by rw [hl]; exact Nat.mod_lt _ hn
    have hl1 : (tbl.set (hash e.key % n) (e :: tbl.getD (hash e.key % n) [])).length = n := by simp [hl]
    have hp1 : Placed hash n (tbl.set (hash e.key % n) (e :: tbl.getD (hash e.key % n) [])) :=
      hp.set hi fun x hx => (List.mem_cons.mp hx).elim (fun hxe => hxe ▸ rfl) (hp _ _ (getElem?_getD hi) x)
    obtain ⟨h1, h2, h3⟩ := ih _ hl1 hp1
    refine ⟨by simpa [pushChain] using h1, ?_, by simpa [pushChain] using h3⟩
    have : (pushChain hash n tbl (e :: rest)) =
        pushChain hash n (tbl.set (hash e.key % n) (e :: tbl.getD (hash e.key % n) [])) rest := by
      simp [pushChain]
    rw [this]
    refine h2.trans ?_
    refine (List.Perm.append_left rest (flatten_set_cons tbl _ e hi)).trans ?_
    exact List.perm_middle

theorem rehashAll_eq (n : Nat) (s : State κ ν) : ∀ (i : Nat) (tbl : List (List (Entry κ ν))),
    rehashAll hash n s.table i tbl = pushChain hash n tbl ((List.range i).reverse.flatMap (bucket s))
  | 0, tbl => rfl
  | i + 1, tbl => by
    rw [rehashAll, rehashAll_eq n s i, range_succ_rev_flatMap, pushChain, pushChain, pushChain, List.foldl_append]
    rfl

theorem resize_eq (s : State κ ν) {n : Nat} (hn : ¬ n ≤ 1) : resize hash s n =
    { s with table := pushChain hash n (List.replicate n []) (enumAll s), inl := false, tableLength := n,
             threshold := n, defaultEntry := defaultEntryPtr s } := by
  simp only [resize, if_neg hn, rehashAll_eq, enumAll]

theorem resize_fields (s : State κ ν) (n : Nat) :
    (resize hash s n).nextId = s.nextId ∧ (resize hash s n).count = s.count ∧
    (resize hash s n).ctor = s.ctor ∧ (resize hash s n).dtor = s.dtor := by
  simp only [resize]; split <;> simp

theorem resize_spec {s : State κ ν} (h : Inv hash s) (n : Nat) :
    Inv hash (resize hash s n) ∧ (ents (resize hash s n)).Perm (ents s) := by
  by_cases hn : n ≤ 1
  · simp only [resize, hn, if_true]; exact ⟨h, List.Perm.refl _⟩
  · have hn0 : 0 < n := by omega
    obtain ⟨h1, h2, h3⟩ := pushChain_spec (hash := hash) n hn0 (enumAll s) (List.replicate n []) (by simp)
      (placed_replicate n)
    have hperm : (pushChain hash n (List.replicate n []) (enumAll s)).flatten.Perm (ents s) :=
      h2.trans (by simpa using enumAll_perm h)
    rw [resize_eq s hn]
    refine ⟨?_, hperm⟩
    refine
      { len := h1, pos := hn0, place := h3, nodup := ?_, count := ?_, inl1 := by simp, ids := ?_,
        nid := h.nid, de := ?_, led := h.led }
    · exact ((hperm.map _).nodup_iff).mpr h.nodup
    · simp only [ents] at hperm ⊢; rw [hperm.length_eq]; exact h.count
    · intro e he; exact h.ids e ((hperm.mem_iff).mp he)
    · intro hd
      have : ents s = [] := h.de (by simpa [defaultEntryPtr] using hd)
      simp only [ents] at hperm this ⊢
      rw [this] at hperm
      exact List.Perm.eq_nil hperm

theorem rehash_spec {s : State κ ν} (h : Inv hash s) (primes : List Nat) :
    Inv hash (rehash hash primes s) ∧ (ents (rehash hash primes s)).Perm (ents s) := by
  unfold rehash
  split
  · rename_i newLen i _
    exact resize_spec (s := { s with tableLengthIndex := i })
      ⟨h.len, h.pos, h.place, h.nodup, h.count, h.inl1, h.ids, h.nid, h.de, h.led⟩ newLen
  · exact resize_spec h _

theorem clear_spec (s : State κ ν) (h : Inv hash s) : Inv hash (clear s) ∧ ents (clear s) = [] := by
  refine ⟨?_, by simp [clear, ents, init]⟩
  have hi := inv_init (κ := κ) (ν := ν) hash
  refine ⟨hi.len, hi.pos, hi.place, hi.nodup, hi.count, hi.inl1, hi.ids, h.nid, fun _ => by simp [clear, ents, init], ?_⟩
  have := h.led; have hc := h.count
  simp only [clear, init, ents] at *
  omega

theorem shrink_spec [DecidableEq κ] {s : State κ ν} (h : Inv hash s) :
    Inv hash (shrink hash s) ∧ (ents (shrink hash s)).Perm (ents s) := by
  unfold shrink
  split
  · exact resize_spec h s.count
  · rename_i hc
    obtain ⟨a, b⟩ := clear_spec s h
    have : ents s = [] := by
      have := h.count
      have h0 : s.count = 0 := by simpa using hc
      rw [h0] at this
      exact List.eq_nil_of_length_eq_zero this.symm
    exact ⟨a, by rw [b, this]⟩

/-- `e` goes in front of chain `i`; besides the table only the word `defaultEntry` is written, and in a heap table it is
    not null afterwards -/
theorem insertEntry_eq (s : State κ ν) (e : Entry κ ν) (i : Nat) :
    ∃ d, insertEntry s e i =
        { s with table := s.table.set i (if defaultEntryPtr s = 0 then [e] else e :: bucket s i), defaultEntry := d } ∧
      (s.inl = false → 0 < e.id → d ≠ 0) := by
  unfold insertEntry
  split
  · split
    · rename_i hinl; exact ⟨s.defaultEntry, rfl, fun hf => by rw [hf] at hinl; cases hinl⟩
    · exact ⟨e.id, rfl, fun _ hid => by omega⟩
  · rename_i hne
    exact ⟨s.defaultEntry, rfl, fun hf _ => by simpa [defaultEntryPtr, hf] using hne⟩

theorem insertEntry_spec {s : State κ ν} (h : Inv hash s) (e : Entry κ ν) (hid : 0 < e.id)
    (hk : ∀ x ∈ ents s, x.key ≠ e.key) :
    let s0 := { s with count := s.count + 1, nextId := s.nextId + 1, ctor := s.ctor + 1 }
    Inv hash (insertEntry s0 e (hash e.key % s.tableLength)) ∧
    (ents (insertEntry s0 e (hash e.key % s.tableLength))).Perm (e :: ents s) := by
  intro s0
  have hi := h.idx_lt e.key
  obtain ⟨i, hidef⟩ : ∃ i, i = hash e.key % s.tableLength := ⟨_, rfl⟩
  rw [← hidef] at hi ⊢
  obtain ⟨d, heq, hd⟩ := insertEntry_eq s0 e i
  -- in both branches the chain becomes `e :: bucket`
  have hc : (if defaultEntryPtr s0 = 0 then [e] else e :: bucket s0 i) = e :: bucket s i := by
    split
    · rename_i hd0
      have hnil : ents s = [] := h.de hd0
      have hb : bucket s i = [] := List.eq_nil_iff_forall_not_mem.mpr fun x hx => by
        have := bucket_sub_ents hx; rw [hnil] at this; cases this
      rw [hb]
    · rfl
  rw [heq, hc]
  have hperm : (s.table.set i (e :: bucket s i)).flatten.Perm (e :: ents s) := flatten_set_cons s.table i e hi
  have hnd : ((s.table.set i (e :: bucket s i)).flatten.map (·.key)).Nodup := by
    rw [((hperm.map _).nodup_iff)]
    simp only [List.map_cons, List.nodup_cons, List.mem_map, not_exists, not_and]
    exact ⟨fun x hx hxe => hk x hx hxe, h.nodup⟩
  have hids : ∀ x ∈ (s.table.set i (e :: bucket s i)).flatten, 0 < x.id := fun x hx =>
    (List.mem_cons.mp (hperm.mem_iff.mp hx)).elim (fun hxe => hxe ▸ hid) (h.ids x)
  refine ⟨h.of_set hi rfl rfl rfl ?_ hnd (show s.count + 1 = _ from h.count ▸ hperm.length_eq.symm) hids
    (Nat.succ_pos _) (fun hf hd0 => absurd hd0 (hd hf hid))
    (by show s.ctor + 1 = s.dtor + (s.count + 1); have := h.led; omega), hperm⟩
  intro x hx
  rcases List.mem_cons.mp hx with rfl | hx'
  · exact hidef.symm
  · exact h.place _ _ (bucket_eq hi) x hx'

def Maps (s : State κ ν) (k : κ) (v : ν) : Prop := ∃ e ∈ ents s, e.key = k ∧ e.val = v

theorem maps_perm {s s' : State κ ν} (hp : (ents s').Perm (ents s)) (k : κ) (v : ν) : Maps s' k v ↔ Maps s k v :=
  exists_congr fun _ => and_congr_left fun _ => hp.mem_iff

variable [DecidableEq κ]

theorem Inv.findVal_iff {s : State κ ν} (h : Inv hash s) (k : κ) (v : ν) :
    findKeyValue hash s k = some v ↔ Maps s k v := by
  simp only [findKeyValue, Option.map_eq_some_iff, Maps]
  constructor
  · rintro ⟨e, he, rfl⟩
    obtain ⟨h1, h2⟩ := (h.find_iff k e).mp he
    exact ⟨e, h1, h2, rfl⟩
  · rintro ⟨e, h1, h2, rfl⟩
    exact ⟨e, (h.find_iff k e).mpr ⟨h1, h2⟩, rfl⟩

theorem Inv.findVal_none_iff {s : State κ ν} (h : Inv hash s) (k : κ) :
    findKeyValue hash s k = none ↔ ∀ e ∈ ents s, e.key ≠ k := by
  simp only [findKeyValue, Option.map_eq_none_iff]
  exact h.find_none_iff k

theorem findVal_congr {s s' : State κ ν} (h : Inv hash s) (h' : Inv hash s') (k : κ)
    (hm : ∀ v, Maps s' k v ↔ Maps s k v) : findKeyValue hash s' k = findKeyValue hash s k := by
  apply Option.ext
  intro v
  rw [h'.findVal_iff, h.findVal_iff, hm]

theorem addKeyEntry_spec {s : State κ ν} (h : Inv hash s) (primes : List Nat) (k : κ) (v : ν) :
    let r := addKeyEntry hash primes s k v
    (∃ e, findKeyEntry hash s k = some e ∧ r = (s, e)) ∨
    (findKeyEntry hash s k = none ∧ Inv hash r.1 ∧ r.2.key = k ∧ r.2.val = v ∧ (ents r.1).Perm (r.2 :: ents s)) := by
  intro r
  have hfk : findIn (bucket s (hash k % s.tableLength)) k = findKeyEntry hash s k := rfl
  cases hf : findKeyEntry hash s k with
  | some e => exact Or.inl ⟨e, rfl, by simp only [r, addKeyEntry, hfk, hf]⟩
  | none =>
    have hall := (h.find_none_iff k).mp hf
    obtain ⟨s1, hs1⟩ : ∃ s1, s1 = if s.count ≥ s.threshold then rehash hash primes s else s := ⟨_, rfl⟩
    obtain ⟨i1, p1⟩ : Inv hash s1 ∧ (ents s1).Perm (ents s) := by
      rw [hs1]; split
      · exact rehash_spec h primes
      · exact ⟨h, List.Perm.refl _⟩
    have hk1 : ∀ x ∈ ents s1, x.key ≠ k := fun x hx => hall x (p1.mem_iff.mp hx)
    have hr : r = (insertEntry { s1 with count := s1.count + 1, nextId := s1.nextId + 1, ctor := s1.ctor + 1 }
        { id := s1.nextId, key := k, val := v } (hash k % s1.tableLength),
        { id := s1.nextId, key := k, val := v }) := by
      simp only [r, addKeyEntry, hfk, hf, addNewKeyEntry, hs1]
      split <;> rfl
    obtain ⟨a, b⟩ := insertEntry_spec i1 { id := s1.nextId, key := k, val := v } i1.nid hk1
    rw [hr]
    exact Or.inr ⟨rfl, a, rfl, rfl, b.trans (List.Perm.cons _ p1)⟩

/-- `entry->Value() = v` for the entry with key `k`, every other entry untouched -/
def upd (k : κ) (v : ν) (e : Entry κ ν) : Entry κ ν := if e.key = k then { e with val := v } else e

@[simp] theorem upd_key (k : κ) (v : ν) (e : Entry κ ν) : (upd k v e).key = e.key := by
  unfold upd; split <;> rfl
@[simp] theorem upd_id (k : κ) (v : ν) (e : Entry κ ν) : (upd k v e).id = e.id := by
  unfold upd; split <;> rfl

theorem setVal_spec {s : State κ ν} (h : Inv hash s) (k : κ) (v : ν) :
    Inv hash (setVal hash s k v) ∧ (ents (setVal hash s k v)).Perm ((ents s).map (upd k v)) := by
  have hi := h.idx_lt k
  obtain ⟨i, hidef⟩ : ∃ i, i = hash k % s.tableLength := ⟨_, rfl⟩
  have htab : (setVal hash s k v).table = s.table.set i ((s.table.getD i []).map (upd k v)) := by
    have hu : (fun e : Entry κ ν => if e.key = k then { e with val := v } else e) = upd k v := by
      funext e; rfl
    simp only [setVal, setBucket, bucket, hidef, hu]
  rw [← hidef] at hi
  have hrest : ∀ y ∈ (s.table.set i []).flatten, upd k v y = y := by
    intro y hy
    have := h.rest_ne k y (by rw [← hidef]; exact hy)
    simp [upd, this]
  have hperm : (ents (setVal hash s k v)).Perm ((ents s).map (upd k v)) := by
    simp only [ents, htab]
    refine (flatten_set_perm s.table i _ hi).trans ?_
    have h1 := (flatten_perm_getD s.table i hi).map (upd k v)
    rw [List.map_append] at h1
    refine List.Perm.trans ?_ h1.symm
    refine List.Perm.append_left _ ?_
    rw [List.map_congr_left hrest, List.map_id']
  have hkeys : ((ents (setVal hash s k v)).map (·.key)).Perm ((ents s).map (·.key)) := by
    simpa [List.map_map, Function.comp_def] using hperm.map (·.key)
  refine ⟨h.of_set hi htab rfl rfl ?_ ((hkeys.nodup_iff).mpr h.nodup)
    (by rw [hperm.length_eq]; simp [setVal, setBucket, h.count]) ?_ h.nid ?_ h.led, hperm⟩
  · intro x hx
    obtain ⟨y, hy, rfl⟩ := List.mem_map.mp hx
    simpa using h.place _ _ (getElem?_getD hi) y hy
  · intro x hx
    obtain ⟨y, hy, rfl⟩ := List.mem_map.mp (hperm.mem_iff.mp hx)
    simpa using h.ids y hy
  · intro hf hd
    have := h.de (by rw [defaultEntryPtr, hf]; exact hd)
    rw [this] at hperm
    exact List.Perm.eq_nil (by simpa using hperm)

theorem unlink_none {k : κ} : ∀ {c : List (Entry κ ν)} {p : Nat}, unlink k c p = none ↔ ∀ e ∈ c, e.key ≠ k
  | [], p => by simp [unlink]
  | e :: rest, p => by
    simp only [unlink]
    split
    · rename_i hk; simp [hk]
    · rename_i hk
      simp only [Option.map_eq_none_iff, List.mem_cons, forall_eq_or_imp]
      rw [unlink_none]
      exact ⟨fun h => ⟨hk, h⟩, fun h => h.2⟩

theorem unlink_some {k : κ} : ∀ {c : List (Entry κ ν)} {p q : Nat} {x : Entry κ ν} {r : List (Entry κ ν)},
    unlink k c p = some (q, x, r) → x.key = k ∧ c.Perm (x :: r) ∧ (∀ y ∈ r, y ∈ c)
  | [], p, q, x, r, h => by simp [unlink] at h
  | e :: rest, p, q, x, r, h => by
    simp only [unlink] at h
    split at h
    · rename_i hk
      simp only [Option.some.injEq, Prod.mk.injEq] at h
      obtain ⟨_, rfl, rfl⟩ := h
      exact ⟨hk, List.Perm.refl _, fun y hy => List.mem_cons_of_mem _ hy⟩
    · simp only [Option.map_eq_some_iff] at h
      obtain ⟨⟨q', x', r'⟩, h1, h2⟩ := h
      simp only [Prod.mk.injEq] at h2
      obtain ⟨rfl, rfl, rfl⟩ := h2
      obtain ⟨a, b, c⟩ := unlink_some h1
      refine ⟨a, ?_, ?_⟩
      · exact (List.Perm.cons e b).trans (List.Perm.swap _ _ _)
      · intro y hy
        rcases List.mem_cons.mp hy with rfl | hy'
        · exact List.mem_cons_self ..
        · exact List.mem_cons_of_mem _ (c y hy')

theorem remove_absent (s : State κ ν) (k : κ) (hk : ∀ e ∈ ents s, e.key ≠ k) :
    remove hash s k = (s, false) := by
  have : unlink k (bucket s (hash k % s.tableLength)) 0 = none :=
    unlink_none.mpr fun e he => hk e (bucket_sub_ents he)
  simp [remove, this]

/-- `remove` when its loop finds `x` behind `q`; the word `defaultEntry` is re-pointed only if it pointed at `x`, and
    then at an entry if the table had a non-null one -/
theorem remove_of_unlink {s : State κ ν} {k : κ} {i q : Nat} {x : Entry κ ν} {r : List (Entry κ ν)}
    (hi : i = hash k % s.tableLength) (hu : unlink k (bucket s i) 0 = some (q, x, r)) :
    ∃ d, remove hash s k =
        ({ s with table := s.table.set i r, defaultEntry := d, count := s.count - 1, dtor := s.dtor + 1 }, true) ∧
      (s.defaultEntry ≠ 0 → headId (bucket s i) ≠ 0 → d ≠ 0) := by
  subst hi
  simp only [remove, hu, setBucket]
  split
  · refine ⟨_, rfl, fun _ hh => ?_⟩
    split
    · rename_i hq; simp [hq]
    · simp [hh]
  · exact ⟨_, rfl, fun h0 _ => h0⟩

theorem remove_present {s : State κ ν} (h : Inv hash s) (k : κ) (x : Entry κ ν) (hx : x ∈ ents s) (hxk : x.key = k) :
    (remove hash s k).2 = true ∧ Inv hash (remove hash s k).1 ∧
      (x :: ents (remove hash s k).1).Perm (ents s) := by
  have hi := h.idx_lt k
  obtain ⟨i, hidef⟩ : ∃ i, i = hash k % s.tableLength := ⟨_, rfl⟩
  have hxb : x ∈ bucket s i := by rw [hidef, ← hxk]; exact h.mem_bucket hx
  cases hu : unlink k (bucket s i) 0 with
  | none => exact absurd hxk (unlink_none.mp hu x hxb)
  | some t =>
    obtain ⟨q, x', r⟩ := t
    obtain ⟨u1, u2, u3⟩ := unlink_some hu
    obtain rfl : x' = x :=
      nodup_map_inj h.nodup (bucket_sub_ents (u2.mem_iff.mpr (List.mem_cons_self ..))) hx (by rw [u1, hxk])
    rw [← hidef] at hi
    obtain ⟨d, hrem, hd⟩ := remove_of_unlink hidef hu
    rw [hrem]
    have hperm : (x' :: (s.table.set i r).flatten).Perm (ents s) := by
      refine ((List.Perm.cons _ (flatten_set_perm s.table i r hi)).trans ?_).trans (flatten_perm_getD s.table i hi).symm
      rw [← List.cons_append]
      exact List.Perm.append_right _ (by simpa [bucket] using u2.symm)
    have hcnt : (ents s).length = (s.table.set i r).flatten.length + 1 := by rw [← hperm.length_eq]; simp
    have hnd : ((x' :: (s.table.set i r).flatten).map (·.key)).Nodup := ((hperm.map _).nodup_iff).mpr h.nodup
    refine ⟨rfl, h.of_set hi rfl rfl rfl (fun y hy => h.place _ _ (bucket_eq hi) y (u3 y hy))
      (List.nodup_cons.mp hnd).2 (by show s.count - 1 = _; rw [h.count, hcnt]; rfl)
      (fun y hy => h.ids y (hperm.mem_iff.mp (List.mem_cons_of_mem _ hy))) h.nid ?_
      (by show s.ctor = s.dtor + 1 + (s.count - 1); have := h.led; have := h.count; omega), hperm⟩
    -- the word `defaultEntry` of a heap table is not null afterwards
    intro hf hd0
    have hne : ents s ≠ [] := fun e => by rw [e] at hx; cases hx
    refine absurd hd0 (hd (fun e => hne (h.de (by simp [defaultEntryPtr, hf, e]))) fun e => ?_)
    rw [headId_pos (fun y hy => h.ids y (bucket_sub_ents hy)) e] at hxb
    cases hxb

end Morfuse.HashSet
