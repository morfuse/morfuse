import MorfuseModel.Bytecode.Model
import MorfuseModel.Common.Lists

/-! Soundness of the checker `Bytecode.check` (and with it of `Bytecode.verify`): the annotation is an
inductive invariant of the abstract VM, and every annotated state is safe. -/
namespace Morfuse.Bytecode
open Gen

theorem Opcode.mem_all (o : Opcode) : o ∈ Opcode.all := by
  cases o <;> decide +kernel

theorem forall_opcode_of_all {P : Opcode → Bool} (h : Opcode.all.all P = true) (o : Opcode) : P o = true :=
  (List.all_eq_true.mp h) o (Opcode.mem_all o)

/-- the annotation is an invariant candidate: the state is annotated exactly as it is -/
def Inv (p : Program) (H : Ann) (s : St) : Prop := s.pc < p.size ∧ H.at s.pc = some (s.h, s.mark)

theorem holds_iff (H : Ann) (s : St) : H.holds s = true ↔ H.at s.pc = some (s.h, s.mark) := by
  unfold Ann.holds
  constructor
  · intro h; exact eq_of_beq h
  · intro h; rw [h]; exact beq_self_eq_true _

theorem check_facts (p : Program) (H : Ann) (h : check p H = true) :
    (∀ e ∈ p.entries, e < p.size ∧ H.holds (St.start e) = true) ∧
    (∀ pc, pc < p.size → checkAt p H pc = true) := by
  unfold check at h
  simp only [Bool.and_eq_true, List.all_eq_true, decide_eq_true_eq] at h
  refine ⟨?_, ?_⟩
  · intro e he
    exact h.1.1.1.2 e he
  · intro pc hpc
    exact h.1.1.2 pc (List.mem_range.mpr hpc)

theorem checkAt_facts (p : Program) (H : Ann) (s : St)
    (hat : H.at s.pc = some (s.h, s.mark)) (hc : checkAt p H s.pc = true) :
    interiorFree p H s.pc = true ∧ s.h + 1 ≤ p.declared ∧ refsOk p s.pc = true ∧
    (∀ k, endHeight p s = some k → k = 0) ∧
    (∃ l, step p s = some l ∧ ∀ s' ∈ l, s'.pc < p.size ∧ H.holds s' = true) := by
  unfold checkAt at hc
  rw [hat] at hc
  simp only [Bool.and_eq_true, decide_eq_true_eq] at hc
  obtain ⟨⟨⟨⟨hB, hd⟩, hr⟩, he⟩, hs⟩ := hc
  have hs' : s = ⟨s.pc, s.h, s.mark⟩ := rfl
  refine ⟨hB, hd, hr, ?_, ?_⟩
  · intro k hk
    rw [← hs'] at he
    rw [hk] at he
    simpa using he
  · rw [← hs'] at hs
    split at hs
    · exact absurd hs (by simp)
    · rename_i l hl
      refine ⟨l, hl, ?_⟩
      intro s' hs'
      have := (List.all_eq_true.mp hs) s' hs'
      simpa [Bool.and_eq_true, decide_eq_true_eq] using this

/-- what the checker established at an annotated state, in one piece; the successors are annotated again -/
theorem inv_facts (p : Program) (H : Ann) (h : check p H = true) (s : St) (hi : Inv p H s) :
    interiorFree p H s.pc = true ∧ s.h + 1 ≤ p.declared ∧ refsOk p s.pc = true ∧
    (∀ k, endHeight p s = some k → k = 0) ∧ ∃ l, step p s = some l ∧ ∀ s' ∈ l, Inv p H s' := by
  obtain ⟨hB, hd, hr, he, l, hl, hall⟩ := checkAt_facts p H s hi.2 ((check_facts p H h).2 s.pc hi.1)
  exact ⟨hB, hd, hr, he, l, hl, fun s' hs' => ⟨(hall s' hs').1, (holds_iff H _).mp (hall s' hs').2⟩⟩

theorem inv_start (p : Program) (H : Ann) (h : check p H = true) (e : Nat) (he : e ∈ p.entries) :
    Inv p H (St.start e) :=
  ⟨((check_facts p H h).1 e he).1, (holds_iff H _).mp ((check_facts p H h).1 e he).2⟩

theorem inv_step (p : Program) (H : Ann) (h : check p H = true) (s : St) (hi : Inv p H s)
    (l : List St) (hl : step p s = some l) (s' : St) (hs' : s' ∈ l) : Inv p H s' := by
  obtain ⟨_, _, _, _, l', hl', hall⟩ := inv_facts p H h s hi
  cases hl.symm.trans hl'
  exact hall s' hs'

theorem AbsVM.run_cons (p : Program) (s : St) (c : Nat) (cs : List Nat) :
    AbsVM.run p s (c :: cs) = ((step p s).bind (·[c]?)).bind (AbsVM.run p · cs) := by
  rw [AbsVM.run]
  cases step p s with
  | none => rfl
  | some l => cases h : l[c]? <;> simp [h]

theorem inv_run (p : Program) (H : Ann) (h : check p H = true) (cs : List Nat) :
    ∀ s, Inv p H s → ∀ s', AbsVM.run p s cs = some s' → Inv p H s' :=
  fun _ hi _ hr => run_invariant (fun _ => rfl) (AbsVM.run_cons p)
    (fun hi hs => by
      obtain ⟨l, hl, hc⟩ := Option.bind_eq_some_iff.1 hs
      exact inv_step p H h _ hi l hl _ (List.mem_of_getElem? hc)) cs hi hr

theorem inv_reach (p : Program) (H : Ann) (h : check p H = true) (e : Nat) (he : e ∈ p.entries)
    (cs : List Nat) (s : St) (hr : AbsVM.run p (AbsVM.start e) cs = some s) : Inv p H s :=
  inv_run p H h cs _ (inv_start p H h e he) s hr

theorem decode_inside (p : Program) (pc : Nat) (i : Instr) (h : decode p pc = some i) : pc + i.len ≤ p.size := by
  unfold decode at h
  split at h
  · split at h
    · exact absurd h (by simp)
    · dsimp only at h
      split at h
      · exact absurd h (by simp)
      · split at h
        · cases h; assumption
        · exact absurd h (by simp)
  · exact absurd h (by simp)

theorem safe_of_inv (p : Program) (H : Ann) (h : check p H = true) (s : St) (hi : Inv p H s) : Safe p s := by
  obtain ⟨_, hd, hr, he, l, hl, _⟩ := inv_facts p H h s hi
  exact {
    inside := hi.1
    executable := by rw [hl]; rfl
    decodes_inside := fun i hdec => decode_inside p s.pc i hdec
    height := hd
    endsEmpty := he
    refs := hr }

/-- two annotated states never overlap: the second does not start strictly inside the first's instruction -/
theorem no_overlap_of_inv (p : Program) (H : Ann) (h : check p H = true) (s₁ s₂ : St)
    (h₁ : Inv p H s₁) (h₂ : Inv p H s₂) : ¬ insideInstr p s₁.pc s₂.pc := by
  intro ⟨i, hdec, hlo, hhi⟩
  obtain ⟨hfree, _⟩ := inv_facts p H h s₁ h₁
  unfold interiorFree at hfree
  rw [hdec] at hfree
  have hk : s₂.pc - (s₁.pc + 1) ∈ List.range (i.len - 1) := by
    apply List.mem_range.mpr
    omega
  have := (List.all_eq_true.mp hfree) _ hk
  have hpc : s₁.pc + 1 + (s₂.pc - (s₁.pc + 1)) = s₂.pc := by omega
  rw [hpc, h₂.2] at this
  simp at this

theorem check_sound (p : Program) (H : Ann) (h : check p H = true) (e : Nat) (he : e ∈ p.entries)
    (cs : List Nat) (s : St) (hr : AbsVM.run p (AbsVM.start e) cs = some s) : Safe p s :=
  safe_of_inv p H h s (inv_reach p H h e he cs s hr)

end Morfuse.Bytecode
