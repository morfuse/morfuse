import MorfuseModel.Bytecode.VmModel
import MorfuseModel.Gen.VmCases

/-!
# Hand model of the error paths of `ScriptVM::Process`

A script error (`ScriptException`) thrown inside a `case` block leaves `Process`; `ScriptVM::Execute`
reports it (`HandleScriptException`) and calls `Process` again: the thread goes on *at whatever position
`m_CodePos` had and with whatever height `pTop` had when the exception left the block*.  The verifier
assumes that this is the state the fall-through path produces (`Bytecode.step`).  `vmErrPaths o` lists, for
every way an exception can leave the block of opcode `o` (and the `catch (...)` repairs of
`OP_LOAD_FIELD_VAR`, `OP_STORE_FIELD`, `OP_STORE_FIELD_REF`, `OP_STORE_ARRAY`, `ExecFunction`,
`executeCommandInternal<true>`), the net height change and the operand bytes consumed at that moment.

Transcribed from the source after the repairs a52b745 (loadTop), e5a4ad9 (OP_STORE_OWNER), 8a45e3b
(OP_LOAD_STORE_SELF_VAR), 4d71043 + 8694c74 (OP_STORE_FIELD_REF), 94b2e98 (OP_STORE_FIELD); `Gen.caseVariant` /
`Gen.helperVariant_*` (regenerated fingerprints) say whether each block still has the transcribed text.
-/
namespace Morfuse.Bytecode
open Gen

structure ErrPath where
  /-- pushes − pops of the fixed part at the moment the exception leaves the block -/
  net : Int
  /-- the count-dependent parameters (`Pop(param)`) have been popped as well -/
  count : Bool
  /-- operand bytes stepped over (`none`: every operand of the instruction, whatever their number) -/
  consumed : Option Nat
  deriving DecidableEq, Repr

private def fieldBytes : Nat := sizeof_name + sizeof_evName

/-- `loadTop<false>`: operands read, then `executeSetter` may throw ("Cannot set a read-only variable", or
the setter's handler raises); the `catch (...)` pops the value like the normal path does, then rethrows -/
def loadTopErr : ErrPath := ⟨-1, false, some fieldBytes⟩

/-- `storeTop<false>`: operands read, `Push`, then `executeGetter` may throw -/
def storeTopErr : ErrPath := ⟨1, false, some fieldBytes⟩
/-- `loadStoreTop`: operands read, then `executeSetter` may throw; the value stays -/
def loadStoreTopErr : ErrPath := ⟨0, false, some fieldBytes⟩

def vmErrPaths : Opcode → List ErrPath
  -- Pop a; GetTop b; `b op= a` throws on a type / zero error
  | .OP_BIN_BITWISE_AND | .OP_BIN_BITWISE_OR | .OP_BIN_BITWISE_EXCL_OR | .OP_BIN_EQUALITY | .OP_BIN_INEQUALITY
  | .OP_BIN_LESS_THAN | .OP_BIN_GREATER_THAN | .OP_BIN_LESS_THAN_OR_EQUAL | .OP_BIN_GREATER_THAN_OR_EQUAL
  | .OP_BIN_PLUS | .OP_BIN_MINUS | .OP_BIN_MULTIPLY | .OP_BIN_DIVIDE | .OP_BIN_PERCENTAGE
  | .OP_BIN_SHIFT_LEFT | .OP_BIN_SHIFT_RIGHT => [⟨-1, false, some 0⟩]
  | .OP_CALC_VECTOR => [⟨-2, false, some 0⟩]
  -- ExecCmdCommon: event read, Pop(n), then the command throws
  | .OP_EXEC_CMD0 | .OP_EXEC_CMD1 | .OP_EXEC_CMD2 | .OP_EXEC_CMD3 | .OP_EXEC_CMD4 | .OP_EXEC_CMD5
  | .OP_EXEC_CMD_COUNT1 => [⟨0, true, none⟩]
  -- ExecCmdMethodCommon: Pop, event read, Pop(n), then NIL / NULL receiver or the command throws
  | .OP_EXEC_CMD_METHOD0 | .OP_EXEC_CMD_METHOD1 | .OP_EXEC_CMD_METHOD2 | .OP_EXEC_CMD_METHOD3 | .OP_EXEC_CMD_METHOD4
  | .OP_EXEC_CMD_METHOD5 | .OP_EXEC_CMD_METHOD_COUNT1 => [⟨-1, true, none⟩]
  -- ExecMethodCommon: Pop, event read, Pop(n), Push; NULL receiver (top cleared) or executeCommandInternal<true>'s catch (top cleared)
  | .OP_EXEC_METHOD0 | .OP_EXEC_METHOD1 | .OP_EXEC_METHOD2 | .OP_EXEC_METHOD3 | .OP_EXEC_METHOD4
  | .OP_EXEC_METHOD5 | .OP_EXEC_METHOD_COUNT1 => [⟨0, true, none⟩]
  -- ExecFunction: every operand read first; cast / NULL listener: catch does Pop(params) (the listener's slot
  -- stays and plays the result); later (`ProcessEventReturn`): Pop, Pop(params), Push
  | .OP_FUNC => [⟨0, true, none⟩, ⟨0, true, none⟩]
  | .OP_LOAD_ARRAY_VAR => [⟨-3, false, some 0⟩]
  -- Pop a; try { group of listeners (const array, size > 1): skipField, loadStoreTop per member, Pop |
  --              cast / NULL: peeks | loadTop } catch { if nothing of that was reached: Pop, skipField }
  | .OP_LOAD_FIELD_VAR =>
    [ ⟨-2, false, some fieldBytes⟩,                       -- cast error or NULL listener: Pop (a), Pop, skipField
      ⟨-1 + loadTopErr.net, false, some fieldBytes⟩,      -- loadTop reached and throws: Pop (a) + loadTop's own repair
      ⟨-2, false, some fieldBytes⟩,                       -- group (6c30d63): a member's setter raises: Pop (a), inner catch pops the value
      -- group: an element of the array is no listener (`listenerAt` throws, e.g. NIL::"b"::1): text variant 1
      -- throws outside the inner try and keeps the value; variant 2 (notes/C02-suggested-fix-6.diff) pops it
      ⟨if caseVariant .OP_LOAD_FIELD_VAR = 2 then -2 else -1, false, some fieldBytes⟩ ]
  | .OP_LOAD_GAME_VAR | .OP_LOAD_LEVEL_VAR | .OP_LOAD_LOCAL_VAR | .OP_LOAD_PARM_VAR | .OP_LOAD_GROUP_VAR => [loadTopErr]
  -- self NULL: Pop, skipField, throw
  | .OP_LOAD_SELF_VAR => [⟨-1, false, some fieldBytes⟩, loadTopErr]
  | .OP_LOAD_OWNER_VAR => [⟨-1, false, some fieldBytes⟩, ⟨-1, false, some fieldBytes⟩, loadTopErr]
  | .OP_LOAD_STORE_GAME_VAR | .OP_LOAD_STORE_LEVEL_VAR | .OP_LOAD_STORE_LOCAL_VAR | .OP_LOAD_STORE_PARM_VAR
  | .OP_LOAD_STORE_GROUP_VAR => [loadStoreTopErr]
  -- self NULL: skipField, throw
  | .OP_LOAD_STORE_SELF_VAR => [⟨0, false, some fieldBytes⟩, loadStoreTopErr]
  | .OP_LOAD_STORE_OWNER_VAR => [⟨0, false, some fieldBytes⟩, ⟨0, false, some fieldBytes⟩, loadStoreTopErr]
  -- try { Pop; evalArrayAt } catch { top.Clear() }
  | .OP_STORE_ARRAY => [⟨-1, false, some 0⟩]
  | .OP_STORE_ARRAY_REF => [⟨-1, false, some 0⟩]
  -- try { cast; NULL: peek + skipField; storeTop<true> } catch { skipField unless the operands were read; top := ref to itself }
  | .OP_STORE_FIELD_REF =>
    [ ⟨0, false, some fieldBytes⟩,      -- the cast throws (NIL, integer …): the catch steps over the operands
      ⟨0, false, some fieldBytes⟩,      -- NULL listener: peek + skipField
      ⟨0, false, some fieldBytes⟩,      -- storeTop<true> throws after reading them
      ⟨0, false, some fieldBytes⟩ ]     -- the field is provided by a getter (8694c74): "Cannot assign to an element of a read-only field"
  -- try { cast; NULL: peek; storeTop<true> } catch { skipField unless storeTop read them; top.Clear() }
  | .OP_STORE_FIELD =>
    [ ⟨0, false, some fieldBytes⟩, ⟨0, false, some fieldBytes⟩, ⟨0, false, some fieldBytes⟩ ]
  | .OP_STORE_GAME_VAR | .OP_STORE_LEVEL_VAR | .OP_STORE_LOCAL_VAR | .OP_STORE_PARM_VAR | .OP_STORE_GROUP_VAR => [storeTopErr]
  -- self NULL: Push, skipField, throw
  | .OP_STORE_SELF_VAR => [⟨1, false, some fieldBytes⟩, storeTopErr]
  | .OP_STORE_OWNER_VAR => [⟨1, false, some fieldBytes⟩, ⟨1, false, some fieldBytes⟩, storeTopErr]
  -- Push; self NULL: throw
  | .OP_STORE_OWNER => [⟨1, false, some 0⟩]
  | .OP_UN_MINUS | .OP_UN_COMPLEMENT | .OP_UN_TARGETNAME | .OP_UN_CAST_BOOLEAN | .OP_UN_INC | .OP_UN_DEC
  | .OP_UN_SIZE => [⟨0, false, some 0⟩]
  | _ => []

/-- the fixed part of the fall-through effect and whether a count-dependent part is popped -/
def fixedNet (o : Opcode) : Int := ((vmOp o).pushes : Int) - ((vmOp o).pops : Int)

def popsCount (o : Opcode) : Bool :=
  match (vmOp o).flow with
  | .exec _ _ _ | .func => true
  | _ => false

/-- the error path leaves the VM where the fall-through path would -/
def errPathOk (o : Opcode) (e : ErrPath) : Bool :=
  e.net == fixedNet o && e.count == popsCount o &&
    (match e.consumed with | none => true | some n => n == (vmOp o).operandBytes)

def errOk (o : Opcode) : Bool := (vmErrPaths o).all (errPathOk o)

/-- every error path of the decode loop, as the source reads now, restores what the verifier assumes -/
def errorPathsRepaired : Bool := Opcode.all.all errOk

/-- opcodes with an error path that, in one of the known texts of the source, does *not* restore what the
verifier assumes (notes/C02-suggested-fix-6.diff: the group branch of `OP_LOAD_FIELD_VAR`) -/
def errorPathSuspects : List Opcode := [.OP_LOAD_FIELD_VAR]

/-- every `case` block and helper has a text this model knows -/
def transcriptionCurrent : Bool :=
  Opcode.all.all (fun o => caseVariant o != 0) && caseVariant_default != 0 && helperVariants.all (fun kv => kv.2 != 0)

end Morfuse.Bytecode
