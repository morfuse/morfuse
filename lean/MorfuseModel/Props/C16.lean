import MorfuseModel.Dispatch.Lemmas
/-!
# C16 — commands reach the most-derived handler for the receiver's class

The property theorems (helpers are in `Dispatch/Lemmas.lean`, the specification `Nearest` /
`ownDecl` / `key` in `Dispatch/Spec.lean`).  Every statement is about every state reachable from
the empty registry by ANY finite sequence of legal operations (`newEvent`, `newClass`,
`initEvents`, `setFilter`): no bound on the number of events, classes, declarations, rebuilds, the
depth of the hierarchy or the order in which parents and children are registered.
`s.built = true` says the tables were built (`EventSystem::InitEvents`) after the last
registration — the only situation in which the C++ may dispatch at all.
-/
namespace Morfuse.Dispatch

/-- what each entry point answers when no handler may run -/
def unsupported : Entry → Outcome
  | .script => .failed      -- `ListenerErrors::EventListenerFailed`
  | .ret => .silent         -- `ProcessEventReturn` returns a nil value
  | .proc => .retFalse      -- `ProcessEvent` returns false

/-- what each entry point answers for a name / kind nothing declares -/
def unknownCmd : Entry → Outcome
  | .script => .notFound    -- `ListenerErrors::EventNotFound`
  | .ret => .silent
  | .proc => .retFalse

/-- what each entry point answers for a command whose namespace is filtered out -/
def filteredOut : Entry → Outcome
  | .script => .notFound
  | .ret => .notFound
  | .proc => .retFalse

/-- The three entry points make the same decisions and differ only in what they answer when nothing runs. -/
theorem invoke_eq (s : State) (en : Entry) (c : Nat) (name : Name) (k : Kind) :
    invoke s en c name k =
      if findNum s name k = 0 then unknownCmd en else
      match getEventDef s (findNum s name k) with
      | none => .crash
      | some d =>
        if nsAllowed s d.ns = true then
          match getResponse s c (findNum s name k) with
          | none => unsupported en
          | some r => .ran r.1 r.2
        else filteredOut en := by
  unfold invoke
  generalize findNum s name k = num
  by_cases h0 : num = 0
  · cases en <;> simp [processScriptEvent, processEventReturn, processEvent, h0, unknownCmd]
  · cases hg : getEventDef s num with
    | none => cases en <;> simp [processScriptEvent, processEventReturn, processEvent, h0, hg]
    | some d =>
      cases hal : nsAllowed s d.ns <;> cases hr : getResponse s c num <;> cases en <;>
        simp [processScriptEvent, processEventReturn, processEvent, h0, hg, hal, hr, unsupported, filteredOut]

/-- **Nearest declaration.**  After a build, for every registered class `c` and every event number
    `n`, `ClassDef::GetResponse` answers exactly the declaration of the nearest class in `c`'s
    inheritance chain that declares one for `n` (the last such entry of that class's
    `Responses[]`; a null handler switches the command off; no declaring ancestor: no handler). -/
theorem C16_lookup_is_nearest_declaration {s : State} {c : Nat} {cd : ClsObj} (h : Reachable s)
    (hb : s.built = true) (hc : clsAt s.reg c = some cd) (n : Nat) :
    Nearest s.reg n c (getResponse s c n) ∧ ∀ r, Nearest s.reg n c r → r = getResponse s c n := by
  have := (built_of h hb).nearest hc n
  exact ⟨this, fun r hr => hr.unique this⟩

/-- **One slot per (name, kind).**  Two event objects carry the same number — the index of the
    handler slot in every class's table — exactly when they have the same case-folded name and
    the same kind: distinct (name, kind) pairs never share a slot, spellings of one command
    always do. -/
theorem C16_slots_injective {s : State} (h : Reachable s) {e1 e2 : EvObj} (h1 : e1 ∈ s.reg.evs)
    (h2 : e2 ∈ s.reg.evs) : e1.num = e2.num ↔ (fold e1.name = fold e2.name ∧ e1.kind = e2.kind) := by
  rw [(reachable_inv h).ev.num_eq_iff h1 h2]
  simp [key, Prod.ext_iff]

/-- Every slot a class declaration writes to lies inside the table `BuildResponseList` allocated
    (`1 ≤ number ≤ numEvents`): no write outside the array. -/
theorem C16_slots_in_range {s : State} (h : Reachable s) (hb : s.built = true) {cd : ClsObj}
    (hc : cd ∈ s.reg.clss) {d : Decl} (hd : d ∈ cd.decls) :
    1 ≤ evNum s.reg d.ev ∧ evNum s.reg d.ev ≤ s.es.numEvents := by
  have B := built_of h hb
  have hde := B.inv.decl cd hc d hd
  rw [B.numEvents]
  exact evNum_range B.inv.ev hde.1 hde.2

/-- **Case-insensitive names.**  Two spellings of a name resolve to the same number and the same
    outcome, for every class, kind and entry point (no hypothesis on the state). -/
theorem C16_case_insensitive (s : State) {a b : Name} (hab : fold a = fold b) (en : Entry) (c : Nat) (k : Kind) :
    findNum s a k = findNum s b k ∧ invoke s en c a k = invoke s en c b k := by
  have : findNum s a k = findNum s b k := by
    simp only [findNum, constName, findKeyIndex_congr hab]
  exact ⟨this, by cases en <;> simp only [invoke, this]⟩

/-- … and a declared command is found under any spelling: the name-based look-up
    (`Find<Kind>EventNum(const rawchar_t*)`) answers the number of the event declared with that
    kind, whatever the case of either spelling. -/
theorem C16_declared_name_resolves {s : State} (h : Reachable s) (hb : s.built = true) {e : EvObj}
    (he : e ∈ s.reg.evs) (hk : e.kind ≠ .none) {name : Name} (hn : fold name = fold e.name) :
    findNum s name e.kind = e.num ∧ 1 ≤ e.num :=
  ⟨(built_of h hb).findNum_declared he hk hn, ((reachable_inv h).ev.range he).1⟩

/-- Invoking a declared command in any spelling: the number is found and `GetEventDef` answers its registered
    definition `d`, so only the namespace filter and the slot of class `c` decide. -/
theorem Built.invoke_declared {s : State} (B : Built s) {e d : EvObj} (he : e ∈ s.reg.evs) (hk : e.kind ≠ .none)
    {name : Name} (hn : fold name = fold e.name) (hd : d ∈ s.reg.evs) (hdl : d.linked = true) (hdn : d.num = e.num)
    (en : Entry) (c : Nat) :
    invoke s en c name e.kind =
      if nsAllowed s d.ns = true then
        match getResponse s c e.num with
        | none => unsupported en
        | some r => .ran r.1 r.2
      else filteredOut en := by
  have hg : getEventDef s e.num = some d := hdn ▸ B.getEventDef_linked hd hdl
  rw [invoke_eq, B.findNum_declared he hk hn, if_neg (Nat.ne_of_gt (B.inv.ev.range he).1), hg]

/-- **Most-derived handler.**  Invoking a declared command (any spelling) whose namespace is
    allowed on an instance of a registered class `c` runs exactly the handler of the nearest
    declaration in `c`'s chain; when the chain declares none (or switches it off) the call is
    rejected as unsupported.  `d` is the command's registered definition (first registrant). -/
theorem C16_invoke_runs_nearest {s : State} {c : Nat} {cd : ClsObj} (h : Reachable s) (hb : s.built = true)
    (hc : clsAt s.reg c = some cd) {e d : EvObj} (he : e ∈ s.reg.evs) (hk : e.kind ≠ .none)
    {name : Name} (hn : fold name = fold e.name)
    (hd : d ∈ s.reg.evs) (hdl : d.linked = true) (hdn : d.num = e.num) (hal : nsAllowed s d.ns = true)
    {r : Option (Nat × Nat)} (hr : Nearest s.reg e.num c r) (en : Entry) :
    invoke s en c name e.kind = match r with
      | some (dc, di) => .ran dc di
      | none => unsupported en := by
  have B := built_of h hb
  rw [B.invoke_declared he hk hn hd hdl hdn, if_pos hal, (B.nearest hc e.num).unique hr]
  cases r <;> rfl

/-- **Unsupported is rejected.**  A name / kind that no event declares is rejected by every entry
    point, for every class: no handler runs. -/
theorem C16_unsupported_rejected {s : State} (h : Reachable s) (hb : s.built = true) {name : Name} {k : Kind}
    (hno : ∀ e ∈ s.reg.evs, ¬ (fold e.name = fold name ∧ e.kind = k)) (en : Entry) (c : Nat) :
    invoke s en c name k = unknownCmd en := by
  rw [invoke_eq, if_pos]
  refine Decidable.byContradiction fun hne => ?_
  obtain ⟨p, hp, hk, _⟩ := (built_of h hb).findNum_ne_zero hne
  exact hno p.2 (evAt_mem (mem_linkedList.1 hp).1) (Prod.ext_iff.1 hk)

/-- **Filtered namespace.**  A declared command whose registered definition lives in a namespace
    the filter excludes is rejected for EVERY class (registered or not) by every entry point,
    even when the class or an ancestor declares a handler for it. -/
theorem C16_filtered_rejected_for_every_class {s : State} (h : Reachable s) (hb : s.built = true)
    {e d : EvObj} (he : e ∈ s.reg.evs) (hk : e.kind ≠ .none) {name : Name} (hn : fold name = fold e.name)
    (hd : d ∈ s.reg.evs) (hdl : d.linked = true) (hdn : d.num = e.num) (hal : nsAllowed s d.ns = false)
    (en : Entry) (c : Nat) : invoke s en c name e.kind = filteredOut en := by
  rw [(built_of h hb).invoke_declared he hk hn hd hdl hdn, if_neg (hal ▸ Bool.false_ne_true)]

/-- No dispatch of a command resolved by name ever dereferences a null pointer (`GetEventDef`
    answers a definition for every number a name resolves to; every registered class has a table). -/
theorem C16_invoke_never_crashes {s : State} {c : Nat} {cd : ClsObj} (h : Reachable s) (hb : s.built = true)
    (hc : clsAt s.reg c = some cd) (en : Entry) (name : Name) (k : Kind) : invoke s en c name k ≠ .crash := by
  have B := built_of h hb
  have hno : unknownCmd en ≠ .crash ∧ unsupported en ≠ .crash ∧ filteredOut en ≠ .crash := by cases en <;> decide
  rw [invoke_eq]
  split
  · exact hno.1
  next hne =>
    -- a number that a name resolves to belongs to a registered event, whose definition `GetEventDef` finds
    obtain ⟨p, hp, _, hnum⟩ := B.findNum_ne_zero hne
    rw [← hnum, B.getEventDef_entry hp]
    dsimp only
    split
    · split
      · exact hno.2.1
      · exact Outcome.noConfusion
    · exact hno.2.2

/-! ### the index-based look-ups (`FindEventInfo(eventName_t)`, used by the compiler for
`level.` / `local.` / `group.` / `parm.` fields, by spawn arguments and by `commanddelay`)

Full statement of this clause: *for every declared command, in any spelling,
`FindEventInfo(GetEventConstName(name))` succeeds and `Find<Kind>EventNum(index)` answers what
`Find<Kind>EventNum(name)` answers.*  Whether it holds depends on one comparison operator in
`EventSystem::FindEventInfo`, which the check reads from the source on every run
(`Gen.findEventInfoInclusive`).  The source has `s <= eventDefName.size()` (the parameter is `true`), and with
it the clause holds in full: `C16_index_lookup_complete`.  With `<` in its place (the parameter `false`; defect
D17, repaired in the source) the clause would be false: `C16_index_lookup_refuses_last` is then a reachable
counterexample, and only `C16_index_lookup_partial`, which holds under either operator, would remain: every
index except the last one. -/

/-- whichever comparison the source has, every index below the last one of the name table is served by the
    index-based look-ups -/
theorem C16_index_lookup_partial (s : State) {idx : Nat} (h0 : 0 < idx) (h1 : idx < s.es.names.length) (k : Kind) :
    findEventInfoOk s idx = true ∧ findNumByIndex s idx k = infoNum s idx k := by
  have : findEventInfoOk s idx = true := by
    rw [findEventInfoOk, decide_eq_true_eq]
    exact ⟨h0, by split <;> omega⟩
  exact ⟨this, if_pos this⟩

/-- with `s <= eventDefName.size()`, which the source has, the clause holds in full -/
theorem C16_index_lookup_complete (hfix : Gen.findEventInfoInclusive = true) {s : State} (h : Reachable s)
    (hb : s.built = true) {e : EvObj} (he : e ∈ s.reg.evs) {name : Name} (hn : fold name = fold e.name) (k : Kind) :
    findEventInfoOk s (constName s name) = true ∧ findNumByIndex s (constName s name) k = findNum s name k := by
  have hc := (built_of h hb).constName_ne_zero he hn
  have : findEventInfoOk s (constName s name) = true := by
    rw [findEventInfoOk, decide_eq_true_eq, if_pos hfix]
    exact ⟨Nat.pos_of_ne_zero hc.1, hc.2⟩
  exact ⟨this, if_pos this⟩

/-- registry of the counterexample: one command `a`, one class that declares a handler for it -/
def d17Ops : List Op := [.newEvent [97] .normal 0, .newClass 0 0 [⟨1, true⟩], .initEvents]

/-- with `s < eventDefName.size()` the clause would be FALSE (D17; the hypothesis does not hold of the source
    as it is, which compares with `<=`): in this reachable state the only command is declared, resolves by name
    to number 1, class 1 declares its handler — and the index-based look-up answers 0, so `commanddelay 0 a`
    posts nothing. -/
theorem C16_index_lookup_refuses_last (hcur : Gen.findEventInfoInclusive = false) :
    ∃ s, Reachable s ∧ s.built = true ∧ findNum s [97] .normal = 1 ∧
      Nearest s.reg 1 1 (some (1, 0)) ∧
      findEventInfoOk s (constName s [97]) = false ∧ findNumByIndex s (constName s [97]) .normal = 0 ∧
      commandDelay s 1 [97] = (0, none) := by
  let s := (run init d17Ops).get (by decide)
  have hok : findEventInfoOk s (constName s [97]) = false := by
    rw [show constName s [97] = 1 by decide]
    simp [findEventInfoOk, hcur, show s.es.names.length = 1 by decide]
  exact ⟨s, ⟨d17Ops, by simp [s]⟩, by decide, by decide, .own (cd := ⟨0, 0, [⟨1, true⟩]⟩) (by decide) (by decide),
    hok, by simp [findNumByIndex, hok], by simp [commandDelay, hok]⟩

/-- `commanddelay <t> <command>` delivers a declared, allowed statement command to the nearest
    handler of the receiver's class — PROVIDED the index-based look-up serves the command's name
    index (hypothesis `hidx`).  `hidx` would fail for the last index of the name table if the source
    compared with `<` (D17); for the `<=` it has, `C16_commanddelay_fixed` discharges it. -/
theorem C16_commanddelay_partial {s : State} {c : Nat} {cd : ClsObj} (h : Reachable s) (hb : s.built = true)
    (hc : clsAt s.reg c = some cd) {e d : EvObj} (he : e ∈ s.reg.evs) (hk : e.kind = .normal)
    {name : Name} (hn : fold name = fold e.name)
    (hd : d ∈ s.reg.evs) (hdl : d.linked = true) (hdn : d.num = e.num) (hal : nsAllowed s d.ns = true)
    {dc di : Nat} (hr : Nearest s.reg e.num c (some (dc, di)))
    (hidx : findEventInfoOk s (constName s name) = true) :
    commandDelay s c name = (e.num, some (.ran dc di)) := by
  have B := built_of h hb
  have hk' : e.kind ≠ .none := by rw [hk]; exact Kind.noConfusion
  have hi : infoNum s (constName s name) .normal = e.num := hk ▸ B.findNum_declared he hk' hn
  have hresp : getResponse s c e.num = some (dc, di) := (hr.unique (B.nearest hc e.num)).symm
  have hrun : processEvent s c e.num = .ran dc di := by
    have := B.invoke_declared he hk' hn hd hdl hdn .proc c
    rwa [hk, invoke, findNum, hi, if_pos hal, hresp] at this
  simp [commandDelay, hidx, hi, Nat.ne_of_gt (B.inv.ev.range he).1, hresp, hrun]

theorem C16_commanddelay_fixed (hfix : Gen.findEventInfoInclusive = true) {s : State} {c : Nat} {cd : ClsObj}
    (h : Reachable s) (hb : s.built = true)
    (hc : clsAt s.reg c = some cd) {e d : EvObj} (he : e ∈ s.reg.evs) (hk : e.kind = .normal)
    {name : Name} (hn : fold name = fold e.name)
    (hd : d ∈ s.reg.evs) (hdl : d.linked = true) (hdn : d.num = e.num) (hal : nsAllowed s d.ns = true)
    {dc di : Nat} (hr : Nearest s.reg e.num c (some (dc, di))) :
    commandDelay s c name = (e.num, some (.ran dc di)) :=
  C16_commanddelay_partial h hb hc he hk hn hd hdl hdn hal hr (C16_index_lookup_complete hfix h hb he hn .normal).1

/-! ### non-vacuity: a concrete reachable registry that meets the hypotheses

events: 1 `ab` statement; 2 `AB` statement (a duplicate in another spelling: shares number 1);
3 `ab` getter in namespace 2 (number 2); 4 `cd` statement (number 3).
classes: 1 (parent 2, registered BEFORE its parent) declares the getter; 2 (root) declares `ab` and
`cd`; 3 (parent 1) switches `ab` off with a null handler.  Filter: exclude namespace 2. -/

def demoOps : List Op :=
  [.newEvent [97, 98] .normal 0, .newEvent [65, 66] .normal 1, .newEvent [97, 98] .getter 2, .newEvent [99, 100] .normal 0,
   .newClass 2 0 [⟨3, true⟩], .newClass 0 0 [⟨1, true⟩, ⟨4, true⟩], .newClass 1 0 [⟨2, false⟩],
   .initEvents, .setFilter 2 [2]]

def demo : State := (run init demoOps).get (by decide)

theorem demo_reachable : Reachable demo := ⟨demoOps, by simp [demo]⟩

example : demo.built = true ∧ (demo.reg.evs.map (·.num)) = [1, 1, 2, 3] ∧ demo.es.numEvents = 3 := by decide

-- class 1 inherits `ab` from its (later registered) parent 2; class 3 has it switched off
example : getResponse demo 1 1 = some (2, 0) ∧ getResponse demo 3 1 = none ∧ getResponse demo 3 2 = some (1, 0) ∧
    getResponse demo 3 3 = some (2, 1) := by decide

-- most-derived handler, any spelling; unsupported; filtered for every class; unknown
example : invoke demo .script 1 [65, 98] .normal = .ran 2 0 ∧ invoke demo .script 3 [97, 98] .normal = .failed ∧
    invoke demo .script 1 [65, 66] .getter = .notFound ∧ invoke demo .ret 3 [97, 66] .getter = .notFound ∧
    invoke demo .proc 2 [122] .normal = .retFalse ∧ invoke demo .script 3 [67, 68] .normal = .ran 2 1 := by decide

-- the hypotheses of `C16_invoke_runs_nearest` and `C16_filtered_rejected_for_every_class` are met
example : ∃ c cd e d, clsAt demo.reg c = some cd ∧ e ∈ demo.reg.evs ∧ e.kind ≠ .none ∧ d ∈ demo.reg.evs ∧
    d.linked = true ∧ d.num = e.num ∧ nsAllowed demo d.ns = true ∧ Nearest demo.reg e.num c (some (2, 0)) :=
  ⟨1, ⟨2, 0, [⟨3, true⟩]⟩, ⟨[97, 98], .normal, 1, 1, false⟩, ⟨[97, 98], .normal, 1, 0, true⟩,
    by decide, by decide, by decide, by decide, rfl, rfl, by decide,
    (C16_lookup_is_nearest_declaration demo_reachable (by decide) (c := 1) (cd := ⟨2, 0, [⟨3, true⟩]⟩) (by decide) 1).1⟩

example : ∃ e d, e ∈ demo.reg.evs ∧ e.kind ≠ .none ∧ d ∈ demo.reg.evs ∧ d.linked = true ∧ d.num = e.num ∧
    nsAllowed demo d.ns = false :=
  ⟨⟨[97, 98], .getter, 2, 2, true⟩, ⟨[97, 98], .getter, 2, 2, true⟩, by decide, by decide, by decide, rfl, rfl, by decide⟩

/-- **An extension writes into the table of the extended class only.**  Whatever `ClassDefExt` is applied
    to class `c`, the look-up of every OTHER class — its parent, its siblings, its subclasses, whether or
    not their own response lists are empty — is what it was: tables are per class, never shared. -/
theorem C16_ext_other_classes_untouched (s : State) (c x : Nat) (ds : List Decl) {c' : Nat} (hc : c' ≠ c) (n : Nat) :
    getResponse (applyExt s c x ds) c' n = getResponse s c' n := by
  unfold applyExt
  cases h : tget s.tables c with
  | none => rfl
  | some row => simp [getResponse, tget, hc]

/-- … and in the extended class's own table only the slots of the extension's non-null responses change. -/
theorem C16_ext_other_slots_untouched (s : State) (c x : Nat) (ds : List Decl) (n : Nat)
    (hn : ∀ d ∈ ds, d.has = true → evNum s.reg d.ev ≠ n) :
    getResponse (applyExt s c x ds) c n = getResponse s c n := by
  unfold applyExt
  cases h : tget s.tables c with
  | none => rfl
  | some row =>
    simp only [getResponse_eq, tget_cons, if_pos, h]
    exact slotOf_patchExt s.reg x ds 0 row n hn

/-- the same for `InitClassDef` as written (whatever the list holds, only the class of its head is touched) -/
theorem C16_initClassDef_other_classes_untouched (s : State) (x c : Nat) (ds : List Decl)
    (rest : List (Nat × Nat × List Decl)) {c' : Nat} (hc : c' ≠ c) (n : Nat) :
    getResponse (initClassDef s ((x, c, ds) :: rest)).1 c' n = getResponse s c' n := by
  simp only [initClassDef]
  generalize ((x, c, ds) :: rest) = l
  induction l generalizing s with
  | nil => rfl
  | cons a t ih =>
    simp only [List.foldl]
    rw [ih, C16_ext_other_classes_untouched s c x ds hc]

/-- non-vacuity on `demo` (class 2 is the parent of class 1): an extension of class 2 with a handler for
    event object 3 changes class 2's slot and leaves classes 1 and 3 alone -/
example : getResponse (applyExt demo 2 1000001 [⟨3, true⟩]) 2 (evNum demo.reg 3) = some (1000001, 0) ∧
    getResponse (applyExt demo 2 1000001 [⟨3, true⟩]) 1 (evNum demo.reg 3) = getResponse demo 1 (evNum demo.reg 3) ∧
    getResponse (applyExt demo 2 1000001 [⟨3, true⟩]) 3 (evNum demo.reg 3) = getResponse demo 3 (evNum demo.reg 3) := by
  decide

end Morfuse.Dispatch
