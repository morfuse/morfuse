import MorfuseModel.Sched.Snapshot
import MorfuseModel.Sched.MachineHostSL
import MorfuseModel.Sched.MachineHostSLTrace
import MorfuseModel.Sched.MachineInstUnreached
import MorfuseModel.Sched.MachineSlotsHost
import MorfuseModel.Props.C06
import MorfuseModel.Props.C13
/-!
# C09 — save, reset, load resumes scripts exactly where an uninterrupted run would be

The machine-level statement: at a frame boundary (no thread current, no VM activation, no thread
still owing a result to a host `Event`), loading the snapshot of a state into any context that agrees
with that state on what is *not* archived (clock, programs, objects, host records, output) gives back
exactly that state — hence every future of the loaded engine equals the future of the uninterrupted
one, for every later sequence of host operations.

What carries the weight is **which components `save` keeps** (`Sched/Snapshot.lean`); that the engine
really restores exactly those is checked on every run by tools/props/c09.py in two ways: the real
engine with `save; load` inserted at every frame boundary must behave as the same run without it
(programs with timed waits, threads, waitthread and locals of every archivable kind, shared arrays
included), and it must agree with the machine executing `load (save s)`.

Stated limitations (engine behaviour, not model gaps): posted events are not archived (hypothesis
`hev`: the context loaded into holds the same pending timeout events as the saved state — after a
`Reset` that means none, so a thread saved inside `waittill_timeout` loses its timeout); a host
`Event` awaiting a thread's result is not part of the archive, so such a result stays pending.
-/
namespace Morfuse.Sched

/-- the state `s` as the archive can hold it: no thread record linked to a host-call record any more (the host's `Event` is
    not archived — `C09_host_result_link_dropped`), no posted timeout event (posted events are not archived, `Reset()`
    cancels them).  Every other field is that of `s`. -/
def archivable (s : State) : State :=
  { s with threads := s.threads.map (fun e => (e.1, { e.2 with call := none })), events := [] }

theorem dropCalls_eq_self (ths : List (Nat × Th)) (h : ∀ e ∈ ths, e.2.call = none) :
    ths.map (fun e => (e.1, { e.2 with call := none })) = ths :=
  (List.map_congr_left fun ⟨t, th⟩ he => by
    have hc : th.call = none := h _ he
    cases th; cases hc; rfl).trans (List.map_id _)

/-- `archivable s = s` when no thread owes a result to a host `Event` and no timeout event is posted -/
theorem archivable_eq_self (s : State) (hcalls : ∀ e ∈ s.threads, e.2.call = none) (hev : s.events = []) :
    archivable s = s := by
  rw [archivable, dropCalls_eq_self _ hcalls, ← hev]

/-- loading a snapshot of `s` into a context `X` that agrees with `s` on the host part gives `archivable s` with the
    posted events of `X` (no hypothesis on the links or the events of `s`) -/
theorem load_save_of_context (s X : State) (hcur : s.cur = none) (hdepth : s.depth = 0) (hfuel : s.outOfFuel = false)
    (hprog : X.prog = s.prog) (hpp : X.progParams = s.progParams) (hclock : X.clock = s.clock)
    (hscaled : X.scaled = s.scaled) (hlast : X.lastClock = s.lastClock) (hobjs : X.objs = s.objs)
    (hout : X.out = s.out) (hc : X.calls = s.calls) (hnc : X.nextCall = s.nextCall) :
    load X (save s) = { archivable s with events := X.events } := by
  simp only [load, save, archivable, hcur, hdepth, hfuel, hprog, hpp, hclock, hscaled, hlast, hobjs, hout, hc, hnc]

/-- **Round trip.** -/
theorem C09_roundtrip (s cur : State)
    (hcur : s.cur = none) (hdepth : s.depth = 0) (hfuel : s.outOfFuel = false)
    (hcalls : ∀ e ∈ s.threads, e.2.call = none)
    (hprog : cur.prog = s.prog) (hpp : cur.progParams = s.progParams) (hclock : cur.clock = s.clock)
    (hscaled : cur.scaled = s.scaled) (hlast : cur.lastClock = s.lastClock) (hobjs : cur.objs = s.objs)
    (hout : cur.out = s.out) (hc : cur.calls = s.calls) (hnc : cur.nextCall = s.nextCall)
    (hev : cur.events = s.events) :
    load cur (save s) = s := by
  rw [load_save_of_context s cur hcur hdepth hfuel hprog hpp hclock hscaled hlast hobjs hout hc hnc, hev, archivable,
    dropCalls_eq_self _ hcalls]

/-- **Equal futures.**  Whatever the host does afterwards (any function of the state: further frames,
    calls, resets, …), the loaded engine and the uninterrupted one produce the same thing. -/
theorem C09_equal_futures {α : Type} (future : State → α) (s cur : State)
    (hcur : s.cur = none) (hdepth : s.depth = 0) (hfuel : s.outOfFuel = false)
    (hcalls : ∀ e ∈ s.threads, e.2.call = none)
    (hprog : cur.prog = s.prog) (hpp : cur.progParams = s.progParams) (hclock : cur.clock = s.clock)
    (hscaled : cur.scaled = s.scaled) (hlast : cur.lastClock = s.lastClock) (hobjs : cur.objs = s.objs)
    (hout : cur.out = s.out) (hc : cur.calls = s.calls) (hnc : cur.nextCall = s.nextCall)
    (hev : cur.events = s.events) :
    future (load cur (save s)) = future s :=
  congrArg future (C09_roundtrip s cur hcur hdepth hfuel hcalls hprog hpp hclock hscaled hlast hobjs hout hc hnc hev)

/-- a thread that still owes its result to a host `Event` loses that link: the result stays pending
    (the engine does not archive the host's `Event`) -/
theorem C09_host_result_link_dropped (cur : State) (k : Snap) :
    ∀ e ∈ (load cur k).threads, e.2.call = none := by
  intro e he
  obtain ⟨e0, _, rfl⟩ := List.mem_map.1 he
  rfl

/-! ### non-vacuity: a state with two timed threads in one instance at a frame boundary -/
def demoState : State :=
  { prog := [[.mark 1, .wait 250, .mark 2], [.wait 500]], progParams := [0, 0],
    threads := [(100, { label := 0, pc := 2, ts := .timing, vm := .idling, inst := 1 }), (101, { label := 1, pc := 1, ts := .timing, vm := .idling, inst := 1 })],
    insts := [(1, [101, 100])], timer := { mtime := 0, dirty := false, elems := [(100, 250), (101, 500)] },
    nextTid := 102, nextInst := 2 }

example : load demoState (save demoState) = demoState :=
  C09_roundtrip demoState demoState rfl rfl rfl (by decide) rfl rfl rfl rfl rfl rfl rfl rfl rfl rfl

/-! ## Machine level: `save` / `load` among the host operations

`ReachableSL s k` (`Sched/MachineHostSL.lean`): machine state `s` and held snapshot `k` after any list of the
driver's commands — compile, host calls, `advance`, `execute`, `step`, `reset-director`, `reset`, reading the
output, **`save`, `load`** — where a `save` is taken in a state that has not run out of fuel and a `load` happens
when the implied `Reset()` does not run out of fuel and the *objects* that are wait sources in the snapshot still
exist (the host owns its objects; the archive does not contain them).  Programs of class `ProgOK`. -/

/-- **Loading keeps every invariant, machine level.**  After `load` (= `Reset()` + reading the snapshot back)
    the loaded machine state satisfies all host-level invariants again: the machine invariant (timer
    consistency, mirror of the listener tables, no lost wake-up), no current thread and an empty execution
    stack, a sound dirty flag, the instance-list invariant, every thread complete and idle — although it is
    assembled from two histories (threads, instances, timer, tables from the snapshot; program, clock, objects,
    result slots from the present context). -/
theorem C09_machine_load_preserves_invariants {s : State} {k : Snap} (h : ReachableSL s (some k))
    (ho : (killAllInsts s).outOfFuel = false)
    (hobj : ∀ o n x, x ∈ Tbl.getD k.notify (o, n) → o < 100 → s.objAlive o = true) :
    (load (killAllInsts s) k).outOfFuel = false ∧ HInv3 (load (killAllInsts s) k) :=
  ⟨rfl, (reachableSL_hinv3 (ReachableSL.load h ho hobj)).1.get rfl⟩

/-- **Every state the driver can reach, all commands included**, has run out of fuel or satisfies the
    machine-level invariant (`reachable_inv_partial` without the restriction to histories without
    `save`/`load`). -/
theorem C09_machine_reachable_inv {s : State} {k : Option Snap} (h : ReachableSL s k) :
    s.outOfFuel = true ∨ (Inv [] [] none s ∧ J [] s ∧ W [] s ∧ s.cur = none ∧ s.depth = 0) :=
  (reachableSL_hinv3 h).1.map (fun hi => ⟨hi.inv, hi.j, hi.w, hi.h.cur, hi.h.depth⟩)

/-- **What is loaded is what was saved, machine level**: the scheduler part of the loaded state is the
    snapshot's (threads with the host link dropped), the host part is the present context's; and a snapshot
    held by the host was taken in a state with all invariants, at a boundary between host operations. -/
theorem C09_machine_loaded_is_saved {s : State} {k : Snap} (h : ReachableSL s (some k)) :
    (∃ s0, HInv3 s0 ∧ s0.cur = none ∧ s0.depth = 0 ∧ k = save s0) ∧
    (load (killAllInsts s) k).threads = k.threads.map (fun e => (e.1, { e.2 with call := none })) ∧
    (load (killAllInsts s) k).insts = k.insts ∧ (load (killAllInsts s) k).timer = k.timer ∧
    (load (killAllInsts s) k).notify = k.notify ∧ (load (killAllInsts s) k).waitFor = k.waitFor ∧
    (load (killAllInsts s) k).prog = s.prog ∧ (load (killAllInsts s) k).clock = s.clock := by
  obtain ⟨s0, h0, hk⟩ := (reachableSL_hinv3 h).2
  exact ⟨⟨s0, h0, h0.h.cur, h0.h.depth, hk⟩, rfl, rfl, rfl, rfl, rfl, (killAllInsts_pres s).prog,
    (killAllInsts_hr s).ht.clock⟩

/-! ### non-vacuity: save with a timed and a waiting thread, run on, load -/

def demoSL : List HostOp :=
  [.script [[.thread 1, .wait 5, .mark 1], [.waittill 50 [7], .mark 2]] [0, 0], .call 0 [], .takeOut]

theorem demoSL_reachable_at_save : ReachableSL (runOps {} demoSL) none :=
  Reachable.toSL ((reachable_iff _).2 ⟨demoSL, by decide, rfl⟩)

theorem demoSL_reachable : ReachableSL (runOps (runOps {} demoSL) [.step 5, .takeOut]) (some (save (runOps {} demoSL))) :=
  .step .takeOut (.step (.step 5) (.save demoSL_reachable_at_save (by decide +kernel)) trivial) trivial

/-- at clock 5 the timed thread has run (`m1`) and is gone; loading brings it back, timing, with its timer
    element; the side conditions of `load` hold -/
example :
    (runOps (runOps {} demoSL) [.step 5, .takeOut]).timer.elems = [] ∧
    (killAllInsts (runOps (runOps {} demoSL) [.step 5, .takeOut])).outOfFuel = false ∧
    (load (killAllInsts (runOps (runOps {} demoSL) [.step 5, .takeOut])) (save (runOps {} demoSL))).timer.elems = [(100, 5)] ∧
    (load (killAllInsts (runOps (runOps {} demoSL) [.step 5, .takeOut])) (save (runOps {} demoSL))).notify = [((50, 7), [101])] := by
  decide +kernel

example : HInv3 (load (killAllInsts (runOps (runOps {} demoSL) [.step 5, .takeOut])) (save (runOps {} demoSL))) :=
  (C09_machine_load_preserves_invariants demoSL_reachable (by decide +kernel)
    (fun o n x hx _ => by
      -- the only wait source in the snapshot is `level`
      have hn : (save (runOps {} demoSL)).notify = [((50, 7), [101])] := by decide +kernel
      rw [hn, Tbl.getD_cons, Tbl.getD_nil] at hx
      split at hx
      · next h => cases h; rfl
      · cases hx)).2

/-! ## Trace level over all driver commands: a `load` restarts the history from the snapshot's history

`reachableSL_traced` (`Sched/MachineHostSLTrace.lean`): every state reachable with any driver commands, `save` and `load`
included, has the four ghost ledgers (timer operations, notify-table operations, thread-record and instance
creations/destructions), and so has the state the held snapshot was taken in; the loaded state's timer, notify table,
record ids and instance ids are the snapshot's, so its ledgers are the snapshot state's.  The facts about *every*
history then apply (they are theorems about histories, not about how the state was reached). -/

/-- **The ledgers exist after any commands, and loading restores the snapshot's history, trace level.** -/
theorem C09_trace_ledgers_all_commands {s : State} {k : Option Snap} (h : ReachableSL s k) :
    Ledgers s ∧ (∀ k0, k = some k0 → ∃ s0, Ledgers s0 ∧ k0 = save s0 ∧
      ∀ X, (load X k0).timer = s0.timer ∧ (load X k0).notify = s0.notify ∧ absT (load X k0) = absT s0 ∧
        absI (load X k0) = absI s0) := by
  obtain ⟨h1, h2⟩ := reachableSL_traced h
  refine ⟨h1.ledgers, fun k0 hk => ?_⟩
  obtain ⟨s0, hs0, rfl⟩ := h2 k0 hk
  exact ⟨s0, hs0.ledgers, rfl, fun X => ⟨rfl, rfl, absT_load_save X s0, rfl⟩⟩

/-- **The trace-level clauses hold after any commands** (instances of the theorems about every history): in the
    ledgers of a state reached with `save`/`load` among the commands, every timer resumption happened at a frame
    time `≥` its due time and the registered waits are exactly the resumed, cancelled and pending ones; every listener
    a notify finds registered was registered earlier in the ledger; thread and instance ids are never reused and
    destroyed at most once. -/
theorem C09_trace_clauses_all_commands {s : State} {k : Option Snap} (h : ReachableSL s k) :
    (∃ ops : List TOp, (TRun.run {} ops).t = s.timer ∧ (∀ x ∈ (TRun.run {} ops).returned, x.1.2 ≤ x.2) ∧
      (TRun.run {} ops).added.Perm
        ((TRun.run {} ops).returned.map (·.1) ++ (TRun.run {} ops).removed ++ s.timer.elems)) ∧
    (∃ ops : List NOp, nRun [] ops = s.notify ∧
      ∀ (pre post : List NOp) (src name : Nat), ops = pre ++ NOp.notify src name :: post →
        ∀ x ∈ Tbl.getD (nRun [] pre) (src, name), NOp.reg src name x ∈ pre) ∧
    (∃ opsT opsI : List POp, pRun pool0T opsT = some (absT s) ∧ pRun pool0I opsI = some (absI s) ∧
      (created pool0T opsT).Nodup ∧ (created pool0I opsI).Nodup ∧
      (∀ t, opsT.count (POp.del t) ≤ 1) ∧ (∀ i, opsI.count (POp.del i) ≤ 1)) := by
  obtain ⟨⟨o1, h1⟩, ⟨o2, h2⟩, ⟨o3, h3⟩, ⟨o4, h4⟩⟩ := (reachableSL_traced h).1.ledgers
  have e1 : (TRun.run {} o1).t = s.timer := h1
  obtain ⟨n3, n4, c3, c4, _⟩ := IsLifeLedger.at_most_once ⟨h3, h4⟩
  exact ⟨⟨o1, e1, C06_never_early o1, e1 ▸ C06_exactly_once o1⟩,
    ⟨o2, h2, fun _ _ _ _ _ _ hx => reg_of_mem_nRun hx⟩,
    ⟨o3, o4, h3, h4, n3, n4, c3, c4⟩⟩

/-! ### the two clauses that need more than the existence of the ledgers

* `AddsLate`: a `load` puts back the snapshot's `m_time`, the frame clock of the moment of the `save`, which is `≤` — no
  longer `=` — the present frame clock (`reachableSL_clocks`); a loaded wait may therefore be *overdue* (due `<` the
  present frame time; the next drain resumes it), but every registration in the ledger still carries a due time `≥` the
  `m_time` of its moment, so "never early" keeps its full meaning.
* `Reset()` destroys everything exactly once: holds in the ledger of the state, which after a `load` is the snapshot's
  history followed by what happened since.  What the ledger does **not** contain after a `load`: the records created
  after the `save` and destroyed before or by the `load` (their ids are handed out again after the `load`, `nextTid` being
  the snapshot's) — their exactly-once is the same theorem applied to the state just before the `load`
  (`(killAllInsts s)`, i.e. the `Reset()` inside `load`), in *that* state's ledger. -/

/-- **`AddsLate` and the clocks after any commands, trace level.**  Every state reached with `save`/`load` among the
    commands has a timer ledger in which every wait was registered with a due time `≥` the frame time of that moment;
    `scaledTime` is the clock of the last frame and the timer's `m_time` is `≤` it (`=` without `load`). -/
theorem C09_trace_adds_late_all_commands {s : State} {k : Option Snap} (h : ReachableSL s k) :
    (∃ ops, IsLedger s ops ∧ (∀ x ∈ (TRun.run {} ops).returned, x.1.2 ≤ x.2)) ∧
      s.timer.mtime ≤ s.lastClock ∧ s.scaled = s.lastClock ∧ s.lastClock ≤ s.clock := by
  obtain ⟨ops, hh⟩ := (reachableSL_traced h).1.timer
  have hc := reachableSL_clocks h
  exact ⟨⟨ops, hh, C06_never_early ops⟩, hc.mt, hc.sc, hc.lc⟩

/-- **`Reset()` is clean and destroys every record exactly once, after any commands.**  After `director.Reset()` in any
    state reached with `save`/`load` among the commands (unless out of fuel): no thread record, no instance, no queued
    event, empty timer and listener tables, all host-level invariants; and in the life ledgers of that state (after a
    `load`: the snapshot's history followed by what happened since) every thread id and every instance id created has
    exactly one destruction record. -/
theorem C09_trace_reset_exactly_once_all_commands {s : State} {k : Option Snap} (h : ReachableSL s k) :
    (hostReset s).outOfFuel = true ∨
      (((hostReset s).threads = [] ∧ (hostReset s).insts = [] ∧ (hostReset s).events = [] ∧
        (hostReset s).timer.elems = [] ∧ (hostReset s).notify = [] ∧ (hostReset s).waitFor = [] ∧
        HInv3 (hostReset s)) ∧
       ∃ opsT opsI : List POp, pRun pool0T opsT = some (absT (hostReset s)) ∧
        pRun pool0I opsI = some (absI (hostReset s)) ∧
        (∀ t ∈ created pool0T opsT, opsT.count (POp.del t) = 1) ∧
        (∀ i ∈ created pool0I opsI, opsI.count (POp.del i) = 1)) := by
  have hr : ReachableSL (hostReset s) k := ReachableSL.step .resetDirector h trivial
  refine (hostReset_clean (reachableSL_hinv3 h).1).map ?_
  rintro ⟨⟨p0, p1, p2, p3, p4, p5⟩, q⟩
  obtain ⟨opsT, opsI, hl⟩ := (reachableSL_traced hr).1.life
  exact ⟨⟨p0, p1, p2, p3, p4, p5, q⟩, opsT, opsI, hl.1, hl.2, hl.all_freed p0 p1⟩

/-- non-vacuity: in the demo the loaded timer's `m_time` (0, the frame of the `save`) is behind the present frame clock (5),
    the loaded wait is already due; `Reset()` of the loaded state has fuel left and removes the two loaded records -/
example :
    (load (killAllInsts (runOps (runOps {} demoSL) [.step 5, .takeOut])) (save (runOps {} demoSL))).timer.mtime = 0 ∧
    (load (killAllInsts (runOps (runOps {} demoSL) [.step 5, .takeOut])) (save (runOps {} demoSL))).lastClock = 5 ∧
    (load (killAllInsts (runOps (runOps {} demoSL) [.step 5, .takeOut])) (save (runOps {} demoSL))).threads.map (·.1) = [100, 101] ∧
    (hostReset (load (killAllInsts (runOps (runOps {} demoSL) [.step 5, .takeOut])) (save (runOps {} demoSL)))).outOfFuel = false ∧
    (hostReset (load (killAllInsts (runOps (runOps {} demoSL) [.step 5, .takeOut])) (save (runOps {} demoSL)))).threads = [] := by
  decide +kernel

/-! ## Save, **Reset**, load: the context an actual `Reset()` leaves

`C09_roundtrip` above loads into *any* context that agrees with the saved state on what is not archived.  The theorems
below discharge those hypotheses for the contexts the engine really produces:

* the driver's `load` command (`lean/Driver/Sched.lean`: `load (killAllInsts st.s) k`) — `killAllInsts` is the `Reset()`
  *inside* `ScriptMaster::Archive` while reading; the compiled program survives it in the model because the engine reads the
  script back by name through the host's file interface during the load;
* an explicit `director.Reset()` of the host (`hostReset`, the driver's `reset-director`: `killAllInsts` **and** `prog := []`)
  between the `save` and the `load`, with or without a recompilation (`hostScript`, the driver's `script` command) of the
  same program before the `load`.

Correspondence with the engine (`harness/engine.cpp`, command `load`: `GetDirector().Reset()`, then the archive is read and
brings the program back **by name** through the host's file interface): the model folds "Reset forgets the program, the read
reinstalls it" into "`killAllInsts` keeps `prog`".  Consequence, and a **stated model limitation**: for `save; reset-director;
load` *without* recompiling, the engine continues like the uninterrupted run (checked engine vs engine at every boundary by
tools/props/c09.py), while the model's `load` finds no program in the present context and installs none — the second
equation of `C09_save_reset_load_general` says exactly what the model does there (`prog = []`), it is a fact about the
model, not about the engine.  The first and third compositions are compared machine vs engine on every run.

`Reset()` in a state with the invariants keeps `prog`/`progParams` (`killAllInsts` only), the three clock fields, the host's
objects, the output, the host-call records and `nextCall`, and leaves no queued event (`C09_reset_keeps_host_part`). -/

/-- **What `Reset()` keeps.**  `killAllInsts` (the `Reset()` inside `load`; `hostReset` is this plus `prog := []`) in a
    state with the host-level invariants, unless it runs out of fuel: program, clocks, host objects, output, host-call
    records and their counter are untouched; no posted event is left. -/
theorem C09_reset_keeps_host_part {s : State} (hi : HInv3 s) (ho : (killAllInsts s).outOfFuel = false) :
    (killAllInsts s).prog = s.prog ∧ (killAllInsts s).progParams = s.progParams ∧ (killAllInsts s).clock = s.clock ∧
    (killAllInsts s).scaled = s.scaled ∧ (killAllInsts s).lastClock = s.lastClock ∧ (killAllInsts s).objs = s.objs ∧
    (killAllInsts s).out = s.out ∧ (killAllInsts s).calls = s.calls ∧ (killAllInsts s).nextCall = s.nextCall ∧
    (killAllInsts s).events = [] := by
  have hc := (killAllInsts_hr s).ht
  exact ⟨(killAllInsts_pres s).prog, (killAllInsts_pres s).params, hc.clock, hc.scaled, hc.lastClock,
    killAllInsts_objs hi.n, killAllInsts_ou hi.n,
    killAllInsts_ck hi.n, (killAllInsts_sr s).nc, ((killAllInsts_empty hi).get ho).2.2.1⟩

theorem killAllInsts_of_no_insts (X : State) (h : X.insts = []) : killAllInsts X = X := by
  unfold killAllInsts; rw [h]; rfl

/-- **Save, Reset, load — general form, no hypothesis on host links or posted events.**  For every state `s` the driver
    can reach (any commands, earlier `save`/`load` included) that has not run out of fuel and whose `Reset()` does not run
    out of fuel:
    1. the driver's `save; load` (`load` = `Reset()` + read back) yields `archivable s`: `s` with the host-call links of
       its threads dropped and its posted timeout events gone — every other field, clock, program, output, host records
       included, is that of `s`;
    2. `save; reset-director; load` (an explicit `director.Reset()` in between) yields the same state **except `prog` and
       `progParams`, which are `[]`**: `hostReset` forgets the compiled program and the model's `load` does not reinstall it
       (the model takes the program from the present context);
    3. `save; reset-director; script p; load` with the same program `p = s.prog` recompiled before the load yields
       `archivable s` again. -/
theorem C09_save_reset_load_general {s : State} {k : Option Snap} (h : ReachableSL s k)
    (hfuel : s.outOfFuel = false) (ho : (killAllInsts s).outOfFuel = false) :
    load (killAllInsts s) (save s) = archivable s ∧
    load (killAllInsts (hostReset s)) (save s) = { archivable s with prog := [], progParams := [] } ∧
    load (killAllInsts (hostScript (hostReset s) s.prog s.progParams)) (save s) = archivable s := by
  have hi : HInv3 s := (reachableSL_hinv3 h).1.get hfuel
  obtain ⟨e1, e2, e3, e4, e5, e6, e7, e8, e9, e10⟩ := C09_reset_keeps_host_part hi ho
  have hins : (killAllInsts s).insts = [] := ((killAllInsts_empty hi).get ho).2.1
  have a1 : load (killAllInsts s) (save s) = archivable s := by
    rw [load_save_of_context s _ hi.h.cur hi.h.depth hfuel e1 e2 e3 e4 e5 e6 e7 e8 e9, e10]; rfl
  -- a second `Reset()` finds no instance and does nothing; recompiling puts back the program that `Reset()` had kept
  have hR : killAllInsts (hostReset s) = hostReset s := killAllInsts_of_no_insts _ hins
  have hS : killAllInsts (hostScript (hostReset s) s.prog s.progParams) = killAllInsts s :=
    Eq.trans (killAllInsts_of_no_insts _ hins) (by rw [← e1, ← e2]; rfl)
  refine ⟨a1, ?_, ?_⟩
  · rw [hR, ← a1]; rfl
  · rw [hS, a1]

/-- **C09, save – Reset – load round trip.**  For every state `s` the driver can reach with any commands (`Reachable`
    plus earlier `save`/`load`), not out of fuel, whose `Reset()` does not run out of fuel, in which
    * `hcalls`: no thread record is linked to a host-call record — this **excludes** the states in which a thread started
      by the host through an `Event` (driver `call`, not `callv`) has not ended yet (the link is set at the call and stays
      on the record while the thread is suspended): the link is not archived, after the load the record stays `pending`
      for ever (`C09_save_reset_load_general` says what the loaded state is then).  It cannot be dropped: `load` sets
      `call := none` by definition, so with a linked thread `load X (save s) ≠ s` for every context `X`;
    * `hev`: no timeout event is posted — this **excludes** the states in which a thread sits in `waittill … timeout`
      (posted events are not archived; `Reset()` cancels them);
    the driver's `save; load` gives back **exactly `s`** (every field), and so does `save; reset-director; script s.prog;
    load`; `save; reset-director; load` without recompiling gives `s` without its program.  No hypothesis on the context:
    the context is the one `Reset()` produces (`C09_reset_keeps_host_part`, `killAllInsts_empty` = the emptiness facts of
    `C13_machine_reset_clean`); no hypothesis on objects: `Reset()` keeps the host's objects.
    Hence (`congrArg`) every future — any function of the state — of the loaded engine equals that of the uninterrupted one. -/
theorem C09_save_reset_load_roundtrip {s : State} {k : Option Snap} (h : ReachableSL s k)
    (hfuel : s.outOfFuel = false) (ho : (killAllInsts s).outOfFuel = false)
    (hcalls : ∀ e ∈ s.threads, e.2.call = none) (hev : s.events = []) :
    load (killAllInsts s) (save s) = s ∧
    load (killAllInsts (hostScript (hostReset s) s.prog s.progParams)) (save s) = s ∧
    load (killAllInsts (hostReset s)) (save s) = { s with prog := [], progParams := [] } ∧
    ∀ {α : Type} (future : State → α), future (load (killAllInsts s) (save s)) = future s := by
  obtain ⟨a1, a2, a3⟩ := C09_save_reset_load_general h hfuel ho
  rw [archivable_eq_self s hcalls hev] at a1 a2 a3
  exact ⟨a1, a3, a2, fun future => by rw [a1]⟩

/-- **`hcalls` is necessary**: whatever the context, if loading the snapshot of `s` gives back `s`, then no thread of `s`
    was linked to a host-call record (`load` never restores a link) — and no event was posted if the context had none -/
theorem C09_roundtrip_hypotheses_necessary (s X : State) (h : load X (save s) = s) :
    (∀ e ∈ s.threads, e.2.call = none) ∧ (X.events = [] → s.events = []) := by
  refine ⟨fun e he => C09_host_result_link_dropped X (save s) e (by rw [h]; exact he), fun hx => ?_⟩
  have : (load X (save s)).events = X.events := rfl
  rw [h] at this
  rw [this, hx]

/-- the `load` of the round trip is a legal driver command: its side conditions in `ReachableSL.load` (the implied
    `Reset()` has fuel left; the objects that are wait sources in the snapshot exist) follow, the second one from the
    invariant — so the loaded state is again reachable and everything proved about reachable states applies to it -/
theorem C09_save_load_is_reachable {s : State} {k : Option Snap} (h : ReachableSL s k)
    (hfuel : s.outOfFuel = false) (ho : (killAllInsts s).outOfFuel = false) :
    ReachableSL (load (killAllInsts s) (save s)) (some (save s)) := by
  have hi : HInv3 s := (reachableSL_hinv3 h).1.get hfuel
  refine ReachableSL.load (ReachableSL.save h hfuel) ho (fun o n x hx ho' => ?_)
  have ha := (hi.inv.tab.aN o n x hx).1
  have hth : State.isThread o = false := by simp [State.isThread]; omega
  rw [State.alive_obj _ hth] at ha
  exact ha

/-! ### non-vacuity: the save / run-on / load demo state -/

/-- the state of `demoSL` at its save point (a timed thread and a thread waiting on the level object, started by a host
    call that has returned) satisfies every hypothesis of the round trip except `hcalls`: the timed thread is still
    linked to host call 1 -/
example :
    (runOps {} demoSL).outOfFuel = false ∧ (killAllInsts (runOps {} demoSL)).outOfFuel = false ∧
    (runOps {} demoSL).events = [] ∧ (runOps {} demoSL).threads.map (fun e => e.2.call) = [some 1, none] ∧
    (runOps {} demoSL).threads.map (·.1) = [100, 101] := by
  decide +kernel

/-- the general form applies there: the loaded state is the saved one with the link of thread 100 dropped — and that
    is a different state -/
example :
    load (killAllInsts (runOps {} demoSL)) (save (runOps {} demoSL)) = archivable (runOps {} demoSL) ∧
    (archivable (runOps {} demoSL)).threads.map (fun e => e.2.call) = [none, none] ∧
    (archivable (runOps {} demoSL)).timer.elems = [(100, 5)] ∧ (archivable (runOps {} demoSL)).calls = [(1, .pending)] :=
  ⟨(C09_save_reset_load_general demoSL_reachable_at_save (by decide +kernel) (by decide +kernel)).1, by decide +kernel⟩

/-- the run-on state of the demo (clock 5: the linked thread has ended, the thread waiting on `level` is left, a
    snapshot is held) satisfies **every** hypothesis of `C09_save_reset_load_roundtrip`; saving it, resetting and
    loading gives it back -/
example :
    load (killAllInsts (runOps (runOps {} demoSL) [.step 5, .takeOut])) (save (runOps (runOps {} demoSL) [.step 5, .takeOut]))
      = runOps (runOps {} demoSL) [.step 5, .takeOut] ∧
    (runOps (runOps {} demoSL) [.step 5, .takeOut]).threads.map (·.1) = [101] ∧
    (runOps (runOps {} demoSL) [.step 5, .takeOut]).notify = [((50, 7), [101])] :=
  ⟨(C09_save_reset_load_roundtrip demoSL_reachable (by decide +kernel) (by decide +kernel) (by decide +kernel)
      (by decide +kernel)).1, by decide +kernel⟩

/-- the same program started without a host `Event` (`callv`): at the save point a timed thread with its timer element
    and a thread waiting on `level`, no link; all hypotheses hold, all three compositions behave as stated -/
def demoSLv : List HostOp :=
  [.script [[.thread 1, .wait 5, .mark 1], [.waittill 50 [7], .mark 2]] [0, 0], .callv 0, .takeOut]

theorem demoSLv_roundtrip :
    load (killAllInsts (runOps {} demoSLv)) (save (runOps {} demoSLv)) = runOps {} demoSLv ∧
    load (killAllInsts (hostScript (hostReset (runOps {} demoSLv)) (runOps {} demoSLv).prog (runOps {} demoSLv).progParams))
      (save (runOps {} demoSLv)) = runOps {} demoSLv :=
  have h := C09_save_reset_load_roundtrip (Reachable.toSL ((reachable_iff _).2 ⟨demoSLv, by decide, rfl⟩))
    (by decide +kernel) (by decide +kernel) (by decide +kernel) (by decide +kernel)
  ⟨h.1, h.2.1⟩

example :
    load (killAllInsts (runOps {} demoSLv)) (save (runOps {} demoSLv)) = runOps {} demoSLv ∧
    load (killAllInsts (hostScript (hostReset (runOps {} demoSLv)) (runOps {} demoSLv).prog (runOps {} demoSLv).progParams))
      (save (runOps {} demoSLv)) = runOps {} demoSLv ∧
    (runOps {} demoSLv).threads.map (·.1) = [100, 101] ∧ (runOps {} demoSLv).timer.elems = [(100, 5)] ∧
    (runOps {} demoSLv).notify = [((50, 7), [101])] ∧ (runOps {} demoSLv).prog.length = 2 ∧
    (hostReset (runOps {} demoSLv)).threads = [] ∧ (hostReset (runOps {} demoSLv)).prog = [] :=
  ⟨demoSLv_roundtrip.1, demoSLv_roundtrip.2, by decide +kernel⟩

/-- necessity, non-vacuously: the round trip of `demoSLv` holds, so its two hypotheses do; at the save point of `demoSL`
    (thread 100 linked) no context whatsoever gives the state back -/
example : (∀ e ∈ (runOps {} demoSLv).threads, e.2.call = none) ∧ ∀ X : State, load X (save (runOps {} demoSL)) ≠ runOps {} demoSL :=
  ⟨(C09_roundtrip_hypotheses_necessary _ _ demoSLv_roundtrip.1).1,
   fun X h => absurd ((C09_roundtrip_hypotheses_necessary _ X h).1) (by decide +kernel)⟩

end Morfuse.Sched
