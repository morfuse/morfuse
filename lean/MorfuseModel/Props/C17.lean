import MorfuseModel.Dict.Lemmas
import MorfuseModel.Gen.Primes
import MorfuseModel.Gen.Predefined
/-!
# C17 — interned strings: one id per text, ids stable, well-known ids fixed

Property theorems only (helpers are in `Dict/Lemmas.lean`).  Every statement holds for an
arbitrary key type `κ`, an arbitrary hash function `hash : κ → Nat`, an arbitrary table
`primes` and an arbitrary predefined list `P`, and for every state reachable from the empty
dictionary by any finite sequence of `add / get / str / more n / reset / resetMaster` — no bound
on the number of entries.  `run … = some s` means that no operation on the way was illegal
(`str` of an id never handed out) or undefined behaviour in the C++ (`rehash` running off
`set_primes`); `C17_add_defined` / `C17_resetMaster_defined` say when that cannot happen.

The `C17_gen_*` theorems instantiate the others with the tables regenerated from the source tree
(`Gen/Primes.lean`, `Gen/Predefined.lean`); their `decide` obligations are re-checked whenever those
tables change.  The two `example`s at the end show that the hypotheses are met by concrete histories.
-/
namespace Morfuse.Dict
variable {κ : Type} [DecidableEq κ] {hash : κ → Nat} {primes : List Nat} {P : List κ}

/-- Every operation of the model is the corresponding operation of the abstract specification
    on `texts s` (the list `textOf s 1, …, textOf s count`). -/
theorem C17_refinement {s s' : State κ} {op : Op κ} (h : Reachable hash primes P s)
    (hs : step hash primes P s op = some s') :
    Spec.step P (texts s) op = some (texts s') := by
  obtain ⟨ks', hi', hsp, _⟩ := step_refines (reachable_inv h) hs
  rwa [texts_eq hi']

/-- Both lookups answer exactly what the specification answers on `texts s`, which is
    duplicate-free and has `count` elements. -/
theorem C17_observations {s : State κ} (h : Reachable hash primes P s) :
    (∀ t, idOf hash s t = Spec.idOf (texts s) t) ∧ (∀ i, textOf s i = Spec.textOf (texts s) i) ∧
    s.count = (texts s).length ∧ (texts s).Nodup := by
  have hi := reachable_inv h
  exact ⟨idOf_spec hi, textOf_spec hi, hi.count_eq, hi.nodup⟩

/-- The id `Add` returns is the id the text has afterwards, and the texts afterwards are the
    texts before plus (if new) the added one at the end. -/
theorem C17_add_result {s s' : State κ} {t : κ} {i : Nat} (h : Reachable hash primes P s)
    (ha : add hash primes s t = some (s', i)) :
    texts s' = Spec.add (texts s) t ∧ i = Spec.idOf (texts s') t ∧ i ≠ 0 ∧ idOf hash s' t = i ∧
    textOf s' i = some t := by
  obtain ⟨hi', hk, _, _⟩ := add_refines (reachable_inv h) ha
  rw [texts_eq hi']
  obtain ⟨ht, hid, hne⟩ := hi'.lookups hk
  exact ⟨rfl, hid.symm.trans (idOf_spec hi' t), hne, hid, ht⟩

/-- Lookup by id and lookup by text are inverse to each other. -/
theorem C17_id_text_roundtrip {s : State κ} {t : κ} {i : Nat} (h : Reachable hash primes P s) :
    textOf s i = some t ↔ (idOf hash s t = i ∧ i ≠ 0) := by
  have hi := reachable_inv h
  rw [textOf_spec hi, idOf_spec hi]
  exact spec_textOf_iff hi.nodup

/-! ### clause 1: equal texts get the same id, different texts get different ids -/

/-- Interning a text again — after any amount of further interning, pre-sizing, rehashing and
    lookups — returns the id it got the first time, and changes nothing. -/
theorem C17_same_text_same_id {s s1 s2 : State κ} {t : κ} {i : Nat} {ops : List (Op κ)}
    (h : Reachable hash primes P s) (ha : add hash primes s t = some (s1, i))
    (hr : run hash primes P s1 ops = some s2) (hnr : ∀ op ∈ ops, op.isReset = false) :
    add hash primes s2 t = some (s2, i) ∧ idOf hash s2 t = i ∧ i ≠ 0 := by
  obtain ⟨hi1, hk1, _, _⟩ := add_refines (reachable_inv h) ha
  obtain ⟨ks2, hi2, hk2⟩ := run_textOf hi1 hk1 hr hnr
  have hm2 : t ∈ ks2 := spec_textOf_mem hk2
  obtain ⟨_, hid, hne⟩ := hi2.lookups hk2
  obtain ⟨⟨s3, j⟩, ha2⟩ := add_defined (primes := primes) hi2 t (Or.inl hm2)
  obtain ⟨_, hkj, _, hs3⟩ := add_refines hi2 ha2
  rw [spec_add_of_mem hm2] at hkj
  obtain rfl : j = i := (hi2.lookups hkj).2.1.symm.trans hid
  obtain rfl := hs3 hm2
  exact ⟨ha2, hid, hne⟩

/-- One id never denotes two texts. -/
theorem C17_distinct_text_distinct_id {s : State κ} {t u : κ} {i : Nat} (h : Reachable hash primes P s)
    (ht : idOf hash s t = i) (hu : idOf hash s u = i) (hi0 : i ≠ 0) : t = u := by
  have hrt {v} := (C17_id_text_roundtrip (t := v) (i := i) h).2
  exact Option.some.inj ((hrt ⟨ht, hi0⟩).symm.trans (hrt ⟨hu, hi0⟩))

/-- Two different texts, interned at any two moments of one history without reset, get
    different ids. -/
theorem C17_distinct_adds {s s1 s2 s3 : State κ} {t u : κ} {i j : Nat} {ops : List (Op κ)}
    (h : Reachable hash primes P s) (ha : add hash primes s t = some (s1, i))
    (hr : run hash primes P s1 ops = some s2) (hnr : ∀ op ∈ ops, op.isReset = false)
    (hb : add hash primes s2 u = some (s3, j)) (htu : t ≠ u) : i ≠ j := by
  intro hij
  obtain ⟨hi1, hk1, _, _⟩ := add_refines (reachable_inv h) ha
  obtain ⟨ks2, hi2, hk2⟩ := run_textOf hi1 hk1 hr hnr
  obtain ⟨_, hk3u, _, _⟩ := add_refines hi2 hb
  obtain ⟨r, hr⟩ := spec_add_prefix ks2 u
  have hk3t : Spec.textOf (Spec.add ks2 u) i = some t := by rw [hr]; exact spec_textOf_append hk2
  rw [hij] at hk3t
  exact htu (Option.some.inj (hk3t.symm.trans hk3u))

/-! ### clause 2: an id keeps denoting the same text however the dictionary grows -/

/-- Once id `i` denotes text `t`, it does so after every further sequence of `Add`
    (including those that rehash over `set_primes`), `AllocateMoreString n` and lookups;
    and `t` keeps being found under `i`. -/
theorem C17_id_stable {s s' : State κ} {t : κ} {i : Nat} {ops : List (Op κ)}
    (h : Reachable hash primes P s) (ht : textOf s i = some t)
    (hr : run hash primes P s ops = some s') (hnr : ∀ op ∈ ops, op.isReset = false) :
    textOf s' i = some t ∧ idOf hash s' t = i := by
  have hi := reachable_inv h
  rw [textOf_spec hi] at ht
  obtain ⟨ks', hi', hk⟩ := run_textOf hi ht hr hnr
  exact ⟨(hi'.lookups hk).1, (hi'.lookups hk).2.1⟩

/-! ### clause 3: looking up a text that was never interned reports 'absent' and adds nothing -/

/-- `Get(text)` answers `0` (`const_str::None()`) exactly for the texts no id denotes, and it
    leaves the dictionary as it was. -/
theorem C17_lookup_absent_pure {s : State κ} {t : κ} (h : Reachable hash primes P s) :
    (idOf hash s t = 0 ↔ ∀ i, textOf s i ≠ some t) ∧ step hash primes P s (.get t) = some s := by
  refine ⟨⟨fun h0 i hk => ?_, fun hall => Decidable.byContradiction fun hne => ?_⟩, rfl⟩
  · obtain ⟨hid, hne⟩ := (C17_id_text_roundtrip h).1 hk
    exact hne (hid.symm.trans h0)
  · exact hall _ ((C17_id_text_roundtrip h).2 ⟨rfl, hne⟩)

/-- A text that no `Add` of the history mentioned (and that is not predefined) is reported
    absent at the end, whatever else happened. -/
theorem C17_never_interned_absent {s : State κ} {t : κ} {ops : List (Op κ)}
    (hr : run hash primes P init ops = some s) (hne : ∀ op ∈ ops, op ≠ Op.add t) (hP : t ∉ P) :
    idOf hash s t = 0 := by
  obtain ⟨ks, hi, hsp⟩ := run_refines ops (init_inv hash) hr
  rw [idOf_spec hi]
  exact spec_idOf_of_not_mem (spec_run_not_mem hP ops hsp (by simp) hne)

/-! ### clause 4: the predefined strings have the same ids in every dictionary, after every reset -/

/-- `ScriptMaster::ClearAll` (and the `ScriptMaster` constructor, which is the same on a fresh
    dictionary) always succeeds, whatever state the dictionary was in. -/
theorem C17_resetMaster_defined (s : State κ) : ∃ s', step hash primes P s .resetMaster = some s' := by
  simp only [step, clear, initConstStrings]
  obtain ⟨h1, hroom, _⟩ := allocateMoreString_inv (init_inv hash (κ := κ)) P.length
  have hc : (allocateMoreString hash (init : State κ) P.length).count = 0 := by
    rw [h1.count_eq]; rfl
  exact addAll_defined P h1 (by
    have : (init : State κ).count = 0 := rfl
    omega)

/-- If the registered predefined strings are pairwise different, then after every reset of every
    script master the `k`-th registered string has id `k+1` (its `PredefinedString::GetIndex()`),
    in both directions, and the dictionary holds nothing else. -/
theorem C17_predefined_ids {s s' : State κ} (hnd : P.Nodup)
    (hs : step hash primes P s .resetMaster = some s') :
    texts s' = P ∧ ∀ k (hk : k < P.length), idOf hash s' P[k] = k + 1 ∧ textOf s' (k + 1) = some P[k] := by
  obtain ⟨ks', hi', hsp, _⟩ := step_refines (init_inv hash (κ := κ)) (op := Op.resetMaster) (P := P)
    (primes := primes) (s' := s') (by simpa [step, clear] using hs)
  simp only [Spec.step, Option.some.injEq] at hsp
  rw [spec_foldl_add_nodup P [] (by simpa using hnd)] at hsp
  simp only [List.nil_append] at hsp
  subst hsp
  refine ⟨texts_eq hi', ?_⟩
  intro k hk
  have hkey : Spec.textOf P (k + 1) = some P[k] := by
    simp [Spec.textOf, List.getElem?_eq_getElem hk]
  exact ⟨(hi'.lookups hkey).2.1, (hi'.lookups hkey).1⟩

/-- `Add` is defined (the rehash finds a longer table, nothing is written out of bounds) as
    long as `set_primes` holds an entry above the current table length. -/
theorem C17_add_defined {s : State κ} (t : κ) (h : Reachable hash primes P s)
    (hp : ∃ p ∈ primes, s.tableLength < p) : ∃ r, add hash primes s t = some r := by
  exact add_defined (reachable_inv h) t (Or.inr (Or.inr hp))

/-- Short of a reset, the table length only changes by growing (never below the number of entries). -/
theorem C17_table_monotone {s s' : State κ} {op : Op κ} (h : Reachable hash primes P s)
    (hs : step hash primes P s op = some s') (hr : op.isReset = false) :
    s.tableLength ≤ s'.tableLength ∧ s'.count ≤ s'.tableLength := by
  obtain ⟨ks', hi', _, htl⟩ := step_refines (reachable_inv h) hs
  exact ⟨htl hr, hi'.le⟩

/-- `con::set_primes` is declared with 24 slots. -/
theorem C17_gen_primes_length : Gen.setPrimes.length = 24 := by decide

/-- The initialised part of `con::set_primes` (up to the first zero-filled slot) is strictly
    increasing. -/
theorem C17_gen_primes_increasing : (Gen.setPrimes.takeWhile (· ≠ 0)).Pairwise (· < ·) := by decide

/-- `con::set_primes` reaches beyond the 10^5 entries of the property's bound. -/
theorem C17_gen_primes_cover_bound : ∃ p ∈ Gen.setPrimes, 100000 < p := by decide

/-- The registered predefined strings are pairwise different. -/
theorem C17_gen_predefined_nodup : Gen.predefined.Nodup := by decide

/-- With the real `set_primes`, `Add` has no undefined behaviour while the table length is at most
    10^5 (`set_primes` holds a larger entry): in particular for every dictionary of at most 10^5
    entries that was never pre-sized beyond that. -/
theorem C17_gen_add_defined {P : List κ} {s : State κ} (t : κ) (h : Reachable hash Gen.setPrimes P s)
    (hlt : s.tableLength ≤ 100000) : ∃ r, add hash Gen.setPrimes s t = some r := by
  obtain ⟨p, hp, hgt⟩ := C17_gen_primes_cover_bound
  exact C17_add_defined t h ⟨p, hp, by omega⟩

/-- The engine's predefined strings, as registered in the built tree: after every reset of every
    script master the `k`-th one has id `k+1`, for every hash function and every prime table. -/
theorem C17_gen_predefined_ids {hash : List Nat → Nat} {primes : List Nat} {s s' : State (List Nat)}
    (hs : step hash primes Gen.predefined s .resetMaster = some s') :
    texts s' = Gen.predefined ∧ ∀ k (hk : k < Gen.predefined.length),
      idOf hash s' Gen.predefined[k] = k + 1 ∧ textOf s' (k + 1) = some Gen.predefined[k] :=
  C17_predefined_ids C17_gen_predefined_nodup hs

/-- a dictionary with two different texts exists, for every hash function and every prime table
    (history: `AllocateMoreString 5; Add 10; Add 20`) -/
example (hash : Nat → Nat) (primes : List Nat) : ∃ s : State Nat, Reachable hash primes [] s ∧
    textOf s 1 = some 10 ∧ textOf s 2 = some 20 ∧ idOf hash s 20 = 2 ∧ idOf hash s 30 = 0 := by
  obtain ⟨hi0, hroom, _⟩ := allocateMoreString_inv (init_inv hash (κ := Nat)) 5
  have hc : (init : State Nat).count = 0 := rfl
  have hc0 : (allocateMoreString hash (init : State Nat) 5).count = 0 := hi0.count_eq
  obtain ⟨⟨s1, i1⟩, ha1⟩ := add_defined (primes := primes) hi0 10 (Or.inr (Or.inl (by omega)))
  obtain ⟨hi1, _, htl, _⟩ := add_refines hi0 ha1
  have hc1 : s1.count = 1 := hi1.count_eq
  obtain ⟨⟨s2, i2⟩, ha2⟩ := add_defined (primes := primes) hi1 20 (Or.inr (Or.inl (by omega)))
  obtain ⟨hi2, _⟩ := add_refines hi1 ha2
  refine ⟨s2, ⟨[.more 5, .add 10, .add 20], by simp [run, step, ha1, ha2]⟩, ?_, ?_, ?_, ?_⟩
  · rw [textOf_spec hi2]; rfl
  · rw [textOf_spec hi2]; rfl
  · rw [idOf_spec hi2]; decide
  · rw [idOf_spec hi2]; decide

/-- the predefined-id theorem is not vacuous: the reset it speaks about always succeeds, and the
    generated list is non-empty -/
example (hash : List Nat → Nat) : ∃ s' : State (List Nat),
    step hash Gen.setPrimes Gen.predefined init .resetMaster = some s' ∧ 0 < Gen.predefined.length :=
  let ⟨s', h⟩ := C17_resetMaster_defined (hash := hash) (primes := Gen.setPrimes) (P := Gen.predefined) init
  ⟨s', h, by decide⟩

end Morfuse.Dict
