import MorfuseModel.XLinks.Lemmas
import MorfuseModel.Archive.Value
import MorfuseModel.Gen.ArchiveTable
import MorfuseModel.VMOps.Tables
/-!
# XL — cross-model links: independent transcriptions of the same C++ agree

Property theorems only (helpers: `MorfuseModel/XLinks/Lemmas.lean`; as built: `notes/XL-design.md`).

`Lang.Value` (C03, reference semantics of the typed fragment) and `VMOps.{Value,Ops,Index,Step}` (C04, value
layer for all kinds) both transcribe the operators, casts and index functions of `ScriptVariable.cpp`; each is
tied to the code by its own differential run only.  The theorems below say that the two transcriptions compute
the same function on the kinds both have (NIL, integer, string, char, array), so that one correspondence
vouches for both and a later edit to either model that breaks the agreement fails the build — and with it the
checks of C03 **and** C04, which both audit this file.

Embedding `emb ρ : Lang.Val → VMOps.Val`: a `Lang` string stands for the byte string with one byte per `Char`
(`Lang.strBytes`, the reading `chrToString` / `indexVal` / `unSize` use); the invariant `WF` (every `Char` of a
string is below 256) is needed only where two strings are compared (`==`, `!=`, array keys), where the
embedding has to be injective.  `Lang` arrays are references into a heap of holders, `VMOps` arrays are by
value: `ρ h` is the content `VMOps` sees for holder `h`; operators never look at it (so the theorems hold for
every `ρ`), `size` and indexing do and ask for `Represents ρ heap`.

Error outcomes agree up to the class (`Cls`): `Lang.Err.type _` = `CastError | IncompatibleOperator |
InvalidAppliedType`, `divZero` = `DivideByZero`, `index _` = `TypeIndexOutOfRange`, `badKey` =
`BadHashCodeValue`.  `Lang.Value` transcribes the repaired operators (`INT64_MIN / -1`, shift counts); the
agreement therefore asks for the two repair flags of `VMOps.Fixes` (`_code` variant: for the regenerated flags
`codeFixes`, under the hypothesis `codeFixes = Fixes.all` that `tools/props/c04.py` discharges per flag).
-/
namespace Morfuse.Props.XLinks
open Morfuse Morfuse.XLinks Morfuse.Gen

/-! ## the sixteen `Func2Expr` operators -/

/-- **Every binary operator, all operand values of the common kinds**: `Lang.binop` returns a value iff
    `VMOps.step` returns its embedding, and a script error iff `VMOps.step` throws a class of the same kind
    (see `XL_binop_ok_iff`, `XL_binop_err_iff`, `XL_binop_no_ub` for the three readings). -/
theorem XL_binop_agree (fx : VMOps.Fixes) (hd : fx.divMin = true) (hs : fx.shiftCount = true) (ρ : Content)
    (op : Lang.BinOp) (a b : Lang.Val) (wa : WF a) (wb : WF b) :
    Agree ρ (Lang.binop op a b) (VMOps.step fx (opOf op) [emb ρ a, emb ρ b]) :=
  binop_agree fx ρ hd hs op a b wa wb

/-- the same for the code as it is now (`codeFixes` = the regenerated repair flags) -/
theorem XL_binop_agree_code (h : VMOps.codeFixes = VMOps.Fixes.all) (ρ : Content)
    (op : Lang.BinOp) (a b : Lang.Val) (wa : WF a) (wb : WF b) :
    Agree ρ (Lang.binop op a b) (VMOps.step VMOps.codeFixes (opOf op) [emb ρ a, emb ρ b]) := by
  rw [h]; exact binop_agree _ ρ rfl rfl op a b wa wb

/-- value outcomes coincide (which value: `XL_binop_agree`) -/
theorem XL_binop_ok_iff (fx : VMOps.Fixes) (hd : fx.divMin = true) (hs : fx.shiftCount = true) (ρ : Content)
    (op : Lang.BinOp) (a b : Lang.Val) (wa : WF a) (wb : WF b) :
    (∃ r, Lang.binop op a b = .ok r) ↔ (∃ v, VMOps.step fx (opOf op) [emb ρ a, emb ρ b] = .ok v) :=
  agree_ok_iff (binop_agree fx ρ hd hs op a b wa wb)

/-- error outcomes coincide, class by class -/
theorem XL_binop_err_iff (fx : VMOps.Fixes) (hd : fx.divMin = true) (hs : fx.shiftCount = true) (ρ : Content)
    (op : Lang.BinOp) (a b : Lang.Val) (wa : WF a) (wb : WF b) (c : Cls) :
    (∃ e, Lang.binop op a b = .error e ∧ lcls e = c) ↔
      (∃ e' lhs, VMOps.step fx (opOf op) [emb ρ a, emb ρ b] = .err e' lhs ∧ vcls e' = c) :=
  agree_err_iff (binop_agree fx ρ hd hs op a b wa wb) c

/-- with the two repairs present neither side is undefined on the common fragment (`Lang.binop` has no
    undefined outcome at all: it describes the repaired operators) -/
theorem XL_binop_no_ub (fx : VMOps.Fixes) (hd : fx.divMin = true) (hs : fx.shiftCount = true) (ρ : Content)
    (op : Lang.BinOp) (a b : Lang.Val) (wa : WF a) (wb : WF b) :
    (VMOps.step fx (opOf op) [emb ρ a, emb ρ b]).isUb = false :=
  agree_not_ub (binop_agree fx ρ hd hs op a b wa wb)

/-- **The code as first read** (any state of the repair flags): on the common fragment `VMOps` is undefined exactly
    on `INT64_MIN / -1`, `INT64_MIN % -1` while `divMin` is off, and on `<<` / `>>` by a count outside `0..63`
    (as an unsigned number) while `shiftCount` is off — the inputs on which `Lang.binop` returns the repaired
    code's value (`-x` wrapped, `0`, the count masked to six bits).  Everywhere else the two agree whatever the flags. -/
theorem XL_binop_ub_iff (fx : VMOps.Fixes) (ρ : Content) (op : Lang.BinOp) (a b : Lang.Val) (wa : WF a) (wb : WF b) :
    (VMOps.step fx (opOf op) [emb ρ a, emb ρ b]).isUb = true ↔
      (fx.divMin = false ∧ (op = .div ∨ op = .mod) ∧ a = .int VMOps.minInt ∧ b = .int VMOps.negOne) ∨
      (fx.shiftCount = false ∧ (op = .shl ∨ op = .shr) ∧ ∃ x y, a = .int x ∧ b = .int y ∧ 64 ≤ y.toNat) :=
  binop_ub_iff fx ρ op a b wa wb

/-- results of operators satisfy the invariant again (the agreement composes along an expression) -/
theorem XL_binop_wf (op : Lang.BinOp) (a b r : Lang.Val) (wa : WF a) (wb : WF b)
    (h : Lang.binop op a b = .ok r) : WF r :=
  binop_wf op a b r wa wb h

/-- `==` between a string and a number compares the string with the number's decimal text (two empty strings
    are equal); both models, spelled out -/
theorem XL_eq_string_number_agree (fx : VMOps.Fixes) (s : String) (v : BitVec 64) (ws : ByteStr s) :
    Lang.binop .eq (.str s) (.int v) = .ok (Lang.boolVal (Lang.strEq s (Lang.intToString v))) ∧
    VMOps.step fx (.bin .eq) [.str (Lang.strBytes s), .int v] =
      .ok (VMOps.b2i (((Lang.strBytes s).isEmpty && (VMOps.intToStr v).isEmpty) || Lang.strBytes s == VMOps.intToStr v)) ∧
    (((Lang.strBytes s).isEmpty && (VMOps.intToStr v).isEmpty) || Lang.strBytes s == VMOps.intToStr v)
      = Lang.strEq s (Lang.intToString v) := by
  refine ⟨rfl, rfl, ?_⟩
  rw [← strBytes_intToString]
  exact strEq_agree ws (byteStr_intToString v)

/-! ## unary operators -/

/-- `-a`, `~a`, `a++`, `a--` (`minus`, `complement`, `operator++(int)`, `operator--(int)`), every flag state -/
theorem XL_unop_agree (fx : VMOps.Fixes) (ρ : Content) (a : Lang.Val) :
    Agree ρ (Lang.unNeg a) (VMOps.step fx .minus [emb ρ a]) ∧
    Agree ρ (Lang.unCompl a) (VMOps.step fx .compl [emb ρ a]) ∧
    Agree ρ (Lang.unIncr 1 a) (VMOps.step fx .inc [emb ρ a]) ∧
    Agree ρ (Lang.unIncr (-1) a) (VMOps.step fx .dec [emb ρ a]) :=
  ⟨neg_agree fx ρ a, compl_agree fx ρ a, incr_agree fx ρ a, decr_agree fx ρ a⟩

/-- `strtoll` of the two models is the same function (`-"5"`, `~"5"`, `"5"++`, `"abc"["1"]`) -/
theorem XL_strtoll_agree (s : String) : Lang.strToLong s = VMOps.strtoll (Lang.strBytes s) :=
  strToLong_agree s

/-- `booleanValue()` — `if`, `while`, `!`, `&&`, `||` -/
theorem XL_truthy_agree (fx : VMOps.Fixes) (ρ : Content) (a : Lang.Val) :
    VMOps.boolOf (emb ρ a) = a.truthy ∧
    VMOps.step fx .boolValue [emb ρ a] = .ok (emb ρ (Lang.boolVal a.truthy)) ∧
    VMOps.step fx .castBool [emb ρ a] = .ok (emb ρ (Lang.boolVal a.truthy)) := by
  have h := truthy_agree ρ a
  refine ⟨h, ?_, ?_⟩ <;> simp only [VMOps.step, h] <;> rfl

/-- `stringValue()` — what `println` prints and what `string + x` appends -/
theorem XL_stringValue_agree (fx : VMOps.Fixes) (ρ : Content) (a : Lang.Val) :
    VMOps.strOf fx (emb ρ a) = .ok (Lang.strBytes a.stringValue) ∧
    VMOps.step fx .strValue [emb ρ a] = .ok (emb ρ (.str a.stringValue)) ∧
    VMOps.step fx .castStr [emb ρ a] = .ok (emb ρ (.str a.stringValue)) := by
  have h := stringValue_agree fx ρ a
  refine ⟨h, ?_, ?_⟩ <;> simp only [VMOps.step, VMOps.ofR, h] <;> rfl

/-- the text of a number is ASCII: the byte reading of `Lang` and the UTF-8 bytes of `VMOps` are the same list -/
theorem XL_intToString_agree (v : BitVec 64) : Lang.strBytes (Lang.intToString v) = VMOps.intToStr v :=
  strBytes_intToString v

/-- `typenames[]` as both models spell it -/
theorem XL_typeName_agree (ρ : Content) (a : Lang.Val) : (emb ρ a).kind.typeName = Lang.typeName a := by
  cases a <;> rfl

/-! ## `size` and r-value indexing -/

/-- `OP_UN_SIZE` -/
theorem XL_size_agree (fx : VMOps.Fixes) (ρ : Content) (heap : Lang.Heap) (hρ : Represents ρ heap) (a : Lang.Val) :
    VMOps.step fx .size [emb ρ a] = .ok (emb ρ (Lang.unSize heap a)) :=
  size_agree fx ρ heap hρ a

/-- `evalArrayAt`: `NIL[i]`, `string[i]` (integer or numeric-string index), `array[key]`, errors on the rest -/
theorem XL_index_agree (fx : VMOps.Fixes) (ρ : Content) (heap : Lang.Heap) (hρ : Represents ρ heap)
    (hw : HeapWF heap) (a i : Lang.Val) (wi : WF i) :
    Agree ρ (Lang.indexVal heap a i) (VMOps.step fx .evalAt [emb ρ a, emb ρ i]) :=
  index_agree fx ρ heap hρ hw a i wi

/-! ## kind codes: `variableType_e` as C04 and C10 regenerate it, and as the hand models number it -/

/-- The regenerated `variableType_e` order of C04 (`Gen/OpAccept.lean`) and of C10 (`Gen/ArchiveTable.lean`)
    is the same list; `VMOps.Kind.toNat` is the position of the kind in it; `Archive.Value.code` of every kind
    the archive model covers in all its versions (None, String, Integer, Float, Char, ConstString, ConstArray,
    Vector) is `Kind.toNat` of the corresponding `VMOps` kind; the `typenames[]` entry of each is what
    `Kind.typeName` says. -/
theorem XL_kind_codes_agree :
    Archive.varTypeNames = OpAccept.kindNames ∧
    VMOps.Kind.all.map (fun k => OpAccept.kindNames[k.toNat]?) =
      [some "None", some "String", some "Integer", some "Float", some "Char", some "ConstString", some "Listener",
       some "Ref", some "Array", some "ConstArray", some "Container", some "SafeContainer", some "Pointer",
       some "Vector"] ∧
    VMOps.Kind.all.map (fun k => OpAccept.typeNames[k.toNat]?) = VMOps.Kind.all.map (fun k => some k.typeName) ∧
    [Morfuse.Archive.Value.none, .string [], .int 0, .float 0, .char 0, .constString none, .constArray 0 0 [],
      .vector []].map Morfuse.Archive.Value.code =
      [VMOps.Kind.none, .string, .int, .float, .char, .cstring, .carray, .vector].map VMOps.Kind.toNat := by
  decide

/-- the kinds of the `Lang` fragment sit at the positions None, Integer, String, Char, Array of the regenerated
    enumeration -/
theorem XL_lang_kind_codes (ρ : Content) (a : Lang.Val) :
    OpAccept.kindNames[(emb ρ a).kind.toNat]? =
      some (match a with
        | .nil => "None" | .int _ => "Integer" | .str _ => "String" | .chr _ => "Char" | .arr _ => "Array") := by
  cases a <;> simp only [emb, VMOps.Val.kind, VMOps.Kind.toNat] <;> decide

/-! ## non-vacuity -/

example : Lang.binop .add (.int 7) (.int 5) = .ok (.int 12) := by rfl
example : VMOps.step VMOps.Fixes.all (opOf .add) [emb (fun _ => []) (.int 7), emb (fun _ => []) (.int 5)] = .ok (.int 12) := by rfl
example : Lang.binop .div (.int 7) (.int 0) = .error .divZero := by rfl
example : VMOps.step VMOps.Fixes.all (opOf .div) [.int 7, .int 0] = .err .divideByZero (.int 7) := by rfl
example : vcls .divideByZero = lcls .divZero := by rfl
example : Lang.binop .div (.int Lang.intMin) (.int (-1)) = .ok (.int Lang.intMin) := by rfl
example : VMOps.step VMOps.Fixes.all (opOf .div) [.int Lang.intMin, .int (-1)] = .ok (.int Lang.intMin) := by rfl
example : Lang.binop .shl (.int 1) (.int 65) = .ok (.int 2) := by rfl
/-- without the repair the `VMOps` side is undefined: the hypotheses `hd`, `hs` are needed -/
example : (VMOps.step VMOps.Fixes.none (opOf .shl) [.int 1, .int 65]).isUb = true := by rfl
example : (VMOps.step VMOps.Fixes.none (opOf .mod) [.int VMOps.minInt, .int VMOps.negOne]).isUb = true := by rfl
example : ∃ e, Lang.binop .add (.int 7) .nil = .error e ∧ lcls e = .type := ⟨_, rfl, rfl⟩
example : VMOps.step VMOps.Fixes.all (opOf .add) [.int 7, .nil] = .err .incompatibleOperator .nil := by rfl
example : Lang.binop .ne (.chr 200) (.int (-56)) = .ok (.int 0) := by rfl
example : WF (.str "abc") := by intro c hc; revert c hc; decide
example : ¬ WF (.str "Ā") := by intro h; exact absurd (h (Char.ofNat 256) (by decide)) (by decide)
example : Represents (fun _ => []) [] := by intro h; simp
example : Represents (fun h => if h = 0 then [(.int 1, .int 5)] else []) [[(.int 1, .int 5)]] := by
  intro h
  match h with
  | 0 => rfl
  | n + 1 => simp [List.getD]
example : Lang.unNeg (.int 5) = .ok (.int (-5)) := by rfl
example : ∃ e, Lang.unNeg .nil = .error e ∧ lcls e = .type := ⟨_, rfl, rfl⟩
example : VMOps.step VMOps.Fixes.all .minus [.nil] = .err .castError .nil := by rfl
example : Lang.Val.truthy (.int 0) = false ∧ Lang.Val.truthy (.chr 0) = true := by decide
example : Lang.indexVal [] .nil (.int 3) = .ok .nil := by rfl

end Morfuse.Props.XLinks
