import MorfuseModel.Archive.Sample
import MorfuseModel.Archive.ValueRoundTrip
import MorfuseModel.Archive.EqW
import MorfuseModel.Archive.Dict
import MorfuseModel.Archive.TablesLemmas
/-!
# C10 — archives round-trip values and object graphs faithfully

Statements are about `Morfuse.Archive.encode` / `decode` (`Archive/Model.lean`), the transcription of
`src/Script/Archiver.cpp` that the correspondence run compares byte for byte and value for value with
the real `Archiver`.  They hold for **every** reader configuration `cfg` (the unrepaired reader and the
repaired one alike): the defects C11 is about concern damaged archives only.  The one exception is a hypothesis of
`WFValue`: an empty String value does not survive the unrepaired `new str(4)` (`C10_legacy_empty_string_value`).

`WF` (in `Archive/RoundTrip.lean`) is the hypothesis "the same sequence of calls" can be honoured at
all: values fit their C++ type, every non-null pointer target is registered somewhere in the sequence
(before or after the pointer, or by the pointer's own object), classes resolve in the registry, sizes
fit `streamsize`, allocations succeed, fewer than `ARCHIVE_NULL_POINTER` objects.
-/
namespace Morfuse.Archive

/-- Every integer / float / boolean call of every width: what `ArchiveX` wrote, `ArchiveX` reads
    (bit pattern for bit pattern), leaving the stream exactly behind the record. -/
theorem C10_prim_roundtrip (cfg : Cfg) (p : Prim) (v : Nat) (hv : v < 256 ^ p.width)
    (tail : Bytes) (pos : Nat) (R : List Lbl) (F : List Nat) :
    readPrim cfg p ⟨encPrim p v ++ tail, pos, true, R, F⟩ = .ok v ⟨tail, pos + 4 + p.width, true, R, F⟩ :=
  by simpa [encItems, encItem, regLabels, regLabelsItem, newFix, newFixItem, Nat.add_assoc] using
    Honest.prim (T := R) (t := []) cfg hv tail pos R F (List.nil_prefix) rfl

/-- Strings of any content (empty, embedded NULs, any byte) read back equal. -/
theorem C10_string_roundtrip (cfg : Cfg) (bs tail : Bytes) (pos : Nat) (R : List Lbl) (F : List Nat)
    (hl : bs.length < 2 ^ 64) (ha : strAlloc bs.length < cfg.allocLimit) :
    readStr cfg [] ⟨encStr bs ++ tail, pos, true, R, F⟩ = .ok bs ⟨tail, pos + (encStr bs).length, true, R, F⟩ :=
  by simpa [encItems, encItem, regLabels, regLabelsItem, newFix, newFixItem] using
    Honest.str (T := R) (t := []) cfg [] hl ha (fun _ => rfl) tail pos R F (List.nil_prefix) rfl

/-- Whole write sequences (primitives, raw blocks, strings, objects with nested `Archive` bodies,
    plain and safe pointers, positions): reading with the same sequence of calls returns the sequence,
    pointer slots holding the objects they held when written. -/
theorem C10_roundtrip (cfg : Cfg) (classes : List Bytes) (info : Info) (w : List Item)
    (hw : WF cfg classes info w) :
    decode cfg classes info (schemaOf w) (encode info w) = .ok w := by
  unfold decode
  rw [readAll_encode cfg classes info w hw]
  simp only [closeOk_whole, ↓reduceIte]
  congr 1
  exact fixItems_raw _ _ w fun o ho => table_whole w (hw.targets o ho)

mutual
/-- pointer slots of a sequence in call order (`0` = null) -/
def ptrSlotsItem : Item → List Lbl
  | .ptr _ o => [o]
  | .object _ _ _ body => ptrSlots body
  | _ => []
def ptrSlots : List Item → List Lbl
  | [] => []
  | i :: is => ptrSlotsItem i ++ ptrSlots is
end

/-- Pointer identity is preserved both ways: two slots held the same object before iff they hold the
    same object afterwards; null stays null.  Forward, backward and self references are all instances
    (`WF.targets` does not care where the target is registered). -/
theorem C10_pointer_identity (cfg : Cfg) (classes : List Bytes) (info : Info) (w w' : List Item)
    (hw : WF cfg classes info w) (hr : decode cfg classes info (schemaOf w) (encode info w) = .ok w') :
    (ptrSlots w').length = (ptrSlots w).length ∧
    (∀ i j : Nat, (ptrSlots w)[i]? = (ptrSlots w)[j]? ↔ (ptrSlots w')[i]? = (ptrSlots w')[j]?) ∧
    (∀ i : Nat, (ptrSlots w)[i]? = some 0 ↔ (ptrSlots w')[i]? = some 0) := by
  rw [C10_roundtrip cfg classes info w hw] at hr
  cases hr
  exact ⟨rfl, fun _ _ => Iff.rfl, fun _ => Iff.rfl⟩

/-- The mechanism behind it: distinct registered objects get distinct archive indices, none of which is
    the null marker, so equality of indices in the archive is equality of objects. -/
theorem C10_index_injective (T : List Lbl) (a b : Lbl) (ha : a ∈ T) (hb : b ∈ T) (hT : T.length < nullIdx) :
    (idxIn T a = idxIn T b ↔ a = b) ∧ idxIn T a ≠ nullIdx := by
  refine ⟨⟨fun h => idxOf_inj ha hb (by simpa [idxIn] using h), fun h => h ▸ rfl⟩, ?_⟩
  have := List.idxOf_lt_length_of_mem ha
  simp only [idxIn]; omega

/-! ### script values (`ScriptVariable::ArchiveInternal`) -/

/-- `Value.code` is the position of the kind in `enum class variableType_e` as it is in the source tree -/
theorem C10_value_codes_match_source :
    [Value.none, .string [], .int 0, .float 0, .char 0, .constString none, .link 6 true 0, .link 7 false 0,
      .array 0 0 1 1 0 [], .holderRef 8 0, .constArray 0 0 [], .holderRef 9 0, .link 10 false 0, .link 11 true 0,
      .pointer 0 [], .holderRef 12 0, .vector []].map
        (fun v => Morfuse.Gen.Archive.varTypeNames[v.code]?) =
      [some "None", some "String", some "Integer", some "Float", some "Char", some "ConstString", some "Listener",
        some "Ref", some "Array", some "Array", some "ConstArray", some "ConstArray", some "Container",
        some "SafeContainer", some "Pointer", some "Pointer", some "Vector"] := by
  decide

/-- **Values of every kind `ArchiveInternal` handles** (None, Integer, Float, Char, String, ConstString, Vector; the
    pointer kinds Listener / Ref / Container / SafeContainer; const arrays and hash arrays nested to any depth with
    any number of entries; a `ScriptPointer` cell with the list of variables pointing at it; a holder or cell shared
    with an earlier variable — `holderRef`, written as the archive index of the holder): the data-directed reader
    (`readValue`: the kind byte found in the archive selects the calls, holders are allocated as the archive says)
    run on what `ArchiveInternal` wrote returns the value — archive indices in its pointer slots, which
    `C10_roundtrip_mixed` resolves — and leaves the stream exactly behind it.
    `WFValue` asks for `cfg.valueStrFresh = true ∨ bs ≠ []` on String values: with the unrepaired
    `new str(4)` an **empty** string does not round-trip (`C10_legacy_empty_string_value`); for the repaired
    reader the statement is unconditional. -/
theorem C10_value_roundtrip (cfg : Cfg) (T : List Lbl) (hT : T.length < nullIdx) (hA : T.length * 8 < cfg.allocLimit)
    (v : Value) (fuel : Nat) (self : Lbl) (t : List Lbl) (tail : Bytes) (pos : Nat) (R : List Lbl) (F : List Nat)
    (sup' : Supply) (hd : depth v < fuel) (hp : (valCalls t self v).1 <+: T) (hw : WFValue cfg t self v)
    (hR : R.length = T.length) (hl : (encItems t (valCalls t self v).2).2.length < 2 ^ 63) :
    readValue cfg fuel self (supplyOf v ++ sup') ⟨(encItems t (valCalls t self v).2).2 ++ tail, pos, true, R, F⟩ =
      .ok (rawValue T v, sup') ⟨tail, pos + (encItems t (valCalls t self v).2).2.length, true,
        (regLabels (valCalls t self v).2).foldl (setL T) R, newFix T (valCalls t self v).2 ++ F⟩ :=
  rve_all cfg T hT hA v fuel self t sup' hd hw hl tail pos R F (valCalls_table v t self ▸ hp) hR

/-- **Mixed sequences**: Archiver calls and script values interleaved, pointers and shared holders resolved by
    `Close`: reading returns the sequence. -/
theorem C10_roundtrip_mixed (cfg : Cfg) (classes : List Bytes) (info : Info) (ws : List WItem)
    (hw : WFW cfg classes info ws) :
    decodeW cfg classes info (schemaW ws) (encodeW info ws) = .ok ws :=
  decodeW_encodeW cfg classes info ws hw

mutual
/-- the holder (const array, hash array) or pointer cell each variable of a value holds, in archive order -/
def holderSlots : Value → List Lbl
  | .constArray h _ es => h :: holderSlotsE es
  | .array h _ _ _ _ kvs => h :: holderSlotsE kvs
  | .pointer p _ => [p]
  | .holderRef _ h => [h]
  | _ => []
def holderSlotsE : List (Lbl × Value) → List Lbl
  | [] => []
  | (_, v) :: es => holderSlots v ++ holderSlotsE es
end

def holderSlotsW : List WItem → List Lbl
  | [] => []
  | .item _ :: ws => holderSlotsW ws
  | .value _ v :: ws => holderSlots v ++ holderSlotsW ws
  | .named _ _ v :: ws => holderSlots v ++ holderSlotsW ws

/-- **Sharing is preserved both ways**: two variables hold the same array holder / the same pointer cell after the
    load iff they did before (a holder archived once and referred to by index afterwards comes back as one
    holder, not as copies; distinct holders stay distinct). -/
theorem C10_sharing_preserved (cfg : Cfg) (classes : List Bytes) (info : Info) (ws ws' : List WItem)
    (hw : WFW cfg classes info ws) (hr : decodeW cfg classes info (schemaW ws) (encodeW info ws) = .ok ws') :
    (holderSlotsW ws').length = (holderSlotsW ws).length ∧
    ∀ i j : Nat, (holderSlotsW ws)[i]? = (holderSlotsW ws)[j]? ↔ (holderSlotsW ws')[i]? = (holderSlotsW ws')[j]? := by
  rw [C10_roundtrip_mixed cfg classes info ws hw] at hr
  cases hr
  exact ⟨rfl, fun _ _ => Iff.rfl⟩

/-- **Look-ups in a loaded hash array, keys that are not listeners**: an integer, string or constant-string key is
    hashed the same way while loading and afterwards, so `array[key]` finds the loaded entry — for every hash function
    and table length. -/
theorem C10_lookup_after_load (hash : Value → Nat) (addr : Lbl → Nat) (tl : Nat) (k : Value)
    (hk : ∀ s o, k ≠ .link 6 s o) (refiled : Bool) : foundAfterLoad refiled hash addr tl k = true := by
  have h : keyHashAtLoad hash k = keyHashAfter hash addr k := by
    unfold keyHashAtLoad keyHashAfter
    split
    · rename_i s o
      exact absurd rfl (hk s o)
    · rfl
  simp [foundAfterLoad, h]

/-- **Finding G2 (`ScriptArrayHolder::Archive` without the `AfterLoad` refiling)**: a Listener key is hashed as null
    while its entry is loaded; in a table with more than one bucket a look-up afterwards searches the bucket of the
    listener's address and misses the entry (unless that address happens to be a multiple of the table length).
    The real code is run on the case every time (`tools/props/c10.py`, signature `roundtrip:lost-key:listener-key`). -/
theorem C10_known_listener_key_lost (hash : Value → Nat) (addr : Lbl → Nat) (tl : Nat) (s : Bool) (o : Lbl)
    (ho : o ≠ 0) (ha : addr o % tl ≠ 0) : foundAfterLoad false hash addr tl (.link 6 s o) = false := by
  simp [foundAfterLoad, keyHashAtLoad, keyHashAfter, ho, Nat.zero_mod]
  exact fun h => ha h.symm

/-- in a one-bucket table (and for a null listener) the entry is found -/
theorem C10_listener_key_one_bucket (hash : Value → Nat) (addr : Lbl → Nat) (s : Bool) (o : Lbl) :
    foundAfterLoad false hash addr 1 (.link 6 s o) = true := by
  simp [foundAfterLoad, Nat.mod_one]

/-- with the entries filed again when the archive is closed (`notes/C10-suggested-fix-2.diff`) every key is found -/
theorem C10_lookup_after_load_refiled (hash : Value → Nat) (addr : Lbl → Nat) (tl : Nat) (k : Value) :
    foundAfterLoad true hash addr tl k = true := by
  simp [foundAfterLoad]

/-- **Named variables** (`ScriptVariable::Archive`: what `ScriptVariableList::Archive` does for every entry of the
    list): the name goes through `StringDictionary::ArchiveString` (text in the archive), the value through
    `ArchiveInternal`; reading returns name text and value, and `C10_const_string_any_dictionary` interns the
    name in the **reading** dictionary like every other constant string (`constTextsW` lists it before the
    constant strings of its value). -/
theorem C10_named_variable_roundtrip (cfg : Cfg) (classes : List Bytes) (info : Info) (ws : List WItem)
    (hw : WFW cfg classes info ws) (self : Lbl) (k : Option Bytes) (v : Value) (hm : WItem.named self k v ∈ ws) :
    decodeW cfg classes info (schemaW ws) (encodeW info ws) = .ok ws ∧
      WItem.named self k v ∈ (match decodeW cfg classes info (schemaW ws) (encodeW info ws) with | .ok r => r | .error _ => []) := by
  rw [C10_roundtrip_mixed cfg classes info ws hw]
  exact ⟨rfl, hm⟩

/-! ### constant strings and the dictionary of the loading session (`StringDictionary::ArchiveString`) -/

/-- **Any reading dictionary.**  A ConstString value is archived by its text and interned on load into the
    dictionary of the *loading* script context.  Whatever that dictionary `D` holds beforehand (nothing, the same
    strings at other ids, other strings at the writer's ids): the load returns the sequence that was written,
    every id `D` had keeps its text, and the `const_str` each loaded ConstString value received denotes — in the
    dictionary after the load — exactly the text that was archived (`L.ids` in load order against
    `constTextsW ws`). -/
theorem C10_const_string_any_dictionary (cfg : Cfg) (classes : List Bytes) (info : Info) (ws : List WItem)
    (hw : WFW cfg classes info ws) (D : Dict) :
    ∃ L, decodeWD cfg classes info (schemaW ws) D (encodeW info ws) = .ok L ∧ L.items = ws ∧ D <+: L.dict ∧
      L.ids.map L.dict.text = (constTextsW ws).map some := by
  refine ⟨{ items := ws, dict := (D.loadAll (constTextsW ws)).1, ids := (D.loadAll (constTextsW ws)).2 }, ?_, rfl,
    Dict.loadAll_prefix _ D, Dict.loadAll_text _ D⟩
  simp [decodeWD, decodeW_encodeW cfg classes info ws hw]

/-- **Identity of constant strings.**  Two loaded constant strings are the same `const_str` iff their texts are
    equal (script code compares constant strings by id), for every reading dictionary. -/
theorem C10_const_string_identity (D : Dict) (texts : List Bytes) (i j : Nat) (hi : i < texts.length)
    (hj : j < texts.length) :
    (D.loadAll texts).2[i]? = (D.loadAll texts).2[j]? ↔ texts[i]? = texts[j]? :=
  Dict.loadAll_ids_eq_iff texts D i j

/-- **Ids of the loading session are stable.**  A text the loading dictionary already holds is given the id it
    already has (so a loaded constant string equals the one compiled scripts use), and no id changes its text. -/
theorem C10_dictionary_ids_stable (D : Dict) (texts : List Bytes) :
    (∀ (k : Nat) (bs : Bytes), bs ∈ D → texts[k]? = some bs → (D.loadAll texts).2[k]? = some (D.idxOf bs + 1)) ∧
    (∀ (i : Nat) (bs : Bytes), D.text i = some bs → (D.loadAll texts).1.text i = some bs) :=
  ⟨fun k bs hm h => Dict.loadAll_known texts D k bs hm h, fun _ _ h => Dict.loadAll_keeps texts D h⟩

/-- what `Get(text)` on the load side would do (the text is looked up, not interned): a constant string the
    loading dictionary has not seen comes back as `const_str::None()` -/
theorem C10_lookup_instead_of_intern_loses_text : (Dict.find [] [97]) = 0 ∧ Dict.text [] 0 = none := by decide

/-! ### `Listener::Archive`'s own tables (`con::set<const_str, ConList>`, `Container<SafePtr<Listener>>`) -/

/-- **Listener tables, stream phase.**  The bytes of a Listener record with event tables are
    `encItem t (.object m o "Listener" (listenerCalls st))` (so `C10_roundtrip` already covers them for a reader
    that knows the schema); the real reader is **data-directed** — flag byte, `count`, `hasString`, `num` decide
    which calls follow.  Run where the stream holds what the writer produced for `st` (after any prefix, with any
    object table `t` so far), that reader returns the tables — archive indices in the pointer slots — consumes
    exactly the body and queues exactly the fix-ups of the body.  Any number of entries, keys of any text, lists
    of any length with null and repeated listeners. -/
theorem C10_listener_tables_roundtrip (cfg : Cfg) (T : List Lbl) (hT : T.length < nullIdx) (st : LTables)
    (hw : WFTables cfg st) (t : List Lbl) (tail : Bytes) (pos : Nat) (R : List Lbl) (F : List Nat)
    (hp : (encItems t (listenerCalls st)).1 <+: T) (hR : R.length = T.length) :
    readListener cfg ⟨(encItems t (listenerCalls st)).2 ++ tail, pos, true, R, F⟩ =
      .ok (rawTables T st) ⟨tail, pos + (encItems t (listenerCalls st)).2.length, true, R,
        newFix T (listenerCalls st) ++ F⟩ :=
  by simpa [listenerCalls_regLabels] using readListener_honest hT cfg st hw t tail pos R F hp hR

/-- **Listener tables, `Close`.**  Once the fix-ups are resolved against a table in which every listener the
    tables point to sits at its archive index, the tables are the ones that were written: same keys, same
    listeners in the same order in every list, null stays null, same `tableLength` / `threshold` /
    `tableLengthIndex`. -/
theorem C10_listener_tables_close (T Rf : List Lbl) (st : LTables)
    (h : ∀ o ∈ tableTargets st, Rf.getD (T.idxOf o) 0 = o) : fixTables Rf (rawTables T st) = st := by
  cases st with
  | mk a b c =>
    simp only [tableTargets, List.mem_append] at h
    have fa : ∀ (o : Option ConSet), (∀ x ∈ optTargets o, Rf.getD (T.idxOf x) 0 = x) →
        (o.map (rawSet T)).map (fixSet Rf) = o := by
      intro o ho
      cases o with
      | none => rfl
      | some s => simp [fixSet_raw T Rf s (by simpa [optTargets] using ho)]
    simp only [fixTables, rawTables, LTables.mk.injEq]
    exact ⟨fa a (fun x hx => h x (Or.inl (Or.inl hx))), fa b (fun x hx => h x (Or.inl (Or.inr hx))),
      fa c (fun x hx => h x (Or.inr hx))⟩

/-- the unrepaired `ArchiveInternal` (`m_data.stringValue = new str(4)`): an empty String value comes back as
    the text "4" — replayed on the real code by corpus/C10/empty-string-value.json -/
theorem C10_legacy_empty_string_value :
    decodeW Cfg.legacy [] ⟨[77], [], 1⟩ (schemaW [.value 1 (.string [])]) (encodeW ⟨[77], [], 1⟩ [.value 1 (.string [])])
      = .ok [.value 1 (.string [52])] :=
  (Same.outcome (Same.list WItem.same) _ _).eq (by decide +kernel)

/-! ### non-vacuity -/

/-- a listener pointer written before its target, a const array shared by two variables, an empty string -/
def sampleW : List WItem :=
  [.value 10 (.link 6 true 1), .value 15 (.link 7 false 12), .item (.object .typed 1 [76] [.prim .u8 0]),
   .value 16 (.array 70 1 3 3 0 [(71, .int 5), (72, .string [120]), (73, .constString (some [107])), (74, .link 7 false 10)]),
   .value 17 (.holderRef 8 70), .value 18 (.pointer 80 [18, 19]), .value 19 (.holderRef 12 80),
   .value 20 (.link 10 false 1), .value 21 (.link 11 true 1),
   .value 11 (.constArray 50 1 [(51, .int 7), (52, .string []), (53, .constArray 60 0 [(61, .vector [0,0,0,0,0,0,0,0,0,0,0,0])])]),
   .value 12 (.holderRef 9 50), .value 13 (.constString (some [97])), .value 14 .none,
   .named 22 (some [110, 97, 109, 101]) (.int 1234), .named 23 none (.link 7 false 22)]

theorem sampleW_length : (encodeW sampleInfo sampleW).length = 789 := by decide +kernel

theorem sampleW_wf : WFW Cfg.fixed [[76]] sampleInfo sampleW where
  items := by
    simp [sampleW, WFWs, WFItem, WFItems, WFValue, WFElems, valCalls, elemCalls, encItem, encItems, addUnique, svSize,
      Prim.width, strAlloc, getClass, cstr, eqi, upc, Cfg.fixed, pairsOk, Value.hashable, encStr_length, WFKey]
  targets := by decide
  count := by
    have h := encodeW_table_le sampleInfo sampleW
    have hn : 100 < nullIdx := by decide
    rw [sampleW_length] at h; omega
  table := by
    have h := encodeW_table_le sampleInfo sampleW
    rw [sampleW_length] at h; simp only [Cfg.fixed]; omega
  size := by rw [sampleW_length]; decide
  depth := by rw [sampleW_length]; decide
  version := by decide
  name := by decide

example : decodeW Cfg.fixed [[76]] sampleInfo (schemaW sampleW) (encodeW sampleInfo sampleW) = .ok sampleW :=
  C10_roundtrip_mixed _ _ _ _ sampleW_wf

/-- loaded into a dictionary that holds another string at id 1 and the archived text "a" at id 2 -/
example : ∃ L, decodeWD Cfg.fixed [[76]] sampleInfo (schemaW sampleW) [[120], [97]] (encodeW sampleInfo sampleW) = .ok L ∧
    L.items = sampleW ∧ [[120], [97]] <+: L.dict ∧ L.ids.map L.dict.text = (constTextsW sampleW).map some :=
  C10_const_string_any_dictionary _ _ _ _ sampleW_wf _

example : constTextsW sampleW = [[107], [97], [110, 97, 109, 101]] := by decide
example : holderSlotsW sampleW = [70, 70, 80, 80, 50, 60, 50] := by decide
example : (Dict.loadAll [] [[97], [98], [97]]).2 = [1, 2, 1] := by decide
example : (Dict.loadAll [[98]] [[97], [98], [97]]) = ([[98], [97]], [2, 1, 2]) := by decide


example : decode Cfg.legacy [[76], [86]] sampleInfo (schemaOf sample) (encode sampleInfo sample) = .ok sample :=
  C10_roundtrip _ _ _ _ (sample_wf _ (by decide))

example : decode Cfg.fixed [[76], [86]] sampleInfo (schemaOf sample) (encode sampleInfo sample) = .ok sample :=
  C10_roundtrip _ _ _ _ (sample_wf _ (by decide))

/-- a listener with a notify table of two entries (one list with a repeated and a null listener) and an end table -/
def sampleTables : LTables :=
  { notify := some { tableLength := 3, threshold := 3, tableLengthIndex := 0, entries := [(some [97], [5, 0, 5]), (some [98, 99], [6])] },
    waitFor := none,
    endl := some { tableLength := 1, threshold := 1, tableLengthIndex := 0, entries := [(some [100], [])] } }

theorem sampleTables_wf : WFTables Cfg.fixed sampleTables where
  notify := by
    refine ⟨by decide, by decide, by decide, by decide, ?_, ?_⟩
    · intro t
      simp only [← layItems_length _ t]
      decide
    intro e he
    simp only [List.mem_cons, List.not_mem_nil, or_false] at he
    rcases he with rfl | rfl <;>
      exact ⟨by simp [WFKey, strAlloc, Cfg.fixed], by simp [WFList, safePtrSize, Cfg.fixed]⟩
  waitFor := trivial
  endl := by
    refine ⟨by decide, by decide, by decide, by decide, ?_, ?_⟩
    · intro t
      simp only [← layItems_length _ t]
      decide
    intro e he
    simp only [List.mem_cons, List.not_mem_nil, or_false] at he
    subst he; exact ⟨by simp [WFKey, strAlloc, Cfg.fixed], by simp [WFList, safePtrSize, Cfg.fixed]⟩

example : readListener Cfg.fixed ⟨(encItems [5, 6] (listenerCalls sampleTables)).2 ++ [1, 2], 7, true, [0, 0], []⟩ =
    .ok (rawTables [5, 6] sampleTables) ⟨[1, 2], 7 + (encItems [5, 6] (listenerCalls sampleTables)).2.length, true, [0, 0],
      newFix [5, 6] (listenerCalls sampleTables) ++ []⟩ :=
  C10_listener_tables_roundtrip Cfg.fixed [5, 6] (by decide) sampleTables sampleTables_wf [5, 6] [1, 2] 7 [0, 0] []
    (by decide) rfl

example : fixTables [5, 6] (rawTables [5, 6] sampleTables) = sampleTables :=
  C10_listener_tables_close [5, 6] [5, 6] sampleTables (by decide)

example : ptrSlots sample = [1, 1, 2, 3, 0] := by decide

example : readPrim Cfg.legacy .i64 ⟨encPrim .i64 (2 ^ 63) ++ [7], 0, true, [], []⟩ = .ok (2 ^ 63) ⟨[7], 12, true, [], []⟩ :=
  C10_prim_roundtrip _ _ _ (by decide) _ _ _ _

end Morfuse.Archive
