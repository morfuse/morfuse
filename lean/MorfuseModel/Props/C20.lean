import MorfuseModel.Conc.Lemmas
import MorfuseModel.Conc.PoolLemmas
/-!
# C20 — engines on different OS threads do not interfere

What a theorem can carry of C20 is the *logic of the locking discipline*:
for every number of threads, every program and every interleaving of the model
(`Conc/Model.lean`: `std::shared_mutex` as a state machine, critical sections, thread 0 = the
initialisation phase).  That the engine *follows* the discipline is tied to the source on every run
by the regenerated tables (`Gen/ConcGen.lean`, obligations by `decide`) and searched for
counter-examples under ThreadSanitizer; that C++ mutexes, thread-local storage and guarded
initialisation behave like the model is runtime truth (trusted base).
-/
namespace Morfuse.Conc

/-- **Clause 1 (discipline ⇒ ordered).**  If every write to a shared location happens under the
    exclusive mode of that location's mutex and every read under its shared or exclusive mode, or
    the location is local to one thread, or it is written only by the initialisation phase, then
    in *every* interleaving of *any* number of threads no reachable state has two different threads
    inside critical sections with conflicting accesses (same location, at least one write):
    conflicting critical sections never overlap. -/
theorem C20_discipline_implies_ordered (cls : Nat → LocClass) (P : List (List Section))
    (hd : Disciplined cls P) (sched : List Nat) : ¬ ConflictNow (run (initSt P) sched) := by
  intro hc
  have hinv := inv_run (inv_init P) sched
  have hwi := within_run (within_init P) sched
  generalize run (initSt P) sched = s at hc hinv hwi
  obtain ⟨i, j, si, sj, l, a, b, hij, hi, hj, hla, hlb, hw⟩ := hc
  -- neither of the two is the initialisation phase; both sections belong to the programs, so they respect the classes
  have ok : ∀ {i j si sj}, i ≠ j → InsideSec s i si → InsideSec s j sj → SectionOk cls i si := by
    intro i j si sj hij hi hj
    have hi0 := init_alone hinv hij hi hj
    obtain ⟨t, ht, _, hh⟩ := hi
    obtain ⟨prog, hp, hsub⟩ := hwi i t ht
    exact hd i hi0 prog hp si (hsub si (List.mem_of_head? hh))
  have oki := ok hij hi hj l a hla
  have okj := ok (Ne.symm hij) hj hi l b hlb
  unfold AccessOk at oki okj
  cases hcl : cls l with
  | «local» o =>
    simp only [hcl] at oki okj
    exact hij (oki.symm.trans okj)
  | initOnly =>
    simp only [hcl] at oki okj
    rcases hw with h | h
    · rw [oki] at h; cases h
    · rw [okj] at h; cases h
  | guarded m =>
    simp only [hcl] at oki okj
    obtain ⟨hmi, hwi', hni⟩ := oki
    obtain ⟨hmj, hwj', hnj⟩ := okj
    rcases hw with h | h
    · exact hnj (excl_alone hinv hij hi hj (hmj.trans hmi.symm) (hwi' h))
    · exact hni (excl_alone hinv (Ne.symm hij) hj hi (hmi.trans hmj.symm) (hwj' h))

/-- **Clause 2 (the converse witness; the shape of finding D19).**  A location written under the
    *shared* mode of its mutex by two threads has a reachable state in which both writes are in
    progress: `lock_shared` does not exclude another `lock_shared`. -/
theorem C20_shared_writers_overlap (m l : Nat) :
    ConflictNow (run (initSt [[], [⟨m, .shared, [(l, .write)]⟩], [⟨m, .shared, [(l, .write)]⟩]]) [1, 2]) := by
  refine ⟨1, 2, ⟨m, .shared, [(l, .write)]⟩, ⟨m, .shared, [(l, .write)]⟩, l, .write, .write, by decide, ?_, ?_,
    by simp, by simp, Or.inl rfl⟩
  · refine ⟨{ inside := true, todo := [⟨m, .shared, [(l, .write)]⟩] }, ?_, rfl, rfl⟩
    simp [run, step, initSt, gate, Thread.finished, St.setMtx, Mtx.canAcquire, Mtx.idle, Mtx.acquire]
  · refine ⟨{ inside := true, todo := [⟨m, .shared, [(l, .write)]⟩] }, ?_, rfl, rfl⟩
    simp [run, step, initSt, gate, Thread.finished, St.setMtx, Mtx.canAcquire, Mtx.idle, Mtx.acquire]

/-! ### from the regenerated lock table to the discipline -/

/-- the critical section a call of a `BlockAllocSafe` method is: the pool's mutex in the mode the
    method takes it, one access to the pool state (a write iff the wrapped method assigns it) -/
def sectionOf (poolLoc mtx : Nat) (r : MethodRow) : Section :=
  ⟨mtx, r.lock, [(poolLoc, if r.writes then .write else .read)]⟩

/-- **Table ⇒ discipline ⇒ ordered.**  If the regenerated table satisfies the two obligations the
    check discharges by `decide` (`writersExclusive`, `readersLocked`), then any number of threads
    making any sequences of calls to the facade-reachable methods on one shared pool — after any
    initialisation phase — never have two conflicting pool accesses in progress, in any
    interleaving. -/
theorem C20_table_discipline (tbl : List MethodRow) (hw : writersExclusive tbl = true)
    (hr : readersLocked tbl = true) (poolLoc mtx : Nat) (initp : List Section)
    (calls : List (List MethodRow))
    (hcalls : ∀ c ∈ calls, ∀ r ∈ c, r ∈ tbl ∧ r.reachable = true) (sched : List Nat) :
    ¬ ConflictNow (run (initSt (initp :: calls.map (·.map (sectionOf poolLoc mtx)))) sched) := by
  apply C20_discipline_implies_ordered (fun l => if l = poolLoc then .guarded mtx else .local 0)
  intro i hi prog hp sec hs l a hla
  cases i with
  | zero => exact absurd rfl hi
  | succ n =>
    simp only [List.getElem?_cons_succ, List.getElem?_map, Option.map_eq_some_iff] at hp
    obtain ⟨c, hc, rfl⟩ := hp
    simp only [List.mem_map] at hs
    obtain ⟨r, hrc, rfl⟩ := hs
    obtain ⟨hrt, hreach⟩ := hcalls c (List.mem_of_getElem? hc) r hrc
    simp only [sectionOf, List.mem_singleton, Prod.mk.injEq] at hla
    obtain ⟨rfl, rfl⟩ := hla
    have h1 := List.all_eq_true.mp hw r hrt
    have h2 := List.all_eq_true.mp hr r hrt
    simp only [AccessOk, if_true, sectionOf, true_and]
    constructor
    · intro hwri
      cases hwr : r.writes with
      | false => simp [hwr] at hwri
      | true => simpa [hwr] using h1
    · intro hn
      simp [hreach, hn] at h2

/-- … and a table with a facade-reachable writer under the *shared* lock (what the code had in the
    tree before fix 2b93469: `Alloc`/`Free` took `std::shared_lock`) admits an interleaving in which two
    threads write the pool state at the same time. -/
theorem C20_table_shared_writer_overlaps (r : MethodRow) (hl : r.lock = .shared) (hwr : r.writes = true)
    (poolLoc mtx : Nat) :
    ConflictNow (run (initSt [[], [sectionOf poolLoc mtx r], [sectionOf poolLoc mtx r]]) [1, 2]) := by
  have : sectionOf poolLoc mtx r = ⟨mtx, .shared, [(poolLoc, .write)]⟩ := by simp [sectionOf, hl, hwr]
  rw [this]
  exact C20_shared_writers_overlap mtx poolLoc

/-! Non-vacuity. -/

/-- a concrete disciplined program: location 0 guarded by mutex 7, location 1 written by the
    initialisation phase only, locations 2 and 3 local to threads 1 and 2 -/
private def exCls : Nat → LocClass := fun l =>
  if l = 0 then .guarded 7 else if l = 1 then .initOnly else .local (l - 1)

private def exP : List (List Section) :=
  [ [⟨0, .none, [(1, .write)]⟩],
    [⟨7, .exclusive, [(0, .write)]⟩, ⟨0, .none, [(1, .read), (2, .write)]⟩],
    [⟨7, .shared, [(0, .read)]⟩, ⟨7, .exclusive, [(0, .read), (0, .write)]⟩, ⟨0, .none, [(3, .write), (1, .read)]⟩] ]

example : Disciplined exCls exP := by
  intro i hi prog hp sec hs l a
  match i, hi, hp with
  | 1, _, hp =>
    simp only [exP, List.getElem?_cons_succ, List.getElem?_cons_zero, Option.some.injEq] at hp
    subst hp
    simp only [List.mem_cons, List.not_mem_nil, or_false] at hs
    rcases hs with rfl | rfl
    all_goals (revert l a; simp only [AccessOk, exCls, List.mem_cons, Prod.mk.injEq, List.not_mem_nil, or_false]; intro l a h; rcases h with ⟨rfl, rfl⟩ | ⟨rfl, rfl⟩ <;> simp_all)
  | 2, _, hp =>
    simp only [exP, List.getElem?_cons_succ, List.getElem?_cons_zero, Option.some.injEq] at hp
    subst hp
    simp only [List.mem_cons, List.not_mem_nil, or_false] at hs
    rcases hs with rfl | rfl | rfl
    all_goals (revert l a; simp only [AccessOk, exCls, List.mem_cons, Prod.mk.injEq, List.not_mem_nil, or_false]; intro l a h; rcases h with ⟨rfl, rfl⟩ | ⟨rfl, rfl⟩ <;> simp_all)
  | n + 3, _, hp => simp [exP] at hp

/-- the schedule really gets threads inside their sections (the theorem is not about idle states):
    after the initialisation phase, thread 2 holds mutex 7 shared and thread 1 is blocked on it -/
example : ((run (initSt exP) [0, 0, 2, 1]).thr.map (·.inside)) = [false, false, true] := by decide
example : ((run (initSt exP) [0, 0, 2, 2, 1]).thr.map (·.inside)) = [false, true, false] := by decide

/-- a table that satisfies the hypotheses of `C20_table_discipline` (the code after the repair) -/
example : writersExclusive [⟨"Alloc", .exclusive, "Alloc", true, true⟩, ⟨"Free", .exclusive, "Free", true, true⟩,
    ⟨"Count", .exclusive, "Count", false, false⟩] = true ∧
    readersLocked [⟨"Alloc", .exclusive, "Alloc", true, true⟩, ⟨"Free", .exclusive, "Free", true, true⟩,
    ⟨"Count", .exclusive, "Count", false, false⟩] = true := by decide

/-! ### contexts sharing the locked pool (`Conc/Pool.lean`) -/

namespace Pool
open Morfuse.BlockAlloc (Slot liveOf)

/-- **Clause 3 (independent results).**  N contexts on N OS threads share one pool whose
    `Alloc`/`Free` take the mutex *exclusively* (each call is a read-modify-write of the pool state
    with the lock held in between, not an atomic step) and otherwise touch only the slots they were
    handed.  In every interleaving, at every moment, the output of every context is what the
    specification computes from the operations that context has completed — a function of its own
    program only, hence the same as when the context runs alone (`C20_same_as_alone`). -/
theorem C20_independent_results (bs : Nat) (hbs : 2 ≤ bs) (P : List (List POp)) (sched : List Nat)
    (i : Nat) (t : PThread) (ht : (run bs .exclusive (initSt P) sched).thr[i]? = some t) :
    P[i]? = some (t.done ++ t.todo) ∧ t.out = (specRun t.done).out :=
  ⟨prog_run (prog_init P) sched i t ht, ((pinv_run hbs (pinv_init bs P) sched).own i t ht).out⟩

/-- … in particular a context that ran to completion next to any other contexts, under any
    schedule, has printed exactly what it prints when it is the only context of the process. -/
theorem C20_same_as_alone (bs : Nat) (hbs : 2 ≤ bs) (P : List (List POp)) (sched : List Nat)
    (i : Nat) (prog : List POp) (hp : P[i]? = some prog) (t : PThread)
    (ht : (run bs .exclusive (initSt P) sched).thr[i]? = some t) (hfin : t.todo = [])
    (sched1 : List Nat) (t1 : PThread)
    (ht1 : (run bs .exclusive (initSt [prog]) sched1).thr[0]? = some t1) (hfin1 : t1.todo = []) :
    t.out = t1.out := by
  obtain ⟨h1, h2⟩ := C20_independent_results bs hbs P sched i t ht
  obtain ⟨h3, h4⟩ := C20_independent_results bs hbs [prog] sched1 0 t1 ht1
  rw [hfin, List.append_nil, hp] at h1
  rw [hfin1, List.append_nil] at h3
  simp only [List.getElem?_cons_zero, Option.some.injEq] at h1 h3
  rw [h2, h4, ← h1, ← h3]

/-- **No slot is handed to two threads** (nor twice to one): in every interleaving the slots the
    contexts hold are pairwise different and all live in the pool. -/
theorem C20_pool_no_slot_twice (bs : Nat) (hbs : 2 ≤ bs) (P : List (List POp)) (sched : List Nat)
    (i j : Nat) (ti tj : PThread) (k k' : Nat) (h : Slot)
    (hi : (run bs .exclusive (initSt P) sched).thr[i]? = some ti)
    (hj : (run bs .exclusive (initSt P) sched).thr[j]? = some tj)
    (hk : ti.handles[k]? = some h) (hk' : tj.handles[k']? = some h) :
    (i = j ∧ k = k') ∧ h ∈ liveOf bs (run bs .exclusive (initSt P) sched).pool :=
  have inv := pinv_run hbs (pinv_init bs P) sched
  ⟨inv.inj hi hj hk hk', (inv.own i ti hi).live h (List.mem_of_getElem? hk)⟩

/-- **Linearizability of the locked pool.**  Whatever the interleaving, the pool state is the state
    the *sequential* allocator reaches on some sequential history of `Alloc`/`Free` calls (the order
    in which the calls released the lock), so every theorem of C19 applies to it. -/
theorem C20_pool_linearizable (bs : Nat) (hbs : 2 ≤ bs) (P : List (List POp)) (sched : List Nat) :
    ∃ ops : List (Morfuse.BlockAlloc.Op bs),
      Morfuse.BlockAlloc.run bs Morfuse.BlockAlloc.init ops = some (run bs .exclusive (initSt P) sched).pool :=
  (pinv_run hbs (pinv_init bs P) sched).reach

/-- … and a context inside a pool call always works on the current pool state: nobody else wrote
    the pool between its `lock()` and its `unlock()`. -/
theorem C20_pool_snapshot_current (bs : Nat) (hbs : 2 ≤ bs) (P : List (List POp)) (sched : List Nat)
    (i : Nat) (t : PThread) (p : Morfuse.BlockAlloc.State)
    (ht : (run bs .exclusive (initSt P) sched).thr[i]? = some t) (hs : t.snap = some p) :
    p = (run bs .exclusive (initSt P) sched).pool :=
  (pinv_run hbs (pinv_init bs P) sched).snapCur i t p ht hs

/-- **The same system with the lock the code took before fix 2b93469 (`std::shared_lock` in `Alloc`).**  Two
    contexts allocate at the same time; both calls read the same pool state, both are handed the
    *same* slot, and the first context reads back the value the second one constructed there:
    its output (`[2]`) differs from its output when alone (`[1]`).  This is finding D19. -/
theorem C20_shared_pool_hands_slot_twice (bs : Nat) :
    let s := run bs .shared (initSt [[.alloc 1, .get 0], [.alloc 2]]) [0, 1, 0, 1, 0]
    (s.thr[0]?.map (·.handles)) = some [(Morfuse.BlockAlloc.alloc bs Morfuse.BlockAlloc.init).2] ∧
    (s.thr[1]?.map (·.handles)) = some [(Morfuse.BlockAlloc.alloc bs Morfuse.BlockAlloc.init).2] ∧
    (s.thr[0]?.map (·.out)) = some [2] ∧
    (specRun [.alloc 1, .get 0]).out = [1] := by
  simp [run, step, initSt, Mtx.canAcquire, Mtx.idle, Mtx.acquire, Mtx.release, upd, specRun, specStep]

/-- non-vacuity: the specification of a context that uses every operation -/
example : (specRun [.alloc 5, .alloc 6, .get 1, .put 0 7, .get 0, .free 0, .get 0, .get 1]).out = [6, 7, 6, 0] := by
  decide

/-- non-vacuity: under the exclusive lock the two contexts of the witness above do get different
    slots and context 0 reads its own value, whatever the pool's block size -/
example (bs : Nat) (hbs : 2 ≤ bs) (t : PThread)
    (ht : (run bs .exclusive (initSt [[.alloc 1, .get 0], [.alloc 2]]) [0, 1, 0, 1, 0, 1, 1]).thr[0]? = some t)
    (hfin : t.todo = []) : t.out = [1] := by
  obtain ⟨h1, h2⟩ := C20_independent_results bs hbs _ _ 0 t ht
  rw [hfin, List.append_nil] at h1
  simp only [List.getElem?_cons_zero, Option.some.injEq] at h1
  rw [h2, ← h1]; decide

end Pool

end Morfuse.Conc
