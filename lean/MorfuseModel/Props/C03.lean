import MorfuseModel.Lang.IntEncLemmas
import MorfuseModel.Emit.Model
import MorfuseModel.Lang.PrecTable
import MorfuseModel.Lang.PrecLemmas
import MorfuseModel.Lang.PrecCongr
import MorfuseModel.Lang.Desugar
import MorfuseModel.Lang.ForWhile
/-!
# C03 — programs compute what the language rules say (property theorems)
-/
namespace Morfuse.Props.C03
open Morfuse.Lang Morfuse.Lang.IntEnc Morfuse.Gen.IntEnc

/-- **C03, literal values.**  Every 64-bit literal survives the compiler's choice of encoding and the
    VM's decoding: `OP_STORE_INTk` with the bytes `EmitInteger` wrote pushes the value that was written. -/
theorem C03_literal_roundtrip (v : BitVec 64) : decodeInt (encodeInt v) = some v := by
  obtain ⟨hlt, _, hp, hd, _⟩ := width_spec v.toNat v.isLt
  rw [encodeInt_eq, decodeInt, decode_unsigned vmDecoders _ _ _ v.toNat hd hlt hp]
  simp

example : decodeInt (encodeInt 65536#64) = some 65536#64 := C03_literal_roundtrip _
example : encodeInt 65536#64 = ⟨3, [0, 0, 1]⟩ := by decide
example : encodeInt 4294967296#64 = ⟨8, [0, 0, 0, 0, 1, 0, 0, 0]⟩ := by decide

/-- the opcode `OP_STORE_INTk` -/
def storeIntOp (k : Nat) : Nat :=
  if k = 8 then Gen.EmitConsts.OP_STORE_INT8 else Gen.EmitConsts.OP_STORE_INT0 + k

theorem le_eq_toBytes (w n : Nat) : Emit.le w n = toBytes n w := by
  induction w generalizing n with
  | zero => rfl
  | succ w ih => simp [Emit.le, toBytes, ih]

/-- **C03 / C01, the two transcriptions of `ScriptEmitter::EmitInteger` agree.**  `Lang.IntEnc.encodeInt` (over the
    branch table regenerated from `Compiler.cpp`) and `Emit.St.emitInteger` (the emitter model whose output the C01
    correspondence compares byte for byte with the real compiler) choose the same opcode and write the same operand
    bytes, for every 64-bit value, from every emitter state and with either manager: `emitInteger` is `EmitOpcode` of
    `OP_STORE_INTk` for the `k` of `encodeInt v`, followed by `WriteOpcodeValue` of exactly the bytes of `encodeInt v`
    (nothing for `OP_STORE_INT0`).  Hence `C03_literal_roundtrip` is about the bytes the emitter model writes. -/
theorem C03_emit_model_literal_agrees (s : Emit.St) (v : BitVec 64) :
    s.emitInteger v.toNat =
      match (encodeInt v).bytes with
      | [] => s.emitOp (storeIntOp (encodeInt v).k)
      | b :: bs => s.emitOpBytes (storeIntOp (encodeInt v).k) (b :: bs) := by
  rw [encodeInt_eq]
  unfold Emit.St.emitInteger width
  by_cases h0 : v.toNat = 0
  · simp [h0, toBytes, storeIntOp]
  by_cases h1 : v.toNat < 256
  · simp [h0, h1, storeIntOp, le_eq_toBytes, toBytes, Gen.EmitConsts.OP_STORE_INT0, Gen.EmitConsts.OP_STORE_INT1]
  by_cases h2 : v.toNat < 65536
  · simp [h0, h1, h2, storeIntOp, le_eq_toBytes, toBytes, Gen.EmitConsts.OP_STORE_INT0, Gen.EmitConsts.OP_STORE_INT2]
  by_cases h3 : v.toNat < 16777216
  · simp [h0, h1, h2, h3, storeIntOp, le_eq_toBytes, toBytes, Gen.EmitConsts.OP_STORE_INT0, Gen.EmitConsts.OP_STORE_INT3]
  by_cases h4 : v.toNat < 4294967296
  · simp [h0, h1, h2, h3, h4, storeIntOp, le_eq_toBytes, toBytes, Gen.EmitConsts.OP_STORE_INT0, Gen.EmitConsts.OP_STORE_INT4]
  · simp [h0, h1, h2, h3, h4, storeIntOp, le_eq_toBytes, toBytes]

/-- the opcodes of the example above: 65536 is `OP_STORE_INT3 00 00 01` in the emitter model as well -/
example (s : Emit.St) : s.emitInteger 65536 = s.emitOpBytes Gen.EmitConsts.OP_STORE_INT3 [0, 0, 1] := by
  have := C03_emit_model_literal_agrees s 65536#64
  simpa [storeIntOp, show encodeInt 65536#64 = ⟨3, [0, 0, 1]⟩ by decide, Gen.EmitConsts.OP_STORE_INT0,
    Gen.EmitConsts.OP_STORE_INT3] using this

/-- **C03, literal values (width).**  The encoding chosen is the smallest the emitter has that can
    hold the value: re-reading the literal from any smaller available width gives a different number. -/
theorem C03_literal_width_minimal (v : BitVec 64) (w : Nat) (hw : w ∈ widths)
    (hlt : w < (encodeInt v).bytes.length) : fromBytes (toBytes v.toNat w) ≠ v.toNat := by
  rw [fromBytes_toBytes]
  have hle := (width_spec v.toNat v.isLt).2.1 w hw (by simpa [encodeInt_eq, toBytes_length] using hlt)
  have := Nat.mod_lt v.toNat (Nat.pow_pos (n := w) (show 0 < 256 by decide))
  omega

example : (encodeInt 255#64).bytes.length = 1 ∧ (encodeInt 256#64).bytes.length = 2 := by decide

/-- **C03, constant folding.**  `-<literal>` folded at compile time (`EmitFunc1`: read the previous
    literal back from the code buffer, negate, emit again) pushes the same value as negating at run time. -/
theorem C03_neg_fold (v : BitVec 64) : (foldNeg (encodeInt v)).bind decodeInt = some (-v) := by
  obtain ⟨hlt, _, hp, _, hd⟩ := width_spec v.toNat v.isLt
  have h : decodeFold (encodeInt v) = some v := by
    rw [encodeInt_eq, decodeFold, decode_unsigned foldDecoders _ _ _ v.toNat hd hlt hp]
    simp
  simp [foldNeg, h, C03_literal_roundtrip]

example : (foldNeg (encodeInt 5#64)).bind decodeInt = some (-5#64) := C03_neg_fold _

/-! ## operator precedence and associativity -/
open Morfuse.Lang.Prec Morfuse.Lang.PrecTable in
/-- **C03, precedence and associativity.**  For every assignment of levels to the (left-associative)
    binary operators, the minimal-bracket printing of any expression tree is parsed back to that tree:
    a layout never changes which tree — hence which `Lang.Sem` meaning — an expression has. -/
theorem C03_precedence_roundtrip (lv : Prec.Op → Nat) (e : Prec.PT) :
    Prec.parse lv (Prec.print lv e) = some e :=
  Prec.parse_print lv e

open Morfuse.Lang.Prec Morfuse.Lang.PrecTable in
/-- **C03, precedence (tie to the real grammar).**  Text printed with the language's reference
    precedence is read back to the same tree by a parser that uses the levels declared in
    `yyParser.yy` (regenerated table; all eighteen operators `%left`, same order: `gen_all_left`,
    `gen_order_eq_ref` are re-checked on every run). -/
theorem C03_reference_text_parses (e : Prec.PT) :
    Prec.parse genLv (Prec.print refLv e) = some e := by
  rw [Prec.print_congr refLv genLv gen_iso_ref e]
  exact Prec.parse_print genLv e

open Morfuse.Lang.Prec Morfuse.Lang.PrecTable in
example : Prec.print refLv (.bin .mul (.bin .add (.atom 1) (.atom 2)) (.bin .sub (.atom 3) (.bin .sub (.atom 4) (.atom 5))))
    = [.lp, .atom 1, .op .add, .atom 2, .rp, .op .mul, .lp, .atom 3, .op .sub, .lp, .atom 4, .op .sub, .atom 5, .rp, .rp] := by
  decide

/-! ## equivalent spellings: the grammar's desugarings -/

/-- **C03, compound assignment.**  `a op= b` finishes with exactly the results (state, output, flow,
    or script error) of `a = a op b` — the tree the parser builds for it — for every operator,
    l-value (array elements included: the index expressions are evaluated twice in both), program and state. -/
theorem C03_desugar_compound (prog : Program) (op : BinOp) (lv : LVal) (e : Expr) (fr : Frame) (st : St)
    (res : Res (Flow × Frame × St)) :
    StmtRuns prog (.opassign op lv e) fr st res ↔ StmtRuns prog (.assign lv (.bin op lv.toExpr e)) fr st res :=
  desugar_opassign prog op lv e fr st res

example : StmtRuns [] (.opassign .add (.var .loc "a") (.int 5)) { locals := [("a", .int 2)] } {}
    (.ok (.normal, { locals := [("a", .int 7)] }, {})) := ⟨by simp, 3, by decide⟩

/-- **C03, `++`.**  On an integer `a++` is `a += 1`. -/
theorem C03_desugar_incr (prog : Program) (lv : LVal) (fr : Frame) (st : St)
    (hint : ∀ n va st1, evalExpr prog n lv.toExpr fr st = .ok (va, st1) → ∃ x, va = .int x)
    (res : Res (Flow × Frame × St)) :
    StmtRuns prog (.incr lv) fr st res ↔ StmtRuns prog (.opassign .add lv (.int 1)) fr st res :=
  desugar_incr prog lv fr st hint res

/-- **C03, `--`.**  On an integer `a--` is `a -= 1`. -/
theorem C03_desugar_decr (prog : Program) (lv : LVal) (fr : Frame) (st : St)
    (hint : ∀ n va st1, evalExpr prog n lv.toExpr fr st = .ok (va, st1) → ∃ x, va = .int x)
    (res : Res (Flow × Frame × St)) :
    StmtRuns prog (.decr lv) fr st res ↔ StmtRuns prog (.opassign .sub lv (.int 1)) fr st res :=
  desugar_decr prog lv fr st hint res

/-- **C03, `for`.**  `for (init; c; inc) body` finishes with exactly the results of the statement list
    `init; While(c, body, inc)` the parser builds (`continue` in `body` reaches `inc` in both). -/
theorem C03_desugar_for (prog : Program) (init : List Stmt) (c : Expr) (inc body : List Stmt) (fr : Frame) (st : St)
    (res : Res (Flow × Frame × St)) :
    StmtRuns prog (.for_ init c inc body) fr st res ↔
      StmtRuns prog (.block (init ++ [.while_ c body inc])) fr st res :=
  desugar_for prog init c inc body fr st res

example : StmtRuns [] (.for_ [.assign (.var .loc "i") (.int 0)] (.bin .lt (.var .loc "i") (.int 2)) [.incr (.var .loc "i")] [.cont])
    {} {} (.ok (.normal, { locals := [("i", .int 2)] }, {})) := ⟨by simp, 12, by decide⟩

/-- **C03, `for` as `while`.**  When neither the body nor the increment contains a `continue` that would bind to
    the loop (`freeContL`, the syntactic test the layout generator applies), `for (init; c; inc) body` finishes
    with exactly the results of the source-level spelling `init; while (c) { body; inc }`. -/
theorem C03_desugar_for_while (prog : Program) (init : List Stmt) (c : Expr) (inc body : List Stmt)
    (hB : freeContL body = false) (hI : freeContL inc = false) (fr : Frame) (st : St)
    (res : Res (Flow × Frame × St)) :
    StmtRuns prog (.for_ init c inc body) fr st res ↔
      StmtRuns prog (.block (init ++ [.while_ c (body ++ inc) []])) fr st res :=
  desugar_for_while prog init c inc body hB hI fr st res

example : freeContL [.ite (.var .loc "i") [.brk] [], .print true [.var .loc "i"]] = false := by decide
example : freeContL [.ite (.var .loc "i") [.cont] []] = true := by decide

/-! ## the evaluator is a function of the program: fuel only decides whether it finishes -/

/-- **C03, fuel monotonicity.**  A run that finished (with a result or a script error) gives the same
    answer with any larger amount of fuel. -/
theorem C03_fuel_mono {n m : Nat} (h : n ≤ m) (prog : Program) (label : String) (args : List Val) :
    runProgram n prog label args ≠ .timeout → runProgram m prog label args = runProgram n prog label args :=
  runProgram_mono h prog label args

/-- **C03, determinism.**  Two finished runs of the same program from the same entry with the same
    arguments agree, whatever fuel they were given: `Lang.Sem` assigns at most one behaviour to a program. -/
theorem C03_sem_deterministic (n m : Nat) (prog : Program) (label : String) (args : List Val) :
    runProgram n prog label args ≠ .timeout → runProgram m prog label args ≠ .timeout →
    runProgram n prog label args = runProgram m prog label args :=
  runProgram_deterministic n m prog label args

example : runProgram 6 [.label "main" [], .end_ (some (.bin .add (.int 1) (.int 2)))] "main" [] ≠ .timeout := by decide

end Morfuse.Props.C03
