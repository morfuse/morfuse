import MorfuseModel.SafePtr.Lemmas
/-!
# C12 — weak references never dangle

All statements are about every state reachable from `init` by any finite sequence of legal operations — no bound
on the number of objects, references or operations.
-/
namespace Morfuse.SafePtr

/-- A live weak reference never designates a destroyed object. -/
theorem C12_never_dangling {s : State} {r : Nat} (h : Reachable s) (hr : liveRef s r)
    (hp : pointer s r ≠ 0) : aliveObj s (pointer s r) :=
  ((reachable_inv h).ptr_ok r hp).2

/-- Destroying object `o` nulls exactly the live references that pointed to `o`;
    every other reference reads as before, and no reference is created or destroyed. -/
theorem C12_destroy_nulls_exactly {s s' : State} {o : Nat} (h : Reachable s)
    (hs : step s (.delObj o) = some s') :
    (∀ r, liveRef s r → pointer s' r = if pointer s r = o then 0 else pointer s r) ∧
    (∀ r, liveRef s' r ↔ liveRef s r) ∧ ¬ aliveObj s' o := by
  simp only [step] at hs
  split at hs <;> cases hs
  rename_i ho
  obtain ⟨_, _, i3, i4, _⟩ := destroy_spec (reachable_inv h) ho
  exact ⟨fun r _ => i3 r, fun r => by simp [liveRef, i4], by simp [aliveObj]⟩

/-- The destructor loop `while (SafePtrList) SafePtrList->Clear()` terminates: the fuel the model
    gives it (number of constructed references) is enough to empty the object's list. -/
theorem C12_destroy_terminates {s : State} {o : Nat} (h : Reachable s) (ho : aliveObj s o) :
    (destroyLoop s.refs.length s o).head.get o = 0 :=
  (destroy_spec (reachable_inv h) ho).2.1

/-- operations that act on one reference `r` -/
def Op.actsOn : Op → Nat → Prop
  | .newRef r _, q | .copyRef r _, q | .assignObj r _, q | .assignRef r _, q
  | .clear r, q | .delRef r, q => q = r
  | _, _ => False

/-- Creating, copying, reassigning, clearing or destroying reference `r` leaves every other
    reference reading exactly what it read, and alive exactly if it was. -/
theorem C12_ref_op_frame {s s' : State} {op : Op} {r q : Nat}
    (hs : step s op = some s') (hop : op.actsOn r) (hq : q ≠ r) :
    pointer s' q = pointer s q ∧ (liveRef s' q ↔ liveRef s q) := by
  cases op <;> simp only [Op.actsOn] at hop <;> simp only [step] at hs
  all_goals first
    | exact hop.elim
    | (subst hop
       split at hs
       · cases hs
         simp [pointer, liveRef, construct_ptr, initSafePtr_ptr, clear_ptr, Mem.get_set, hq]
       · cases hs)

/-- Creating an object changes no reference. -/
theorem C12_newObj_frame {s s' : State} {o q : Nat} (hs : step s (.newObj o) = some s') :
    pointer s' q = pointer s q ∧ (liveRef s' q ↔ liveRef s q) := by
  simp only [step] at hs
  split at hs
  · cases hs; simp [pointer, liveRef]
  · cases hs

/-- The value each single-reference operation gives to `r` itself. -/
theorem C12_ref_op_value {s s' : State} (hs : step s op = some s') :
    match op with
    | .newRef r o | .assignObj r o => pointer s' r = o
    | .copyRef r src | .assignRef r src => pointer s' r = pointer s src
    | .clear r => pointer s' r = 0
    | _ => True := by
  cases op <;> simp only [step] at hs <;> try trivial
  all_goals
    split at hs
    · cases hs
      simp [pointer, construct_ptr, initSafePtr_ptr, clear_ptr]
    · cases hs

/-- "Is this the last reference" is true exactly when `r` is the only live reference to its object. -/
theorem C12_last_reference_iff {s : State} {r : Nat} (h : Reachable s) (hr : liveRef s r)
    (hp : pointer s r ≠ 0) :
    isLast s r = true ↔ ∀ q, liveRef s q → pointer s q = pointer s r → q = r := by
  have hi := reachable_inv h
  obtain ⟨l, hok, hm⟩ := hi.linked.ring _ (hi.ptr_ok r hp).2
  have hmem : r ∈ l := (hm r).2 rfl
  cases l with
  | nil => cases hmem
  | cons a t =>
    obtain ⟨_, hring⟩ := hok
    simp only [isLast, decide_eq_true_eq]
    constructor
    · intro ⟨hn, _⟩ q _ hpq
      obtain ⟨rfl, rfl⟩ := Ring.ring_alone hring hmem hn
      exact List.mem_singleton.1 ((hm q).2 hpq)
    · intro hall
      have hall' : ∀ q ∈ a :: t, q = r := fun q hq =>
        have hpq : s.ptr.get q = s.ptr.get r := (hm q).1 hq
        hall q (hi.ptr_ok q (hpq ▸ hp)).1 hpq
      have hnd : (a :: t).Nodup := hring.1
      have ha : a = r := hall' a (by simp)
      have htnil : t = [] := by
        cases t with
        | nil => rfl
        | cons b u =>
          have hb : b = r := hall' b (by simp)
          rw [ha, hb] at hnd; simp at hnd
      subst htnil; subst ha
      exact Ring.ring_single_iff.1 hring

/-! Non-vacuity: a concrete reachable state that meets the hypotheses. -/

/-- two references to object 1, one to object 2 -/
def demoOps : List Op := [.newObj 1, .newObj 2, .newRef 1 1, .copyRef 2 1, .newRef 3 2, .newRef 4 0]

theorem demo_run : ∃ s, run init demoOps = some s ∧ liveRef s 1 ∧ pointer s 1 = 1 ∧ pointer s 2 = 1 ∧
    pointer s 3 = 2 ∧ pointer s 4 = 0 ∧ isLast s 1 = false ∧ isLast s 3 = true ∧
    (∃ s', step s (.delObj 1) = some s' ∧ pointer s' 1 = 0 ∧ pointer s' 2 = 0 ∧ pointer s' 3 = 2) := by
  simp [demoOps, run, step, init, construct, addReference, liveRef, aliveObj, okTarget, pointer, isLast,
    destroyLoop, clear, removeReference, unlink, Mem.get_set]

example : ∃ s r, Reachable s ∧ liveRef s r ∧ pointer s r ≠ 0 := by
  obtain ⟨s, h, h1, h2, _⟩ := demo_run
  exact ⟨s, 1, ⟨demoOps, h⟩, h1, by rw [h2]; decide⟩

end Morfuse.SafePtr
