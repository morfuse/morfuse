import MorfuseModel.Sched.MachineWaitthreadHost
import MorfuseModel.Sched.NotifyLemmas
import MorfuseModel.Sched.MachineHostProps
import MorfuseModel.Sched.MachineHostSLTrace
import MorfuseModel.Sched.MachineCalls
/-!
# C07 — waittill / notify: no lost, early or duplicate wake-ups  (table layer)

`Listener::Register` and `Listener::Unregister(name)` keep two tables: per source the waiters
(`m_NotifyList`), per waiter the sources (`m_WaitForList`).  The theorems below hold for tables of
any size and any history of registrations and notifications.

Table layer: the two tables stay mirror images under `waittill` and `notify` (so a registration can
neither be lost nor survive its notify), a `notify` selects exactly the threads registered at that
moment, each once, in registration order, and leaves no registration behind; a `notify` nobody waits
for changes nothing at all in the machine.

What the scheduler does with the selected threads (`StoppedWaitFor` → nested execution or re-timing),
the `endon` and object-removal cascades (`UnregisterAll` destroying waiters) and `waitthread` are
statements about the machine `Sched.Machine` (sections "Machine level", "Trace level", "Call level"
below); that the engine performs the machine's steps is checked by the correspondence run on every
generated program, marker by marker.
-/
namespace Morfuse.Sched

theorem count_filter_ne (l : List Nat) (a b : Nat) :
    (l.filter (· != b)).count a = if a = b then 0 else l.count a :=
  count_filter_ne' l a b

/-- **Registration keeps the mirror.** -/
theorem C07_register_mirror (T : Tabs) (h : Mirror T) (src name x : Nat) :
    Mirror (registerT T src name x) :=
  mirror_iff.2 ((mirror_iff.1 h).push src name x)

/-- **`notify` keeps the mirror**, so no registration is half-removed. -/
theorem C07_notify_mirror (T : Tabs) (h : Mirror T) (src name : Nat) :
    Mirror (notifyT T src name).1 := by
  have h' := (mirror_iff.1 h).purge_removeKey (fun _ => true) src name [] (fun _ _ => rfl)
  rw [purge_eq_targetsT _ _ _ _ _ (fun _ _ => rfl)] at h'
  exact mirror_iff.2 h'

/-- **Exactly the registered threads, each once, in order.**  The list of threads `notify` wakes
    (in the order `StoppedWaitFor` is called) has no duplicates, contains exactly the threads
    registered on `(src, name)` at that moment, and equals the registration order when no thread
    registered twice. -/
theorem C07_notify_wakes_registered_once (T : Tabs) (h : Mirror T) (src name : Nat) :
    let woken := (notifyT T src name).2
    let registered := Tbl.getD T.n (src, name)
    woken.Nodup ∧ (∀ x, x ∈ woken ↔ x ∈ registered) ∧ (registered.Nodup → woken = registered) := by
  obtain ⟨_, hs⟩ := targetsT_spec T h src name
  simp only [notifyT, hs]
  refine ⟨?_, ?_, ?_⟩
  · exact (List.reverse_perm _).nodup_iff.2 (dedup_nodup _)
  · intro x; simp [mem_dedup]
  · intro hn
    rw [dedup_of_nodup _ ((List.reverse_perm _).nodup_iff.2 hn)]
    simp

/-- **After `notify` nothing stays registered** on `(src, name)`: a later wake-up needs a later
    registration, and the same registration cannot be woken twice. -/
theorem C07_notify_clears (T : Tabs) (h : Mirror T) (src name : Nat) :
    let T' := (notifyT T src name).1
    Tbl.getD T'.n (src, name) = [] ∧ ∀ x, src ∉ Tbl.getD T'.w (x, name) := by
  have hn : Tbl.getD (notifyT T src name).1.n (src, name) = [] := by
    simp [notifyT, Tbl.getD_removeKey]
  refine ⟨hn, fun x hx => ?_⟩
  have := ((mirror_iff.1 (C07_notify_mirror T h src name)).mem_iff src name x).2 hx
  rw [hn] at this
  cases this

/-- **Other names and other sources are untouched** by a `notify`. -/
theorem C07_notify_frame (T : Tabs) (src name s' nm : Nat) (hne : (s', nm) ≠ (src, name)) :
    Tbl.getD (notifyT T src name).1.n (s', nm) = Tbl.getD T.n (s', nm) := by
  simp [notifyT, Tbl.getD_removeKey, hne]

/-- The machine's `UnregisterTargets` is `targetsT` on its wait-for table (all listed listeners alive). -/
theorem unregisterTargets_eq (s : State) (src name : Nat) (list : List Nat)
    (h : ∀ l ∈ list, s.alive l = true) :
    unregisterTargets s src name list =
      ({ s with waitFor := (targetsT s.waitFor src name list).1 }, (targetsT s.waitFor src name list).2) := by
  rw [unregisterTargets_eq_purge, purge_eq_targetsT _ _ _ _ _ h]

theorem unregEndOn_of_none (dt : State → Nat → State) (s : State) (src name : Nat)
    (he : Tbl.find s.endOn (src, name) = none) : unregEndOn dt s src name = (s, false) := by
  unfold unregEndOn
  split
  · rfl
  · rw [he]

/-- **A notify with no waiters has no effect**: neither an `endon` list nor a waiter list for this
    name ⇒ the machine state is unchanged (for any fuel). -/
theorem C07_notify_without_waiters_noop (fuel : Nat) (s : State) (src name : Nat)
    (he : Tbl.find s.endOn (src, name) = none) (hn : Tbl.find s.notify (src, name) = none) :
    unregister (fuel + 1) s src name = s := by
  rw [unregister_succ, unregEndOn_of_none _ s src name he]
  exact unregNotify_of_none _ _ hn

/-! ### non-vacuity: a concrete mirrored table with two waiters, one of them registered twice -/

def demoT : Tabs := registerT (registerT (registerT ⟨[], []⟩ 1 7 100) 1 7 101) 1 7 100

theorem demoT_mirror : Mirror demoT :=
  C07_register_mirror _ (C07_register_mirror _ (C07_register_mirror _ (by intro _ _ _; simp [Tbl.getD_nil]) 1 7 100) 1 7 101) 1 7 100

example : (notifyT demoT 1 7).2 = [101, 100] ∧ Tbl.getD demoT.n (1, 7) = [100, 101, 100] := by decide

/-! ## Machine level: the tables of the whole scheduler machine, in every reachable state

`Reachable s` (`Sched/MachineHost.lean`): produced from the initial state by any list of host operations
of the driver (compile/recompile a `ProgOK` program, host calls, `advance`, `execute`, `step`,
`reset-director`, `reset`, reading the output), **without `save`/`load`**; modulo running out of fuel.
`ProgOK`: object ids < 100, and a `local.p0 waittill n` (waiting on a *thread object* by name, the `hub`
generator family) does not use the engine's own destruction events `delete` / `remove` as `n` — every
generator family of tools/vlib/schedgen.py is inside this class.  The statements rest on `iAll`: the
invariant `Inv` holds through every function of the machine, nested executions and destruction cascades
included. -/

/-- **Mirror, machine level.**  In every reachable state the notify and wait-for tables are mirror
    images with multiplicity, and every listener mentioned in them is alive (its weak reference reads
    non-null): sources and waiters. -/
theorem C07_machine_tables_mirror {s : State} (h : Reachable s) :
    s.outOfFuel = true ∨
      ((∀ o n x, (Tbl.getD s.notify (o, n)).count x = (Tbl.getD s.waitFor (x, n)).count o) ∧
       (∀ o n x, x ∈ Tbl.getD s.notify (o, n) → s.alive o = true ∧ s.alive x = true)) :=
  (reachable_hinv h).map (fun hi => ⟨hi.inv.tab.mir, fun _ _ _ hx => hi.inv.registered_alive hx⟩)

/-- **Waiting ⇔ registered, machine level.**  In every reachable state a listener owns a wait-for entry
    iff it is a thread in state `waiting`. -/
theorem C07_machine_waiting_iff_registered {s : State} (h : Reachable s) :
    s.outOfFuel = true ∨
      ∀ t, (∃ th, s.th? t = some th ∧ th.ts = .waiting) ↔ Tbl.hasOwner s.waitFor t = true :=
  (reachable_hinv h).map (fun hi t => hi.inv.waiting_iff t)

/-- **No lost wake-up, machine level.**  In every reachable state a `waiting` thread is registered in the
    notify list of some `(o, n)` whose source `o` is alive — so a `notify` of that name on `o`, or the
    deletion of `o`, reaches it; and conversely every listener in a notify list is a live thread in state
    `waiting` holding the mirror entry. -/
theorem C07_machine_no_lost_wakeup {s : State} (h : Reachable s) :
    s.outOfFuel = true ∨
      ((∀ t th, s.th? t = some th → th.ts = .waiting →
          ∃ o n, t ∈ Tbl.getD s.notify (o, n) ∧ s.alive o = true) ∧
       (∀ o n x, x ∈ Tbl.getD s.notify (o, n) → o ∈ Tbl.getD s.waitFor (x, n) ∧
          ∃ th, s.th? x = some th ∧ th.ts = .waiting ∧ th.dead = false ∧ th.hasVM = true)) :=
  (reachable_hinv h).map (fun hi =>
    ⟨fun _ _ hf hw => hi.inv.waiting_has_source hf hw,
     fun _ _ _ hx => ⟨(hi.inv.registered_waiting hx).2.1, (hi.inv.registered_waiting hx).2.2⟩⟩)

/-- **A removed source keeps no waiter, machine level.**  `UnregisterAll` of `src` (part of every
    listener's destructor) run in a state that satisfies the machine invariant — every state at a call
    boundary inside a host operation, by `iAll` — ends (unless out of fuel) in a state that satisfies it
    again and in which nothing is registered under `src`: the waiters were deleted
    (`StoppedWaitFor(name, true)`), none of them executed. -/
theorem C07_machine_removed_source_clears (fuel : Nat) {C W : List Nat} {s : State} (h : Inv C W none s) (src : Nat) :
    (unregisterAll fuel s src).outOfFuel = true ∨
      (Inv C W none (unregisterAll fuel s src) ∧ Tbl.hasOwner (unregisterAll fuel s src).notify src = false) :=
  (iAll fuel).ua C W s src h

/-- **`notify` wakes exactly the registered threads, once each, in order — machine level.**
    `o notify n` on an object `o` (no `endon` list for `(o, n)`) in any state satisfying the machine
    invariant, with at least two units of fuel, *is* the following: first both tables are updated to
    `notifyT` of the table layer — so at that moment nothing is registered under `(o, n)` any more and, by
    `C07_notify_wakes_registered_once` / `C07_notify_clears`, the selected list is exactly the threads
    registered at issue time, each once, in registration order — and only then `StoppedWaitFor(n, false)` is
    called on the selected threads in that order, skipping those a previously woken thread destroyed.
    (What each call does — nested execution of the woken thread — keeps the invariant:
    `C07_machine_notify_keeps_invariant_partial`.) -/
theorem C07_machine_notify_wakes_registered_once (fuel : Nat) {W : List Nat} {top : Option Nat} {s : State}
    (h : Inv [] W top s) (o n : Nat) (ho : o < 100) (he : Tbl.find s.endOn (o, n) = none)
    (list : List Nat) (hreg : Tbl.find s.notify (o, n) = some list) :
    unregister (fuel + 2) s o n =
      (notifyT ⟨s.notify, s.waitFor⟩ o n).2.foldl
        (fun s l => if s.alive l then stoppedWaitFor (fuel + 1) s l n false else s)
        { s with waitFor := (notifyT ⟨s.notify, s.waitFor⟩ o n).1.w,
                 notify := (notifyT ⟨s.notify, s.waitFor⟩ o n).1.n } := by
  have hg : Tbl.getD s.notify (o, n) = list := Tbl.find_eq_getD_of_some hreg
  have hown : Tbl.hasOwner s.notify o = true :=
    (h.n.wfN.hasOwner_iff o).2 ⟨n, by rw [hg]; exact h.n.wfN.find_ne_nil hreg⟩
  have halive : ∀ l ∈ list, s.alive l = true := fun l hl => (h.registered_alive (hg ▸ hl)).2
  have hnt : State.isThread o = false := by simp [State.isThread]; omega
  rw [unregister_succ, unregEndOn_of_none _ s o n he]
  simp only [Bool.false_eq_true, if_false]
  unfold unregNotify
  simp only [hown, Bool.not_true, Bool.false_eq_true, if_false, hreg]
  rw [unregisterTargets_eq s o n list halive]
  simp only [stoppedNotify_succ, hnt, Bool.false_eq_true, if_false, ite_self]
  unfold wakeLoop notifyT
  simp only [hg]

/-- **`notify` through the nested executions, machine level** — what is proved: `Unregister(name)` on `src`
    (script `notify`) run in a state satisfying the machine invariant with no cancel in progress ends
    (unless out of fuel) in a state that satisfies it again (mirror, liveness, waiting ⇔ registered), every
    thread that existed before either keeps its record or is gone, and no thread is current that was not.

    *Not* proved, because it is false at machine level: "after `notify o n` returns no thread is registered
    under `(o, n)`".  A woken thread runs nested inside the notify and may execute `waittill o n` again
    before the notify returns (`demoRewait` below).  The clause that is true — the registrations present
    at issue time are all consumed, each exactly once, before any woken thread runs — is the table-layer
    theorem `C07_notify_clears` / `C07_notify_wakes_registered_once` applied to the machine's tables
    (`unregisterTargets_eq`). -/
theorem C07_machine_notify_keeps_invariant_partial (fuel : Nat) {W : List Nat} {s : State}
    (h : Inv [] W none s) (src name : Nat) :
    (unregister fuel s src name).outOfFuel = true ∨
      (Inv [] W none (unregister fuel s src name) ∧ G s (unregister fuel s src name)) :=
  ((iAll fuel).ur [] W s src name h (Or.inl rfl)).map (fun p => ⟨p.1, p.2.1⟩)

/-- thread 100 starts 101 and 102, both wait on `level` (object 50) under name 7; 100 then waits 5 ms -/
def demoWaiters : List HostOp :=
  [.script [[.thread 1, .thread 1, .wait 5, .notify 50 7, .mark 9], [.waittill 50 [7], .mark 2]] [0, 0],
   .call 0 [], .takeOut]

theorem demoWaiters_reachable : Reachable (runOps {} demoWaiters) :=
  (reachable_iff _).2 ⟨demoWaiters, by decide, rfl⟩

example : (runOps {} demoWaiters).outOfFuel = false ∧
    (runOps {} demoWaiters).notify = [((50, 7), [101, 102])] ∧
    (runOps {} demoWaiters).waitFor = [((101, 7), [50]), ((102, 7), [50])] ∧
    ((runOps {} demoWaiters).th? 101).map (·.ts) = some .waiting := by decide +kernel

/-- the hypotheses of `C07_machine_notify_wakes_registered_once` are met by a reachable state with two
    registered waiters -/
example : ∃ s, Inv [] [] none s ∧ Tbl.find s.notify (50, 7) = some [101, 102] ∧ Tbl.find s.endOn (50, 7) = none :=
  ⟨runOps {} demoWaiters, ((reachable_hinv demoWaiters_reachable).get (by decide +kernel)).inv,
    by decide +kernel, by decide +kernel⟩

/-- the frame at clock 5 resumes 100, whose `notify` wakes both waiters nested, in registration order -/
example : (runOps {} (demoWaiters ++ [.step 5])).out = ["m9", "m2", "m2"] ∧
    (runOps {} (demoWaiters ++ [.step 5])).notify = [] ∧
    (runOps {} (demoWaiters ++ [.step 5])).waitFor = [] := by decide +kernel

/-- why "nothing is registered under `(o, n)` after `notify o n`" is false at machine level: the woken
    thread waits again on the same name before the notify returns -/
def demoRewait : List HostOp :=
  [.script [[.thread 1, .notify 50 7, .mark 9], [.waittill 50 [7], .mark 2, .waittill 50 [7], .mark 3]] [0, 0],
   .call 0 []]

example : (runOps {} demoRewait).outOfFuel = false ∧ (runOps {} demoRewait).out = ["m9", "m2"] ∧
    (runOps {} demoRewait).notify = [((50, 7), [101])] := by decide +kernel

/-! ### non-vacuity: a thread object as wait source on named channels (the `hub` family) -/

/-- the hub (101) starts a waiter (102: `local.p0 waittill_any 1 2`) and a notifier (103: waits 5 ms, then
    `local.p0 notify 1`), then waits 9 ms -/
def demoHub : List HostOp :=
  [.script [[.mark 1, .thread 1], [.thread 2, .thread 3, .wait 9, .mark 2], [.waittillParent [1, 2], .mark 3],
      [.wait 5, .notifyParent 1, .mark 4]] [0, 0, 0, 0], .call 0 [], .takeOut]

theorem demoHub_reachable (ops : List HostOp) (h : ∀ op ∈ ops, op.ok) : Reachable (runOps {} (demoHub ++ ops)) :=
  (reachable_iff _).2 ⟨_, fun op hop =>
    (List.mem_append.1 hop).elim ((by decide : ∀ op ∈ demoHub, op.ok) op) (h op), rfl⟩

/-- the waiter is registered on the *thread* 101 under both names, mirrored -/
example : (runOps {} demoHub).outOfFuel = false ∧
    (runOps {} demoHub).notify = [((101, 1), [102]), ((101, 2), [102])] ∧
    (runOps {} demoHub).waitFor = [((102, 1), [101]), ((102, 2), [101])] := by decide +kernel

/-- the notifier's `local.p0 notify 1` at clock 5 wakes the waiter nested (marker 3 before marker 4) and
    cancels its other registration -/
example : (runOps {} (demoHub ++ [.step 5])).out = ["m4", "m3"] ∧ (runOps {} (demoHub ++ [.step 5])).notify = [] := by
  decide +kernel

/-! ## Trace level: the clauses about histories, for the whole machine

The **ghost ledger** of registrations and notifies: for every reachable state there is a history `ops : List NOp`
(`reachable_traced`; from `nnAll`: every function of the machine changes the notify table only by
`reg` = `Register`, `notify` = `Unregister(name)`, `purge`/`multiPurge` = a waiter's `CancelWaiting`, `removeOwner` =
the source's `UnregisterAll`) whose replay from the empty table is the machine's notify table.  Positions in the
list are the sequence numbers.  The ledger is existentially quantified, not stored: the executable machine and the
driver's output are untouched.  No fuel condition.  What a `notify` does with the listeners it finds registered
— `StoppedWaitFor` on each, in order, skipping the ones already destroyed — is
`C07_machine_notify_wakes_registered_once`; so "registered when the notify is issued" below is a superset of
"woken by it". -/

theorem C07_trace_ledger_exists {s : State} (h : Reachable s) : ∃ ops : List NOp, nRun [] ops = s.notify :=
  (reachable_traced h).notify

/-- **A wake-up needs an earlier registration and a later notify, trace level.**  In the ledger of the run, every
    listener that a `notify` on `(src, name)` finds registered was registered by a `reg src name x` that occurs
    *before* that notify in the history: nobody proceeds because of a notify issued before its registration. -/
theorem C07_trace_wake_needs_later_notify {s : State} (h : Reachable s) :
    ∃ ops : List NOp, nRun [] ops = s.notify ∧
      ∀ (pre post : List NOp) (src name : Nat), ops = pre ++ NOp.notify src name :: post →
        ∀ x ∈ Tbl.getD (nRun [] pre) (src, name), NOp.reg src name x ∈ pre := by
  obtain ⟨ops, ho⟩ := (reachable_traced h).notify
  exact ⟨ops, ho, fun _ _ _ _ _ _ hx => reg_of_mem_nRun hx⟩

/-- **At most once per registration, trace level.**  If two notifies on `(src, name)` in the ledger both find `x`
    registered, then `x` registered again in between: one registration is consumed by one notify. -/
theorem C07_trace_exactly_once {s : State} (h : Reachable s) :
    ∃ ops : List NOp, nRun [] ops = s.notify ∧
      ∀ (a b c : List NOp) (src name : Nat),
        ops = a ++ NOp.notify src name :: (b ++ NOp.notify src name :: c) →
        ∀ x ∈ Tbl.getD (nRun [] (a ++ NOp.notify src name :: b)) (src, name), NOp.reg src name x ∈ b := by
  obtain ⟨ops, ho⟩ := (reachable_traced h).notify
  exact ⟨ops, ho, fun _ _ _ src name _ _ hx => reg_after_clearing (fun T => nRun_notify_clears T src name) hx⟩

/-- **A removed source keeps nobody, trace level.**  After the source's `UnregisterAll` (object removal, thread
    destruction) a later notify on it finds only listeners that registered after the removal; the listeners
    registered before were destroyed by it (`C07_machine_removed_source_clears`: `StoppedWaitFor(name, true)`), they
    never proceed. -/
theorem C07_trace_removed_source {s : State} (h : Reachable s) :
    ∃ ops : List NOp, nRun [] ops = s.notify ∧
      ∀ (a b c : List NOp) (src name : Nat),
        ops = a ++ NOp.removeOwner src :: (b ++ NOp.notify src name :: c) →
        ∀ x ∈ Tbl.getD (nRun [] (a ++ NOp.removeOwner src :: b)) (src, name), NOp.reg src name x ∈ b := by
  obtain ⟨ops, ho⟩ := (reachable_traced h).notify
  exact ⟨ops, ho, fun _ _ _ src name _ _ hx => reg_after_clearing (fun T => nRun_removeOwner_clears T src name) hx⟩

/-! ### non-vacuity, trace level: the ledger of `demoWaiters` after its frame -/
example : nRun [] [.reg 50 7 101, .reg 50 7 102] = (runOps {} demoWaiters).notify ∧
    nRun [] [.reg 50 7 101, .reg 50 7 102, .notify 50 7] = (runOps {} (demoWaiters ++ [.step 5])).notify := by
  decide +kernel

/-! ### destroyed threads never proceed (with the creation / destruction ledger of `Props/C13.lean`) -/

/-- `StoppedWaitFor` on a thread that has no record or has lost its VM does nothing: it is neither executed, nor
    resumed, nor re-timed (for any fuel; with no fuel the call only raises the fuel flag). -/
theorem C07_machine_destroyed_not_woken (fuel : Nat) (s : State) (t name : Nat) (d : Bool)
    (h : ∀ th, s.th? t = some th → th.hasVM = false) :
    stoppedWaitFor fuel s t name d = s ∨ stoppedWaitFor fuel s t name d = { s with outOfFuel := true } := by
  cases fuel with
  | zero => right; rw [stoppedWaitFor_zero]
  | succ fuel =>
    have hno : ∀ th, s.th? t = some th → th.hasVM = true → False := fun th hf hv => nomatch (h th hf).symm.trans hv
    exact stoppedWaitFor_split (P := fun r => r = s ∨ r = { s with outOfFuel := true }) fuel s t name d
      (fun _ => Or.inl rfl) (fun th _ hf hv => (hno th hf hv).elim) (fun th _ hf hv => (hno th hf hv).elim)
      (fun th _ hf hv => (hno th hf hv).elim) (fun th _ hf hv => (hno th hf hv).elim) (fun th _ hf hv => (hno th hf hv).elim)

/-- **A destroyed thread never proceeds, trace level.**  In the ledger of thread creations and destructions of any
    reachable state, a thread id with a destruction record has no record in the state (ids are never reused), so
    every later `StoppedWaitFor` on it — from a notify that still lists it, from the removal of a source, from a
    cancelled wait — does nothing: threads destroyed by `endon`, by the removal of the source they waited on, or by
    `Reset()` never run again. -/
theorem C07_trace_destroyed_never_wakes {s : State} (h : Reachable s) :
    ∃ opsT : List POp, pRun pool0T opsT = some (absT s) ∧
      ∀ t, POp.del t ∈ opsT → s.th? t = none ∧
        ∀ fuel name d, stoppedWaitFor fuel s t name d = s ∨ stoppedWaitFor fuel s t name d = { s with outOfFuel := true } := by
  obtain ⟨opsT, hT⟩ := (reachable_traced h).threads
  refine ⟨opsT, hT, ?_⟩
  intro t hd
  have hnone : s.th? t = none :=
    thFind_none_iff.2 fun hm => ((mem_after opsT t pool0T_good hT).1 hm).2 hd
  exact ⟨hnone, fun fuel name d => C07_machine_destroyed_not_woken fuel s t name d (fun th hf => by rw [hnone] at hf; cases hf)⟩

/-! ## Call level: what happens inside the very call of a notify / a removal

The statements tie a particular `Unregister(name)` / `UnregisterAll` to what is true when *that call* returns; the
loop invariant is "processed ⇒ no VM", kept by everything that runs afterwards inside the call (later iterations,
nested executions of woken waiters) because no function of the machine ever gives a VM back (`hvAll`).  "No VM"
(`NoVM`: no record, or a record whose `m_ScriptVM` is gone) is what makes every later `StoppedWaitFor`, timer
resumption or execution of that thread impossible (`C07_machine_destroyed_not_woken`). -/

/-- **`endon` destroys, call level.**  `o notify n` (`Unregister(n)` on `o`) called in a state satisfying the machine
    invariant: when the call returns (unless out of fuel) every thread that was listed under `endon (o, n)` at the
    moment of the call (and had a record; the notifying listener itself is handled by the C++ special case) has no
    VM — it was deleted by the `endon` loop of this call, before any waiter of `(o, n)` was woken, and nothing that
    ran afterwards inside the call revived it. -/
theorem C07_call_endon_destroys (fuel : Nat) {C W : List Nat} {s : State} (h : Inv C W none s) (o n : Nat)
    (listeners : List Nat) (he : Tbl.hasOwner s.endOn o = true) (hf : Tbl.find s.endOn (o, n) = some listeners) :
    (unregister (fuel + 2) s o n).outOfFuel = true ∨
      ∀ l ∈ listeners, l ≠ o → (∃ th, s.th? l = some th) →
        ∀ th', (unregister (fuel + 2) s o n).th? l = some th' → th'.hasVM = false :=
  unregister_endon_destroys fuel h o n listeners he hf

/-- **A removed source destroys its waiters, call level.**  `UnregisterAll` of `src` (every listener's destructor:
    object removal, thread destruction) called in a state satisfying the machine invariant: when the call returns
    (unless out of fuel) every listener that was registered on `src` — under any name — when the kill loop of this
    call started (i.e. after its `Unregister(0)`, which re-times the `waitthread` callers) has no VM: it was deleted,
    never woken.  (A listener registered in `s` that is no longer registered after `Unregister(0)` was cancelled or
    destroyed by that cascade.) -/
theorem C07_call_removed_source_destroys_waiters (fuel : Nat) {C W : List Nat} {s : State} (h : Inv C W none s)
    (src : Nat) :
    (unregisterAll (fuel + 3) s src).outOfFuel = true ∨
      ∀ n x, x ∈ Tbl.getD (unregister (fuel + 2) s src 0).notify (src, n) →
        ∀ th', (unregisterAll (fuel + 3) s src).th? x = some th' → th'.hasVM = false :=
  unregisterAll_of_uaRest (iAll (fuel + 2)).ur h src
    (Q := fun r => ∀ n x, x ∈ Tbl.getD (unregister (fuel + 2) s src 0).notify (src, n) → NoVM r x)
    fun h1 => uaRest_destroys_waiters fuel h1 src

/-- **`waitthread`: blocked while the callee lives, released by its destruction — call level (partial).**
    (1) In every reachable state a thread registered on channel 0 of a thread `t` (a `waitthread` caller; the mirror
    entry is the only way to be `waiting` on it) finds `t` alive: as long as the caller is blocked the callee has not
    been destroyed.  (2) `delete thread` of `t` (which has its VM), called in a state satisfying the machine
    invariant, returns — unless out of fuel — with `t` without VM, nothing registered on `t`, and every thread that was
    registered only on channel 0 of `t` no longer `waiting` (re-timed by the `Unregister(0)` of `t`'s destructor, to be
    resumed by the next `ExecuteRunning`; or destroyed).  With `C05_machine_end_writes_slot`: the callee's `end v` wrote
    its result before this destructor ran.
    The converse ("released by nothing else than the end of the callee") is `C07_call_waitthread_only_release` below
    (side condition `WTSafe`); the name keeps its `_partial` because this theorem alone is half of the clause. -/
theorem C07_call_waitthread_partial :
    (∀ {s : State}, Reachable s → s.outOfFuel = true ∨
      ∀ c t, t ∈ Tbl.getD s.waitFor (c, 0) → s.alive t = true ∧
        ∃ th, s.th? c = some th ∧ th.ts = .waiting ∧ th.dead = false) ∧
    (∀ (fuel : Nat) {C : List Nat} {s : State} {t : Nat} {th : Th}, Inv C [t] none s → s.th? t = some th →
      th.hasVM = true →
      (deleteThread (fuel + 1) s t).outOfFuel = true ∨
        ((∀ th', (deleteThread (fuel + 1) s t).th? t = some th' → th'.hasVM = false) ∧
         (∀ n, Tbl.getD (deleteThread (fuel + 1) s t).notify (t, n) = []) ∧
         (∀ c, (∀ n o, o ∈ Tbl.getD s.waitFor (c, n) → n = 0 ∧ o = t) →
            ∀ th', (deleteThread (fuel + 1) s t).th? c = some th' → th'.ts ≠ .waiting))) := by
  refine ⟨fun h => (reachable_hinv h).map (fun hi c t ht => ?_),
    fun fuel _ _ _ _ h hth hv => deleteThread_releases_callers fuel h hth hv⟩
  obtain ⟨a1, _, th, hf, hw, hd, _⟩ := hi.inv.registered_waiting ((hi.inv.tab.mir.mem_iff t 0 c).2 ht)
  exact ⟨a1, th, hf, hw, hd⟩

/-- a program in which no script releases a `waitthread` caller behind the callee's back: no `local.p0 wait d`
    (`Wait(d)` sent to the spawning thread) and no `local.p0 notify 0` -/
def Instr.plainWaitthread : Instr → Prop
  | .waitParent _ => False
  | .notifyParent n => n ≠ 0
  | _ => True

def PlainWaitthread (p : List (List Instr)) : Prop := ∀ body ∈ p, ∀ ins ∈ body, ins.plainWaitthread

instance (i : Instr) : Decidable i.plainWaitthread := by
  cases i <;> unfold Instr.plainWaitthread <;> infer_instance

instance (p : List (List Instr)) : Decidable (PlainWaitthread p) := by unfold PlainWaitthread; infer_instance

/-- a realistic `waitthread` program (caller waits for a callee that waits 5 ms and ends with a value) is in the class;
    the `hub` generator family is **not** (it uses `local.p0 wait d`) -/
example : PlainWaitthread [[.mark 1, .waitthread 1, .mark 2], [.wait 5, .end_ (.lit 7)]] ∧
    ¬ PlainWaitthread [[.thread 1], [.waitParent 5]] := by decide

/-- **`waitthread`: released only through three doors — call level (partial).**  For every host operation but `reset` (hence
    for every frame, host call, `Reset()` …, with all nested executions), in the ledger of notify-table operations of that
    operation: a thread `c` registered on channel 0 of `t` before is still registered after, **or** the operation
    performed `Unregister(0)` on `t`, or `UnregisterAll` on `t`, or a `CancelWaiting` of `c` itself.  No invariant, no
    fuel condition.
    Who opens these doors: `UnregisterAll(t)` only `t`'s destructor; `Unregister(0)` on a thread: `t`'s destructor (inside
    `UnregisterAll`) and the instruction `local.p0 notify 0` — a script `o notify n` always addresses an alive *object* —
    which `PlainWaitthread` excludes; `CancelWaiting(c)`: `c`'s own `Stop()` — when `c` is destroyed, when it is re-timed
    by `Unregister(0)` (door 1), or when another thread sends it `Wait(d)` (`local.p0 wait d`), which `PlainWaitthread`
    excludes.  This is the ledger form (no invariant, any state); the statement about *who* performs these operations
    — and that each of them ends the callee — is `C07_call_waitthread_only_release` below, which supersedes the
    argument above (and shows that `local.p0 wait d` need not be excluded: it destroys the callee). -/
theorem C07_call_waitthread_only_release_partial (s : State) (op : HostOp) (hne : op ≠ .reset) (c t : Nat)
    (h : c ∈ Tbl.getD s.notify (t, 0)) :
    c ∈ Tbl.getD (op.apply s).notify (t, 0) ∨
      ∃ ops : List NOp, nRun s.notify ops = (op.apply s).notify ∧ ∃ o ∈ ops,
        o = .notify t 0 ∨ (∃ al list, o = .purge al c 0 list) ∨ (∃ al keys, o = .multiPurge al c keys) ∨
          o = .removeOwner t := by
  obtain ⟨ops, hr⟩ := HostOp.apply_nn s op hne
  rcases nRun_keeps ops s.notify c t 0 h with h1 | ⟨o, ho, hrel⟩
  · left; rw [← hr]; exact h1
  · exact Or.inr ⟨ops, hr, o, ho, hrel⟩

/-! ### `waitthread`: the caller proceeds only after the callee has ended

`wtrAll` (`Sched/MachineWaitthread.lean`), lifted to the driver's commands by `HostOp.apply_wtr`.  Side condition on the
program, decidable, `WTSafe p`: no `local.p0 notify 0` (a script-level notify on channel 0 of a thread), and the object
literals of `notify` / `delete` are object ids (`< 100`).  Every generator family satisfies it (the `hub` family notifies
its parent under names 1 and 2 only).  `local.p0 wait d` is **allowed**: it cancels the caller's registration, and the
cancel loop then calls `StoppedNotify` on the callee, which deletes it — the callee has ended all the same. -/

example : WTSafe [[.mark 1, .waitthread 1, .mark 2], [.wait 5, .end_ (.lit 7)]] ∧
    WTSafe [[.thread 1], [.waitthread 2, .mark 1], [.waitParent 5, .notifyParent 2, .notify 50 3]] ∧
    ¬ WTSafe [[.waitthread 1], [.notifyParent 0]] := by decide

/-- **A `waitthread` caller proceeds only after the callee has ended.**  For every reachable state whose program is
    `WTSafe`, every driver command `op` (compile, host call, frame, `Reset()`, … with all nested executions, cascades
    and wake loops), every thread `t` and listener `c` registered on channel 0 of `t` (what `waitthread` does with the
    caller): unless the command runs out of fuel,
    * afterwards `c` is still registered on channel 0 of `t`, or `t` has no VM (the callee has ended: `end`, or
      destroyed);
    * if afterwards `c` has a record that is not `waiting` (it is `running` or re-timed), then `t` has no VM.
    How the caller can be released at all (enumeration, each case covered by the proof): (1) the callee's destructor
    (`Unregister(0)` / `UnregisterAll` of `t` — after `m_ScriptVM = nullptr`); (2) `CancelWaiting` of the caller — its
    own destruction (`Reset()`, instance kill, `endon`, removal of an object it also waits on, being a waiter of a
    removed source), a `waittill_timeout` event, `Wait(d)` sent to it by a child, a notify on another entry it holds:
    in each of them `CancelWaitingSources` reports `t` as stopped and `t->StoppedNotify()` deletes the callee;
    (3) script-level `Unregister(0)` on `t`: excluded by `WTSafe` (`local.p0 notify 0`; `o notify n` / `delete o`
    address objects).  Together with `C07_call_waitthread_partial` (blocked ⇒ callee alive; the callee's destruction
    releases the caller) this is the property's `waitthread` clause. -/
theorem C07_call_waitthread_only_release {s : State} (h : Reachable s) (hp : WTSafe s.prog) (op : HostOp)
    (hok : op.ok) (c t : Nat) (ht : 100 ≤ t) (hc : c ∈ Tbl.getD s.notify (t, 0)) :
    (op.apply s).outOfFuel = true ∨
      ((c ∈ Tbl.getD (op.apply s).notify (t, 0) ∨ (op.apply s).hasVM t = false) ∧
       (∀ th', (op.apply s).th? c = some th' → th'.ts ≠ .waiting → (op.apply s).hasVM t = false)) := by
  by_cases hreset : op = .reset
  · subst hreset
    exact Or.inr ⟨Or.inr rfl, fun _ _ _ => rfl⟩
  refine (reachable_hinv h).bind' (HostOp.apply_oof op hreset) fun hi => ?_
  refine ok_cases _ _ fun hof => ?_
  have hi' := (reachable_hinv (Reachable.step op h hok)).get hof
  -- the callee is alive, so its id has been handed out
  obtain ⟨th, hf, _⟩ := (hi.inv.n.alive_iff ht).1 (hi.inv.registered_waiting hc).1
  have hlt : t < s.nextTid := (hi.inv.n.range t th hf).2
  have r := HostOp.apply_wtr ht s op hp hlt hc
  have hended : Ended t (op.apply s) → (op.apply s).hasVM t = false := fun g =>
    hasVM_false_of_not_liveVM hi'.inv.th (g.resolve_right (by rw [hof]; exact Bool.noConfusion))
  refine ⟨r.imp_right hended, fun th' hf' hnw => ?_⟩
  rcases r with r | r
  · obtain ⟨_, _, th, hf, hw, _⟩ := hi'.inv.registered_waiting r
    cases hf'.symm.trans hf
    exact absurd hw hnw
  · exact hended r

/-- non-vacuity: after the host call the caller (100) is registered on channel 0 of the callee (101), which has its VM;
    the frame 5 ms later ends the callee, and the caller has proceeded (`m2`) -/
example :
    let A := runOps {} [.script [[.mark 1, .waitthread 1, .mark 2], [.wait 5, .end_ (.lit 7)]] [0, 0], .call 0 []]
    WTSafe A.prog ∧ Tbl.getD A.notify (101, 0) = [100] ∧ A.hasVM 101 = true ∧
      (HostOp.apply A (.step 5)).outOfFuel = false ∧ (HostOp.apply A (.step 5)).hasVM 101 = false ∧
      (HostOp.apply A (.step 5)).out = ["m2", "m1"] := by decide +kernel

/-- … and the `local.p0 wait d` case: the callee (101) sends `Wait(5)` to its caller (100): the caller is re-timed and the
    callee is destroyed on the spot (it never prints `m4`) -/
example :
    let B := runOps {} [.script [[.mark 1, .waitthread 1, .mark 2], [.mark 3, .waitParent 5, .mark 4, .wait 100]] [0, 0], .call 0 []]
    B.hasVM 101 = false ∧ B.timer.elems = [(100, 5)] ∧ B.out = ["m3", "m1"] := by decide +kernel

/-- non-vacuity: a thread that registered `endon` on `level` and then waits is destroyed by the notify of another
    thread, which proceeds (`m9`) -/
example : (runOps {} [.script [[.thread 1, .wait 5, .notify 50 7, .mark 9], [.endon 50 7, .wait 100, .mark 2]] [0, 0],
      .call 0 [], .step 5]).out = ["m9"] ∧
    (runOps {} [.script [[.thread 1, .wait 5, .notify 50 7, .mark 9], [.endon 50 7, .wait 100, .mark 2]] [0, 0],
      .call 0 [], .step 5]).threads = [] := by decide +kernel

end Morfuse.Sched
