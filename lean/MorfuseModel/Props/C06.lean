import MorfuseModel.Sched.TimerLemmas
import MorfuseModel.Sched.Machine
import MorfuseModel.Sched.MachineHostProps
import MorfuseModel.Sched.TimerRun
import MorfuseModel.Sched.MachineHostSLTrace
import MorfuseModel.Sched.TimerOrder
/-!
# C06 — timed waits: never early, earliest first, exactly once

The timer (`con::timer`) is the only place where timed waits live: `wait d` stores
`scaledTime + d` (`addTiming`), and the only way a timed thread runs again is by being returned by
`GetNextElement` inside `ExecuteRunning`'s loop.  The theorems below are about **every** history of
timer operations (adds and removes performed by arbitrary script code between two `next` calls,
time updates by the host), with no bound on the number of threads or operations.

What the theorems do not cover and the correspondence run (tools/props/c06.py) checks instead: that
the engine performs exactly these timer operations (the scheduler machine `Sched.Machine` predicts
the order of every marker printed by generated programs under generated frame schedules), the
`busy while waiting` clause (`IsIdle`, compared after every command), and `scaledTime = m_time`
under the stated clock discipline.
-/
namespace Morfuse.Sched

/-- **Never early.**  Whatever the history, an element is only ever returned (its thread resumed)
    at a time `m_time ≥ due`; with `due = scaledTime + d` that is "not before a frame whose time is
    `≥ t + d`". -/
theorem C06_never_early (ops : List TOp) :
    ∀ x ∈ (TRun.run {} ops).returned, x.1.2 ≤ x.2 := by
  refine TRun.run_induction (P := fun r => ∀ x ∈ r.returned, x.1.2 ≤ x.2) (fun r op h => ?_) ops {}
    (fun _ hx => nomatch hx)
  cases op with
  | add e d => exact h
  | remove e => simp only [TRun.step]; split <;> exact h
  | setTime time => exact h
  | next =>
    simp only [TRun.step]
    split
    · next ed t' hn =>
      obtain ⟨_, _, hd, _, _⟩ := Timer.next_some (e := ed.1) (d := ed.2) hn
      exact List.forall_mem_cons.2 ⟨hd, h⟩
    · exact h

/-- **Resumed by the end of the first due frame.**  The `ExecuteRunning` loop stops only when
    `GetNextElement` finds nothing, and then no pending element is due. -/
theorem C06_not_late (t t' : Timer) (h : t.next = (none, t')) :
    (∀ ed ∈ t'.elems, t'.mtime < ed.2) ∧ t'.dirty = false := by
  obtain ⟨h1, h2⟩ := Timer.next_none h
  subst h2
  exact ⟨h1, rfl⟩

/-- **Earliest first, first-come among equals.**  The element returned is due, has the smallest due
    time of everything pending, and among elements with that due time the one registered first. -/
theorem C06_earliest_first_fifo (t t' : Timer) (e d : Nat) (h : t.next = (some (e, d), t')) :
    ∃ i, t.elems[i]? = some (e, d) ∧ d ≤ t.mtime ∧
      (∀ j e' d', t.elems[j]? = some (e', d') → d' ≤ t.mtime → d ≤ d' ∧ (d' = d → i ≤ j)) ∧
      t'.elems = t.elems.eraseIdx i := by
  obtain ⟨i, h1, h2, h3, h4⟩ := Timer.next_some h
  exact ⟨i, h1, h2, h3, by rw [h4]⟩

theorem perm_eraseIdx {α : Type} : ∀ (l : List α) (i : Nat) (x : α), l[i]? = some x →
    l.Perm (x :: l.eraseIdx i)
  | [], _, _, h => by simp at h
  | a :: l, 0, x, h => by simp at h; subst h; simp
  | a :: l, i + 1, x, h => by
    simp at h
    have := perm_eraseIdx l i x h
    simp only [List.eraseIdx_cons_succ]
    exact (List.Perm.cons a this).trans (List.Perm.swap x a _)

theorem lastIdxOf_lt {l : List (Nat × Nat)} {e i : Nat} (h : Timer.lastIdxOf l e = some i) : i < l.length := by
  obtain ⟨d, hd⟩ := lastIdxOf_spec h
  exact (List.getElem?_eq_some_iff.1 hd).1

/-- **Exactly once.**  Ledger over every history: each element ever added is, at every moment,
    in exactly one of {returned, removed, still pending} — with multiplicities. -/
theorem C06_exactly_once (ops : List TOp) :
    let r := TRun.run {} ops
    r.added.Perm (r.returned.map (·.1) ++ r.removed ++ r.t.elems) := by
  refine TRun.run_induction (P := fun r => r.added.Perm (r.returned.map (·.1) ++ r.removed ++ r.t.elems))
    (fun r op h => ?_) ops {} (List.Perm.refl _)
  -- an element leaving the timer at index `i` moves to the front of `removed` resp. `returned`
  have move : ∀ i x, r.t.elems[i]? = some x →
      r.added.Perm (r.returned.map (·.1) ++ r.removed ++ x :: r.t.elems.eraseIdx i) := fun i x hi =>
    h.trans (List.Perm.append_left _ (perm_eraseIdx r.t.elems i x hi))
  cases op with
  | add e d =>
    simp only [TRun.step, Timer.add, ← List.append_assoc]
    exact (h.cons _).trans (List.perm_append_singleton _ _).symm
  | remove e =>
    simp only [TRun.step]
    split
    · next i hi =>
      obtain ⟨d, hd⟩ := lastIdxOf_spec hi
      simp only [Timer.remove, hi, List.getD, hd, Option.getD_some]
      refine (move i _ hd).trans ?_
      simp only [List.append_assoc]
      exact List.Perm.append_left _ List.perm_middle
    · exact h
  | setTime time => exact h
  | next =>
    simp only [TRun.step]
    split
    · next ed t' hn =>
      obtain ⟨i, hi, _, _, rfl⟩ := Timer.next_some (e := ed.1) (d := ed.2) hn
      exact (move i ed hi).trans List.perm_middle
    · next t' hn =>
      obtain ⟨_, rfl⟩ := Timer.next_none hn
      exact h

/-- `wait d` registers the due time `scaledTime + d` (the value all theorems above speak about). -/
theorem C06_wait_registers_due (s : State) (t d : Nat) :
    (addTiming s t d).timer.elems = s.timer.elems ++ [(t, s.scaled + d)] := rfl

/-- three threads; 2 and 3 are due together at 250 (registered in that order), 1 at 500 -/
def demoOps : List TOp :=
  [.add 1 500, .add 2 250, .add 3 250, .setTime 100, .next, .setTime 300, .next, .next, .next, .setTime 600, .next]

example : ((TRun.run {} demoOps).returned.reverse.map (fun x => (x.1.1, x.2))) = [(2, 300), (3, 300), (1, 600)] := by
  decide

/-! ## Machine level: the same clauses for the whole scheduler machine, in every reachable state

`Reachable s` (`Sched/MachineHost.lean`): `s` is produced from the initial state by any list of host
operations of the driver — compile/recompile a program of class `ProgOK` (every generator family), host call with arguments,
`advance`, `execute`, `step`, `reset-director`, `reset`, reading the output — **without `save`/`load`**
(with them: `ReachableSL`, `Sched/MachineHostSL.lean`, and `Props/C09.lean`).  All statements are modulo running out of fuel (the machine's
functions take fuel; the driver reports an exhausted run as `FUEL` and the correspondence treats it as a
failure of the run, never as agreement).  They rest on `iAll` (the invariant through every function of
the mutual block, re-entrant cascades included) and `hrAll` (clocks / `m_time` / dirty flag). -/

/-- **Exactly once per wait, machine level.**  In every reachable state every thread in state `timing`
    is in the timer exactly once, no thread is in it twice, and every timer element is a live thread
    (record present, not dead, VM present) in state `timing`. -/
theorem C06_machine_timer_exact {s : State} (h : Reachable s) :
    s.outOfFuel = true ∨
      ((∀ t th, s.th? t = some th → th.ts = .timing → (s.timer.elems.map (·.1)).count t = 1) ∧
       (s.timer.elems.map (·.1)).Nodup ∧
       (∀ e ∈ s.timer.elems, ∃ th, s.th? e.1 = some th ∧ th.ts = .timing ∧ th.hasVM = true ∧ th.dead = false)) :=
  (reachable_hinv h).map (fun hi =>
    ⟨fun _ _ hf hts => hi.inv.timing_once hf hts, hi.inv.tim.t2, fun _ he => hi.inv.timer_elem_live he⟩)

/-- **By the end of the first due frame, machine level.**  After a host `Execute()` that did not run
    out of fuel the timer's time is the frame's clock and no element of the timer is due: every thread
    whose due time had been reached was taken out and resumed inside this call — through all nested
    executions, host events and cascades of the frame. -/
theorem C06_machine_none_due_after_execute {s : State} (h : Reachable s)
    (ho : (hostExecute s).outOfFuel = false) :
    (hostExecute s).timer.mtime = s.clock ∧ ∀ e ∈ (hostExecute s).timer.elems, s.clock < e.2 :=
  have hi := (reachable_hinv h).get (fuel_left_before (HostOp.apply_oof .execute nofun) ho)
  hostExecute_none_due hi.cur hi.depth ho

/-- **A host call drains due timers too, machine level.**  `ScriptExecuteInternal` ends with
    `ExecuteRunning`; for a top-level host call (label found, fuel not exhausted) no timer element is due
    when `ExecuteThread` returns — in particular a `wait 0` is resumed inside the same host call. -/
theorem C06_machine_none_due_after_call {s : State} (h : Reachable s) (label : Nat) (args : List V)
    (hl : label < s.prog.length) (ho : (hostCall s label args).1.outOfFuel = false) :
    ∀ e ∈ (hostCall s label args).1.timer.elems, (hostCall s label args).1.timer.mtime < e.2 :=
  hostCall_none_due ((reachable_hinv h).get (fuel_left_before (HostOp.apply_oof (.call label args) nofun) ho)) label args hl ho

/-- **The clock discipline**, in every reachable state: `scaledTime`, the timer's `m_time` and the clock
    of the last frame coincide (time scale 1, clock moved only between `Execute` calls) — so a due time
    `scaledTime + d` stored by `wait d` is "frame clock at the wait + d" and is compared with the frame
    clock. -/
theorem C06_machine_clock_discipline {s : State} (h : Reachable s) :
    s.outOfFuel = true ∨ (s.scaled = s.lastClock ∧ s.timer.mtime = s.lastClock ∧ s.lastClock ≤ s.clock) :=
  (reachable_hinv h).map (fun hi => ⟨hi.ck2, reachable_mtime h, hi.ck1⟩)

/-- `ScriptExecuteInternal` — like every function of the machine, `hrAll` — moves neither `scaledTime` nor the
    clock nor `m_time` (only the host's `Execute` does): the three agree throughout a host call / a frame, whatever
    runs nested inside. -/
theorem C06_machine_clocks_fixed (fuel : Nat) (s : State) (t : Nat) :
    let s' := scriptExecuteInternal fuel s t
    s'.scaled = s.scaled ∧ s'.clock = s.clock ∧ s'.timer.mtime = s.timer.mtime := by
  have hr := (hrAll fuel).sei s t
  exact ⟨hr.ht.scaled, hr.ht.clock, hr.ht.mtime⟩

/-- **Never early, machine level** (three facts that compose):
    (1) `wait ms` executed by `t` leaves exactly one new timer element, `(t, scaledTime + ms)`;
    (2) the timer loop resumes a thread only if it is a timer element whose due time is `≤ m_time`, and it
        is the earliest such element;
    (3) when nothing is due the loop stops.
    With `C06_machine_clock_discipline` / `C06_machine_clocks_fixed`: resumed only in a frame whose clock
    is `≥` (frame clock at the wait) `+ ms`. -/
theorem C06_machine_never_early (fuel : Nat) (s : State) :
    (∀ t th ms, (exec (fuel + 1) s t th (.wait ms)).timer.elems =
        (stop fuel s t).timer.elems ++ [(t, s.scaled + ms)]) ∧
    (∀ t d tm, s.timer.next = (some (t, d), tm) →
        (t, d) ∈ s.timer.elems ∧ d ≤ s.timer.mtime ∧ (∀ e ∈ s.timer.elems, e.2 ≤ s.timer.mtime → d ≤ e.2) ∧
        drain (fuel + 1) s = drain fuel (execVM fuel (({ s with timer := tm, cur := some t } : State).setTh t
          (fun th => { th with ts := .running })) t)) ∧
    (∀ tm, s.timer.next = (none, tm) →
        (∀ e ∈ s.timer.elems, s.timer.mtime < e.2) ∧ drain (fuel + 1) s = { s with timer := tm, cur := none }) :=
  ⟨fun t th ms => exec_wait_timer fuel s t th ms, fun t d tm hn => drain_resumes_due fuel s t d tm hn,
    fun tm hn => drain_stops fuel s tm hn⟩

/-! ### non-vacuity, machine level: two threads, one waits 5 ms, the other waits on `level` (object 50) -/

def demoHost : List HostOp :=
  [.script [[.thread 1, .wait 5, .mark 1], [.waittill 50 [7], .mark 2]] [0, 0], .call 0 [], .takeOut]

theorem demoHost_reachable : Reachable (runOps {} demoHost) :=
  (reachable_iff _).2 ⟨demoHost, by decide, rfl⟩

example : (runOps {} demoHost).outOfFuel = false ∧ (runOps {} demoHost).timer.elems = [(100, 5)] ∧
    ((runOps {} demoHost).th? 100).map (·.ts) = some .timing := by decide +kernel

/-- the frame at clock 5 resumes the timed thread (marker 1) and leaves the timer empty -/
example : (hostExecute (runOps {} (demoHost ++ [.advance 5]))).outOfFuel = false ∧
    (hostExecute (runOps {} (demoHost ++ [.advance 5]))).out = ["m1"] ∧
    (hostExecute (runOps {} (demoHost ++ [.advance 5]))).timer.elems = [] := by decide +kernel

/-- a frame at clock 4 is too early: nothing runs, the element stays, and it is not due -/
example : (hostExecute (runOps {} (demoHost ++ [.advance 4]))).out = [] ∧
    (hostExecute (runOps {} (demoHost ++ [.advance 4]))).timer.elems = [(100, 5)] := by decide +kernel

/-- `wait 0` resumes inside the same host call: marker 2 is printed by the call, the timer is empty after it -/
example : (runOps {} [.script [[.mark 1, .wait 0, .mark 2]] [0], .call 0 []]).out = ["m2", "m1"] ∧
    (runOps {} [.script [[.mark 1, .wait 0, .mark 2]] [0], .call 0 []]).timer.elems = [] := by decide +kernel

/-! ## Trace level: the clauses about histories, for the whole machine

The **ghost ledger**: for every reachable state there is a history `ops` of timer operations
(`reachable_traced`, `Sched/MachineHostSLTrace.lean`; obtained from `ttAll`: every function of the
machine changes the timer only by `add`, `remove`, `next`; `setTime` once per `ScriptContext::Execute`) whose replay
from the empty timer is the machine's timer.  `TRun.run {} ops` is then the machine's timer *with its ledger*:
`added` = every timed wait ever registered (thread, due time), `returned` = every resumption by the timer loop with
the frame time (`m_time`) of that moment, `removed` = every wait cancelled by `Stop()` / thread destruction.  The
ledger is existentially quantified instead of stored in the machine state, so the executable machine and the
driver's output are untouched.  No fuel condition: these hold for exhausted runs too.  Histories without
`save`/`load` (`Reachable`). -/

theorem C06_trace_ledger_exists {s : State} (h : Reachable s) : ∃ ops, IsLedger s ops :=
  (reachable_traced h).timer

/-- **Never early, trace level.**  There is a ledger of the run in which (a) every wait was registered with a
    due time `scaledTime + d ≥` the frame time at that moment (`AddsLate`), (b) every resumption happened at a
    frame time `≥` the due time of the element resumed, (c) every resumed element is one that was registered.
    So a thread that executes `wait d` while the frame time is `t` is not resumed by the timer before a frame
    whose time is `≥ t + d`. -/
theorem C06_trace_never_early {s : State} (h : Reachable s) :
    ∃ ops, IsLedger s ops ∧
      (∀ x ∈ (TRun.run {} ops).returned, x.1.2 ≤ x.2) ∧
      (∀ x ∈ (TRun.run {} ops).returned, x.1 ∈ (TRun.run {} ops).added) := by
  obtain ⟨ops, hl⟩ := C06_trace_ledger_exists h
  refine ⟨ops, hl, C06_never_early ops, fun x hx => (C06_exactly_once ops).symm.subset ?_⟩
  exact List.mem_append_left _ (List.mem_append_left _ (List.mem_map_of_mem hx))

/-- **Exactly once, trace level.**  In the ledger of the run every registered wait is, with multiplicity, in
    exactly one of: resumed, cancelled (`Stop()` / destruction), still pending in the timer.  In particular
    no wait is resumed twice and no resumption happens without a wait. -/
theorem C06_trace_exactly_once {s : State} (h : Reachable s) :
    ∃ ops, IsLedger s ops ∧
      (TRun.run {} ops).added.Perm
        ((TRun.run {} ops).returned.map (·.1) ++ (TRun.run {} ops).removed ++ s.timer.elems) := by
  obtain ⟨ops, hl⟩ := C06_trace_ledger_exists h
  exact ⟨ops, hl, hl.1 ▸ C06_exactly_once ops⟩

/-- **By the end of the first due frame, trace level.**  After a `ScriptContext::Execute()` at frame time `T`
    that did not run out of fuel, every wait ever registered whose due time is `≤ T` has been resumed or was
    cancelled (its thread stopped or destroyed) — none is still pending. -/
theorem C06_trace_by_end_of_first_due_frame {s : State} (h : Reachable s) (ho : (hostExecute s).outOfFuel = false) :
    ∃ ops, IsLedger (hostExecute s) ops ∧
      ∀ a ∈ (TRun.run {} ops).added, a.2 ≤ s.clock →
        a ∈ (TRun.run {} ops).returned.map (·.1) ∨ a ∈ (TRun.run {} ops).removed := by
  obtain ⟨ops, hl, hp⟩ := C06_trace_exactly_once (.step .execute h trivial : Reachable (hostExecute s))
  refine ⟨ops, hl, fun a ha hdue => ?_⟩
  -- a registered wait that is neither resumed nor cancelled is pending, and nothing pending is due
  rcases List.mem_append.1 (hp.subset ha) with hm | hm
  · exact List.mem_append.1 hm
  · exact absurd hdue (Nat.not_le.2 ((C06_machine_none_due_after_execute h ho).2 a hm))

/-- **Due order, trace level.**  Every resumption recorded in the ledger took, at that moment, the element with
    the smallest due time among those due and, among equal due times, the one registered first. -/
theorem C06_trace_due_order {s : State} (h : Reachable s) :
    ∃ ops, IsLedger s ops ∧
      ∀ (pre post : List TOp), ops = pre ++ TOp.next :: post → ∀ (e d : Nat) (tm' : Timer),
        (timerRun {} pre).next = (some (e, d), tm') →
        ∃ i, (timerRun {} pre).elems[i]? = some (e, d) ∧ d ≤ (timerRun {} pre).mtime ∧
          (∀ (j e' d' : Nat), (timerRun {} pre).elems[j]? = some (e', d') → d' ≤ (timerRun {} pre).mtime →
            d ≤ d' ∧ (d' = d → i ≤ j)) := by
  obtain ⟨ops, hl⟩ := C06_trace_ledger_exists h
  refine ⟨ops, hl, fun pre post _ e d tm' hn => ?_⟩
  obtain ⟨i, h1, h2, h3, _⟩ := C06_earliest_first_fifo _ tm' e d hn
  exact ⟨i, h1, h2, h3⟩

/-! ### non-vacuity, trace level: the ledger of the two-thread demo after its frame -/
example : (TRun.run {} [.add 100 5, .setTime 5, .next, .next]).returned = [((100, 5), 5)] ∧
    (TRun.run {} [.add 100 5, .setTime 5, .next, .next]).t.elems = (hostExecute (runOps {} (demoHost ++ [.advance 5]))).timer.elems := by
  decide +kernel

/-- **Due order over a whole drain / a whole frame, trace level.**  For a reachable state `s`:
    (1) the whole of `ScriptContext::Execute()` after `SetTime` — host events, the timer loop, every nested execution —
    and (2) any single run of the timer loop (`ExecuteRunning`, e.g. at the end of a host call) have a ledger of
    timer operations (no `setTime`, every `add` with due `≥ m_time`) in which the due times of the resumed elements,
    in the order of resumption, are **nondecreasing**: the elements in the timer at the start come out by increasing due
    time, and the threads registered during the drain (`wait 0`, re-timed `waitthread` callers: due `= m_time`) come
    after every element that was due earlier.  (Among equal due times each `next` takes the oldest registration —
    `C06_trace_due_order`; that the whole subsequence of equal dues is in arrival order is not stated here.) -/
theorem C06_trace_drain_sorted {s : State} (h : Reachable s) :
    (∃ ops : List TOp, timerRun (frameSetTime s).timer ops = (hostExecute s).timer ∧ NoSet ops ∧
      AddsLate (frameSetTime s).timer ops ∧ (chronDues (frameSetTime s).timer ops).Pairwise (· ≤ ·)) ∧
    (∀ fuel, ∃ ops : List TOp, timerRun s.timer ops = (executeRunning fuel s).timer ∧ NoSet ops ∧
      AddsLate s.timer ops ∧ (chronDues s.timer ops).Pairwise (· ≤ ·)) := by
  have hc := reachable_scaled h
  constructor
  · exact tt_dues_sorted (TT.hostMoves.run s) (Nat.le_of_eq (frameSetTime_scaled hc.1 hc.2).symm)
  · intro fuel
    exact tt_dues_sorted ((ttAll fuel).er s) (by rw [reachable_mtime h, hc.1]; exact Nat.le_refl _)

/-- three timed threads due at 5, 3, 3: resumption order 3, 3, 5 -/
example : chronDues { mtime := 5, dirty := true, elems := [(100, 5), (101, 3), (102, 3)] } [.next, .next, .next, .next] = [3, 3, 5] := by
  decide

end Morfuse.Sched
