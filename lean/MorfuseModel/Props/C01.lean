import MorfuseModel.Emit.Model
import MorfuseModel.Emit.Master
import MorfuseModel.Emit.MasterLemmas
import MorfuseModel.Emit.Fixup
import MorfuseModel.Emit.ArenaFits
import MorfuseModel.Emit.SimFits
import MorfuseModel.Gen.OpcodeTable
import MorfuseModel.Bytecode.Lemmas
/-!
# C01 — compilation is total: any source text is accepted or cleanly rejected

Property theorems only.  The model (`Emit/Model.lean`, `Emit/Master.lean`) is the compiler proper — `ScriptEmitter` with
the counting and the program manager, `ScriptCompiler::Preallocate`, and the registry logic of
`ScriptMaster::GetProgramScript`; the generated lexer / parser is covered by the correspondence run (outcome
classes under ASan with hook H3), not by a theorem.
-/
namespace Morfuse.Props.C01
open Morfuse.Emit

/-- **Termination of the emitter is a checked obligation.**  `emit`, `emitList`, `emitRef` (and the
sub-emitter runs inside `try` / `switch`) are ordinary Lean definitions by structural recursion over the
parse tree — no `partial`, no fuel —, so for every tree and every emitter state they return: a new state or
one of the listed errors. -/
theorem emit_total (n : Node) (s : St) : (∃ s', emit n s = .ok s') ∨ (∃ e, emit n s = .error e) := by
  cases h : emit n s with
  | ok s' => exact .inl ⟨s', rfl⟩
  | error e => exact .inr ⟨e, rfl⟩

/-- the same for a whole compile (counting pass, `Preallocate`, program pass) -/
theorem compile_total (dev : Bool) (root : Node) :
    (∃ c, compile dev root = .ok c) ∨ (∃ e, compile dev root = .error e) := by
  cases h : compile dev root with
  | ok c => exact .inl ⟨c, rfl⟩
  | error e => exact .inr ⟨e, rfl⟩

set_option maxRecDepth 100000 in
example : (match emit (.list (.cons (.while_ (.int 1) (.list (.cons .brk .nil)) .none) .nil)) (St.init true) with
    | .ok s' => s'.info.progLength == 18 | .error _ => false) = true := by decide

/-- **The break / continue fix-up tables are never indexed outside their capacity.**
(`apucBreakJumpLocations[BREAK_JUMP_LOCATION_COUNT]`, `apucContinueJumpLocations[CONTINUE_JUMP_LOCATION_COUNT]`; the
capacities are regenerated from `Compiler.h` into `Gen/EmitConsts.lean`.)  For **every** parse tree and every emitter
state whose two counters are within the tables — in particular the initial state of either pass and of the
counting sub-emitters of `try` / `switch` —
1. the emitter (either manager) never reads or writes `apucBreakJumpLocations[i]` / `apucContinueJumpLocations[i]`
   with `i ≥` capacity (the model's `Ub.breakIndex` / `Ub.continueIndex` outcomes), and leaves both counters
   within the tables;
2. the same for a whole compile (counting pass, `Preallocate`, program pass);
3. `AddBreakJumpLocation` / `AddContinueJumpLocation` store only below the capacity, and at capacity raise the
   modelled `BreakJumpLocOverflow` / `ContinueJumpLocOverflow` instead of storing. -/
theorem C01_fixup_tables_bounded :
    (∀ (n : Node) (s : St), s.nBrk ≤ Gen.EmitConsts.breakMax → s.nCont ≤ Gen.EmitConsts.continueMax →
      match emit n s with
      | .ok s' => s'.nBrk ≤ Gen.EmitConsts.breakMax ∧ s'.nCont ≤ Gen.EmitConsts.continueMax
      | .error e => e ≠ .ub .breakIndex ∧ e ≠ .ub .continueIndex)
    ∧ (∀ (dev : Bool) (root : Node),
        compile dev root ≠ .error (.ub .breakIndex) ∧ compile dev root ≠ .error (.ub .continueIndex))
    ∧ (∀ (s : St) (p : Nat),
        (s.nBrk < Gen.EmitConsts.breakMax → ∃ s', s.addBreak p = .ok s' ∧ s'.nBrk = s.nBrk + 1) ∧
        (¬ s.nBrk < Gen.EmitConsts.breakMax → s.addBreak p = .error .breakOverflow) ∧
        (s.nCont < Gen.EmitConsts.continueMax → ∃ s', s.addContinue p = .ok s' ∧ s'.nCont = s.nCont + 1) ∧
        (¬ s.nCont < Gen.EmitConsts.continueMax → s.addContinue p = .error .continueOverflow)) := by
  refine ⟨?_, ?_, ?_⟩
  · intro n s hb hc
    have h := emit_pb n s ⟨hb, hc⟩
    generalize emit n s = r at h ⊢
    cases r <;> exact h
  · intro dev root
    exact ⟨fun hc => (wp_of_eq_error (compile_EB dev root) hc).1 rfl, fun hc => (wp_of_eq_error (compile_EB dev root) hc).2 rfl⟩
  · intro s p
    refine ⟨?_, ?_, ?_, ?_⟩
    · intro h; refine ⟨{ s with brk := s.brk.set s.nBrk p, nBrk := s.nBrk + 1 }, by simp [St.addBreak, h], rfl⟩
    · intro h; simp [St.addBreak, h]
    · intro h; refine ⟨{ s with cont := s.cont.set s.nCont p, nCont := s.nCont + 1 }, by simp [St.addContinue, h], rfl⟩
    · intro h; simp [St.addContinue, h]

/-- non-vacuity: a full break table rejects the next `break` with the modelled error; a table with one free slot
takes it -/
example : ({ St.init true with nBrk := Gen.EmitConsts.breakMax } : St).addBreak 7 = .error .breakOverflow := by
  simp [St.addBreak, Gen.EmitConsts.breakMax]
example : (({ St.init true with nBrk := 99 } : St).addBreak 7).toOption.map (·.nBrk) = some 100 := by
  simp [St.addBreak, Gen.EmitConsts.breakMax, Except.toOption]

/-- **No allocation of a compile runs past the arena that `Preallocate` reserved** (`PreAllocator::Alloc` has an
assert-only bound; hook H3 kind 0).  For **every** parse tree and both settings of developer mode, the model of
`ScriptCompiler::Compile` — counting pass, `Preallocate` (source map, the two reserved containers, the program
buffer, the main label table), program pass (one entry per label, one table per switch / catch state script sized by
its counting sub-emitter, container slots) — never asks the bump allocator for more than is left
(`Ub.arenaOverflow` is never the outcome).  The proof goes through the shape of the tree (`Node.syn`): the counting
pass counts exactly the labels / switches / catches of the tree (`mc_all`), the program pass takes exactly
`syn.arena` bytes given room in the current label set, the containers and the arena (`mp_all`: no `rehash`, no
container growth), and `arenaFormula` covers `Preallocate`'s own requests plus `syn.arena` (`fixed_le`).
Sizes (`sizeof StateScript / CatchBlock / Entry / void* / sourcePosMap_t`) are regenerated from the built binary. -/
theorem C01_arena_fits (dev : Bool) (root : Node) : compile dev root ≠ .error (.ub .arenaOverflow) :=
  fun h => wp_of_eq_error (compile_EA dev root) h rfl

/-- the pieces the proof of `C01_arena_fits` is made of, for one tree: what the counting pass reports, and what the
program pass consumes when it is given room -/
theorem C01_arena_accounting (root : Node) :
    (match emitRoot root (St.init true) with
      | .ok c => c.info.numLabels + c.info.numCaseLabels = root.syn.lab ∧ c.info.numSwitches = root.syn.sw ∧
          c.info.numCatches = root.syn.ca
      | .error e => e ≠ .ub .arenaOverflow)
    ∧ (∀ s : St, PPre root.syn (frA s) →
        match emit root s with
        | .ok s' => s'.arenaUsed = s.arenaUsed + root.syn.arena ∧ s'.swCont = { s.swCont with num := s.swCont.num + root.syn.sw }
            ∧ s'.caCont = { s.caCont with num := s.caCont.num + root.syn.ca }
        | .error e => e ≠ .ub .arenaOverflow) := by
  constructor
  · have h := emitRoot_count root
    generalize emitRoot root (St.init true) = r at h ⊢
    cases r <;> exact h
  · intro s hp
    have h := (mp_all root).e s hp
    generalize emit root s = r at h ⊢
    cases r with
    | error e => exact h
    | ok s' =>
      obtain ⟨_, _, h3, _, _, h6, h7, h8, h9⟩ := h
      exact ⟨h3, Cont.eq_with_num h6 h7, Cont.eq_with_num h8 h9⟩

set_option maxRecDepth 100000 in
/-- non-vacuity: a `try` whose catch block holds two labels (the shape of the old arena overflow): the tree's
contribution is two entries and one table of two slots, one catch block -/
example : (Node.try_ (.list .nil) (.list (.cons (.label 1 false .nil) (.cons (.label 2 false .nil) .nil)))).syn.arena
    = 2 * Gen.EmitConsts.szEntry + 2 * Gen.EmitConsts.szPtr := by decide

/-- **The byte accounting of the two managers**, stated on the model directly.  `C01_code_fits` (below) rests on the same
facts, but takes them from `write_fits`, `moveFwd_still` and `moveBack_fits` (`Emit/CodeStep.lean`), not from this theorem:
1. program manager: a write of `bs` overflows **iff** `pos + |bs| > progLength`, and otherwise advances the code
   position by exactly `|bs|` and stays within the buffer (the model's overflow outcome is exactly the condition of
   `WriteOpcodeValue`'s assert, hook H3 kind 1);
2. counting manager: a write adds exactly `|bs|` to `progLength`, a forward move adds exactly its distance, and a
   move back (`AbsorbPrevOpcode`) never takes anything off: the counting pass reports the *gross* number of bytes it
   wrote or skipped, never less than its net position. -/
theorem C01_code_fits_partial (s : St) (bs : List Nat) (k : Nat) :
    (s.counting = false →
      (s.write bs = .error (.ub .codeOverflow) ↔ s.pos + bs.length > s.progLen) ∧
      (∀ s', s.write bs = .ok s' → s'.pos = s.pos + bs.length ∧ s'.pos ≤ s'.progLen ∧ s'.progLen = s.progLen))
    ∧ (s.counting = true →
      (∃ s', s.write bs = .ok s' ∧ s'.info.progLength = s.info.progLength + bs.length) ∧
      (s.moveFwd k).info.progLength = s.info.progLength + k ∧
      (∃ s', s.moveBack k = .ok s' ∧ s'.info.progLength = s.info.progLength)) := by
  constructor
  · intro hc
    unfold St.write
    simp only [hc, Bool.false_eq_true, ↓reduceIte]
    by_cases h : s.pos + bs.length > s.progLen
    · simp [h]
    · simp only [h, ↓reduceIte, iff_false]
      refine ⟨by simp, ?_⟩
      intro s' hs
      injection hs with hs
      subst hs
      exact ⟨rfl, Nat.le_of_not_gt h, rfl⟩
  · intro hc
    refine ⟨?_, ?_, ?_⟩
    · unfold St.write
      simp only [hc, ↓reduceIte]
      exact ⟨_, rfl, by rw [ringWrite_eq]⟩
    · unfold St.moveFwd; simp [hc]
    · unfold St.moveBack; simp [hc]

/-- **The code written by the program pass fits the length computed by the counting pass.**  For every parse tree of the
shape the parser produces (`Node.plain`, decidable, evaluated by the driver on every dumped tree — the check demands it of
each) and both developer modes, a whole compile never writes past the buffer of `progLength` bytes that `Preallocate` made
from the counting pass's result: `Ub.codeOverflow` is never the outcome (`WriteOpcodeValue`'s assert-only bound, hook H3
kind 1) — not in the counting pass (it has no buffer), not in `Preallocate`, not in the program pass.

`Node.plain` asks two things of a tree, both true of everything the grammar builds: the listener byte of a field on a
listener is one of the seven listeners (`≤ 6`), and the operand of a unary minus is an expression — a literal, or a node of
a kind whose emission ends in an opcode without operand-literal (`Node.evOk`: fields, operators with operator opcodes,
array access, commands with a result, strings, `NIL`, `NULL`, vectors, listeners, constant arrays, `!`, `&&`, `||`), or again a
unary minus on such an operand.  Everything else is unrestricted: labels with parameters, assignments, reads of variables
(the `LOAD_x_VAR → LOAD_STORE_x_VAR` fusion included), `if`, `if/else`, `while`, `for`, `do`, `break`, `continue`, `switch`,
`try` / `catch`, all operators, literals of every width, negative literals and nested minus (constant folding through
`EvalPrevValue`), commands with any number of arguments.  Outside are only trees no source text yields (a minus applied to
a statement, listener byte 7 …): for arbitrary opcode bytes in the tree the statement is not expected to hold.

The proof is a simulation of the two passes: a coupling `Rel` of a counting state and a program state (the decisions
readable from the previous-opcode windows, compared by depth so that the fusion's one-slot shift does not matter:
`Emit/Window.lean`; `progLength` of the one = gross bytes of the other; code position ≤ gross bytes; equal fix-up counters
and flags; the ring and the buffer in shape), kept by every primitive (each accounts for the same number of bytes with
either manager: `Emit/CodeStep.lean`; the decisions are followed in lock-step: `Emit/Sim.lean`), by the fusion site
whichever branch each pass takes (`Emit/Fuse.lean`), by the state scripts and counting sub-emitters of `try` / `switch`
(`Emit/SimNest.lean`), by unary minus — either manager reads back the literal it has just written (`Emit/Bytes.lean`),
reads nothing after an operand that ends in a non-literal opcode (`Emit/TopNL.lean`), and the agreement
of what `EvalPrevValue` reads is part of the coupling's postcondition after every expression node (`RelE`, `Emit/SimEmit.lean`) and so
is carried through nested minuses (`Emit/SimNeg.lean`) — and by every constructor
(`Emit/SimEmit.lean`, `Emit/SimWalk.lean`); `progLength` is monotone (`Emit/Mono.lean`) and a counting emitter never reports a code overflow
(`Emit/NoCO.lean`), for all trees. -/
theorem C01_code_fits (dev : Bool) (root : Node) (hpl : root.plain = true) :
    compile dev root ≠ .error (.ub .codeOverflow) :=
  plain_compile_fits dev root hpl

/-- `C01_code_fits` under a second name -/
theorem C01_code_fits_partial2 (dev : Bool) (root : Node) (hpl : root.plain = true) :
    compile dev root ≠ .error (.ub .codeOverflow) :=
  C01_code_fits dev root hpl

set_option maxRecDepth 100000 in
/-- a realistic program of the class:
`local.i = 0; while (local.i < 5) { if (local.i == 3) { break }; println "x" 7; local.i = 1 }` -/
example : (Node.list (.cons (.assign (.field 1 1 0 0 (.listener 2)) (.int 0))
    (.cons (.while_ (.f2 90 (.field 2 2 0 0 (.listener 2)) (.int 5))
      (.list (.cons (.if_ (.f2 88 (.field 2 2 0 0 (.listener 2)) (.int 3)) (.list (.cons .brk .nil)))
        (.cons (.cmd 3 true (.cons (.str 4) (.cons (.int 7) .nil)))
          (.cons (.assign (.field 1 1 0 0 (.listener 2)) (.int 1)) .nil)))) .none) .nil))).plain = true := by decide

/-- so are `-local.x`, `-(local.a + 1)` and `-(-5)`; a minus on a statement-like node is not -/
example : (Node.f1 Gen.EmitConsts.OP_UN_MINUS (.field 1 1 0 0 (.listener 2))).plain = true
    ∧ (Node.f1 Gen.EmitConsts.OP_UN_MINUS (.f2 Gen.EmitConsts.OP_BIN_PLUS (.field 1 1 0 0 (.listener 2)) (.int 1))).plain = true
    ∧ (Node.f1 Gen.EmitConsts.OP_UN_MINUS (.f1 Gen.EmitConsts.OP_UN_MINUS (.int 5))).plain = true
    ∧ (Node.f1 Gen.EmitConsts.OP_UN_MINUS .brk).plain = false := by decide

/-- negative literals are in the class: `local.a = -5`, `local.b = -1.5` -/
example : (Node.list (.cons (.assign (.field 1 1 0 0 (.listener 2)) (.f1 Gen.EmitConsts.OP_UN_MINUS (.int 5)))
    (.cons (.assign (.field 2 2 0 0 (.listener 2)) (.f1 Gen.EmitConsts.OP_UN_MINUS (.float 1069547520))) .nil))).plain = true := by decide

/-- **The two regenerated opcode tables are the same table.**  `Gen/EmitConsts.lean` (C01's translator: `OpcodeInfo[]`
read through its accessors in the built binary) and `Gen/OpcodeTable.lean` (C02's translator: the rows of
`ScriptOpcodes.cpp`) agree entry by entry — length, stack offset, external flag — for every opcode of `opcode_e`, and
on `OP_PREVIOUS`: the emitter model (C01) and the verifier / VM model (C02) decode with the same numbers. -/
theorem C01_opcode_tables_agree (o : Bytecode.Gen.Opcode) :
    Gen.EmitConsts.opLenTbl[o.code]? = some o.tableLength ∧ Gen.EmitConsts.opStackTbl[o.code]? = some o.tableStack ∧
    Gen.EmitConsts.opExtTbl[o.code]? = some o.tableExternal ∧ o.code < Gen.EmitConsts.opPrevious ∧
    Gen.EmitConsts.opPrevious = Bytecode.Gen.OP_PREVIOUS ∧ Gen.EmitConsts.opLenTbl.size = Bytecode.Gen.OP_PREVIOUS :=
  of_decide_eq_true (Bytecode.forall_opcode_of_all (P := fun o => decide (
    Gen.EmitConsts.opLenTbl[o.code]? = some o.tableLength ∧ Gen.EmitConsts.opStackTbl[o.code]? = some o.tableStack ∧
    Gen.EmitConsts.opExtTbl[o.code]? = some o.tableExternal ∧ o.code < Gen.EmitConsts.opPrevious ∧
    Gen.EmitConsts.opPrevious = Bytecode.Gen.OP_PREVIOUS ∧ Gen.EmitConsts.opLenTbl.size = Bytecode.Gen.OP_PREVIOUS))
    (by decide +kernel) o)

example : Gen.EmitConsts.opLenTbl[Gen.EmitConsts.OP_SWITCH]? = some Bytecode.Gen.Opcode.OP_SWITCH.tableLength :=
  (C01_opcode_tables_agree .OP_SWITCH).1

/-- non-vacuity: a one-byte buffer takes one byte and refuses the second -/
example : ((({ St.init false with progLen := 1, buf := Tbl.mk' 1 0 } : St).write [7]).toOption.map (·.pos)) = some 1 := by
  simp [St.write, St.init, Except.toOption]
example : ({ St.init false with progLen := 1, pos := 1 } : St).write [7] = .error (.ub .codeOverflow) := by
  simp [St.write, St.init]

/-- **A rejected load is clean** (`GetProgramScript` + `GetProgramScriptInternal` + `Load`).  Whenever the
call really loads (`name` not registered, or `recompile`) and the load fails — the parser rejects the text or
the compiler throws — then
1. the caller gets exactly that error;
2. `name` stays registered, with `successCompile = false`;
3. every other entry of the registry is unchanged;
4. asking again for `name` (no `recompile`) reports "not properly loaded" and changes nothing;
5. a different, not yet registered script whose load succeeds is handed out with `successCompile = true`,
   and the failed entry is still there afterwards. -/
theorem C01_reject_is_clean (m : Master) (name : Nat) (src : Source) (rc : Bool) (e : LoadErr)
    (hload : m.find name = none ∨ rc = true) (hfail : (load m.dev src).2 = .error e) :
    let m' := (m.get name src rc).1
    (m.get name src rc).2 = .error e
    ∧ (m'.find name).map (·.successCompile) = some false
    ∧ (∀ other, other ≠ name → m'.find other = m.find other)
    ∧ (∀ src2, m'.get name src2 false = (m', .error .notLoaded))
    ∧ (∀ name2 src2, name2 ≠ name → m'.find name2 = none → (load m.dev src2).2 = .ok () →
        ∃ sc, (m'.get name2 src2 false).2 = .ok sc ∧ sc.successCompile = true
          ∧ (((m'.get name2 src2 false).1).find name).map (·.successCompile) = some false) := by
  -- what the failing load leaves behind
  have hsc : (load m.dev src).1.successCompile = false :=
    Bool.eq_false_iff.mpr fun h => by rw [(load_ok_iff m.dev src).mpr h] at hfail; cases hfail
  -- the call goes through `GetProgramScriptInternal`
  have hget : m.get name src rc =
      ((if (m.find name).isSome then m.erase name else m).put name (load m.dev src).1, .error e) := by
    unfold Master.get
    rcases hload with h | h
    · rw [h]
      cases rc <;> simp [hfail] <;> (cases hl : load m.dev src; simp_all)
    · subst h
      cases hf : m.find name <;> simp [hfail, Master.erase_dev] <;> (cases hl : load m.dev src; simp_all)
  have hdev : ((if (m.find name).isSome then m.erase name else m).put name (load m.dev src).1).dev = m.dev := by
    split <;> simp [Master.put_dev, Master.erase_dev]
  simp only [hget]
  refine ⟨trivial, ?_, ?_, ?_, ?_⟩
  · simp [Master.find_put_self, hsc]
  · intro other ho
    rw [Master.find_put_other _ _ _ _ ho]
    split
    · exact Master.find_erase_other _ _ _ ho
    · rfl
  · intro src2
    unfold Master.get
    simp [Master.find_put_self, hsc]
  · intro name2 src2 hne hnone hok
    unfold Master.get
    rw [hnone]
    simp only [Option.isSome_none, Bool.false_eq_true, ↓reduceIte, hdev]
    cases hl : load m.dev src2 with
    | mk sc r =>
      have hr : r = .ok () := by simpa [hl] using hok
      subst hr
      have hs : sc.successCompile = true := by
        have := (load_ok_iff m.dev src2).mp hok
        rwa [hl] at this
      refine ⟨sc, rfl, hs, ?_⟩
      simp only
      rw [Master.find_put_other _ _ _ _ (Ne.symm hne), Master.find_put_self]
      simp [hsc]

/-- non-vacuity: a parse error on an empty registry -/
example : ((({} : Master).get 7 none false).1.find 7).map (·.successCompile) = some false := by rfl
example : (((({} : Master).get 7 none false).1).get 7 none false).2 = .error .notLoaded := by rfl

end Morfuse.Props.C01
