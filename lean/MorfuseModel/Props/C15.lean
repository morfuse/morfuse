import MorfuseModel.Target.FanLemmas
import MorfuseModel.Target.SafeLemmas
/-!
# C15 — `$name` denotes exactly the live objects currently bearing that target name

Property theorems only (helpers: `Target/Lemmas.lean`, `Target/FanLemmas.lean`,
`Target/SafeLemmas.lean`).  Every statement is about *every* state `Reachable cfg s`, i.e. the state
after any finite sequence of script statements (`Stmt`: spawn, set/clear targetname, delete, `$name`
queries, captures, thread / command / field fan-out with handlers that rename, delete and spawn) —
no bound on the number of objects, names, statements or handler length.

`bearers s.log n` is the specification: the objects that bear name `n`, in naming order, computed
from the log of primitive events alone (`Target/Spec.lean`).  `cfg` says which code is modelled:
`{}` is the tree as found, `snapshot` / `fieldFan` are the two suggested repairs
(notes/C15-findings.md); the check detects which one the tree is and compares that one.
-/
namespace Morfuse.Target

/-- a concrete reachable state for the examples: objects 1 and 3 named n1 (= 2) in that order, object 2 named n2 (= 3), nobody named n3 (= 4) -/
def demoStmts : List Stmt := [.act (.spawn 2), .act (.spawn 3), .act (.spawn 2)]

def demoOf (cfg : Cfg) : State :=
  match run cfg demoStmts init with
  | .ok s => s
  | .ub => init

def demo : State := demoOf {}

example : Reachable {} demo := ⟨demoStmts, rfl⟩
example : bearers demo.log 2 = [1, 3] ∧ bearers demo.log 3 = [2] ∧ bearers demo.log 4 = [] := by decide

/-- The specification read declaratively: `o` bears `n` iff `o` has been spawned and not destroyed
    and the last name it was given is `n`; nobody bears a name twice. -/
theorem C15_bearers_iff {cfg : Cfg} {s : State} (h : Reachable cfg s) (o : ObjId) (n : Name) :
    (o ∈ bearers s.log n ↔ (aliveIn s.log o = true ∧ lastName s.log o = some n)) ∧
    (bearers s.log n).Nodup := by
  have i := h.good.inv
  refine ⟨?_, bearers_nodup ..⟩
  rw [i.last o n, i.alive_log o]

example : (1 ∈ bearers demo.log 2 ↔ (aliveIn demo.log 1 = true ∧ lastName demo.log 1 = some 2)) ∧
    (bearers demo.log 2).Nodup := C15_bearers_iff (cfg := {}) ⟨demoStmts, rfl⟩ 1 2

/-- Naming order: a (re)naming event puts the object last under its new name; the relative order
    of everybody else is untouched (and a destruction only removes). -/
theorem C15_naming_order (log : List Ev) (o : ObjId) (n m : Name) :
    bearers (log ++ [.named o n]) m =
      (if m = n then (bearers log m).filter (· ≠ o) ++ [o] else (bearers log m).filter (· ≠ o)) ∧
    bearers (log ++ [.destroyed o]) m = (bearers log m).filter (· ≠ o) := by
  constructor <;> (rw [bearers_append]; rfl)

/-- **`$name` denotes the bearers.**  In every reachable state `OP_UN_TARGETNAME` on `n` yields
    NULL when nobody bears `n`, the object itself when exactly one does, and otherwise an array
    whose elements are exactly the bearers in naming order (a const array of listener values with
    the repair, a pointer to the table's own list — whose contents are the bearers — without). -/
theorem C15_denotes {cfg : Cfg} {s : State} (h : Reachable cfg s) (n : Name) :
    (bearers s.log n = [] ∧ evalTarget cfg s n = .obj none) ∨
    (∃ o, bearers s.log n = [o] ∧ evalTarget cfg s n = .obj (some o)) ∨
    (2 ≤ (bearers s.log n).length ∧
      ((cfg.snapshot = true ∧ evalTarget cfg s n = .arr ((bearers s.log n).map some)) ∨
       (cfg.snapshot = false ∧ ∃ l, s.tbl n = some l ∧ s.lists l = some ((bearers s.log n).map some) ∧
          evalTarget cfg s n = .cont l))) :=
  evalTarget_spec cfg h.good.inv n

/-- non-vacuity: all three kinds occur in one reachable state (tree as found: the array is the
    table's own list, entry 1) and with the repair (a copy) -/
example : evalTarget {} demo 4 = .obj none ∧ evalTarget {} demo 3 = .obj (some 2) ∧
    evalTarget {} demo 2 = .cont 1 ∧ demo.lists 1 = some [some 1, some 3] := by decide
example : evalTarget { snapshot := true } (demoOf { snapshot := true }) 2 = .arr [some 1, some 3] := by decide

/-- The same through what a script can observe: `.size` and the elements `[1] .. [size]` of `$name`
    are the number of bearers and the bearers in naming order; no element is NULL; reading them is
    never undefined. -/
theorem C15_denotes_observed {cfg : Cfg} {s : State} (h : Reachable cfg s) (n : Name) :
    (evalTarget cfg s n).size s = some ((bearers s.log n).length : Int) ∧
    (evalTarget cfg s n).elems s = some ((bearers s.log n).map some) := by
  rcases C15_denotes h n with ⟨hb, he⟩ | ⟨o, hb, he⟩ | ⟨_, ⟨_, he⟩ | ⟨_, l, _, hl, he⟩⟩
  · rw [he, hb]; exact ⟨rfl, rfl⟩
  · rw [he, hb]; exact ⟨rfl, rfl⟩
  · rw [he]; exact ⟨by simp [Value.size], rfl⟩
  · rw [he]; exact ⟨by simp [Value.size, hl], by simp [Value.elems, hl]⟩

/-- **With a Debug output stream attached** (`cfg.dbg`) a `$name` that nobody bears additionally
    raises the warning "Can't find target name" — and *still* evaluates to NULL; a name somebody
    bears raises nothing; without a Debug stream nothing is raised.  `note` is what evaluating the
    `$name` operand adds to the state (the printed warning and nothing else: the table, the lists,
    the values, the objects and the log are untouched), `evalTarget` the value the statement then
    works with; the last clause spells it out for `println $name.size` (warning, then `0`). -/
theorem C15_denotes_debug_stream {cfg : Cfg} {s : State} (h : Reachable cfg s) (n : Name) :
    note cfg s (some (.name n)) =
      (if cfg.dbg = true ∧ bearers s.log n = [] then say s "!notarget" else s) ∧
    evalTarget cfg (note cfg s (some (.name n))) n = evalTarget cfg s n ∧
    (bearers s.log n = [] → evalTarget cfg s n = .obj none) ∧
    (cfg.dbg = true → bearers s.log n = [] →
      stmt cfg s (.act (.size (.name n))) = .ok (say (say s "!notarget") "s 0")) := by
  have i := h.good.inv
  have hnil : bearers s.log n = [] → evalTarget cfg s n = .obj none := by
    intro hb
    have e := tbl_none_of_listOf_nil i.toWf (n := n) (by rw [i.refine, hb]; rfl)
    simp [evalTarget, e]
  refine ⟨note_name i n, evalTarget_note cfg s _ n, hnil, ?_⟩
  intro hd hb
  have hn : note cfg s (some (.name n)) = say s "!notarget" := by
    rw [note_name i n, if_pos ⟨hd, hb⟩]
  have he : evalTarget cfg (say s "!notarget") n = .obj none := by
    rw [← hn, evalTarget_note, hnil hb]
  simp only [stmt, act, Act.src, hn, actCore, evalSrc, he, Value.size]
  rfl

/-- non-vacuity: nobody bears n3 (= 4) in `demo`; with the Debug stream the warning precedes the
    answer, without it there is none; a name with bearers never warns -/
example : ∃ s', stmt { dbg := true } (demoOf { dbg := true }) (.act (.size (.name 4))) = .ok s' ∧
    s'.out = (demoOf { dbg := true }).out ++ ["!notarget", "s 0"] := ⟨_, rfl, by decide⟩
example : ∃ s', stmt {} demo (.act (.size (.name 4))) = .ok s' ∧ s'.out = demo.out ++ ["s 0"] := ⟨_, rfl, by decide⟩
example : ∃ s', stmt { dbg := true } (demoOf { dbg := true }) (.act (.size (.name 2))) = .ok s' ∧
    s'.out = (demoOf { dbg := true }).out ++ ["s 2"] := ⟨_, rfl, by decide⟩

/-- The host-side queries agree: `GetTarget` finds the single bearer (or none, or reports how
    many), `GetTargetnameIndex` is the 1-based naming position. -/
theorem C15_host_queries {cfg : Cfg} {s : State} (h : Reachable cfg s) (n : Name) :
    getTarget s n = (match bearers s.log n with
      | [] => .none
      | [o] => .one (some o)
      | b => .multiple b.length) ∧
    ∀ o, getTargetnameIndex s o n = (match (bearers s.log n).idxOf? o with
      | some k => k + 1
      | none => 0) := by
  have hl := h.good.inv.refine n
  constructor
  · rw [getTarget_eq, hl]
    rcases bearers s.log n with _ | ⟨a, _ | ⟨a', t⟩⟩ <;> simp
  · intro o
    rw [getTargetnameIndex_eq, hl, idxOf?_map_some]
    cases (bearers s.log n).idxOf? o <;> rfl

/-- **Renaming moves.**  `o.targetname = n` on a live object takes `o` out of the group it was in
    and puts it last in the group of `n` (`""`/no name are the name `emptyName`); every other
    object stays where it was, in the same order; groups other than the old and the new one are
    unchanged.  The new state is reachable, so `C15_denotes` applies to it. -/
theorem C15_rename_moves {cfg : Cfg} {s : State} (h : Reachable cfg s) {o : ObjId}
    (ho : s.alive o = true) (n : Name) :
    stmt cfg s (.act (.setName (.obj o) n)) = .ok (setTargetName s o n) ∧
    Reachable cfg (setTargetName s o n) ∧
    (∀ m, bearers (setTargetName s o n).log m =
      if m = normName n then (bearers s.log m).filter (· ≠ o) ++ [o] else (bearers s.log m).filter (· ≠ o)) ∧
    (∀ m, m ≠ normName n → m ≠ s.comp o → bearers (setTargetName s o n).log m = bearers s.log m) ∧
    (∀ m, m ≠ normName n → o ∉ bearers (setTargetName s o n).log m) := by
  have i := h.good.inv
  have hst : stmt cfg s (.act (.setName (.obj o) n)) = .ok (setTargetName s o n) := by
    simp only [stmt, act, actCore, Act.src, note, resolve_obj i ho]
  refine ⟨hst, h.step hst, setTargetName_bearers s o n, ?_, ?_⟩
  · intro m h1 h2
    rw [setTargetName_bearers, if_neg h1, filter_ne_of_not_mem (i.not_bearer h2)]
  · intro m h1 hm
    rw [setTargetName_bearers, if_neg h1] at hm
    exact (mem_filter_ne.mp hm).2 rfl

/-- non-vacuity: object 1 (first of n1) renamed to n2 goes last in n2; n1 keeps 3 -/
example : demo.alive 1 = true ∧ bearers (setTargetName demo 1 3).log 3 = [2, 1] ∧
    bearers (setTargetName demo 1 3).log 2 = [3] := by decide

/-- **Destroying removes.**  `o remove` / `delete` on a live object removes `o` from the group of
    its name and from no other group (it is in no other); every other object stays, in order; `o`
    is dead afterwards and bears nothing. -/
theorem C15_remove_removes {cfg : Cfg} {s : State} (h : Reachable cfg s) {o : ObjId}
    (ho : s.alive o = true) :
    stmt cfg s (.act (.delete (.obj o))) = .ok (destroy s o) ∧
    Reachable cfg (destroy s o) ∧
    (∀ m, bearers (destroy s o).log m = (bearers s.log m).filter (· ≠ o)) ∧
    (∀ m, m ≠ s.comp o → bearers (destroy s o).log m = bearers s.log m) ∧
    (destroy s o).alive o = false ∧ (∀ x, x ≠ o → (destroy s o).alive x = s.alive x) := by
  have i := h.good.inv
  have hst : stmt cfg s (.act (.delete (.obj o))) = .ok (destroy s o) := by
    simp only [stmt, act, actCore, Act.src, note, resolve_obj i ho]
  refine ⟨hst, h.step hst, destroy_bearers s o, ?_, ?_, ?_⟩
  · intro m h2
    rw [destroy_bearers, filter_ne_of_not_mem (i.not_bearer h2)]
  · rw [(destroy_fields s o).1]; exact upd_same ..
  · intro x hx; rw [(destroy_fields s o).1, upd_other _ _ hx]

example : demo.alive 3 = true ∧ bearers (destroy demo 3).log 2 = [1] ∧ bearers (destroy demo 3).log 3 = [2] := by
  decide

/-- the three ways a command is applied to a group: a thread per member (`src thread handler`,
    any handler), the `targetname` command, `remove` -/
inductive IsFan (src : Src) : Stmt → Prop
  | thread (h : List Act) : IsFan src (.fan src h)
  | rename (n : Name) : IsFan src (.fanName src n)
  | delete : IsFan src (.fanDelete src)

/-- **A command applied to `$name` reaches every member exactly once** — stated exactly as the copy
    semantics of `ExecCmdMethodCommon` gives it, for every handler (handlers may rename, delete and
    spawn objects, members included).  `visits seg` is the sequence of objects the command was
    executed on.  It is duplicate-free and a subsequence of the bearers of `n` *at the moment the
    statement started* (so: nobody twice, nobody who was not a bearer then — objects that join the
    group during the fan-out are not reached, members renamed away by an earlier handler still
    are, in the original naming order), and every bearer that is not reached is dead at the end
    (it was destroyed by an earlier handler before its turn). -/
theorem C15_fanout_once {cfg : Cfg} {s s' : State} (h : Reachable cfg s) {n : Name} {st : Stmt}
    (hf : IsFan (.name n) st) (hok : stmt cfg s st = .ok s') :
    ∃ seg, s'.log = s.log ++ seg ∧ (visits seg).Nodup ∧ (visits seg).Sublist (bearers s.log n) ∧
      (∀ o ∈ bearers s.log n, o ∈ visits seg ∨ s'.alive o = false) := by
  obtain ⟨run, hrun, hst⟩ : ∃ run, Handler cfg (fun _ _ => True) run ∧
      stmt cfg s st = fanOut cfg (note cfg s (some (.name n))) (.name n) run := by
    cases hf with
    | thread hd => exact ⟨_, .acts hd (fun o a _ => a.deletesIn_true (some o)), rfl⟩
    | rename m => exact ⟨_, .setName m, rfl⟩
    | delete => exact ⟨_, .delete (fun _ => trivial), rfl⟩
  rw [hst] at hok
  exact fanOut_once h.good.inv hrun hok

/-- non-vacuity: `$n1 thread h` where `h` deletes object 3: object 1 is reached, object 3 is dead
    before its turn and is skipped; with a handler that renames `self` away both are reached -/
example : ∃ s', stmt {} demo (.fan (.name 2) [.hello, .delete (.obj 3)]) = .ok s' ∧
    visits (s'.log.drop demo.log.length) = [1] ∧ s'.alive 3 = false := ⟨_, rfl, by decide, by decide⟩
example : ∃ s', stmt {} demo (.fan (.name 2) [.setName .self 4]) = .ok s' ∧
    visits (s'.log.drop demo.log.length) = [1, 3] ∧ bearers s'.log 4 = [1, 3] := ⟨_, rfl, by decide, by decide⟩

/-- When no handler destroys an object other than its own `self` — the `targetname` command,
    `remove` applied to the group, any thread handler whose only deletions are `self remove` — the
    command is executed on *all* bearers, each exactly once, in naming order. -/
theorem C15_fanout_all_when_only_self_deleted {cfg : Cfg} {s s' : State} (h : Reachable cfg s) {n : Name}
    {st : Stmt}
    (hf : (∃ m, st = .fanName (.name n) m) ∨ st = .fanDelete (.name n) ∨
      (∃ hd, st = .fan (.name n) hd ∧ ∀ a ∈ hd, a.selfDeleteOnly = true))
    (hok : stmt cfg s st = .ok s') :
    ∃ seg, s'.log = s.log ++ seg ∧ visits seg = bearers s.log n := by
  obtain ⟨run, hrun, hst⟩ : ∃ run, Handler cfg (fun o x => x = o) run ∧
      stmt cfg s st = fanOut cfg (note cfg s (some (.name n))) (.name n) run := by
    rcases hf with ⟨m, rfl⟩ | rfl | ⟨hd, rfl, hnd⟩
    · exact ⟨_, .setName m, rfl⟩
    · exact ⟨_, .delete (fun _ => rfl), rfl⟩
    · exact ⟨_, .acts hd (fun o a ha => Act.deletesIn_of_selfDeleteOnly (hnd a ha) o), rfl⟩
  rw [hst] at hok
  exact fanOut_all h.good.inv hrun hok

example : ∃ s', stmt {} demo (.fanName (.name 2) 3) = .ok s' ∧
    visits (s'.log.drop demo.log.length) = [1, 3] ∧ bearers s'.log 3 = [2, 1, 3] := ⟨_, rfl, by decide, by decide⟩
/-- `$n1 remove`: both members are reached although the table's list shrinks under the loop -/
example : ∃ s', stmt {} demo (.fanDelete (.name 2)) = .ok s' ∧
    visits (s'.log.drop demo.log.length) = [1, 3] ∧ bearers s'.log 2 = [] ∧ s'.alive 1 = false ∧ s'.alive 3 = false :=
  ⟨_, rfl, by decide, by decide, by decide, by decide⟩

/-- **Field assignment, with the repair.**  `$name.fld = x` assigns the field on every bearer,
    each exactly once, in naming order, and on nobody else. -/
theorem C15_fanout_once_field {cfg : Cfg} (hfix : cfg.fieldFan = true) {s s' : State} (h : Reachable cfg s)
    {n : Name} {x : Nat} (hok : stmt cfg s (.fieldSet (.name n) x) = .ok s') :
    (∃ seg, s'.log = s.log ++ seg ∧ visits seg = bearers s.log n) ∧
    (∀ o, s'.fld o = if o ∈ bearers s.log n then x else s.fld o) := by
  replace hok := (fieldSet_eq_fanOut hfix ..).symm.trans hok
  exact ⟨fanOut_all h.good.inv (.setFld x) hok,
    fanOut_set h.good.inv (set := fun st o => { st with fld := upd st.fld o x }) (get := State.fld)
      (fun _ _ => rfl) (fun _ _ _ => rfl) (fun _ => rfl) hok⟩

example : ∃ s', stmt { fieldFan := true } (demoOf { fieldFan := true }) (.fieldSet (.name 2) 7) = .ok s' ∧
    s'.fld 1 = 7 ∧ s'.fld 3 = 7 ∧ s'.fld 2 = 0 := ⟨_, rfl, by decide, by decide, by decide⟩

/-- **Field assignment, tree as found — the clause fails.**  With two (or more) bearers
    `$name.fld = x` is rejected (`Cannot cast 'array' to 'listener'`): nothing is assigned, nobody
    is reached.  This is the negation of the property's "field assignments applied to `$name` reach
    every object of the group" on every such state; concrete witness in the `example` below and in
    notes/C15-findings.md (F2), replayed on the real code by the check. -/
theorem C15_fanout_field_fails_unrepaired {cfg : Cfg} (hraw : cfg.fieldFan = false) {s : State}
    (h : Reachable cfg s) {n : Name} (h2 : 2 ≤ (bearers s.log n).length) (x : Nat) :
    stmt cfg s (.fieldSet (.name n) x) = .ok (say s "!cast") := by
  have i := h.good.inv
  have hn : note cfg s (some (.name n)) = s := by
    rw [note_name i n, if_neg]
    intro hc; rw [hc.2] at h2; simp at h2
  rcases evalTarget_spec cfg i n with ⟨hb, _⟩ | ⟨o, hb, _⟩ | ⟨_, ⟨_, he⟩ | ⟨_, l, _, _, he⟩⟩
  · rw [hb] at h2; simp at h2
  · rw [hb] at h2; simp at h2
  · simp [stmt, hn, fieldSet, evalSrc, he, hraw]
  · simp [stmt, hn, fieldSet, evalSrc, he, hraw]

/-- the witness: two objects bear n1, `$n1.fld = 7` reaches neither -/
example : 2 ≤ (bearers demo.log 2).length ∧
    (∃ s', stmt {} demo (.fieldSet (.name 2) 7) = .ok s' ∧ s'.fld 1 = 0 ∧ s'.fld 3 = 0 ∧ visits (s'.log.drop demo.log.length) = []) :=
  ⟨by decide, _, rfl, by decide, by decide, by decide⟩

/-- **A setter-backed field assignment applied to `$name` reaches every member of the snapshot exactly
    once** (with the repair `cfg.fieldFan`, i.e. the tree since the group path of `OP_LOAD_FIELD_VAR`
    exists): the setter event is processed on all bearers of `n` as of the start of the statement, each
    exactly once, in naming order — also for `targetname`, whose setter takes every member OUT of the
    group `n` while the loop runs (the loop walks the copy, not the table's list). -/
theorem C15_setter_fanout_once {cfg : Cfg} (hfix : cfg.fieldFan = true) {s s' : State} (h : Reachable cfg s)
    {n : Name} {f : Setter} (hok : stmt cfg s (.fieldSetter (.name n) f) = .ok s') :
    ∃ seg, s'.log = s.log ++ seg ∧ visits seg = bearers s.log n := by
  replace hok := (fieldSetter_eq_fanOut hfix ..).symm.trans hok
  exact fanOut_all h.good.inv (.setter f) hok

/-- **… with the SAME value.**  `$name.target = x`: afterwards exactly the bearers of `n` have target
    `x` — the first member and every later one alike (`executeSetter` copies the stack top into the
    event, `loadStoreTop` leaves it in place for the next member) — and nobody else's target changed. -/
theorem C15_setter_fanout_same_value {cfg : Cfg} (hfix : cfg.fieldFan = true) {s s' : State} (h : Reachable cfg s)
    {n : Name} {x : Nat} (hok : stmt cfg s (.fieldSetter (.name n) (.target x)) = .ok s') :
    ∀ o, s'.tgt o = if o ∈ bearers s.log n then x else s.tgt o := by
  replace hok := (fieldSetter_eq_fanOut hfix ..).symm.trans hok
  exact fanOut_set h.good.inv (set := fun st o => { st with tgt := upd st.tgt o x }) (get := State.tgt)
    (fun _ _ => rfl) (fun _ _ _ => rfl) (fun _ => rfl) hok

/-- **`src.targetname = m` is the `targetname` command.**  With the repair the field path dispatches
    exactly like `ExecCmdMethodCommon` (same error answers, same single-listener case, same loop over the
    copy) and every member's setter receives the one name `m`: the statement has the same outcome as
    `src targetname m`, for every source and every state.  Hence `C15_fanout_once`,
    `C15_fanout_all_when_only_self_deleted` and `C15_rename_moves` (member by member) speak about it. -/
theorem C15_setter_targetname_is_command {cfg : Cfg} (hfix : cfg.fieldFan = true) (s : State) (src : Src) (m : Name) :
    stmt cfg s (.fieldSetter src (.name m)) = stmt cfg s (.fanName src m) :=
  fieldSetter_eq_fanOut hfix ..

/-- non-vacuity: objects 1 and 3 bear n1, object 2 bears n2.  `$n1.target = "t7"` reaches 1 and 3 with 7;
    `$n1.targetname = "n2"` moves both, in order, behind object 2 and empties n1 -/
example : ∃ s', stmt { fieldFan := true } (demoOf { fieldFan := true }) (.fieldSetter (.name 2) (.target 7)) = .ok s' ∧
    s'.tgt 1 = 7 ∧ s'.tgt 3 = 7 ∧ s'.tgt 2 = 0 ∧ visits (s'.log.drop (demoOf { fieldFan := true }).log.length) = [1, 3] :=
  ⟨_, rfl, by decide, by decide, by decide, by decide⟩
example : ∃ s', stmt { fieldFan := true } (demoOf { fieldFan := true }) (.fieldSetter (.name 2) (.name 3)) = .ok s' ∧
    visits (s'.log.drop (demoOf { fieldFan := true }).log.length) = [1, 3] ∧ bearers s'.log 3 = [2, 1, 3] ∧ bearers s'.log 2 = [] :=
  ⟨_, rfl, by decide, by decide, by decide⟩

/-- **A captured `$name` value never refers to a deleted list — with the repair.**  When
    `OP_UN_TARGETNAME` hands out a copy of the references (`cfg.snapshot`), no sequence of
    statements whatsoever reaches undefined behaviour: every run completes. -/
theorem C15_captured_value_safe {cfg : Cfg} (hfix : cfg.snapshot = true) (l : List Stmt) :
    ∃ s, run cfg l init = .ok s := by
  obtain ⟨s, e, _⟩ := run_safe hfix l init_good (fun _ => trivial)
  exact ⟨s, e⟩

/-- the shortest history on which the tree as found reads through a freed table entry (D16) -/
def d16Witness : List Stmt :=
  [.act (.spawn 2), .act (.spawn 2), .act (.capture 1 2), .act (.delete (.obj 1)), .act (.delete (.obj 2)),
   .act (.size (.val 1))]

/-- **Tree as found — the clause fails.**  A variable that captured `$n1` while two objects bore
    the name holds a pointer to the list inside the table entry; when both objects are gone the
    entry has been freed and reading the variable's `.size` is undefined behaviour.  Replayed on
    the real code under ASan + H2 by the check (use-after-poison in `ScriptVariable::size`). -/
theorem C15_captured_value_unsafe_unrepaired : run {} d16Witness init = .ub := by
  rfl

/-- the same history is safe with the repair -/
example : ∃ s, run { snapshot := true } d16Witness init = .ok s := C15_captured_value_safe rfl _

/-- Weak references held by script values (a captured single object, the elements of a captured
    array) never designate a destroyed object, in every reachable state of either variant. -/
theorem C15_value_refs_live {cfg : Cfg} {s : State} (h : Reachable cfg s) (v : Nat) :
    (s.vals v).live s.alive := h.good.vals v

end Morfuse.Target
