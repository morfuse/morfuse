import MorfuseModel.BlockAlloc.Lemmas
/-!
# C19 — the pool allocator never hands out live memory and counts exactly

Every statement is about every state reachable from the empty pool by any finite sequence of `Alloc` / legal `Free` /
`FreeAll` calls, for every block size `bs ≥ 2` (the C++ `static_assert`).  `liveOf bs s` is the list of slots
`(block, index)` that `Count()` visits; a slot names the memory `block->data[index].data`.
Alignment and the byte layout of a block are C++ facts measured by the harness, not proved here.
-/
namespace Morfuse.BlockAlloc

variable {bs : Nat} {s : State}

/-- `Alloc` returns a slot that is not in use. -/
theorem C19_alloc_fresh (hbs : 2 ≤ bs) (h : Reachable bs s) : (alloc bs s).2 ∉ liveOf bs s :=
  (alloc_spec (reachable_inv hbs h)).fresh

/-- After `Alloc` the live set is the old one plus exactly the returned slot. -/
theorem C19_alloc_adds (hbs : 2 ≤ bs) (h : Reachable bs s) :
    (liveOf bs (alloc bs s).1).Perm ((alloc bs s).2 :: liveOf bs s) :=
  (alloc_spec (reachable_inv hbs h)).live

/-- After `Free p` the live set is the old one minus exactly `p`. -/
theorem C19_free_removes_only (hbs : 2 ≤ bs) (h : Reachable bs s) {p : Slot} (hp : p ∈ liveOf bs s) :
    (liveOf bs (free bs s p)).Perm ((liveOf bs s).erase p) :=
  (free_spec (reachable_inv hbs h) hp).live

/-- No slot is live twice (so `erase` above removes the only copy), every live index is inside its
    block, and block ids are real (non-null) blocks: distinct live slots are disjoint memory. -/
theorem C19_live_distinct (hbs : 2 ≤ bs) (h : Reachable bs s) :
    (liveOf bs s).Nodup ∧ ∀ p ∈ liveOf bs s, p.2 < bs ∧ p.1 ≠ 0 :=
  ⟨(reachable_inv hbs h).live_nodup, fun _ hp => (reachable_inv hbs h).live_range hp⟩

/-- `Count()` is the number of live slots. -/
theorem C19_count_exact (bs : Nat) (s : State) : count bs s = (liveOf bs s).length :=
  count_eq_length bs s

/-- `Count()` equals allocations minus frees, for every history of `Alloc` / `Free` calls. -/
theorem C19_count_history (hbs : 2 ≤ bs) (ops : List (Op bs)) (hr : run bs init ops = some s)
    (hno : ∀ op ∈ ops, op.isFreeAll = false) : count bs s + frees ops = allocs ops := by
  have := run_count ops init s ⟨_, init_inv hbs⟩ hr hno
  have h0 : count bs init = 0 := rfl
  omega

/-- The live slots never exceed the room of the blocks the pool holds. -/
theorem C19_capacity (hbs : 2 ≤ bs) (h : Reachable bs s) : (liveOf bs s).length ≤ bs * s.blockCount :=
  (reachable_inv hbs h).live_le_capacity

/-- Reuse: while some block the pool holds has a free slot, `Alloc` does not acquire a new block. -/
theorem C19_reuse (hbs : 2 ≤ bs) (h : Reachable bs s) (hroom : (liveOf bs s).length < bs * s.blockCount) :
    (alloc bs s).1.blockCount = s.blockCount := by
  have hk := reachable_inv hbs h
  rw [(alloc_spec hk).count, if_neg fun ⟨hu, hf⟩ => Nat.ne_of_lt hroom (hk.live_eq_capacity hu hf)]; rfl

/-- … and when every block is full it acquires exactly one. -/
theorem C19_grow_when_full (hbs : 2 ≤ bs) (h : Reachable bs s)
    (hfull : (liveOf bs s).length = bs * s.blockCount) :
    (alloc bs s).1.blockCount = s.blockCount + 1 := by
  have ha := alloc_spec (reachable_inv hbs h)
  -- without a new block the live set would exceed the capacity
  have h2 := ha.ok.live_le_capacity
  rw [ha.live.length_eq, ha.count] at h2
  rw [ha.count]
  split at h2
  · rw [if_pos ‹_›]
  · simp at h2; omega

/-- `FreeAll` terminates and destroys every live slot exactly once — also when element destructors
    free other live slots of the pool (`DtorOk`: distinct, live, not the element itself) — and leaves
    the pool empty with no block held. -/
theorem C19_freeall_each_once (hbs : 2 ≤ bs) (h : Reachable bs s) {dtor : State → Slot → List Slot}
    (hd : DtorOk bs dtor) :
    ∃ s' d, freeAll bs dtor s = some (s', d) ∧ d.Perm (liveOf bs s) ∧ d.Nodup ∧
      liveOf bs s' = [] ∧ count bs s' = 0 ∧ s'.blockCount = 0 := by
  have hk := reachable_inv hbs h
  obtain ⟨s', d, hfa, _, hperm, hlive, hcnt⟩ := freeAll_spec hd hk
  exact ⟨s', d, hfa, hperm, hperm.nodup_iff.2 hk.live_nodup, hlive, by rw [count_eq_length, hlive]; rfl, hcnt⟩

/-- The hypothesis of `C19_freeall_each_once` is met by every ownership forest: if `desc p` lists the
    (distinct) elements below `p`, "destroy those of them that are still live" is admissible.  This is
    the cascade the correspondence harness drives. -/
theorem C19_cascade_admissible (bs : Nat) (desc : Slot → List Slot)
    (hdesc : ∀ p, (desc p).Nodup ∧ p ∉ desc p) :
    DtorOk bs (fun s p => (desc p).filter fun q => decide (q ∈ liveOf bs s)) := by
  intro s p _
  refine ⟨(hdesc p).1.filter _, fun hm => (hdesc p).2 (List.mem_filter.1 hm).1, fun q hq => ?_⟩
  simpa using (List.mem_filter.1 hq).2

/-! Non-vacuity: concrete reachable states that meet the hypotheses. -/

example : Reachable 2 init := ⟨[], rfl⟩

/-- a reachable state with a live slot that can be freed, and room left in its block -/
example : ∃ s p, Reachable 2 s ∧ p ∈ liveOf 2 s ∧ (liveOf 2 s).length < 2 * s.blockCount := by
  have h0 : Reachable 2 init := ⟨[], rfl⟩
  have hl0 : liveOf 2 init = [] := rfl
  have hb0 : init.blockCount = 0 := rfl
  refine ⟨(alloc 2 init).1, (alloc 2 init).2, h0.step .alloc rfl, ?_, ?_⟩
  · exact (C19_alloc_adds (by decide) h0).mem_iff.2 (by simp)
  · have h1 := C19_grow_when_full (by decide) h0 (by rw [hl0, hb0]; rfl)
    rw [(C19_alloc_adds (by decide) h0).length_eq, hl0, h1, hb0]; decide

/-- a destructor behaviour with a real cascade that is admissible -/
example : DtorOk 2 (fun s p => ((if p = (1, 0) then [(1, 1), (2, 0)] else [] : List Slot)).filter
    fun q => decide (q ∈ liveOf 2 s)) :=
  C19_cascade_admissible 2 (fun p => if p = (1, 0) then [(1, 1), (2, 0)] else []) (by
    intro p; split
    · rename_i hp; subst hp; decide
    · simp)

end Morfuse.BlockAlloc
