import MorfuseModel.Bytecode.Lemmas
import MorfuseModel.Bytecode.VmErrors

/-!
# C02 — emitted bytecode is well-formed and keeps the operand stack disciplined

Property theorems only.  `Bytecode.verify` is the executable verifier that `driver bytecode` runs on the
dump of every program the real compiler produced; the theorems say what an `accept` means.

* `table_matches_vm` — the regenerated `OpcodeInfo[]` table (what the emitter believes) and the hand model
  of the decode loop (what the VM does) agree on encoded length and stack effect for every opcode, up to
  the exceptions listed and justified in `Bytecode.TableException`.
* `C02_verifier_sound` — for every program, entry and path of the abstract VM: every state reached is safe.
* `C02_error_effect` / `C02_error_effect_partial` — the height and code position after a script error are
  the ones the verifier assumed.
-/
namespace Morfuse.Bytecode
open Gen

/-- **Table against VM.**  For every opcode the encoded length and the stack effect in `OpcodeInfo[]`
(regenerated from the source on every run) are what `ScriptVM::Process` consumes and pushes/pops, except:
`OP_DONE` (table length 0, VM 1; never absorbed), `OP_STORE_FIELD_REF` (table 5, emitter and VM 9; never
absorbed), `OP_FUNC` (7 or 11 bytes, table 11 / −128), the count-carrying opcodes (stack effect −128 is a
marker), and the three opcodes without a `case` (`OP_BOOL_TO_VAR`, `OP_END`, `OP_RETURN`; rejected by the
verifier).  `agrees` states the exact demand for each exception. -/
theorem table_matches_vm : ∀ o : Opcode, agrees o = true :=
  forall_opcode_of_all (by decide +kernel)

/-- the table has one row per enumerator before `OP_PREVIOUS` (a missing row would shift all later ones) -/
theorem table_rows_match_enum : table_rows = OP_PREVIOUS ∧ Opcode.all.length = OP_PREVIOUS := by decide

/-- opcode bytes decode back to their enumerator -/
theorem opcode_code_roundtrip : ∀ o : Opcode, Opcode.ofCode o.code = some o :=
  fun o => eq_of_beq (forall_opcode_of_all (P := fun o => Opcode.ofCode o.code == some o) (by decide +kernel) o)

/-- **Soundness of the verifier.**  If `verify p = true` then for every entry `e` (start of the script, every
label, case label and catch label), every number of steps and every resolution of the branches on the way
(`cs`: which successor is taken at each step), the state `s` the abstract VM reaches is safe:
* `s.pc` is inside the buffer (instruction boundaries: `C02_branch_targets_on_boundaries`);
* the instruction there decodes inside the buffer and is executable at this height (no underflow, marked
  region rules, switch table known) — so the path can always be continued, in particular every branch
  target is again such a state;
* the height is at most `declared − 1` (the VM's own check is `index ≥ size ⇒ error`);
* if the thread can end here (`OP_DONE`, `end`, uncaught `throw`, `delete` …) the height it ends with is 0;
* every string / event / event-name / switch-table operand names an existing object. -/
theorem C02_verifier_sound (p : Program) (hv : verify p = true) (e : Nat) (he : e ∈ p.entries)
    (cs : List Nat) (s : St) (hx : AbsVM.run p (AbsVM.start e) cs = some s) : Safe p s :=
  check_sound p (infer p) hv e he cs s hx

/-- the same for any annotation that passes the checker (the verifier's own inference is not trusted) -/
theorem C02_checker_sound (p : Program) (H : Ann) (hv : check p H = true) (e : Nat) (he : e ∈ p.entries)
    (cs : List Nat) (s : St) (hx : AbsVM.run p (AbsVM.start e) cs = some s) : Safe p s :=
  check_sound p H hv e he cs s hx

/-- **Every branch lands on an instruction boundary.**  The reachable code decodes in exactly one way: for
any two states reachable from any entries along any paths, the second never starts strictly inside the
instruction the first is about to execute.  (So a jump, case label, catch label or fall-through never
enters the operand bytes of an instruction that is itself reachable.) -/
theorem C02_branch_targets_on_boundaries (p : Program) (hv : verify p = true) (e₁ e₂ : Nat) (h₁ : e₁ ∈ p.entries)
    (h₂ : e₂ ∈ p.entries) (cs₁ cs₂ : List Nat) (s₁ s₂ : St) (hx₁ : AbsVM.run p (AbsVM.start e₁) cs₁ = some s₁)
    (hx₂ : AbsVM.run p (AbsVM.start e₂) cs₂ = some s₂) : ¬ insideInstr p s₁.pc s₂.pc :=
  no_overlap_of_inv p (infer p) hv s₁ s₂
    (inv_reach p (infer p) hv e₁ h₁ cs₁ s₁ hx₁)
    (inv_reach p (infer p) hv e₂ h₂ cs₂ s₂ hx₂)

/-- heights agree on all paths into the same instruction: two paths (from any entries) that arrive at the
same offset arrive with the same height and the same pending mark -/
theorem C02_heights_agree (p : Program) (hv : verify p = true) (e₁ e₂ : Nat) (h₁ : e₁ ∈ p.entries) (h₂ : e₂ ∈ p.entries)
    (cs₁ cs₂ : List Nat) (s₁ s₂ : St) (hx₁ : AbsVM.run p (AbsVM.start e₁) cs₁ = some s₁)
    (hx₂ : AbsVM.run p (AbsVM.start e₂) cs₂ = some s₂) (hpc : s₁.pc = s₂.pc) : s₁.h = s₂.h ∧ s₁.mark = s₂.mark := by
  have i₁ := inv_reach p (infer p) hv e₁ h₁ cs₁ s₁ hx₁
  have i₂ := inv_reach p (infer p) hv e₂ h₂ cs₂ s₂ hx₂
  have := i₁.2
  rw [hpc, i₂.2] at this
  simp only [Option.some.injEq, Prod.mk.injEq] at this
  exact ⟨this.1.symm, this.2.symm⟩

/-- **Error paths (full statement).**  For every opcode and every way a script error can leave its `case`
block - including the `catch (...)` repairs of `OP_LOAD_FIELD_VAR`, `OP_STORE_FIELD`, `OP_STORE_FIELD_REF`,
`OP_STORE_ARRAY`, `loadTop`, `ExecFunction`, `executeCommandInternal<true>` - the height and the code position
at that moment are the ones of the fall-through path, i.e. what `step` (and so `C02_verifier_sound`) assumed:
same net height change, the count-dependent parameters popped iff the normal path pops them, all operand
bytes of the instruction stepped over.  The hypothesis is a closed boolean over `Gen/VmCases.lean`
(regenerated fingerprints of the source): `true` exactly when every block has a text whose error paths are
right; the check reports it as a failed obligation, with concrete failing programs, while it is `false`.
(Model level: `vmErrPaths` is the hand transcription of the fingerprinted source; the real VM's behaviour
after errors is compared transition by transition in the correspondence.) -/
theorem C02_error_effect (h : errorPathsRepaired = true) (o : Opcode) (e : ErrPath) (he : e ∈ vmErrPaths o) :
    errPathOk o e = true :=
  (List.all_eq_true.mp (forall_opcode_of_all h o)) e he

/-- **Error paths (what holds whichever known text the source has).**  Missing with respect to the full
statement: `OP_LOAD_FIELD_VAR`, whose group branch (6c30d63) keeps the assigned value on the stack when an
element of the array is not a listener until notes/C02-suggested-fix-6.diff is applied. -/
theorem C02_error_effect_partial (o : Opcode) (ho : o ∉ errorPathSuspects) (e : ErrPath) (he : e ∈ vmErrPaths o) :
    errPathOk o e = true := by
  have key : Opcode.all.all (fun o => errorPathSuspects.contains o || errOk o) = true := by decide +kernel
  have := forall_opcode_of_all key o
  simp only [Bool.or_eq_true, List.contains_iff_mem] at this
  rcases this with h | h
  · exact absurd h ho
  · exact (List.all_eq_true.mp h) e he

/-! ## non-vacuity -/

/-- a program dumped from the real compiler:
```
main local.p:
if (local.p) { local.b = local.p + 1 }
end
``` -/
def realProgram : Program :=
  { code := #[59, 60, 49, 7, 0, 0, 0, 0, 0, 0, 0, 61, 71, 7, 0, 0, 0, 0, 0, 0, 0, 3, 21, 0, 0, 0, 71, 7, 0, 0, 0, 0, 0, 0, 0, 13, 1, 94, 49, 8, 0, 0, 0, 0, 0, 0, 0, 26, 39, 0, 0, 0, 0, 0]
    declared := 3, dictSize := 8, numEvents := 142, numEventNames := 126
    ctl := [9, 10, 11, 18, 39, 43], labels := [0], switches := [], catches := [] }

theorem realProgram_verified : verify realProgram = true := by decide +kernel

example : verify realProgram = true := realProgram_verified

/-- the same bytes with the jump offset of `OP_VAR_JUMP_FALSE4` one larger: the branch lands inside
`OP_LOAD_LOCAL_VAR`'s operands -/
def brokenProgram : Program := { realProgram with code := realProgram.code.set! 22 22 }

example : verify brokenProgram = false := by decide +kernel

/-- the same bytes with the declared stack one slot too small -/
example : verify { realProgram with declared := 2 } = false := by decide +kernel

/-- `C02_verifier_sound` applies: the path start, mark, store-param, load, restore, push, branch taken -/
example : ∃ s, AbsVM.run realProgram (AbsVM.start 0) [0, 0, 0, 0, 0, 1] = some s ∧ s.pc = 47 ∧ Safe realProgram s := by
  refine ⟨⟨47, 0, none⟩, by decide +kernel, rfl, ?_⟩
  exact C02_verifier_sound realProgram realProgram_verified 0 (by decide) [0, 0, 0, 0, 0, 1] _ (by decide +kernel)

/-- `insideInstr` is not vacuous: offset 22 is inside the `OP_VAR_JUMP_FALSE4` at 21 -/
example : insideInstr realProgram 21 22 := ⟨⟨.OP_VAR_JUMP_FALSE4, 5, 1, 0⟩, by decide +kernel, by decide, by decide⟩

/-- error paths: the lists are not empty, and the shapes the source had before its repairs (double push in
`OP_STORE_OWNER`, operands left unread by `OP_STORE_FIELD_REF`, skipped twice by `OP_STORE_FIELD`, value
left by `loadTop`) are refused by `errPathOk` -/
example : vmErrPaths .OP_STORE_ARRAY = [⟨-1, false, some 0⟩] ∧ errOk .OP_STORE_ARRAY = true := by decide
example : errPathOk .OP_STORE_OWNER ⟨2, false, some 0⟩ = false ∧ errPathOk .OP_STORE_OWNER ⟨1, false, some 0⟩ = true := by decide
example : errPathOk .OP_STORE_FIELD_REF ⟨0, false, some 0⟩ = false ∧ errPathOk .OP_STORE_FIELD ⟨0, false, some 16⟩ = false
    ∧ errPathOk .OP_LOAD_LOCAL_VAR ⟨0, false, some 8⟩ = false := by decide
example : (Opcode.all.filter (fun o => vmErrPaths o ≠ [])).length = 74 ∧ Opcode.OP_BIN_DIVIDE ∉ errorPathSuspects := by decide

/-- table against VM: a changed length is noticed -/
example : vmLength .OP_STORE_INT2 = some 3 ∧ Opcode.OP_STORE_INT2.tableLength = 3 := by decide

end Morfuse.Bytecode
