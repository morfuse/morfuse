import MorfuseModel.VMOps.Lemmas
import MorfuseModel.VMOps.Tables
import MorfuseModel.VMOps.Total
import MorfuseModel.VMOps.VM
import MorfuseModel.Common.StrCode
/-!
# C04 — script errors are contained: no memory corruption, host keeps control

Property theorems only.  The model is `MorfuseModel/VMOps/*` (value layer of `ScriptVariable`,
error paths of `ScriptVM::Process`), tied to the source by `Gen/OpAccept.lean` (regenerated on every
run) and by the two correspondence runs of `tools/props/c04.py`.  Memory safety of code outside the
model is runtime truth (ASan + hook H2 on the generated programs), not a theorem.
-/
namespace Morfuse.Props.C04
open Morfuse.VMOps Morfuse.Gen

/-! ## no undefined behaviour in any operator / cast / index operation -/

/-- Full strength, for the repaired transcription: no operation of the value layer, on any operand
    kinds, any values and any operand position, ends in undefined behaviour. -/
theorem C04_step_never_ub (op : Op) (args : List Val) : (step Fixes.all op args).isUb = false :=
  Out.fine_all (step_fine Fixes.all op args)

/-- For *any* state of the source: the only undefined behaviours the value layer can execute are
    the seven listed ones, each only while its repair is absent.  (What is missing for full strength
    on an unrepaired tree is exactly the hypothesis of `C04_step_never_ub_code`.) -/
theorem C04_step_never_ub_partial (fx : Fixes) (op : Op) (args : List Val) (u : Ub)
    (h : step fx op args = .ub u) : u.fixedBy fx = false := by
  have := step_fine fx op args
  rw [h] at this
  exact this

/-- `C04_step_never_ub` for the code as it is now, given that the regenerated repair flags are all
    on.  The hypothesis is discharged per flag by `tools/props/c04.py` on every run (one kernel-checked
    `example : Morfuse.Gen.OpAccept.fix_X = true := by decide` each, reported as the obligations
    "repair present: …"); on a tree where a flag is off the check replays the witnesses below on the real
    code instead. -/
theorem C04_step_never_ub_code (h : codeFixes = Fixes.all) (op : Op) (args : List Val) :
    (step codeFixes op args).isUb = false := by
  rw [h]; exact C04_step_never_ub op args

/-- the seven flags are exactly what `codeFixes = Fixes.all` asks for -/
theorem C04_code_is_repaired_iff :
    codeFixes = Fixes.all ↔ (OpAccept.fix_divMin = true ∧ OpAccept.fix_shiftCount = true ∧ OpAccept.fix_vecDivAlias = true
      ∧ OpAccept.fix_safeContainerBound = true ∧ OpAccept.fix_negIndexStore = true ∧ OpAccept.fix_floatCast = true
      ∧ OpAccept.fix_floatStr = true) := by
  simp [codeFixes, Fixes.all, Fixes.mk.injEq]

/-! Negations on concrete witnesses for the code as first read (each replayed on the real code by
    `tools/props/c04.py` whenever its repair flag is off). -/

/-- D4: `INT64_MIN / -1` (SIGFPE). -/
theorem C04_ub_witness_divMin :
    step Fixes.none (.bin .div) [.int minInt, .int negOne] = .ub .divMin := by rfl
/-- `1 << 64`. -/
theorem C04_ub_witness_shift :
    step Fixes.none (.bin .shl) [.int 1, .int 64] = .ub .shiftCount := by rfl
/-- D14: `vector / vector` re-aims the payload at a static, freed later. -/
theorem C04_ub_witness_vecAlias :
    step Fixes.none (.bin .div) [.vec 0 0 0, .vec 0 0 0] = .ub .vecAlias := by rfl
/-- safe container indexed through `constArrayValue->size`. -/
theorem C04_ub_witness_wrongUnion :
    step Fixes.none .evalAt [.scont (some [none]), .int 1] = .ub .wrongUnion := by rfl
/-- `"abc"[-1] = "x"`: heap write before the string buffer. -/
theorem C04_ub_witness_negIndex :
    step Fixes.none .setAt [.ref (.str [97, 98, 99]), .int negOne, .chr 120] = .ub .negIndexStore := by rfl

/-! non-vacuity: the operations do produce values and typed errors -/
example : step Fixes.all (.bin .div) [.int minInt, .int negOne] = .ok (.int minInt) := by rfl
example : step Fixes.all (.bin .div) [.int 7, .int 0] = .err .divideByZero (.int 7) := by rfl
example : step Fixes.all (.bin .add) [.int 7, .nil] = .err .incompatibleOperator .nil := by rfl
example : step Fixes.all .evalAt [.carr [.int 1], .int 2] = .err .typeIndexOutOfRange (.carr [.int 1]) := by rfl
example : (step Fixes.none (.bin .div) [.int minInt, .int negOne]).isUb = true := by rfl

/-! ## the hand model dispatches exactly like the source (regenerated tables) -/

/-- For every binary operator the accepted `(left kind, right kind)` pairs of the model are the
    `case uint32_t(L + R * Max)` labels of the C++ member. -/
theorem C04_accept_tables_match :
    BinOp.all.all (fun op => sameSet (acceptTbl op) (genPairs op.cppName)) = true := by decide +kernel

/-- The `switch (type)` members are transcribed with the same case grouping as the source, and
    `operator=` has the recorded plain-copy pairs. -/
theorem C04_kind_tables_match :
    kindTbl.all (fun e => OpAccept.kindCases.lookup e.1 == some e.2) = true
    ∧ sameSet assignPlainPairs (genPairs "operator=") = true
    ∧ OpAccept.kindNames = ["None", "String", "Integer", "Float", "Char", "ConstString", "Listener", "Ref",
        "Array", "ConstArray", "Container", "SafeContainer", "Pointer", "Vector"]
    ∧ OpAccept.typeNames = Kind.all.map Kind.typeName := by decide +kernel

/-- Every accepted pair has a transcribed body, for all values: `binImpl` never falls into its
    `badop` filler on an accepted pair (so a `case` added to the source cannot go unmodelled). -/
theorem C04_accepted_pairs_implemented (fx : Fixes) (op : BinOp) (a b : Val)
    (h : accepts op a.kind b.kind = true) : binImpl fx op a b ≠ .badop :=
  binImpl_total fx op a b h

/-! ## every error is a script warning class, never a foreign `std::exception` -/

/-- `derivesFrom` over a hierarchy keyed by `strCode`: the search the kernel runs -/
def derivesFromC (tbl : List (Nat × List String)) : Nat → Nat → Nat → Bool
  | 0, c, b => c == b
  | n + 1, c, b => c == b || ((tbl.lookup c).getD []).any fun p => derivesFromC tbl n (strCode p) b

theorem derivesFrom_code (n : Nat) (c b : String) :
    derivesFrom n c b =
      derivesFromC (OpAccept.classBases.map fun p => (strCode p.1, p.2)) n (strCode c) (strCode b) := by
  induction n generalizing c with
  | zero => exact (strCode_beq c b).symm
  | succ n ih => simp only [derivesFrom, derivesFromC, basesOf, strCode_beq, ← lookup_strCode, ih]

/-- the two statements and the three sample classes below, evaluated in one pass over the class hierarchy -/
theorem class_checks :
    Err.all.all (fun e => isWarningClass e.className && OpAccept.thrown.contains e.className
      && executeHandler e.className == some "continue") = true
    ∧ (OpAccept.thrown.all (fun c => isWarningClass c || isAbortClass c) = true
      ∧ OpAccept.executeCatches = [("ScriptVMErrors::CommandOverflow", "rethrow-if-drop"),
          ("ScriptExceptionBase", "continue"), ("std::exception", "rethrow")]
      ∧ OpAccept.thrown.all (fun c => isWarningClass c → executeHandler c == some "continue") = true)
    ∧ isWarningClass "ScriptVariableErrors::TypeIndexOutOfRange" = true
    ∧ isWarningClass "OutOfRangeContainerException" = false
    ∧ executeHandler "ScriptVMErrors::StackError" = some "rethrow" := by
  simp only [isWarningClass, isAbortClass, executeHandler, derivesFrom_code, contains_strCode]
  decide +kernel

/-- Every error the value layer raises is a class derived from `ScriptExceptionBase` (regenerated
    hierarchy), it is one of the classes the anchored files really `throw`, and `ScriptVM::Execute`
    handles it in the clause that writes a warning and continues. -/
theorem C04_error_is_typed :
    Err.all.all (fun e => isWarningClass e.className && OpAccept.thrown.contains e.className
      && executeHandler e.className == some "continue") = true
    ∧ (∀ e : Err, e ∈ Err.all) :=
  ⟨class_checks.1, fun e => by cases e <;> decide⟩

/-- Every `throw` of the run-time files is a warning class or one of the documented abort classes;
    nothing else can leave `ScriptVM::Execute`, and the catch clauses are the three modelled ones. -/
theorem C04_thrown_classes_are_script_classes :
    OpAccept.thrown.all (fun c => isWarningClass c || isAbortClass c) = true
    ∧ OpAccept.executeCatches = [("ScriptVMErrors::CommandOverflow", "rethrow-if-drop"),
        ("ScriptExceptionBase", "continue"), ("std::exception", "rethrow")]
    ∧ OpAccept.thrown.all (fun c => isWarningClass c → executeHandler c == some "continue") = true :=
  class_checks.2.1

example : isWarningClass "ScriptVariableErrors::TypeIndexOutOfRange" = true := class_checks.2.2.1
example : isWarningClass "OutOfRangeContainerException" = false := class_checks.2.2.2.1
example : executeHandler "ScriptVMErrors::StackError" = some "rethrow" := class_checks.2.2.2.2

/-! ## a script error is confined to the instruction that raised it -/

/-- The reader translated every opcode case, the normal path of every opcode agrees with
    `OpcodeInfo[]` (two documented exceptions), every opcode of the enum that `Process` handles has a
    case, and the `catch (...)` blocks consist of the recognised statements only — they touch this
    VM's own operand stack and code pointer and rethrow, nothing else. -/
theorem C04_vm_model_matches_tables :
    OpAccept.vmActProblems = []
    ∧ OpAccept.vmActs.all (fun e => VM.tableExceptions.contains e.1 || VM.matchesTable e.1 e.2) = true
    ∧ OpAccept.opcodes.all (fun o => ["OP_BOOL_TO_VAR", "OP_END", "OP_RETURN"].contains o.1
        || (OpAccept.vmActs.lookup o.1).isSome) = true
    ∧ OpAccept.vmCatchStatements.all (fun s => ["ScriptVariable* const pTop = m_Stack.GetTopPtr()",
        "m_Stack.GetTop().Clear()", "m_Stack.Pop()", "m_Stack.Pop(params)", "pTop->setRefValue(pTop)",
        "skipField()", "throw", "if constexpr (!noTop) m_Stack.Pop()"].contains s) = true := by
  simp only [VM.matchesTable, VM.tableOf, lookup_strCode, contains_strCode]
  decide +kernel

/-- Checked on the regenerated error-path terms of all opcodes. -/
theorem C04_error_confined_check : OpAccept.vmActs.all VM.confinedEntry = true := by decide +kernel

/-- **Confinement.**  For every opcode of `ScriptVM::Process` and every way its C++ can end by
    throwing (cast error, incompatible operator, index out of range, NULL / NIL receiver, failing
    command, …): the operand stack height and the code position are those of a fall-through
    execution of the same instruction — `ScriptVM::Execute` writes the warning and resumes at the next
    instruction with the stack that instruction expects — and the thread was neither ended nor
    redirected. -/
theorem C04_error_confined (name : String) (act : OpAccept.Act) (h : (name, act) ∈ OpAccept.vmActs)
    (r : VM.Kind × VM.Eff) (hr : r ∈ VM.outcomes act) (hk : r.1 = .raised) :
    (∃ f ∈ VM.fallThrough (VM.outcomes act), r.2.sig = f.sig) ∧ r.2.jumped = false ∧ r.2.stopped = false :=
  VM.confined_sound ((List.all_eq_true.mp C04_error_confined_check) (name, act) h) r hr hk

/-- Frame: finishing an instruction of thread `i` (normally or with a script error) leaves every other
    thread's position and stack as they were.  (By construction of the model; its justification in the
    source is the catch-statement clause of `C04_vm_model_matches_tables`.) -/
theorem C04_other_threads_untouched (ts : List VM.Thread) (i j : Nat) (N : Int) (e : VM.Eff) (hij : j ≠ i) :
    (VM.finish ts i N e)[j]? = ts[j]? := by
  unfold VM.finish
  rw [List.getElem?_modify]
  simp [Ne.symm hij]

/-- The slot that `OP_STORE_ARRAY_REF` / `OP_LOAD_ARRAY_VAR` dereference as `m_data.refValue` holds a
    reference after every outcome of the instructions that `EmitRef` puts before them (field access
    by variable, by getter, or failed; any number of `[index]` steps, each succeeding or failing). -/
theorem C04_ref_discipline (e : VM.FieldRefEnd) (n : Nat) : VM.chain true e n = some .ref := by
  induction n with
  | zero => cases e <;> rfl
  | succ n ih => simp [VM.chain, ih, VM.useRef]

/-- The code as first read: `local.owner[1] = 5` applies `setArrayAt` to the getter's value. -/
theorem C04_ref_witness_getter : VM.chain false .getter 1 = none := by rfl

example : VM.confined false (.seq (.push 1 0) (.branch (.seq (.push 1 0) .throw) .nop)) = false := by decide +kernel
example : (OpAccept.vmActs.any fun e => (VM.outcomes e.2).any (·.1 == .raised)) = true := by decide +kernel

end Morfuse.Props.C04
