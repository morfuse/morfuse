import MorfuseModel.Sched.Guard
import MorfuseModel.Sched.TimerLemmas
import MorfuseModel.Unwind.Lemmas
import MorfuseModel.Unwind.Start
import MorfuseModel.Unwind.Spin
import MorfuseModel.Unwind.Timing
import MorfuseModel.Unwind.Potential
import MorfuseModel.Unwind.ZeroWait
/-!
# C14 — runaway and over-deep scripts are stopped

Proved (for every clock, limit and program length): with a non-zero execution limit a thread that
never yields is interrupted right after the first instruction whose preceding clock reading has
reached the deadline — so within a number of instructions bounded by the clock, never "never";
nesting of VM activations never exceeds `maxStackDepth + 1` and the next activation fails.

Second part (namespace `Morfuse.Unwind`): the recovery clauses, proved about the *unwind model*
`MorfuseModel/Unwind/Model.lean` — a small-step machine over the native call stack of the C++
activations, in which an abort unwinds frame by frame through the transcribed catch / rethrow /
restore code — for every program, configuration, clock and nesting: the abort reaches the host call,
`m_CurrentThread` and the nesting counter are restored and every activation is popped, protection off
means log + extend instead of abort, the transition function does not depend on which streams are
attached, nesting never exceeds `maxStackDepth + 1`, the scheduler resumes a due thread on the next
frame, Reset and new host calls work afterwards.  Then, about whole host calls: the model's time check is
the check of `Guard.runLoop`, so the bound of the first part holds of the model's runaway loop; every
activation has its own deadline and instruction budget; every host call of a program of class `Nest`
returns within `nestBound`; and the two shapes that never return (zero-delay `wait`, recursion through
`waitthread`).  That the engine behaves like the unwind model is compared on every run by
tools/props/c14.py (observation by observation), not proved.
-/
namespace Morfuse.Sched.Guard

theorem runLoop_iff (clk : Nat → Nat) (maxExec : Nat) : ∀ (fuel i k : Nat), runLoop clk maxExec fuel i = some k ↔
    maxExec ≠ 0 ∧ i ≤ k ∧ k < i + fuel ∧ clk k ≥ clk 0 + maxExec ∧ ∀ j, i ≤ j → j < k → clk j < clk 0 + maxExec
  | 0, i, k => by simp only [runLoop]; exact ⟨nofun, fun h => by omega⟩
  | fuel + 1, i, k => by
    simp only [runLoop]
    by_cases hc : maxExec ≠ 0 ∧ clk i ≥ clk 0 + maxExec
    · rw [if_pos hc, Option.some.injEq]
      refine ⟨fun h => h ▸ ⟨hc.1, Nat.le_refl _, by omega, hc.2, fun j a b => by omega⟩, fun ⟨_, h1, _, _, h4⟩ => ?_⟩
      exact Nat.le_antisymm h1 (Nat.le_of_not_lt fun hlt => by have := h4 i (Nat.le_refl _) hlt; omega)
    · rw [if_neg hc, runLoop_iff clk maxExec fuel (i + 1) k]
      refine ⟨fun ⟨h0, h1, h2, h3, h4⟩ => ⟨h0, by omega, by omega, h3, fun j a b => ?_⟩,
        fun ⟨h0, h1, h2, h3, h4⟩ => ?_⟩
      · by_cases hji : j = i
        · exact hji ▸ Nat.lt_of_not_le fun hle => hc ⟨h0, hle⟩
        · exact h4 j (by omega) b
      · have hik : i ≠ k := fun e => hc ⟨h0, e ▸ h3⟩
        exact ⟨h0, by omega, by omega, h3, fun j a b => h4 j (by omega) b⟩

/-- the loop stops exactly at the first late reading `k ≥ i` (if fuel reaches it) -/
theorem runLoop_spec (clk : Nat → Nat) (maxExec : Nat) (hm : maxExec ≠ 0) :
    ∀ (fuel i k : Nat), i ≤ k → k < i + fuel → clk k ≥ clk 0 + maxExec →
      (∀ j, i ≤ j → j < k → clk j < clk 0 + maxExec) →
      runLoop clk maxExec fuel i = some k :=
  fun fuel i k h1 h2 h3 h4 => (runLoop_iff clk maxExec fuel i k).2 ⟨hm, h1, h2, h3, h4⟩

theorem runLoop_late (clk : Nat → Nat) (maxExec : Nat) (hm : maxExec ≠ 0) : ∀ (fuel i j : Nat), i ≤ j → j < i + fuel →
    clk j ≥ clk 0 + maxExec → ∃ k, k ≤ j ∧ runLoop clk maxExec fuel i = some k
  | 0, _, _, _, h2, _ => by omega
  | fuel + 1, i, j, h1, h2, h3 => by
    simp only [runLoop]
    by_cases hc : clk i ≥ clk 0 + maxExec
    · exact ⟨i, h1, by rw [if_pos ⟨hm, hc⟩]⟩
    · rw [if_neg (fun h => hc h.2)]
      have hij : i ≠ j := fun h => hc (h ▸ h3)
      exact runLoop_late clk maxExec hm fuel (i + 1) j (by omega) (by omega) h3

/-- **Interrupted within bounded steps.**  If the clock ever reaches the deadline (any clock that
    keeps advancing does), the non-yielding thread is interrupted, and at the *first* such reading. -/
theorem C14_overflow_bounded (clk : Nat → Nat) (maxExec : Nat) (hm : maxExec ≠ 0)
    (k : Nat) (hk1 : 1 ≤ k) (hlate : clk k ≥ clk 0 + maxExec)
    (hfirst : ∀ j, 1 ≤ j → j < k → clk j < clk 0 + maxExec) :
    runLoop clk maxExec (k + 1) 1 = some k :=
  runLoop_spec clk maxExec hm (k + 1) 1 k hk1 (by omega) hlate hfirst

/-- a clock that advances by at least `δ > 0` per reading reaches any deadline: the interruption
    comes after at most `maxExec / δ + 1` instructions -/
theorem C14_overflow_bounded_by_rate (clk : Nat → Nat) (maxExec δ : Nat) (hm : maxExec ≠ 0) (hδ : 0 < δ)
    (hadv : ∀ k, clk (k + 1) ≥ clk k + δ) :
    ∃ k, k ≤ maxExec / δ + 1 ∧ runLoop clk maxExec (k + 1) 1 = some k := by
  -- readings grow at least linearly
  have hlin : ∀ k, clk k ≥ clk 0 + k * δ := by
    intro k
    induction k with
    | zero => simp
    | succ k ih =>
      have := hadv k
      rw [Nat.succ_mul]; omega
  -- the reading number maxExec/δ+1 is late
  have hlate0 : clk (maxExec / δ + 1) ≥ clk 0 + maxExec := by
    have h1 := hlin (maxExec / δ + 1)
    have hq := Nat.div_add_mod maxExec δ
    have hr := Nat.mod_lt maxExec hδ
    rw [Nat.succ_mul] at h1
    rw [Nat.mul_comm] at hq
    generalize (maxExec / δ) * δ = P at h1 hq
    omega
  obtain ⟨k, hk, hr⟩ := runLoop_late clk maxExec hm (maxExec / δ + 1) 1 (maxExec / δ + 1) (Nat.succ_le_succ (Nat.zero_le _))
    (Nat.lt_add_of_pos_left Nat.one_pos) hlate0
  obtain ⟨_, hk1, _, hlate, hfirst⟩ := (runLoop_iff _ _ _ _ _).1 hr
  exact ⟨k, hk, C14_overflow_bounded clk maxExec hm k hk1 hlate hfirst⟩

/-- with the limit switched off (`maxExecTime = 0`) the guard never fires -/
theorem C14_no_limit_never_fires (clk : Nat → Nat) : ∀ (fuel i : Nat), runLoop clk 0 fuel i = none
  | 0, _ => rfl
  | fuel + 1, i => by simp [runLoop, C14_no_limit_never_fires clk fuel (i + 1)]

/-- **Depth limit.**  `n` nested activations succeed exactly when `n ≤ maxDepth + 1`, and then the
    depth counter equals `n`; so the native stack never carries more than `maxDepth + 1` VM frames. -/
theorem nest_spec (maxDepth : Nat) : ∀ (n depth : Nat),
    nest maxDepth n depth = if n = 0 ∨ depth + n ≤ maxDepth + 1 then some (depth + n) else none
  | 0, depth => by simp [nest]
  | n + 1, depth => by
    simp only [nest, enter]
    by_cases h : depth > maxDepth
    · have : ¬ (n + 1 = 0 ∨ depth + (n + 1) ≤ maxDepth + 1) := by omega
      simp only [h, if_true, Option.bind_none, this, if_false]
    · simp only [h, if_false, Option.bind_some]
      rw [nest_spec maxDepth n (depth + 1)]
      by_cases hn : n = 0
      · subst hn; simp; omega
      · by_cases h2 : depth + 1 + n ≤ maxDepth + 1
        · simp [hn, h2, show depth + (n + 1) ≤ maxDepth + 1 by omega]; omega
        · simp [hn, h2, show ¬ depth + (n + 1) ≤ maxDepth + 1 by omega]

theorem C14_depth_limit (maxDepth n : Nat) :
    (nest maxDepth n 0).isSome ↔ n ≤ maxDepth + 1 := by
  rw [nest_spec]
  by_cases h : n = 0
  · subst h; simp
  · simp [h]

example : runLoop (fun k => 3 * k) 10 100 1 = some 4 := by decide
example : (nest 5 6 0) = some 6 ∧ (nest 5 7 0) = none := by decide

end Morfuse.Sched.Guard

namespace Morfuse.Unwind
open Morfuse.Sched

/-- **The abort reaches the host call and everything is restored** (host call started from a state
    with no current thread).  For every program, configuration, clock, label and number of steps:
    (a) whenever the host call has returned — normally or with any exception — the nesting counter
    has its value from before the call and `m_CurrentThread` is null;
    (b) whenever an abort (`CommandOverflow` with protection on, `MaxStackDepth`, `ScriptAbortException`)
    is in flight at any nesting, exactly one frame is left per step, no frame swallows it, and after
    as many steps as there are frames the host call returns that very exception with every
    activation popped, the counter restored and `m_CurrentThread` null. -/
theorem C14_unwind_restores (E : Env) (s0 : St) (label k : Nat) (hc : s0.cur = none) :
    let s := run E k (startCall E s0 label)
    (s.stack = [] → s.depth = s0.depth ∧ s.cur = none) ∧
    (∀ e, s.exc = some e → e.isAbort = true → (e = .overflow → E.cfg.prot = true) → s.ub = false →
      (run E s.stack.length s).stack = [] ∧ (run E s.stack.length s).exc = some e ∧
      (run E s.stack.length s).depth = s0.depth ∧ (run E s.stack.length s).cur = none) :=
  inv_restores E (run_inv E s0.depth k _ (startCall_inv E s0 label hc))

/-- the same when the runaway / over-deep part runs in a thread that the scheduler resumed
    (`ScriptContext::Execute → ExecuteRunning → Resume`): the "late" variant -/
theorem C14_unwind_restores_late (E : Env) (s0 : St) (k : Nat) (hc : s0.cur = none) :
    let s := run E k (startExecute E s0)
    (s.stack = [] → s.depth = s0.depth ∧ s.cur = none) ∧
    (∀ e, s.exc = some e → e.isAbort = true → (e = .overflow → E.cfg.prot = true) → s.ub = false →
      (run E s.stack.length s).stack = [] ∧ (run E s.stack.length s).exc = some e ∧
      (run E s.stack.length s).depth = s0.depth ∧ (run E s.stack.length s).cur = none) :=
  inv_restores E (run_inv E s0.depth k _ (startExecute_inv E s0 hc))

/-- what the `catch (...)` of `ScriptExecuteInternal` does, frame-locally: `m_CurrentThread` gets the
    saved value, `m_PreviousThread` the thread of this frame (both through `SafePtr`: null if dead),
    the exception travels on -/
theorem C14_unwind_sei_restores (E : Env) (s : St) (t : Tid) (saved : Option Tid) (rest : List Frame) (e : Exc)
    (hst : s.stack = .sei t saved :: rest) (he : s.exc = some e) (hub : s.ub = false) :
    (step E s).cur = safe s saved ∧ (step E s).prev = safe s (some t) ∧ (step E s).stack = rest ∧
    (step E s).exc = some e := by
  rw [step_sei hub hst he]
  exact ⟨rfl, rfl, rfl, he⟩

/-- **Protection on: the overflow reaches the host.**  In any state reached during a host call, when the
    time check after an instruction finds the deadline passed (`cmdTime ≥ nextTime`, VM running), the
    host call returns `CommandOverflow` after `1 + (number of live frames)` further steps, restored. -/
theorem C14_unwind_overflow_reaches_host (E : Env) (s0 : St) (label k : Nat) (hc : s0.cur = none)
    (hp : E.cfg.prot = true) (t : Tid) (dl ct n : Nat) (rest : List Frame) :
    let s := run E k (startCall E s0 label)
    s.stack = .vm t dl ct true n :: rest → s.exc = none → s.ub = false →
    dl ≠ 0 → ct ≥ dl → vmRunning s t = true →
    let s' := run E (1 + s.stack.length) s
    s'.stack = [] ∧ s'.exc = some .overflow ∧ s'.depth = s0.depth ∧ s'.cur = none := by
  intro s hst hn hub hdl hct hrun
  have h1 : step E s = { s with exc := some .overflow } := step_fire hub hst hn hdl hct hrun
  have hb := (C14_unwind_restores E s0 label (k + 1) hc).2
  rw [run_succ, h1] at hb
  show (run E (1 + s.stack.length) s).stack = [] ∧ _
  rw [Nat.add_comm, run, h1]
  exact hb .overflow rfl rfl (fun _ => hp) hub

/-- **Protection off: no abort, the deadline is extended.**  (a) a host call never returns
    `CommandOverflow`; (b) the `catch` of the frame whose check fired logs to the Debug stream iff one is
    attached, takes a new deadline `GetTime() + maxExecutionTime`, re-enters `Process` (fresh `cmdTime`)
    and leaves stack, nesting counter and current thread as they were. -/
theorem C14_unwind_protection_off_extends (E : Env) (hp : E.cfg.prot = false) :
    (∀ (s0 : St) (label k : Nat), (run E k (startCall E s0 label)).stack = [] →
        (run E k (startCall E s0 label)).exc ≠ some .overflow) ∧
    (∀ (s : St) (t : Tid) (dl ct n : Nat) (rest : List Frame), s.stack = .vm t dl ct true n :: rest →
        s.exc = some .overflow → s.ub = false →
        (∃ s2, s2 = tick E (tick E s) ∧ step E s =
          { s2 with exc := none, stack := .vm t (s.now + E.cfg.maxExec) (s.now + E.inc s.reads) false 0 :: rest }) ∧
        diagOf E s = (if E.cfg.sDbg then [.dbgUpdate] else [])) := by
  refine ⟨?_, ?_⟩
  · intro s0 label k hs hov
    have h0 : OverflowLocal (startCall E s0 label) := by
      intro h; rcases startCall_exc E s0 label with h' | h' <;> (rw [h'] at h; cases h)
    obtain ⟨_, _, _, _, _, _, h2⟩ := run_overflow_local E hp k _ h0 hov
    rw [hs] at h2; cases h2
  · intro s t dl ct n rest hst he hub
    exact ⟨⟨_, rfl, step_extend hub hst he hp⟩, by simp [diagOf, hub, hst, he, hp]⟩

/-- **No dependence on the output configuration.**  Environments that differ only in which streams
    are attached and in the developer flag drive the machine through the same states: same outcome of
    every host call, same threads, timer, counters, clock.  (The stream flags are read only by
    `diagOf`, which mirrors the `if (stream)` guards.) -/
theorem C14_unwind_no_output_dependence (E E' : Env) (h : SameCore E E') (k : Nat) (s : St) (d d' : List Diag) :
    (runD E k (s, d)).1 = (runD E' k (s, d')).1 := by
  rw [runD_fst, runD_fst]; exact run_same h k s

/-- **Depth limit.**  (a) from a state within the limit the nesting counter never exceeds
    `maxStackDepth + 1`, in any program; (b) a normal step raises `MaxStackDepth` only from the
    constructor of a new activation at counter `> maxStackDepth` — with (a): exactly `maxStackDepth + 1` —
    and that failed entry leaves the counter unchanged; (c) (in `C14_unwind_restores`) after the
    unwinding the counter has its value from before the host call. -/
theorem C14_unwind_depth_limit (E : Env) (s0 : St) (k : Nat) (h0 : s0.depth ≤ E.cfg.maxDepth + 1) :
    (run E k s0).depth ≤ E.cfg.maxDepth + 1 ∧
    ((run E k s0).exc = none → (run E k s0).ub = false → (step E (run E k s0)).exc = some .depth →
      (run E k s0).depth = E.cfg.maxDepth + 1 ∧ (step E (run E k s0)).depth = (run E k s0).depth) := by
  have hb := run_depth_bound E k s0 h0
  refine ⟨hb, ?_⟩
  generalize run E k s0 = s at *
  intro hn _
  refine step_cases (P := fun s' => s'.exc = some .depth → s.depth = E.cfg.maxDepth + 1 ∧ s'.depth = s.depth) E s
    (fun _ hd => by rw [hn] at hd; cases hd) (fun _ _ _ _ _ _ he _ => by rw [hn] at he; cases he)
    (fun f rest s' _ _ _ hr hd => ?_)
  cases hr.raised hn with
  | none h1 => rw [h1] at hd; cases hd
  | overflow t dl ct n hf hs _ _ => rw [hs] at hd; cases hd
  | depth h1 h2 h3 => exact ⟨by omega, h3⟩
  | raise t dl ct n hf h1 _ => rcases h1 with h1 | h1 <;> (rw [h1] at hd; cases hd)

/-- host operations, each run for an arbitrary number of steps -/
inductive HostOp | call (label : Nat) | execute | reset
def applyOp (E : Env) (k : Nat) (s : St) : HostOp → St
  | .call l => run E k (startCall E s l)
  | .execute => run E k (startExecute E s)
  | .reset => resetDirector s

/-- **Several interruptions in a row.**  Along any sequence of host calls / frames / resets — whatever
    their outcomes: normal returns, command overflows, stack overflows, script aborts — as long as each
    operation returns, the engine is back in a quiescent state with the nesting counter at its original
    value and no current thread. -/
theorem C14_unwind_many (E : Env) (d : Nat) : ∀ (ops : List (HostOp × Nat)) (s : St), Quiescent d s →
    (∀ (pre : List (HostOp × Nat)) (op : HostOp × Nat) (post : List (HostOp × Nat)), ops = pre ++ op :: post →
      let s' := (pre ++ [op]).foldl (fun s o => applyOp E o.2 s o.1) s
      s'.stack = [] ∧ s'.ub = false) →
    Quiescent d (ops.foldl (fun s o => applyOp E o.2 s o.1) s)
  | [], s, hq, _ => hq
  | (op, k) :: rest, s, hq, hall => by
    have h1 := hall [] (op, k) rest rfl
    simp only [List.nil_append, List.foldl_cons, List.foldl_nil] at h1
    have hq' : Quiescent d (applyOp E k s op) := by
      cases op with
      | call l => exact hq.of_returned (C14_unwind_restores E s l k hq.cur).1 h1.1 h1.2
      | execute => exact hq.of_returned (C14_unwind_restores_late E s k hq.cur).1 h1.1 h1.2
      | reset => exact hq.reset
    simp only [List.foldl_cons]
    apply C14_unwind_many E d rest _ hq'
    intro pre o post hpp
    have := hall ((op, k) :: pre) o post (by simp [hpp])
    simpa using this

/-- **The scheduler survives.**  In a quiescent state (which is what every returned host call leaves,
    aborted or not: `C14_unwind_restores`, `C14_unwind_many`), if a sentinel thread is in the timer list
    with due time `≤` the time the next frame sets, then that frame's `ExecuteRunning` passes its guard,
    dequeues the earliest-due, first-registered due thread `e` (due no later than the sentinel), makes it
    the current thread and resumes its VM. -/
theorem C14_unwind_scheduler_survives (E : Env) (s : St) (hq : Quiescent 0 s) (sid due : Nat)
    (hmem : (sid, due) ∈ s.timer.elems) (hdue : due ≤ (startExecute E s).timer.mtime)
    (halive : ∀ e d, (e, d) ∈ s.timer.elems → alive s e = true) :
    ∃ e d tm dl ct, (startExecute E s).timer.next = (some (e, d), tm) ∧ d ≤ due ∧
      (startExecute E s).stack = [.execRunning, .ctxExec] ∧
      (step E (startExecute E s)).stack = [.vm e dl ct false 0, .execRunning, .ctxExec] ∧
      (step E (startExecute E s)).cur = some e ∧ (step E (startExecute E s)).timer = tm := by
  obtain ⟨hthr, hexc, hub, hdep, _, helems, hst⟩ := startExecute_fields E s
  rw [if_pos ⟨hq.cur, hq.depth⟩] at hst
  rw [hq.ub] at hub
  rw [hq.depth] at hdep
  cases hnext : (startExecute E s).timer.next with
  | mk o tm =>
    cases o with
    | none =>
      obtain ⟨h1, h2⟩ := Timer.next_none hnext
      have := h1 (sid, due) (by rw [helems]; exact hmem)
      simp at this; omega
    | some ed =>
      obtain ⟨e, d⟩ := ed
      obtain ⟨i, hi1, hi2, hi3, _⟩ := Timer.next_some hnext
      have hmem' : (e, d) ∈ s.timer.elems := by
        rw [← helems]; exact List.mem_of_getElem? hi1
      obtain ⟨j, hj⟩ := List.getElem?_of_mem (by rw [helems]; exact hmem : (sid, due) ∈ (startExecute E s).timer.elems)
      have hd : d ≤ due := (hi3 j sid due hj hdue).1
      have hal : alive (startExecute E s) e = true := by simpa [alive, hthr] using halive e d hmem'
      generalize startExecute E s = x at *
      have hen := enters_enterVM E
          { x with cur := some e, timer := tm, threads := upd x.threads e (fun y => { y with ts := .running }) } e
      rw [← step_schedResume hub hst hexc hnext hal] at hen
      generalize step E x = y at hen ⊢
      cases hen
      case refused hd' => rw [show (_ : St).depth = 0 from hdep] at hd'; cases hd'
      case limited | unlimited => exact ⟨e, d, tm, _, _, rfl, hd, hst, by rw [hst], rfl, rfl⟩

/-- **Reset after an abort.**  `ScriptMaster::Reset()` in any quiescent state (in particular after an
    interruption that left aborted threads behind) destroys every thread, empties the timer list and the
    wait tables and leaves a quiescent state, from which a new host call again returns to a quiescent
    state (`C14_unwind_restores`). -/
theorem C14_unwind_reset_after_abort (E : Env) (d : Nat) (s : St) (hq : Quiescent d s) :
    Quiescent d (resetDirector s) ∧ (resetDirector s).threads = [] ∧ (resetDirector s).timer.elems = [] ∧
    (resetDirector s).lvl = [] ∧ (resetDirector s).prev = none ∧
    (∀ label k, (run E k (startCall E (resetDirector s) label)).stack = [] →
      (run E k (startCall E (resetDirector s) label)).depth = d ∧ (run E k (startCall E (resetDirector s) label)).cur = none) := by
  refine ⟨hq.reset, rfl, rfl, rfl, rfl, fun label k hs => ?_⟩
  have := (C14_unwind_restores E (resetDirector s) label k rfl).1 hs
  exact ⟨this.1.trans hq.depth, this.2⟩

/-- a runaway `while (1) { local.i++ }`-shaped loop, protection on, 5 ms limit, clock +1 per reading -/
def exLoop : Env := { cfg := { prot := true, maxExec := 5, maxDepth := 2 }, prog := [[.nop, .nop, .jmp 0]], inc := fun _ => 1 }
example : (run exLoop 40 (startCall exLoop {} 0)).stack = [] ∧ (run exLoop 40 (startCall exLoop {} 0)).exc = some .overflow ∧
    (run exLoop 40 (startCall exLoop {} 0)).cur = none ∧ (run exLoop 40 (startCall exLoop {} 0)).depth = 0 := by decide
/-- the hypothesis of `C14_unwind_overflow_reaches_host` is met after 9 steps of that run -/
example : ∃ t dl ct n rest, (run exLoop 9 (startCall exLoop {} 0)).stack = .vm t dl ct true n :: rest ∧
    (run exLoop 9 (startCall exLoop {} 0)).exc = none ∧ dl ≠ 0 ∧ ct ≥ dl ∧ vmRunning (run exLoop 9 (startCall exLoop {} 0)) t = true :=
  ⟨1, 5, 5, 5, [.sei 1 none, .thrExec], by decide⟩
/-- the same loop with protection off: at step 10 the check fires, at step 11 the handler has extended the
    deadline and execution goes on -/
def exLoopOff : Env := { exLoop with cfg := { exLoop.cfg with prot := false } }
example : (run exLoopOff 9 (startCall exLoopOff {} 0)).exc = none ∧ (run exLoopOff 10 (startCall exLoopOff {} 0)).exc = some .overflow ∧
    (run exLoopOff 11 (startCall exLoopOff {} 0)).exc = none ∧ (run exLoopOff 11 (startCall exLoopOff {} 0)).stack.length = 3 ∧
    diagOf exLoopOff (run exLoopOff 10 (startCall exLoopOff {} 0)) = [.dbgUpdate] := by decide
/-- streams detached: same states, nothing written -/
def exLoopQuiet : Env := { exLoopOff with cfg := { exLoopOff.cfg with sDbg := false, sErr := false, sWarn := false } }
example : SameCore exLoopOff exLoopQuiet := ⟨rfl, rfl, rfl, rfl, rfl⟩
example : diagOf exLoopQuiet (run exLoopQuiet 10 (startCall exLoopQuiet {} 0)) = [] := by decide
/-- mutual recursion `a: thread b / b: waitthread a` with nesting limit 2: three activations, the fourth
    is refused at counter 3 = limit + 1; the exception passes 3 VM frames and the counter is back to 0 -/
def exRec : Env := { cfg := { prot := true, maxExec := 0, maxDepth := 2 }, prog := [[.nop, .spawn 1 false, .done], [.nop, .spawn 0 true, .done]], inc := fun _ => 0 }
example : (run exRec 9 (startCall exRec {} 0)).exc = some .depth ∧ (run exRec 9 (startCall exRec {} 0)).depth = 3 ∧
    (run exRec 8 (startCall exRec {} 0)).exc = none ∧
    (run exRec 40 (startCall exRec {} 0)).stack = [] ∧ (run exRec 40 (startCall exRec {} 0)).exc = some .depth ∧
    (run exRec 40 (startCall exRec {} 0)).depth = 0 ∧ (run exRec 40 (startCall exRec {} 0)).cur = none := by decide
set_option maxRecDepth 100000 in
/-- several interruptions in a row, a frame, a reset, and a host call that still works -/
example : Quiescent 0 ([(HostOp.call 0, 40), (.call 0, 40), (.execute, 10), (.reset, 0), (.call 0, 40)].foldl
    (fun s o => applyOp exRec o.2 s o.1) {}) := ⟨by decide +kernel, by decide +kernel, by decide +kernel, by decide +kernel⟩
/-- late variant + sentinel: label 1 = sentinel `wait 5`, label 0 = `wait 1` then runaway loop.  The frame at
    t = 7 resumes the program (abort in a scheduler-resumed thread); `m_CurrentThread` is null afterwards
    and the frame at t = 14 resumes the sentinel -/
def exLate : Env :=
  { cfg := { prot := true, maxExec := 3, maxDepth := 2 }, prog := [[.wait 1, .nop, .jmp 1], [.wait 5, .done]], inc := fun _ => 1 }
def exLateA : St := run exLate 20 (startCall exLate (run exLate 20 (startCall exLate {} 1)) 0)
def exLateS : St := run exLate 60 (startExecute exLate { exLateA with exc := none })
set_option maxRecDepth 100000 in
example : exLateS.stack = [] ∧ exLateS.exc = some .overflow ∧ exLateS.cur = none ∧ exLateS.depth = 0 ∧
    exLateS.timer.elems = [(1, 5)] := by decide +kernel
set_option maxRecDepth 100000 in
example : (step exLate (startExecute exLate { exLateS with exc := none })).cur = some 1 := by decide +kernel
/-- a thread woken by `notify` aborts: the exception passes `ScriptThread::Execute()`, the notify loop and
    the notifier's VM; the other waiter (thread 3) was already taken off the table and is never resumed -/
def exWake : Env :=
  { cfg := { prot := true, maxExec := 0, maxDepth := 5 }, inc := fun _ => 0,
    prog := [[.spawn 1 false, .spawn 2 false, .notify 7, .done], [.waittill 7, .raise true, .done], [.waittill 7, .done]] }
set_option maxRecDepth 100000 in
example : (run exWake 60 (startCall exWake {} 0)).stack = [] ∧ (run exWake 60 (startCall exWake {} 0)).exc = some .abort ∧
    (run exWake 60 (startCall exWake {} 0)).cur = none ∧ (run exWake 60 (startCall exWake {} 0)).depth = 0 ∧
    (run exWake 60 (startCall exWake {} 0)).lvl = [] ∧ (run exWake 60 (startCall exWake {} 0)).threads.length = 3 := by decide +kernel

/-- **The model's time check is the guard model's check.**  For a host call on a label of the plain
    runaway shape (`Spin`: only non-yielding opcodes and jumps, never ends), with a non-zero limit: let
    `clk j` be the j-th reading of the injected clock counted from the moment the deadline is taken.  If
    `Sched.Guard.runLoop clk limit fuel 1 = some k` (the guard model interrupts after instruction `k`), then in
    the unwind model: after `2k - 1` steps instruction `k` has run and its check is pending with
    `nextTime = clk 0 + limit` and `cmdTime = clk k`, no exception was raised before, step `2k` raises
    `CommandOverflow` — and with protection on the host call has returned `CommandOverflow` after `2k + 3`
    steps with the nesting counter restored and no current thread.  So `C14_overflow_bounded` /
    `C14_overflow_bounded_by_rate` speak about the unwind model's activations. -/
theorem C14_unwind_time_check_is_guard (E : Env) (code : List Op) (l : Nat) (hcode : E.prog.getD l [] = code)
    (hspin : Spin code) (hne : 0 < code.length) (s0 : St) (hfresh : find s0.threads s0.nextTid = none)
    (hd : s0.depth ≤ E.cfg.maxDepth) (hub : s0.ub = false) (fuel k : Nat)
    (hg : Guard.runLoop (clkAt E.inc s0.now s0.reads) E.cfg.maxExec fuel 1 = some k) :
    PostJ E code l s0.nextTid s0.cur s0.now s0.reads k (run E (2 * k - 1) (startCall E s0 l)) ∧
    (∀ j, j < 2 * k → (run E j (startCall E s0 l)).exc = none) ∧
    (run E (2 * k) (startCall E s0 l)).exc = some .overflow ∧
    (E.cfg.prot = true → s0.cur = none →
      (run E (2 * k + 3) (startCall E s0 l)).stack = [] ∧ (run E (2 * k + 3) (startCall E s0 l)).exc = some .overflow ∧
      (run E (2 * k + 3) (startCall E s0 l)).depth = s0.depth ∧ (run E (2 * k + 3) (startCall E s0 l)).cur = none) := by
  obtain ⟨hL, hk1, _, hlate, hfirst⟩ := (Guard.runLoop_iff _ _ _ _ _).1 hg
  have h1 := postJ_one E code l hcode hspin hne s0 hfresh hd hub hL
  have hrun1 : ∀ j, run E (j + 1) (startCall E s0 l) = run E j (step E (startCall E s0 l)) := fun j => rfl
  have hpost : ∀ j, j + 1 ≤ k → PostJ E code l s0.nextTid s0.cur s0.now s0.reads (j + 1) (run E (2 * j + 1) (startCall E s0 l)) := by
    intro j hj
    rw [hrun1]
    exact postJ_run E code l hcode hspin _ _ _ _ _ h1 j (fun i a b => hfirst i a (by omega))
  have hP : PostJ E code l s0.nextTid s0.cur s0.now s0.reads k (run E (2 * k - 1) (startCall E s0 l)) := by
    have := hpost (k - 1) (by omega)
    rw [show k - 1 + 1 = k by omega, show 2 * (k - 1) + 1 = 2 * k - 1 by omega] at this
    exact this
  have hstepk : run E (2 * k) (startCall E s0 l) = { (run E (2 * k - 1) (startCall E s0 l)) with exc := some .overflow } := by
    rw [show 2 * k = (2 * k - 1) + 1 by omega, run_succ]
    exact step_fire hP.ub hP.stack hP.exc (by omega) hlate (vmRunning_of_ThrOK hP.thr)
  refine ⟨hP, ?_, by rw [hstepk], ?_⟩
  · -- no exception before step 2k: every earlier state is `PostJ` or the fetch state between two of them
    intro j hj
    have hpar : j = 2 * (j / 2) ∨ j = 2 * (j / 2) + 1 := by omega
    generalize j / 2 = m at hpar
    rcases hpar with hm | hm
    · -- j = 2m: the state after the check of instruction m passed (or the start)
      subst hm
      cases m with
      | zero => rw [startCall_limited E s0 l hfresh hd hL]; rfl
      | succ m =>
        have hp := hpost m (by omega)
        have hlt : clkAt E.inc s0.now s0.reads (m + 1) < s0.now + E.cfg.maxExec := hfirst (m + 1) (by omega) (by omega)
        rw [show 2 * (m + 1) = (2 * m + 1) + 1 by omega, run_succ, step_check hp.ub hp.stack hp.exc fun ⟨_, c, _⟩ => by omega]
        exact hp.exc
    · subst hm
      exact (hpost m (by omega)).exc
  · intro hp hc
    have := C14_unwind_overflow_reaches_host E s0 l (2 * k - 1) hc hp _ _ _ _ _ hP.stack hP.exc hP.ub (by omega) hlate
      (vmRunning_of_ThrOK hP.thr)
    rw [hP.stack, ← run_add] at this
    rwa [show 2 * k + 3 = 2 * k - 1 + (1 + 3) by omega]

/-- **A runaway loop is interrupted within a bounded number of steps.**  Protection on, limit `L > 0`, a
    clock that advances by at least `δ > 0` per reading: a host call on a `Spin` label returns
    `CommandOverflow` after at most `2 · (L / δ + 1) + 3` machine steps (two per instruction, three frames to
    unwind), i.e. after at most `L / δ + 1` instructions, restored.  (Composition of
    `C14_overflow_bounded_by_rate` with `C14_unwind_time_check_is_guard`.) -/
theorem C14_unwind_spin_terminates (E : Env) (code : List Op) (l : Nat) (hcode : E.prog.getD l [] = code)
    (hspin : Spin code) (hne : 0 < code.length) (s0 : St) (hfresh : find s0.threads s0.nextTid = none)
    (hd : s0.depth ≤ E.cfg.maxDepth) (hub : s0.ub = false) (hc : s0.cur = none) (hp : E.cfg.prot = true)
    (hL : E.cfg.maxExec ≠ 0) (δ : Nat) (hδ : 0 < δ) (hinc : ∀ i, E.inc i ≥ δ) :
    ∃ n, n ≤ 2 * (E.cfg.maxExec / δ + 1) + 3 ∧
      (run E n (startCall E s0 l)).stack = [] ∧ (run E n (startCall E s0 l)).exc = some .overflow ∧
      (run E n (startCall E s0 l)).depth = s0.depth ∧ (run E n (startCall E s0 l)).cur = none := by
  obtain ⟨k, hk, hg⟩ := Guard.C14_overflow_bounded_by_rate (clkAt E.inc s0.now s0.reads) E.cfg.maxExec δ hL hδ
    (fun j => by simp only [clkAt]; have := hinc (s0.reads + j); omega)
  obtain ⟨_, _, _, h4⟩ := C14_unwind_time_check_is_guard E code l hcode hspin hne s0 hfresh hd hub (k + 1) k hg
  exact ⟨2 * k + 3, by omega, h4 hp hc⟩

/-- **Protection off: the runaway loop never returns** (by design — the handler only logs and extends the
    deadline), whatever the limit and the clock: after any number of steps the three frames are still on the
    native stack; and the Debug stream receives exactly one "Update of script position" block per deadline
    extension if it is attached, nothing otherwise (nothing is written to any other stream). -/
theorem C14_unwind_protection_off_diverges (E : Env) (code : List Op) (l : Nat) (hcode : E.prog.getD l [] = code)
    (hspin : Spin code) (hne : 0 < code.length) (s0 : St) (hfresh : find s0.threads s0.nextTid = none)
    (hd : s0.depth ≤ E.cfg.maxDepth) (hub : s0.ub = false) (hp : E.cfg.prot = false) (k : Nat) :
    (run E k (startCall E s0 l)).stack.length = 3 ∧ halted (run E k (startCall E s0 l)) = false ∧
    (runD E k (startCall E s0 l, [])).2 =
      List.replicate (if E.cfg.sDbg = true then extensions E k (startCall E s0 l) else 0) .dbgUpdate := by
  have h0 := spinning_start E code l hne s0 hfresh hd hub
  have hk := spinning_run E code l hcode hspin hp _ _ k _ h0
  obtain ⟨_, _, _, _, hst, _⟩ := hk.shape
  refine ⟨by rw [hst]; rfl, by simp [halted, hst, hk.ub], ?_⟩
  simpa using spinning_diag_rate E code l hcode hspin hp _ _ k _ [] h0

/-- a `notify` that wakes an aborting waiter followed by two more waiters, and a later `notify` of the
    same name: label 0 spawns one thread on label 1 (`waittill k7; error "x" 1`) and two on label 2
    (`waittill k7; println m40`), then notifies; label 3 notifies again -/
def exStrand : Env :=
  { cfg := { prot := true, maxExec := 0, maxDepth := 5 }, inc := fun _ => 0,
    prog := [[.spawn 1 false, .spawn 2 false, .spawn 2 false, .notify 7, .print 8, .done], [.waittill 7, .raise true, .done],
             [.waittill 7, .print 40, .done], [.notify 7, .print 9, .done]] }
def exStrandA : St × List Diag := runD exStrand 80 (startCall exStrand {} 0, [])
def exStrandB : St × List Diag := runD exStrand 40 (startCall exStrand { exStrandA.1 with exc := none } 3, [])

/-- **An abort in one of several woken waiters strands the waiters behind it** (as the code is:
    `Listener::Unregister` takes every waiter off both tables before it resumes the first one, and the
    exception leaves its loop).  Witness: the host call returns the abort; threads 3 and 4 are still
    `Waiting` with an idle VM at the instruction after their `waittill`, in no table and not in the timer, and
    have printed nothing; a later `notify` of the same name returns normally, prints its own marker and
    resumes neither of them. -/
theorem C14_unwind_abort_strands_later_waiters :
    exStrandA.1.stack = [] ∧ exStrandA.1.exc = some .abort ∧ exStrandA.1.cur = none ∧ exStrandA.1.depth = 0 ∧
    exStrandA.1.threads.map (fun p => (p.1, p.2.ts, p.2.vs, p.2.pc)) =
      [(1, .running, .idling, 4), (2, .running, .idling, 2), (3, .waiting, .idling, 1), (4, .waiting, .idling, 1)] ∧
    exStrandA.1.lvl = [] ∧ exStrandA.1.timer.elems = [] ∧ exStrandA.2 = [.errPos, .errPos] ∧
    exStrandB.1.stack = [] ∧ exStrandB.1.exc = none ∧ exStrandB.2 = [.out 9] ∧
    exStrandB.1.threads.map (fun p => (p.1, p.2.ts, p.2.vs, p.2.pc)) =
      [(1, .running, .idling, 4), (2, .running, .idling, 2), (3, .waiting, .idling, 1), (4, .waiting, .idling, 1)] := by
  decide +kernel

example : Spin [.nop, .nop, .jmp 0] := by
  intro pc h
  have : pc = 0 ∨ pc = 1 ∨ pc = 2 := by simp at h; omega
  rcases this with h | h | h <;> subst h <;> simp
/-- `exLoop` (limit 5, clock +1): the guard model interrupts after instruction 5, the unwind model raises at
    step 10 and has returned at step 13 = 2·5 + 3 ≤ 2·(5/1 + 1) + 3 = 15 -/
example : Guard.runLoop (clkAt exLoop.inc 0 0) 5 6 1 = some 5 := by decide
example : (run exLoop 9 (startCall exLoop {} 0)).exc = none ∧ (run exLoop 10 (startCall exLoop {} 0)).exc = some .overflow ∧
    (run exLoop 12 (startCall exLoop {} 0)).stack ≠ [] ∧ (run exLoop 13 (startCall exLoop {} 0)).stack = [] := by decide
/-- the bound is met: limit 5, clock +2 per reading, bound 2·(5/2 + 1) + 3 = 9: still running after 8 steps -/
def exTight : Env := { cfg := { prot := true, maxExec := 5, maxDepth := 2 }, prog := [[.jmp 0]], inc := fun _ => 2 }
example : (run exTight 8 (startCall exTight {} 0)).stack ≠ [] ∧ (run exTight 9 (startCall exTight {} 0)).stack = [] ∧
    (run exTight 9 (startCall exTight {} 0)).exc = some .overflow := by decide
/-- protection off, 40 steps: still three frames, three extensions so far, three Debug blocks -/
example : (run exLoopOff 40 (startCall exLoopOff {} 0)).stack.length = 3 ∧ extensions exLoopOff 40 (startCall exLoopOff {} 0) = 3 ∧
    (runD exLoopOff 40 (startCall exLoopOff {} 0, [])).2 = [.dbgUpdate, .dbgUpdate, .dbgUpdate] := by decide

/-- **Every activation has its own deadline and a bounded instruction budget** (all programs, all nestings,
    protection on or off).  Limit `L ≠ 0`, clock advancing by at least `δ > 0` per reading: in every state
    reached during a host call, for every `ScriptVM::Execute` frame on the native stack with `n` instructions
    executed since its deadline was (re)taken: the deadline is non-zero; whenever its time check passes
    (`cmdTime < nextTime`) then `n·δ < L`, so `n ≤ L/δ`; and a check evaluated after `n ≥ L/δ + 1` instructions
    finds `cmdTime ≥ nextTime`, i.e. fires if the VM is still running.  Hence no activation executes more
    than `L/δ + 1` checked instructions per deadline — the step from which termination of nested programs
    follows by induction over the nesting (bounded by `C14_unwind_depth_limit`); see notes/C14-design.md §3
    for what is and is not proved about whole host calls. -/
theorem C14_unwind_activation_bounded (E : Env) (δ : Nat) (hL : E.cfg.maxExec ≠ 0) (hδ : 0 < δ) (hinc : ∀ i, E.inc i ≥ δ)
    (s0 : St) (label k : Nat) (t : Tid) (dl ct n : Nat) (post : Bool)
    (hmem : Frame.vm t dl ct post n ∈ (run E k (startCall E s0 label)).stack) :
    dl ≠ 0 ∧ (ct < dl → n * δ < E.cfg.maxExec ∧ n ≤ E.cfg.maxExec / δ) ∧
    (post = true → n ≥ E.cfg.maxExec / δ + 1 → ct ≥ dl) :=
  (run_allOK E δ hL hinc k _ (startCall_allOK E δ hL hinc s0 label) _ hmem).budget hδ

/-- the same for a frame (`ScriptContext::Execute`): scheduler-resumed threads -/
theorem C14_unwind_activation_bounded_late (E : Env) (δ : Nat) (hL : E.cfg.maxExec ≠ 0) (hδ : 0 < δ) (hinc : ∀ i, E.inc i ≥ δ)
    (s0 : St) (k : Nat) (t : Tid) (dl ct n : Nat) (post : Bool)
    (hmem : Frame.vm t dl ct post n ∈ (run E k (startExecute E s0)).stack) :
    dl ≠ 0 ∧ (ct < dl → n * δ < E.cfg.maxExec) :=
  have h := (run_allOK E δ hL hinc k _ (startExecute_allOK E δ s0) _ hmem).budget hδ
  ⟨h.1, fun hlt => (h.2.1 hlt).1⟩

/-- non-vacuity: the nested frames of `exRec` with a 3 ms limit, clock +1: the frame of the third activation
    is on the stack after 8 steps with a deadline of its own -/
def exRecT : Env := { exRec with cfg := { exRec.cfg with maxExec := 3 }, inc := fun _ => 1 }
example : (run exRecT 8 (startCall exRecT {} 0)).stack.filterMap (fun f => match f with | .vm t dl _ _ n => some (t, dl, n) | _ => none) =
    [(3, 9, 1), (2, 6, 2), (1, 3, 2)] := by decide

/-- the bound: `T0 + 1` top-level activations (the host call's thread and each thread the scheduler may
    still resume from the timer list), each at most `N·W(maxStackDepth) + 4` steps with `N = L/δ + 1`,
    `W(0) = 3`, `W(h+1) = N·W(h) + 6` — exponential in the nesting limit.  (Loose: time spent in nested
    activations also counts against the outer deadlines, so real programs need only about
    `2·(maxStackDepth + 1)·(L/δ + 2)` steps; the potential used in the proof does not exploit that.) -/
def nestBound (L δ D T0 : Nat) : Nat := (T0 + 1) * ((L / δ + 1) * W (L / δ + 1) D + 4)

/-- `nestBound` pays `N·W(D) + 4` for the activation of the host call and `Cw = N·W(D) + 3` for each due thread -/
theorem le_nestBound (L δ D T : Nat) :
    (L / δ + 1) * W (L / δ + 1) D + 4 + T * Cw (L / δ + 1) D ≤ nestBound L δ D T := by
  unfold nestBound Cw
  generalize (L / δ + 1) * W (L / δ + 1) D = X
  rw [Nat.add_mul, Nat.one_mul, Nat.mul_add, Nat.mul_add]
  omega

theorem W_le_pow (N : Nat) : ∀ h, W N h ≤ 9 * (N + 1) ^ h
  | 0 => by simp [W]
  | h + 1 => by
    have ih := W_le_pow N h
    have h1 : 1 ≤ (N + 1) ^ h := Nat.one_le_pow _ _ (Nat.succ_pos _)
    have h2 : N * W N h ≤ N * (9 * (N + 1) ^ h) := Nat.mul_le_mul_left N ih
    simp only [W, Nat.pow_succ]
    have h3 : 9 * ((N + 1) ^ h * (N + 1)) = N * (9 * (N + 1) ^ h) + 9 * (N + 1) ^ h := by
      rw [Nat.mul_add, Nat.mul_one, Nat.mul_add, Nat.mul_comm ((N + 1) ^ h) N, ← Nat.mul_assoc, ← Nat.mul_assoc, Nat.mul_comm 9 N]
    omega

/-- **Every host call of a nesting program returns, within an explicit bound.**  Protection on, limit
    `L > 0`, a clock that advances by at least `δ > 0` per reading, a program of the class `Nest` (decidable:
    every opcode is non-yielding, a jump, `end`, `error "x" 1`, `thread l` with a valid label or `wait d` — no
    `waitthread`, `waittill`, `notify`), every `wait d` of the program not due before the next frame (`WaitOK`:
    nothing re-times or wakes a thread with zero delay), started in a quiescent state (no current thread,
    nesting counter 0, no `waitthread` registrations) with `T0` due threads in the timer list: the host call
    has returned — normally or with `CommandOverflow` / `MaxStackDepth` / abort — or the model has stopped at
    undefined behaviour (`halted`) after at most `nestBound L δ maxStackDepth T0` steps, and if it has returned the
    nesting counter is 0 and no thread is current. -/
theorem C14_unwind_call_terminates_nested (E : Env) (δ : Nat) (hcls : Nest E.prog = true) (hp : E.cfg.prot = true)
    (hL : E.cfg.maxExec ≠ 0) (hδ : 0 < δ) (hinc : ∀ i, E.inc i ≥ δ) (s0 : St) (label : Nat)
    (hc : s0.cur = none) (hd : s0.depth = 0) (hj : NoJoin s0.threads) (hwait : WaitOK E s0) :
    ∃ n, n ≤ nestBound E.cfg.maxExec δ E.cfg.maxDepth (dueCount s0.timer) ∧
      halted (run E n (startCall E s0 label)) = true ∧
      ((run E n (startCall E s0 label)).stack = [] →
        (run E n (startCall E s0 label)).depth = 0 ∧ (run E n (startCall E s0 label)).cur = none) := by
  have C : Ctx E δ := ⟨hcls, hp, hL, hδ, hinc⟩
  have hinv : Inv 0 (startCall E s0 label) := by rw [← hd]; exact startCall_inv E s0 label hc
  -- the state after `ExecuteThread` has entered (or been refused by) the new VM
  have hgs : GoodS (startCall E s0 label) := by
    unfold startCall
    apply enterSei_good
    · simp [lowOK]
    · exact nojoin_append hj _ _ rfl
    · rfl
  obtain ⟨htf, hphi'⟩ := startCall_phi (δ := δ) hL (E.cfg.maxExec / δ + 1) E.cfg.maxDepth s0 label
  have hgood : Good E δ (startCall E s0 label) := ⟨hinv, startCall_allOK E δ hL hinc s0 label, hgs, htf,
    hwait.of_clocks (enterSei_clocks ..)⟩
  have hphi : phi (E.cfg.maxExec / δ + 1) E.cfg.maxDepth (startCall E s0 label) ≤
      nestBound E.cfg.maxExec δ E.cfg.maxDepth (dueCount s0.timer) := Nat.le_trans hphi' (le_nestBound ..)
  obtain ⟨n, hn, hh⟩ := halts_within E δ C _ _ hgood hphi
  refine ⟨n, hn, hh, fun hs => ?_⟩
  exact inv_halted (run_inv E 0 n _ hinv) hs

/-- the same for a frame (`ScriptContext::Execute`): the threads the scheduler resumes from the timer list -/
theorem C14_unwind_frame_terminates_nested (E : Env) (δ : Nat) (hcls : Nest E.prog = true) (hp : E.cfg.prot = true)
    (hL : E.cfg.maxExec ≠ 0) (hδ : 0 < δ) (hinc : ∀ i, E.inc i ≥ δ) (s0 : St)
    (hc : s0.cur = none) (hd : s0.depth = 0) (hj : NoJoin s0.threads) (hwait : WaitOK E (startExecute E s0)) :
    ∃ n, n ≤ nestBound E.cfg.maxExec δ E.cfg.maxDepth (dueCount (startExecute E s0).timer) ∧
      halted (run E n (startExecute E s0)) = true := by
  have C : Ctx E δ := ⟨hcls, hp, hL, hδ, hinc⟩
  have hinv : Inv 0 (startExecute E s0) := by rw [← hd]; exact startExecute_inv E s0 hc
  obtain ⟨hthr, hexc, _, _, _, _, hst⟩ := startExecute_fields E s0
  have hlow : lowOK (startExecute E s0).stack := by rw [hst]; split <;> simp [lowOK]
  have hgood : Good E δ (startExecute E s0) :=
    ⟨hinv, startExecute_allOK E δ s0, ⟨lowOK_stackG hlow, by rw [hthr]; exact hj, by intro e he; rw [hexc] at he; cases he⟩,
      topFetch_of_low hlow, hwait⟩
  have hphi : phi (E.cfg.maxExec / δ + 1) E.cfg.maxDepth (startExecute E s0) ≤
      nestBound E.cfg.maxExec δ E.cfg.maxDepth (dueCount (startExecute E s0).timer) := by
    refine Nat.le_trans (Nat.le_trans (phi_le _ _ _) ?_) (le_nestBound ..)
    rw [hexc, hst]
    simp only [Option.isSome_none, Bool.false_eq_true, if_false]
    split <;> simp only [pot] <;> omega
  exact halts_within E δ C _ _ hgood hphi

/-- three levels of counted loops each spawning the next level (`for (i<3) thread l<k+1>`), 20 ms limit, clock +1:
    in the class; the time spent in the children runs against the parents' deadlines, the level-0 thread is
    interrupted; the call has returned after 51 steps, far below the bound -/
def exFan : Env :=
  { cfg := { prot := true, maxExec := 20, maxDepth := 5 }, inc := fun _ => 1,
    prog := [[.setc 3, .loopTest 4, .spawn 1 false, .jmp 1, .done], [.setc 3, .loopTest 4, .spawn 2 false, .jmp 1, .done],
             [.setc 3, .loopTest 4, .spawn 3 false, .jmp 1, .done], [.done]] }
example : Nest exFan.prog = true := by decide
set_option maxRecDepth 100000 in
example : halted (run exFan 50 (startCall exFan {} 0)) = false ∧ halted (run exFan 51 (startCall exFan {} 0)) = true ∧
    (run exFan 51 (startCall exFan {} 0)).exc = some .overflow ∧ (run exFan 51 (startCall exFan {} 0)).depth = 0 := by decide +kernel
example : nestBound 20 1 5 0 = 283028197 := by decide
/-- mutual recursion past the limit (`exRec` has a `waitthread`, so take the `thread`-only variant) -/
def exRecN : Env := { exRec with prog := [[.nop, .spawn 1 false, .done], [.nop, .spawn 0 false, .done]], cfg := { exRec.cfg with maxExec := 50 }, inc := fun _ => 1 }
example : Nest exRecN.prog = true ∧ halted (run exRecN 17 (startCall exRecN {} 0)) = true ∧
    (run exRecN 17 (startCall exRecN {} 0)).exc = some .depth := by decide

/-- `l0: wait 0; goto l0` — the zero-delay yielding loop `while (1) { wait 0 }`, protection on, 20 ms limit,
    clock +1 ms per reading -/
def exZero : Env := { cfg := { prot := true, maxExec := 20, maxDepth := 5 }, prog := [[.wait 0, .jmp 0]], inc := fun _ => 1 }

/-- **A loop that yields with zero delay never returns to the host — protection on or off.**
    `l0: wait 0; goto l0` (what `while (1) { wait 0 }` does, opcode filler aside), any limit, any clock
    whose single increments stay below the limit (`maxExecutionTime = 0 ∨ inc i < maxExecutionTime`: the one
    check that is ever evaluated — after the jump — compares a reading taken one increment after the
    deadline was set), started in a quiescent state with an empty timer list and `scaledTime ≤ m_time`:
    after every number of steps the host call has not returned and no exception has been raised.  Every
    `wait 0` re-times the thread as due; `ExecuteRunning`, called at the end of the same
    `ScriptExecuteInternal`, resumes it at once with a **fresh deadline**, so no activation ever reaches its
    limit.  Proof: the cycle invariant `ZW` over the seven state shapes of one round (`Unwind/ZeroWait.lean`).
    The engine behaves the same way (DESIGN.md 12.2; finite version in
    corpus/C14/zero-wait-fresh-deadline.json); this is why the class of the termination theorems excludes
    zero-delay yields. -/
theorem C14_unwind_zero_wait_never_returns (E : Env) (hprog : E.prog.getD 0 [] = [.wait 0, .jmp 0])
    (hsmall : ∀ i, E.cfg.maxExec = 0 ∨ E.inc i < E.cfg.maxExec) (s0 : St)
    (hfresh : find s0.threads s0.nextTid = none) (hd : s0.depth = 0) (hub : s0.ub = false) (hc : s0.cur = none)
    (htm : s0.timer.elems = []) (hs : s0.scaled ≤ s0.timer.mtime) (k : Nat) :
    halted (run E k (startCall E s0 0)) = false ∧ (run E k (startCall E s0 0)).exc = none := by
  have h := zw_run E hprog hsmall s0.nextTid k _ (zw_start E s0 hfresh hd hub hc htm hs)
  exact ⟨zw_not_halted h, by cases h <;> assumption⟩

/-- non-vacuity: `exZero` (protection on, 20 ms limit, clock +1) meets the hypotheses; after 300 steps the
    injected clock is far beyond the limit and the host call's frame is still on the stack -/
example : exZero.prog.getD 0 [] = [.wait 0, .jmp 0] ∧ (∀ i, exZero.cfg.maxExec = 0 ∨ exZero.inc i < exZero.cfg.maxExec) :=
  ⟨rfl, fun _ => Or.inr (by show 1 < 20; omega)⟩
set_option maxRecDepth 1000000 in
example : (run exZero 300 (startCall exZero {} 0)).now > 10 * exZero.cfg.maxExec ∧
    (run exZero 300 (startCall exZero {} 0)).stack.getLast? = some .thrExec ∧
    (run exZero 300 (startCall exZero {} 0)).threads.length = 1 := by decide +kernel

/-- an opcode that re-times the executing thread with zero delay: `wait` (delay 0 or small), `waitthread` -/
def isYield : Op → Bool
  | .wait _ => true
  | .spawn _ true => true
  | _ => false

/-- position `i` of `code` lies inside a backward-jump cycle: some jump at a position `j ≥ i` targets `k ≤ i` -/
def inCycle (code : List Op) (i : Nat) : Bool :=
  (List.range code.length).any (fun j => decide (i ≤ j) &&
    match code.getD j .done with
    | .jmp k => decide (k ≤ i)
    | .loopTest k => decide (k ≤ i)
    | _ => false)

/-- the natural weakening of `Nest`'s exclusion: yields are allowed outside backward-jump cycles -/
def NoYieldInCycle (prog : Prog) : Bool :=
  prog.all (fun code => (List.range code.length).all (fun i => !(isYield (code.getD i .done) && inCycle code i)))

/-- `a: thread b; end` / `b: waitthread c; thread a; end` / `c: end` — no backward jump anywhere -/
def exWtRec : Env :=
  { cfg := { prot := true, maxExec := 50, maxDepth := 5 }, inc := fun _ => 1,
    prog := [[.spawn 1 false, .done], [.spawn 2 true, .spawn 0 false, .done], [.done]] }

/-- **"No `waitthread` inside a backward-jump cycle" is not enough.**  Full statement: `exWtRec` satisfies
    `NoYieldInCycle` and `∀ k, halted (run exWtRec k (startCall exWtRec {} 0)) = false`: the re-timed `b` is resumed by
    `ExecuteRunning` inside the same host call with a fresh deadline and spawns the next `a`, whose `b` is
    re-timed in turn — a zero-delay self-resumption through the *label* graph, nesting never above 4, three
    threads alive at any time.  *Proved* (`_partial`): the predicate holds, and the host call has not returned
    after any `k ≤ 1000` steps; at step 1000 the clock shows 705 ms (limit 50 ms, protection on), no exception
    was raised, 153 threads have been created, 3 are alive, the nesting counter is 4.  *Missing* for the ∀k
    form: a cycle invariant over the ~40 shapes of one round with fresh thread ids.  Consequence: a decidable
    class that admits `waitthread` must look at the call graph (e.g. no label that contains a `waitthread`
    is reachable from the code after it); `Nest` excludes `waitthread` altogether. -/
theorem C14_unwind_waitthread_recursion_never_returns_partial :
    NoYieldInCycle exWtRec.prog = true ∧
    (∀ k, k ≤ 1000 → halted (run exWtRec k (startCall exWtRec {} 0)) = false) ∧
    (run exWtRec 1000 (startCall exWtRec {} 0)).now = 705 ∧ (run exWtRec 1000 (startCall exWtRec {} 0)).exc = none ∧
    (run exWtRec 1000 (startCall exWtRec {} 0)).nextTid = 154 ∧ (run exWtRec 1000 (startCall exWtRec {} 0)).threads.length = 3 ∧
    (run exWtRec 1000 (startCall exWtRec {} 0)).depth = 4 := by
  -- one evaluation of the 1000 steps
  suffices h : halted (run exWtRec 1000 (startCall exWtRec {} 0)) = false ∧ _ from
    ⟨by decide, fun k hk => not_halted_of_later exWtRec hk h.1, h.2⟩
  decide +kernel

/-- decidable form of `WaitOK` -/
def waitOKb (prog : Prog) (mtime scaled : Nat) : Bool :=
  prog.all (fun code => code.all (fun op => match op with | .wait ms => decide (mtime < scaled + ms) | _ => true))

theorem waitOK_of_b (E : Env) (s : St) (h : waitOKb E.prog s.timer.mtime s.scaled = true) : WaitOK E s := by
  intro l pc ms hop
  have := fetch_all (p := fun op => match op with | .wait ms => decide (s.timer.mtime < s.scaled + ms) | _ => true) h rfl l pc
  rw [hop] at this
  simpa using this

/-- the late variant with a sentinel is in the class: label 0 waits 5 ms and then runs away, label 1 is the
    sentinel (`wait 9`); from the fresh state both delays are not due before the next frame -/
def exLateN : Env :=
  { cfg := { prot := true, maxExec := 3, maxDepth := 2 }, prog := [[.wait 5, .nop, .jmp 1], [.wait 9, .done]], inc := fun _ => 1 }
example : Nest exLateN.prog = true := by decide
example : WaitOK exLateN {} := waitOK_of_b _ _ (by decide)
set_option maxRecDepth 100000 in
example : halted (run exLateN 8 (startCall exLateN {} 0)) = true ∧ (run exLateN 8 (startCall exLateN {} 0)).exc = none ∧
    (run exLateN 8 (startCall exLateN {} 0)).timer.elems = [(1, 5)] ∧ dueCount (run exLateN 8 (startCall exLateN {} 0)).timer = 0 := by decide +kernel

end Morfuse.Unwind
