import MorfuseModel.Container.Refine
import MorfuseModel.HashSet.Refine
import MorfuseModel.HashSet.Enum
import MorfuseModel.Str.Refine
import MorfuseModel.Gen.Primes
/-!
# C18 — core containers and strings behave like their abstract models

Property theorems only (helpers live in `Container/*`, `HashSet/*`, `Str/*`).  Every statement is
about **all** operation histories (induction over the operation list), for an arbitrary element /
key / value type and, for the hash table, an arbitrary hash function.

## Part 1 — `con::Container<Type>` (include/morfuse/Container/Container.h)

`World α` is two containers (copy / move need a second one); `step` is one member-function call,
`Except.error` = the C++ statement has undefined behaviour or breaks the object-lifetime discipline.
`abs w` is the pair of element lists, `Spec.step` the obvious list operation.
-/
namespace Morfuse.Container
variable {α : Type} [DecidableEq α] [Inhabited α]

/-- **Refinement.**  Whatever history of member-function calls is executed from two empty
    containers, every return value and the final contents are exactly those of the abstract
    sequences under the obvious list operations (`AddObject` = append, `RemoveObjectAt` = erase at,
    `InsertObjectAt` = insert at, `SetNumObjects` = truncate / pad with `Type()`, `Shrink`/`Resize(n>0)`
    = identity, copy = copy, move = move-and-empty, lookups = first position, …). -/
theorem C18_container_refinement {ops : List (Op α)} {w : World α} {rs : List (Ret α)}
    (h : runR ({} : World α) ops = .ok (w, rs)) :
    Spec.runR ({} : AW α) ops = some (abs w, rs) := by
  have := (runR_refines ops winv_init h).2
  rwa [abs_init] at this

/-- One more step from any reachable state is again the list operation (growth, shrinking and
    copying preserve contents; removal removes only the named element: read off `Spec.step`). -/
theorem C18_container_step_refinement {w w' : World α} {op : Op α} {r : Ret α} (hr : Reachable w)
    (h : step w op = .ok (w', r)) : Spec.step (abs w) op = some (abs w', r) :=
  (step_ok (reachable_winv hr) h).2

/-- **Ledger.**  In every reachable state: constructions − destructions = live element objects =
    `NumObjects()` of the two containers; the live objects are exactly the slots below
    `numobjects` (every slot is constructed once before it is used and destroyed once: a second
    construction, or a use / destruction of raw storage, is a fault of the model and
    `C18_container_faults_exact` shows none is reachable). -/
theorem C18_container_ledger_balanced {w : World α} (hr : Reachable w) :
    w.a.led.ctor + w.b.led.ctor = w.a.led.dtor + w.b.led.dtor + w.a.num + w.b.num ∧
    (contents w.a).length = w.a.num ∧ (contents w.b).length = w.b.num ∧
    (∀ b, w.a.objlist = some b → b = (contents w.a).map some ++ raw (w.a.max - w.a.num)) ∧
    (∀ b, w.b.objlist = some b → b = (contents w.b).map some ++ raw (w.b.max - w.b.num)) := by
  have hw := reachable_winv hr
  have ha : WF w.a (contents w.a) := hw.1 false
  have hb : WF w.b (contents w.b) := hw.1 true
  have h2 := hw.2
  rw [ha.num, hb.num] at h2 ⊢
  exact ⟨h2, rfl, rfl, fun b hbuf => (ha.objlist.1 b hbuf).1, fun b hbuf => (hb.objlist.1 b hbuf).1⟩

/-- **Capacity.**  `numobjects ≤ maxobjects`, the allocation has exactly `maxobjects` slots, and a
    null `objlist` goes with `numobjects = maxobjects = 0`. -/
theorem C18_container_capacity {w : World α} (hr : Reachable w) (c : Bool) :
    (w.get c).num ≤ (w.get c).max ∧
    (∀ b, (w.get c).objlist = some b → b.length = (w.get c).max ∧ 0 < (w.get c).max) ∧
    ((w.get c).objlist = none → (w.get c).num = 0 ∧ (w.get c).max = 0) := by
  have h := (reachable_winv hr).1 c
  refine ⟨h.le, fun b hb => ?_, h.objlist.2⟩
  obtain ⟨rfl, hpos⟩ := h.objlist.1 b hb
  have := h.le
  have := h.num
  exact ⟨by simp [length_raw]; omega, hpos⟩

/-- **Faults are exactly the stated guards.**  In a reachable state an operation faults iff it is
    `ObjectAt / SetObjectAt / operator[]` with `index = 0 ∨ index > numobjects` (the C++ has only an
    `assert`, compiled out under `NDEBUG`), `AddObjectAt(0, _)` (idem, through `SetObjectAt`), or
    `AddObject(ObjectAt(i))` with a bad `i` or with `numobjects ≥ maxobjects` (the argument refers
    into the block that `Resize` destroys and frees first).  In particular no history ever
    constructs over a live object, uses or destroys raw storage, or touches memory outside the
    allocation. -/
theorem C18_container_faults_exact {w : World α} (hr : Reachable w) (op : Op α) :
    (∃ e, step w op = .error e) ↔ UB w op :=
  step_error_iff (reachable_winv hr) op

/-- non-vacuity: a history with growth, insertion in the middle, removal, truncation, copy and move
    runs without fault and ends in the expected lists -/
example :
    (match runR ({} : World Nat) [.add false 5, .add false 6, .add false 7, .insertAt false 2 9, .removeAt false 1,
        .setNum false 2, .copyAssign true false, .addAt true 4 8, .shrink true, .moveAssign false true] with
     | .ok (w, _) => (contents w.a, contents w.b, w.a.led.ctor + w.b.led.ctor, w.a.led.dtor + w.b.led.dtor)
     | .error _ => ([], [], 0, 0))
    = ([9, 6, 0, 8], [], 14, 10) := by decide

/-- non-vacuity of the fault theorem: the three kinds of guard are reachable -/
example : (step ({} : World Nat) (.objectAt false 1)).isOk = false ∧
    (step ({} : World Nat) (.addAt false 0 1)).isOk = false ∧
    ((do let (w, _) ← step ({} : World Nat) (.add false 1)
         let (w, _) ← step w (.add false 2)
         step w (.addDup false 1)) : R _).isOk = false := by decide

end Morfuse.Container

/-!
## Part 2 — `con::set` / `con::map` / `set_enum` / `map_enum` (include/morfuse/Container/set.h)

Everything holds for an arbitrary key type `κ`, value type `ν`, hash function `hash : κ → Nat` and
prime table `primes`; `Reachable hash primes s` = `s` is the state after some finite history of
`operator[] =`, `operator[]`, `addKeyValue(k, init)`, `find`, `remove`, `resize`, `shrink`, `clear`
from the empty set.  The abstract model is a finite map, written as its lookup function
`κ → Option ν`; `Spec.step` is the finite-map operation.
-/
namespace Morfuse.HashSet
variable {κ ν : Type} [DecidableEq κ] [Inhabited ν] {hash : κ → Nat} {primes : List Nat}

/-- **Refinement.**  After any history, every lookup answers what a finite map answers after the
    same history: insertion/overwrite binds the key, `remove` unbinds only the named key, `resize`,
    `shrink`, the `rehash` inside an insertion and `clear` do to the bindings what they do to a
    map (nothing, resp. empty it). -/
theorem C18_set_refinement (ops : List (Op κ ν)) (x : κ) :
    findKeyValue hash (run hash primes init ops) x = Spec.run (fun _ => none) ops x := by
  have h0 : findKeyValue hash (init : State κ ν) = fun _ => none :=
    funext fun y => ((inv_init hash).findVal_none_iff y).mpr fun e he => by simp [ents, init] at he
  exact h0 ▸ (run_refines (inv_init hash) primes ops).2 x

/-- One more step from any reachable state is the finite-map operation (growth, shrinking and
    rehashing preserve contents, removal removes only the named key). -/
theorem C18_set_step_refinement {s : State κ ν} (h : Reachable hash primes s) (op : Op κ ν) (x : κ) :
    findKeyValue hash (step hash primes s op) x = Spec.step (findKeyValue hash s) op x :=
  (step_refines (reachable_inv h) primes op).2 x

/-- **Lookups find precisely the keys present**: the bucket walk of `findKeyValue` answers `v` for
    `k` iff some entry of the table carries `k ↦ v`; no two entries carry the same key; `size()` is
    the number of entries; constructions − destructions of entries = `size()` (nothing is leaked,
    nothing destroyed twice); `tableLength ≥ 1`, so `% tableLength` is never a division by zero. -/
theorem C18_set_lookup_exact {s : State κ ν} (h : Reachable hash primes s) :
    (∀ k v, findKeyValue hash s k = some v ↔ ∃ e ∈ ents s, e.key = k ∧ e.val = v) ∧
    ((ents s).map (·.key)).Nodup ∧ s.count = (ents s).length ∧ s.ctor = s.dtor + s.count ∧
    0 < s.tableLength ∧ s.table.length = s.tableLength := by
  have hi := reachable_inv h
  exact ⟨fun k v => hi.findVal_iff k v, hi.nodup, hi.count, hi.led, hi.pos, hi.len⟩

/-- **Removal removes only the named key** and reports whether it was there. -/
theorem C18_set_remove_only_named {s : State κ ν} (h : Reachable hash primes s) (k : κ) :
    (remove hash s k).2 = (findKeyValue hash s k).isSome ∧
    findKeyValue hash (remove hash s k).1 k = none ∧
    ∀ x, x ≠ k → findKeyValue hash (remove hash s k).1 x = findKeyValue hash s x := by
  obtain ⟨_, b, c⟩ := remove_find (reachable_inv h) k
  refine ⟨b, by simpa using c k, fun x hx => by simpa [hx] using c x⟩

/-- **Growth, shrinking and rehashing preserve contents**: the table after `resize n` (any `n`),
    `shrink()` or the internal `rehash()` holds a permutation of the same entries. -/
theorem C18_set_resize_preserves {s : State κ ν} (h : Reachable hash primes s) (n : Nat) :
    (ents (resize hash s n)).Perm (ents s) ∧ (ents (shrink hash s)).Perm (ents s) ∧
    (ents (rehash hash primes s)).Perm (ents s) :=
  ⟨(resize_spec (reachable_inv h) n).2, (shrink_spec (reachable_inv h)).2,
   (rehash_spec (reachable_inv h) primes).2⟩

/-- what `operator[]` / `addKeyValue(k, init)` return: the value bound to `k`, or the initial value
    of the binding they create -/
theorem C18_set_add_returns {s : State κ ν} (h : Reachable hash primes s) (k : κ) (v0 : ν) :
    (addKeyEntry hash primes s k v0).2.val = (findKeyValue hash s k).getD v0 :=
  (addKeyEntry_find (reachable_inv h) primes k v0).2.2.1

/-- **Enumeration visits each entry exactly once.**  Successive `NextElement()` calls of a fresh
    `set_enum` (`map_enum::NextKey/NextValue` forward to it) return the list `enumAll s`, then
    `nullptr`; that list is a permutation of the table's entries, so every key is visited once and
    no other; `CurrentElement()` is what the last call returned. -/
theorem C18_set_enumeration_once {s : State κ ν} (h : Reachable hash primes s) :
    drain s (s.count + 1) (enumStart s) = enumAll s ∧ (enumAll s).Perm (ents s) ∧
    ((enumAll s).map (·.key)).Nodup ∧ (enumAll s).length = s.count ∧
    (∀ k v, (∃ e ∈ enumAll s, e.key = k ∧ e.val = v) ↔ findKeyValue hash s k = some v) ∧
    (∀ e : Enum κ ν, match (enumNext s e).2 with
      | some x => remaining s e = x :: remaining s (enumNext s e).1 ∧ (enumNext s e).1.cur = some x
      | none => remaining s e = [] ∧ remaining s (enumNext s e).1 = [] ∧ (enumNext s e).1.cur = none) := by
  have hi := reachable_inv h
  have hp := enumAll_perm hi
  refine ⟨?_, hp, ((hp.map _).nodup_iff).mpr hi.nodup, by rw [hp.length_eq, hi.count], ?_, enumNext_spec s⟩
  · rw [enumAll_eq_remaining]
    apply drain_eq
    rw [← enumAll_eq_remaining, hp.length_eq, hi.count]; omega
  · intro k v
    simp only [hi.findVal_iff, hp.mem_iff]
    exact Iff.rfl

/-- **Re-binding an enumerator.**  `en = set` (`set_enum::operator=(set&)`, `map_enum::operator=(map&)`) on an
    enumerator in ANY state `e` — bound to this set or to another one (`e` may hold the rest of a collision
    chain of a different table), abandoned in the middle of a chain, at its end, fresh or default-constructed —
    starts over: a full sweep of `NextElement()` returns the list `enumAll s` of the NEW set, i.e. every entry of
    the new set exactly once and nothing else (no leftover of the abandoned chain), then `nullptr`; there is no
    current element before the first call. -/
theorem C18_enum_rebind_sweeps_once {s : State κ ν} (h : Reachable hash primes s) (e : Enum κ ν) :
    drain s (s.count + 1) (enumRebind s e) = enumAll s ∧ (enumAll s).Perm (ents s) ∧
    ((enumAll s).map (·.key)).Nodup ∧ (enumAll s).length = s.count ∧
    remaining s (enumRebind s e) = enumAll s ∧ (enumRebind s e).cur = none := by
  have key := C18_set_enumeration_once h
  rw [enumRebind_eq_start]
  exact ⟨key.1, key.2.1, key.2.2.1, key.2.2.2.1, (enumAll_eq_remaining s).symm, rfl⟩

/-- non-vacuity: everything collides; set A holds keys 0..3 in one chain, set B keys 4, 5.  An enumerator of A
    abandoned after one element still holds three prefetched entries; re-bound to B a sweep gives exactly B's two
    entries, re-bound to A exactly A's four; a default-constructed one delivers nothing until it is bound. -/
example :
    let hs := fun _ : Nat => 5
    let a := run hs Morfuse.Gen.setPrimes (init : State Nat Nat) ([0, 1, 2, 3].map fun k => Op.put k (k + 10))
    let b := run hs Morfuse.Gen.setPrimes (init : State Nat Nat) [Op.put 4 1, Op.put 5 2]
    let e := (enumNext a (enumStart a)).1
    (e.rest.length, (drain b 9 (enumRebind b e)).map (·.key), ((drain a 9 (enumRebind a e)).map (·.key)).length,
      (enumNext a (enumDefault : Enum Nat Nat)).2.isNone, ((drain a 9 (enumRebind a enumDefault)).map (·.key)).length) =
    (3, (enumAll b).map (·.key), 4, true, 4) := by
  decide

/-- non-vacuity: with everything colliding (constant hash) and the real prime table, a history with
    growth across 1 → 7 → 17, removal of a chain head and a chain middle, shrink and re-insertion -/
example :
    let s := run (fun _ : Nat => 5) Morfuse.Gen.setPrimes (init : State Nat Nat)
      ([0, 1, 2, 3, 4, 5, 6, 7, 8].map (fun k => Op.put k (k + 10)) ++ [.remove 8, .remove 3, .shrink, .put 3 1, .touch 9])
    (s.count, s.tableLength, (List.range 10).map (findKeyValue (fun _ => 5) s),
      ((enumAll s).map (·.key)).length) =
    (9, 17, [some 10, some 11, some 12, some 1, some 14, some 15, some 16, some 17, none, some 0], 9) := by
  decide

end Morfuse.HashSet

/-!
## Part 3 — `mfuse::str` (src/Common/str.cpp): copy-on-write buffers

`U` is any finite duplicate-free family of `str` objects (`tmpH`, the temporary of an expression, is
not one of them); a history is any list of operations that names only strings of `U`
(`ValidAll U ops`; the counts of `str(text, n)` / `assign(text, n)` do not exceed `strlen(text)`).
`cstr s x` is what string `x` reads in state `s`.  The abstract model is a family of **independent**
byte strings `Nat → List UInt8`: `Spec.step` changes only the string(s) the operation names.
-/
namespace Morfuse.Str
variable {U : List Nat}

/-- **Refinement and isolation.**  After any history every string reads exactly what an independent
    abstract byte string would after the same history — whatever blocks were shared on the way
    (copy construction, `operator=`, `operator+`, moves), with spare capacity or not.  Since the
    abstract strings are independent, this *is* "strings that share storage never observe each
    other's modifications". -/
theorem C18_str_refinement (hU : U.Nodup) (ht : tmpH ∉ U) {ops : List Op} (hv : ValidAll U ops) {s : State}
    (h : run init ops = .ok s) : ∀ x ∈ U, cstr s x = Spec.run (fun _ => []) ops x :=
  (run_refines ops (hinv_init hU ht) hv (fun x _ => cstr_init x) h).2

/-- **Isolation, stated directly.**  In any reachable state, an operation through one handle never
    changes what any other handle reads (nor its `length()`): only the strings the operation names
    as destination (`targets`) can change. -/
theorem C18_str_isolation (hU : U.Nodup) (ht : tmpH ∉ U) {s s' : State} (hr : Reachable U s) {op : Op}
    (hv : Valid U op) (h : step s op = .ok s') :
    ∀ x ∈ U, x ∉ targets op → cstr s' x = cstr s x ∧ length s' x = length s x := by
  intro x hx hxt
  have hi := reachable_hinv hU ht hr
  obtain ⟨hi1, hs1⟩ := step_ok hi hv h
  have hc : cstr s' x = cstr s x := by rw [hs1 x hx, spec_step_frame _ _ _ hxt]
  exact ⟨hc, by rw [hi1.inv.length_eq (hi1.mem hx), hi.inv.length_eq (hi.mem hx), hc]⟩

/-- One step from any reachable state is the abstract string operation on the named string
    (`append` = `++`, `CapLength n` = `take n`, `-= n` = drop the last `n`, `strip` = trim,
    `tolower/toupper` = map, `operator[] =` = point update, `str(s, a, b)` = the clamped slice, …). -/
theorem C18_str_step_refinement (hU : U.Nodup) (ht : tmpH ∉ U) {s s' : State} (hr : Reachable U s) {op : Op}
    (hv : Valid U op) (h : step s op = .ok s') : ∀ x ∈ U, cstr s' x = Spec.step (cstr s) op x :=
  (step_ok (reachable_hinv hU ht hr) hv h).2

/-- **Reference counts count handles; nothing leaks, nothing dangles.**  In every reachable state each
    live block has `refcount + 1` equal to the number of `str` objects pointing at it (so at least
    one), its `alloced` is the allocated capacity, `len = strlen`, and the terminator fits; every
    non-null `m_data` points at a live block; `length()` is the length of what `c_str()` shows. -/
theorem C18_str_refcount (hU : U.Nodup) (ht : tmpH ∉ U) {s : State} (hr : Reachable U s) :
    (∀ p d, s.heap.get? p = some d →
      d.refcount + 1 = (U.countP fun h => ptr s h = p) ∧ d.alloced = d.cap ∧ d.len = d.bytes.length ∧
      d.bytes.length + 1 ≤ d.cap) ∧
    (∀ h ∈ U, ptr s h ≠ 0 → ∃ d, s.heap.get? (ptr s h) = some d) ∧
    (∀ h ∈ U, length s h = (cstr s h).length) := by
  have hi := reachable_hinv hU ht hr
  refine ⟨fun p d hd => ?_, fun h hh hp => hi.inv.live h (hi.mem hh) hp, fun h hh => hi.inv.length_eq (hi.mem hh)⟩
  obtain ⟨hp0, _, hw, hc⟩ := hi.inv.heap p d hd
  refine ⟨?_, hw.1, hw.2.1, hw.2.2⟩
  rw [hc]
  unfold cnt
  have : ¬ ptr s tmpH = p := by rw [hi.tmp]; omega
  simp [this]

/-- **Faults are exactly the `assert(m_data)` guards**: in a reachable state an operation faults iff
    it is `tolower()`, `toupper()` or a write through the non-const `operator[]` on a string whose
    `m_data` is null.  In particular no history overflows a buffer, uses a freed block or reads
    characters nothing wrote. -/
theorem C18_str_faults_exact (hU : U.Nodup) (ht : tmpH ∉ U) {s : State} (hr : Reachable U s) {op : Op}
    (hv : Valid U op) : (∃ e, step s op = .error e) ↔ UB s op :=
  step_error_iff (reachable_hinv hU ht hr) hv

/-- non-vacuity: "hello" is capped to 2 characters (spare capacity), copied (shared block), the
    copy is appended to, copied again, shortened, self-appended — the history is defined and every
    string reads what an independent string would ("he" for the original) -/
example : ∃ s, run init [.ctorText 0 [104, 101, 108, 108, 111], .capLength 0 2, .ctorCopy 1 0, .appendChar 1 120,
      .assignStr 2 1, .minus 2 1, .appendStr 1 1] = .ok s ∧
    cstr s 0 = [104, 101] ∧ cstr s 1 = [104, 101, 120, 104, 101, 120] ∧ cstr s 2 = [104, 101] := by
  have hU : ([0, 1, 2] : List Nat).Nodup := by decide
  have ht : tmpH ∉ ([0, 1, 2] : List Nat) := by decide
  have hv : ValidAll [0, 1, 2] [.ctorText 0 [104, 101, 108, 108, 111], .capLength 0 2, .ctorCopy 1 0, .appendChar 1 120,
      .assignStr 2 1, .minus 2 1, .appendStr 1 1] := by
    intro op hop
    simp only [List.mem_cons, List.not_mem_nil, or_false] at hop
    rcases hop with rfl | rfl | rfl | rfl | rfl | rfl | rfl <;> simp [Valid]
  obtain ⟨s, hs⟩ := run_defined (U := [0, 1, 2]) _ (hinv_init hU ht) hv (by
    intro op hop
    simp only [List.mem_cons, List.not_mem_nil, or_false] at hop
    rcases hop with rfl | rfl | rfl | rfl | rfl | rfl | rfl <;> simp [Unguarded])
  have hr := C18_str_refinement hU ht hv hs
  refine ⟨s, hs, ?_, ?_, ?_⟩
  · rw [hr 0 (by decide)]; decide
  · rw [hr 1 (by decide)]; decide
  · rw [hr 2 (by decide)]; decide

end Morfuse.Str
