import MorfuseModel.Archive.DamageAll
import MorfuseModel.Archive.Honest
import MorfuseModel.Archive.Trunc
import MorfuseModel.Archive.Sample
import MorfuseModel.Archive.Eq
import MorfuseModel.Archive.TablesSafety
/-!
# C11 — damaged archives are reported, never trusted

`decode cfg …` is the model of `Archiver::CreateRead`, the reading calls and the destructor
(`Archive/Model.lean`); `cfg` says which reader defects found by this property are repaired in the source
tree (`Gen/ArchiveTable.lean` is regenerated from `Archiver.cpp` / `str.cpp` on every run, and
`tools/props/c11.py` checks with Lean that the switches of `Cfg.current` the theorems need are on: the four
of `Cfg.allFixed` and the two that concern `readValue` only).

* The theorems `C11_truncation_detected … C11_never_undefined` are stated for every `cfg` with the four
  switches on (`Cfg.allFixed`): the reader that reports a short read at once, rejects either version field,
  range-checks indices and bounds lengths by the stream.
* For the reader of the unrepaired tree (`Cfg.legacy`) the same statements are **false**: the
  `C11_legacy_*` theorems are the counter-examples (each replayed on the real code by the check), and
  `C11_substitution_stops_reader_partial` is what survives for every configuration.

Outcome `Err.reported e = true` means an `ArchiveErrors::*` exception handed to the caller; the other
outcomes (`uninit`, `oob`, `alloc`) are undefined behaviour.
-/
namespace Morfuse.Archive

/-- **Truncation.**  Every strict prefix of a valid archive (a save cut off at any byte) makes the reader
    fail with a reported archive error — it never completes, never reaches undefined behaviour. -/
theorem C11_truncation_detected (cfg : Cfg) (hf : cfg.allFixed) (classes : List Bytes) (info : Info)
    (w : List Item) (hw : WF cfg classes info w) (hlim : (encode info w).length + 25 < cfg.allocLimit)
    (k : Nat) (hk : k < (encode info w).length) :
    ∃ e, decode cfg classes info (schemaOf w) ((encode info w).take k) = .error e ∧ e.reported = true := by
  obtain ⟨e, s', h⟩ := readAll_truncated cfg hf.1 classes info w hw k hk
  exact ⟨e, decode_of_err cfg hf classes info (schemaOf w) _ (by simp only [List.length_take]; omega) e s' h⟩

/-- **Type tags.**  Any other byte value at any byte of any record's type tag (header records included). -/
theorem C11_tag_substitution_detected (cfg : Cfg) (hf : cfg.allFixed) (classes : List Bytes) (info : Info)
    (w : List Item) (hw : WF cfg classes info w) (hlim : (encode info w).length + 25 < cfg.allocLimit)
    (p : Nat) (b old : UInt8) (hp : (layout info w)[p]? = some .tag) (ho : (encode info w)[p]? = some old)
    (hb : b ≠ old) :
    ∃ e, decode cfg classes info (schemaOf w) ((encode info w).set p b) = .error e ∧ e.reported = true :=
  substitution_detected cfg hf classes info w hw hlim p b old .tag hp (Or.inl (Or.inl rfl)) ho (by simpa [bcond] using hb)

/-- **Object sizes.**  Any other byte value in the stream-size field of any object bracket. -/
theorem C11_object_size_detected (cfg : Cfg) (hf : cfg.allFixed) (classes : List Bytes) (info : Info)
    (w : List Item) (hw : WF cfg classes info w) (hlim : (encode info w).length + 25 < cfg.allocLimit)
    (p : Nat) (b old : UInt8) (hp : (layout info w)[p]? = some .size) (ho : (encode info w)[p]? = some old)
    (hb : b ≠ old) :
    ∃ e, decode cfg classes info (schemaOf w) ((encode info w).set p b) = .error e ∧ e.reported = true :=
  substitution_detected cfg hf classes info w hw hlim p b old .size hp (Or.inl (Or.inr (Or.inl rfl))) ho
    (by simpa [bcond] using hb)

/-- **Class names.**  Any character of an object's class name replaced by one that differs even ignoring
    ASCII letter case (`ClassDef::GetClass` compares with `str::icmp`, so a pure case flip names the same
    class for the reader: that is exactly what it cannot and need not detect). -/
theorem C11_class_name_detected (cfg : Cfg) (hf : cfg.allFixed) (classes : List Bytes) (info : Info)
    (w : List Item) (hw : WF cfg classes info w) (hlim : (encode info w).length + 25 < cfg.allocLimit)
    (p : Nat) (b old : UInt8) (hp : (layout info w)[p]? = some .cls) (ho : (encode info w)[p]? = some old)
    (hb : upc b ≠ upc old) :
    ∃ e, decode cfg classes info (schemaOf w) ((encode info w).set p b) = .error e ∧ e.reported = true :=
  substitution_detected cfg hf classes info w hw hlim p b old .cls hp (Or.inl (Or.inr (Or.inr rfl))) ho
    (by simpa [bcond] using hb)

/-- **Header and version.**  Any other byte value in the magic, in the engine version or in the program
    version (a *single* wrong version field is enough). -/
theorem C11_header_version_detected (cfg : Cfg) (hf : cfg.allFixed) (classes : List Bytes) (info : Info)
    (w : List Item) (hw : WF cfg classes info w) (hlim : (encode info w).length + 25 < cfg.allocLimit)
    (p : Nat) (b old : UInt8) (c : PC) (hc : c = .hdr ∨ c = .ver) (hp : (layout info w)[p]? = some c)
    (ho : (encode info w)[p]? = some old) (hb : b ≠ old) :
    ∃ e, decode cfg classes info (schemaOf w) ((encode info w).set p b) = .error e ∧ e.reported = true :=
  substitution_detected cfg hf classes info w hw hlim p b old c hp (Or.inr hc) ho
    (by rcases hc with rfl | rfl <;> simpa [bcond] using hb)

/-- **Arbitrary damage, indices in bounds.**  Whatever the bytes are (any multi-byte damage, any length),
    and whatever sequence of calls the host issues, the reader either completes or reports an archive
    error: no index outside the object table is ever dereferenced (neither by a registering call nor by
    the fix-up pass of `Close`, which also runs while an exception unwinds), no uninitialised value is
    used, no allocation larger than the archive is requested. -/
theorem C11_never_undefined (cfg : Cfg) (hf : cfg.allFixed) (classes : List Bytes) (info : Info) (sch : List Sch)
    (bytes : Bytes) (hlim : bytes.length + 25 < cfg.allocLimit) :
    match decode cfg classes info sch bytes with
    | .ok _ => True
    | .error e => e.reported = true := by
  cases hr : readAll cfg classes info sch bytes with
  | ok items s =>
    have hs := readAll_safe cfg hf classes info sch bytes hlim
    rw [hr] at hs
    simp [decode, hr, closeOk_of_inv hs]
  | err e s =>
    obtain ⟨hd, he⟩ := decode_of_err cfg hf classes info sch bytes hlim e s hr
    rw [hd]; exact he

/-- The invariant behind it, in the state the run of the reading calls ends in (with a value or with an error;
    the state `Close` then works on): queued fix-up indices lie in `1..numobjects`. -/
theorem C11_indices_in_bounds (cfg : Cfg) (hf : cfg.allFixed) (classes : List Bytes) (info : Info) (sch : List Sch)
    (bytes : Bytes) (hlim : bytes.length + 25 < cfg.allocLimit) :
    match readAll cfg classes info sch bytes with
    | .ok _ s => ∀ i ∈ s.fixups, 1 ≤ i ∧ i ≤ s.table.length
    | .err _ s => ∀ i ∈ s.fixups, 1 ≤ i ∧ i ≤ s.table.length := by
  have h := readAll_safe cfg hf classes info sch bytes hlim
  cases hr : readAll cfg classes info sch bytes with
  | ok a s => rw [hr] at h; exact h.1
  | err e s => rw [hr] at h; exact h.2.1

/-! ### the count-directed readers outside `Archiver.cpp` (`Container_archive.h`, `set_archive.h`, `ScriptVariableList`)

`InvW cfg s`: the invariant of `C11_indices_in_bounds` (every queued fix-up inside the object table, the table
allocatable) and the unread rest of the stream short enough that a count bounded by it can be allocated
(`rest.length * 32 + 25 < allocLimit`).  `SafeW cfg r`: `r` is a value or a **reported** archive error, in a state that
satisfies `InvW` again — in particular none of the undefined outcomes `oob` (division by `tableLength = 0`, index
outside a table), `alloc` (a count taken from the archive allocated although it exceeds the stream), `uninit`. -/

/-- **`con::Archive(arc, Container&, func)`** (the lists of listeners of the event tables), load side as it is after
    1137e36: on arbitrary bytes, from any state the reader can be in. -/
theorem C11_container_archive_never_undefined (cfg : Cfg) (hf : cfg.allFixed) (s : RS) (hs : InvW cfg s) :
    SafeW cfg (readConList cfg s) :=
  readConList_safeW cfg hf s hs

/-- **`con::set::Archive`** (Listener notify / wait-for / end tables), load side as it is after 1137e36 and 00f4e12:
    header checks, count-directed entry loop, keys through the dictionary, one container per entry. -/
theorem C11_set_archive_never_undefined (cfg : Cfg) (hf : cfg.allFixed) (s : RS) (hs : InvW cfg s) :
    SafeW cfg (readSet cfg s) := by
  let L := safeLogic cfg (InvW.frame cfg) hf.1
  rw [readSet_eq]
  exact readSetHeader_safeW cfg hf (fun tl _ cnt _ h0 => L.bind (readEntries_safeW cfg hf tl h0 cnt) fun _ => L.pure _) s hs

/-- **`ScriptVariableList::Archive`** (the same set template over named variables).
    Full statement wanted: `SafeW cfg (readVars cfg fuel specs s)` outright.  Proved: given that the value reader
    (`ScriptVariable::ArchiveInternal`, `readValue`) is safe from every such state.  Missing: that premise — the safety
    of `readValue` on arbitrary bytes (14 kinds, nested; it needs the fuel of the model to be tied to the unread length
    and the switch `arraySizeChecked`, read from the source: on since fix 9cb14ec, F12) — is not proved; it is exercised by
    the differential run (payload, count, kind and flag bytes of every value kind are damaged there). -/
theorem C11_variable_list_never_undefined_partial (cfg : Cfg) (hf : cfg.allFixed) (fuel : Nat)
    (hrv : ∀ l sup s, InvW cfg s → SafeW cfg (readValue cfg fuel l sup s)) (specs : List (Lbl × Supply)) (s : RS)
    (hs : InvW cfg s) : SafeW cfg (readVars cfg fuel specs s) := by
  let L := safeLogic cfg (InvW.frame cfg) hf.1
  rw [readVars_eq]
  exact readSetHeader_safeW cfg hf (fun _ _ cnt _ _ => L.bind (readVarEntries_safeW cfg hf _ hrv cnt specs) fun _ => L.pure _) s hs

/-- the unrepaired `ScriptConstArrayHolder::Archive` (F12): an element count of `2^32 - 1` is handed to
    `new ScriptVariable[size + 1]` — replayed on the real code by corpus/C11/f12-const-array-size.json -/
theorem C11_legacy_const_array_size_trusted :
    (readValue { Cfg.fixed with arraySizeChecked := false } 5 1 [2, 3]
        ⟨encPrim .pos 1 ++ encPrim .byte 9 ++ encPrim .bool 1 ++ encPrim .pos 2 ++ encPrim .u32 0 ++ encPrim .u32 (2 ^ 32 - 1),
          0, true, [0, 0, 0], []⟩ matches .err .alloc _) = true ∧
    (readValue Cfg.fixed 5 1 [2, 3]
        ⟨encPrim .pos 1 ++ encPrim .byte 9 ++ encPrim .bool 1 ++ encPrim .pos 2 ++ encPrim .u32 0 ++ encPrim .u32 (2 ^ 32 - 1),
          0, true, [0, 0, 0], []⟩ matches .err .streamFail _) = true := by
  constructor <;> decide +kernel

example : SafeW Cfg.fixed (readSet Cfg.fixed ⟨[6, 0, 0, 0, 0, 0, 0, 0], 0, true, [], []⟩) :=
  C11_set_archive_never_undefined Cfg.fixed ⟨rfl, rfl, rfl, rfl⟩ _ ⟨⟨by simp, by decide, by decide⟩, by decide⟩

/-- What holds for **every** reader configuration, the unrepaired one included: a substituted byte at a
    magic / tag / object-size / class-name position (and at a version position when the version test is
    `||`) stops the run of the reading calls with an error.
    Full statement wanted: `decode … = .error e ∧ e.reported`.  Missing for the unrepaired reader: (1) the
    version positions (`C11_legacy_version_accepted` is the counter-example), (2) that the fix-up pass of
    the destructor stays inside the table while that error unwinds (true for these inputs, not proved
    without the range check). -/
theorem C11_substitution_stops_reader_partial (cfg : Cfg) (classes : List Bytes) (info : Info) (w : List Item)
    (hw : WF cfg classes info w) (p : Nat) (b old : UInt8) (c : PC)
    (hp : (layout info w)[p]? = some c) (hc : c.detAll) (hv : cfg.versionOr = true ∨ c ≠ .ver)
    (ho : (encode info w)[p]? = some old) (hb : bcond c old b) :
    ∃ e s', readAll cfg classes info (schemaOf w) ((encode info w).set p b) = .err e s' :=
  readAll_damaged cfg classes info w hw p b old c hp hc hv ho hb

/-! ### the unrepaired reader: counter-examples (each is replayed on the real code by tools/props/c11.py) -/

/-- three primitives as in `tests/archive.cpp` -/
def tiny : List Item := [.prim .u8 1, .prim .u16 2, .prim .u32 3]
def tinyInfo : Info := { header := [77, 70, 85, 83], name := [], version := 1 }

/-- `CheckRead` runs before the read only: a cut inside the data of the last record is not noticed; the
    caller gets `3` truncated to its low byte… here even the right value, with no error at all. -/
theorem C11_legacy_truncation_undetected :
    decode Cfg.legacy [] tinyInfo (schemaOf tiny) ((encode tinyInfo tiny).take ((encode tinyInfo tiny).length - 1))
      = .ok tiny :=
  (Same.outcome Item.sameL _ _).eq (by decide +kernel)

/-- a cut right behind the tag of a position / pointer record leaves index `0` in the zero-initialised
    local; `AddObjectAt(0, …)` / `ObjectAt(0)` then touch `objlist[-1]` -/
theorem C11_legacy_truncation_out_of_bounds :
    decode Cfg.legacy [] tinyInfo [.prim .u8, .position 5]
      ((encode tinyInfo [.prim .u8 1, .position 5]).take ((encode tinyInfo [.prim .u8 1, .position 5]).length - 4))
      = .error .oob :=
  (Same.outcome Item.sameL _ _).eq (by decide +kernel)

/-- `mversion != ARCHIVE_VERSION && version != info.version`: one wrong version field is accepted -/
theorem C11_legacy_version_accepted :
    decode Cfg.legacy [] tinyInfo (schemaOf tiny) ((encode tinyInfo tiny).set 8 9) = .ok tiny ∧
      (layout tinyInfo tiny)[8]? = some .ver ∧ (encode tinyInfo tiny)[8]? = some 1 :=
  ⟨(Same.outcome Item.sameL _ _).eq (by decide +kernel), by decide +kernel, by decide +kernel⟩

/-- a damaged index is dereferenced by `Close` without a range check -/
theorem C11_legacy_index_out_of_bounds :
    decode Cfg.legacy [] tinyInfo [.ptr false] ((encode tinyInfo [.ptr false 0]).set 40 0) = .error .oob ∧
      (layout tinyInfo [.ptr false 0])[40]? = some .idx :=
  ⟨(Same.outcome Item.sameL _ _).eq (by decide +kernel), by decide +kernel⟩

/-- a damaged string length is handed to `str::resize` -/
theorem C11_legacy_length_trusted :
    decode Cfg.legacy [] tinyInfo [.str] ((encode tinyInfo [.str [65]]).set 47 255) = .error .alloc ∧
      (layout tinyInfo [.str [65]])[47]? = some .len :=
  ⟨(Same.outcome Item.sameL _ _).eq (by decide +kernel), by decide +kernel⟩

/-! ### non-vacuity: the hypotheses are met by a non-trivial archive -/

theorem fixed_allFixed : Cfg.fixed.allFixed := ⟨rfl, rfl, rfl, rfl⟩

theorem sample_len : (encode sampleInfo sample).length = 210 := sample_length

example : ∃ e, decode Cfg.fixed [[76], [86]] sampleInfo (schemaOf sample) ((encode sampleInfo sample).take 133)
    = .error e ∧ e.reported = true :=
  C11_truncation_detected _ fixed_allFixed _ _ _ (sample_wf _ (by decide)) (by rw [sample_len]; decide) 133
    (by rw [sample_len]; decide)

/-- byte 41 is the first tag byte of the first call (value `Byte` = 1) -/
example : ∃ e, decode Cfg.fixed [[76], [86]] sampleInfo (schemaOf sample) ((encode sampleInfo sample).set 41 200)
    = .error e ∧ e.reported = true :=
  C11_tag_substitution_detected _ fixed_allFixed _ _ _ (sample_wf _ (by decide)) (by rw [sample_len]; decide) 41 200 1
    (by decide +kernel) (by decide +kernel) (by decide)

example : match decode Cfg.fixed [] tinyInfo [.ptr true, .position 9, .str] [1, 2, 3] with
    | .ok _ => True | .error e => e.reported = true :=
  C11_never_undefined Cfg.fixed fixed_allFixed [] tinyInfo [.ptr true, .position 9, .str] [1, 2, 3] (by decide)

/-- the repaired reader on the legacy counter-examples -/
example : decode Cfg.fixed [] tinyInfo (schemaOf tiny) ((encode tinyInfo tiny).take ((encode tinyInfo tiny).length - 1))
    = .error .streamFail := (Same.outcome Item.sameL _ _).eq (by decide +kernel)
example : decode Cfg.fixed [] tinyInfo (schemaOf tiny) ((encode tinyInfo tiny).set 8 9) = .error .wrongVersion :=
  (Same.outcome Item.sameL _ _).eq (by decide +kernel)

end Morfuse.Archive
