import MorfuseModel.PtrCell.Lemmas
import MorfuseModel.PtrCell.CallLemmas
import MorfuseModel.Sched.Machine
import MorfuseModel.Sched.MachineInstUnreached
import MorfuseModel.Sched.MachineSlotsHost
/-!
# C05 — host call / return protocol

The pieces, each proved for all sizes and histories:

* **parameter binding** (`bindLoop`, the `STORE_PARAM` loop with the VM's `fastIndex`): parameter `i`
  receives argument `i`, missing ones are NIL, extra arguments are ignored;
* **the result cell** (`ScriptPointer`, model `PtrCell`): in every reachable state the holder lists
  exactly live variables (nothing is ever written through a dead address), `end v` delivers `v`
  to every other sharer — in particular the host's `Event` slot — whenever it happens, a plain
  `end` clears them, and destroying one sharer (the VM of a killed thread) leaves the others
  pending;
* **label not found** leaves the machine state untouched (no thread, no script instance);
* **the protocol on cells** (`PtrCell/Call.lean`: call records, `SetFastData`, the `STORE_PARAM` sequence on the
  variable lists of every scope, `end <expr>`, `thread`): a parameter without an argument reads NIL after
  binding *whatever its variable held before* (`C05_bind_overwrites_stale`), and handing a record to a call
  leaves every value of it in the record (`C05_setfast_keeps_record`).

Checked by correspondence, not proved: that `ScriptThread::Execute(Event&)` / `ScriptVM::End` perform
exactly these cell operations (the `ret=` field of every host call and `thread-result`, for
synchronous, delayed, woken and killed completions, is compared with the machine on every run).
-/
namespace Morfuse.Sched

/-- **Arguments in.**  The i-th declared parameter gets the i-th argument, NIL when there is none. -/
theorem C05_bind_spec (args : List V) : ∀ (n k : Nat), k ≤ args.length →
    bindLoop n k args = (List.range n).map (fun i => args.getD (k + i) .nil)
  | 0, _, _ => rfl
  | n + 1, k, hk => by
    have hd : ∀ j, args.length ≤ j → args.getD j .nil = .nil := fun j hj => by
      simp [List.getD, List.getElem?_eq_none hj]
    simp only [bindLoop, List.range_succ_eq_map, List.map_cons, List.map_map, Function.comp_def, Nat.add_zero]
    split
    · next hlt =>
      rw [C05_bind_spec args n (k + 1) hlt]
      simp only [Nat.add_assoc, Nat.add_comm 1]
    · next hlt =>
      -- past the last argument everything reads NIL
      rw [C05_bind_spec args n k hk, hd k (by omega)]
      exact congrArg _ (List.map_congr_left fun i _ => by rw [hd (k + i) (by omega), hd (k + (i + 1)) (by omega)])

theorem C05_params_receive_args (n : Nat) (args : List V) (i : Nat) (hi : i < n) :
    (bindLoop n 0 args).getD i .nil = args.getD i .nil := by
  rw [C05_bind_spec args n 0 (Nat.zero_le _)]
  simp [List.getD, hi]

theorem C05_params_count (n : Nat) (args : List V) : (bindLoop n 0 args).length = n := by
  rw [C05_bind_spec args n 0 (Nat.zero_le _)]; simp

/-- **Label not found leaves nothing behind.** -/
theorem C05_label_not_found_leaves_nothing (s : State) (label : Nat) (args : List V)
    (h : s.prog.length ≤ label) : hostCall s label args = (s, "err LabelNotFound") := by
  simp [hostCall, h]

/-! ## Machine level: the host's `Event` after `ExecuteThread` (whole scheduler machine)

`Reachable` / `reachable_hinv2` are those of `Sched/MachineHost.lean`, `Sched/MachineInstHost.lean`
(host-operation histories without `save`/`load`, `ProgOK` programs, modulo fuel). -/

/-- **The result slot is decided when `ExecuteThread` returns.**  After a host call whose label exists the
    call's slot is never left `open`: it holds the value of a synchronous `end v`, or nothing (plain `end` /
    killed / NIL), or is marked pending because the thread is suspended and the host's `Event` keeps the
    shared cell. -/
theorem C05_machine_ret_decided (s : State) (label : Nat) (args : List V) (hl : label < s.prog.length) :
    (hostCall s label args).1.getRet s.nextCall ≠ .open_ := by
  rw [hostCall_eq, if_neg (Nat.not_le.2 hl)]
  unfold callFinish
  split
  · rcases getRet_setRet (scriptExecuteInternal defaultFuel (callSetup s label args) s.nextTid) s.nextCall .pending
      with e | e <;> rw [e] <;> nofun
  · next hne => exact fun e => hne (by rw [e]; rfl)

/-- **A failed host call changes nothing, machine level**: no thread, no script instance, no result slot —
    and (with `reachable_hinv2`) the state keeps every invariant.  (A successful one starts from `callSetup`: one new
    instance id, one new thread id, one new slot — `hostCall_eq`.) -/
theorem C05_machine_label_not_found_leaves_nothing {s : State} (h : Reachable s) (label : Nat) (args : List V)
    (hl : s.prog.length ≤ label) :
    (hostCall s label args).1 = s ∧ (hostCall s label args).2 = "err LabelNotFound" ∧
      Reachable (hostCall s label args).1 := by
  rw [C05_label_not_found_leaves_nothing s label args hl]
  exact ⟨rfl, rfl, h⟩

/-- **A killed thread leaves nothing in the host's slot, machine level.**  Destroying a thread
    (`delete thread` from any cascade: object removal, `endon`, `UnregisterAll`, …) — for every fuel, in any
    state with the structural invariant — changes no result slot; in particular `Reset()` in a reachable
    state leaves every slot exactly as it was, unless it runs out of fuel (`C05_machine_reset_leaves_slots`: a
    pending slot stays pending, it never receives a value). -/
theorem C05_machine_killed_leaves_slot (fuel : Nat) {s : State} (hn : NInv s) (t : Nat) :
    (deleteThread fuel s t).calls = s.calls ∧ ∀ c, (deleteThread fuel s t).getRet c = s.getRet c := by
  have h := (cqAll fuel).dt [] s t hn
  exact ⟨h, getRet_of_calls h⟩

theorem C05_machine_reset_leaves_slots {s : State} (h : Reachable s) :
    s.outOfFuel = true ∨ ∀ c, (hostReset s).getRet c = s.getRet c :=
  (reachable_hinv h).map (fun hi => getRet_of_calls (a := hostReset s) (killAllInsts_ck hi.inv.n))

/-- **What `end` does to the host's slot, machine level.**  `end v` executed by a thread whose VM shares the
    result cell of host call `c` (any fuel, any state with the structural invariant): the whole instruction —
    result into the cell, `delete thread` with all its cascades — changes the slots exactly as follows: slot
    `c`, if still open (inside the host call), gets the value, or nothing for a plain `end` / NIL; if pending
    (the host call returned while the thread was suspended) it gets the value, or `nil`; every other slot is
    untouched.  A thread without a link changes no slot. -/
theorem C05_machine_end_writes_slot (fuel : Nat) {s : State} (hn : NInv s) (t : Nat) (th : Th) (ev : EndV) :
    (∀ c, th.call = some c →
      (s.getRet c = .open_ → (exec (fuel + 1) s t th (.end_ ev)).getRet c =
          (match endValue th ev with | some x => .val x | none => .none)) ∧
      (s.getRet c = .pending → (exec (fuel + 1) s t th (.end_ ev)).getRet c =
          (match endValue th ev with | some x => .val x | none => .nil)) ∧
      (∀ c', c' ≠ c → (exec (fuel + 1) s t th (.end_ ev)).getRet c' = s.getRet c')) ∧
    (th.call = none → ∀ c', (exec (fuel + 1) s t th (.end_ ev)).getRet c' = s.getRet c') := by
  -- the cascades of `delete thread` write no slot: the slots are those of `endResult`
  have hget : ∀ c', (exec (fuel + 1) s t th (.end_ ev)).getRet c' = (endResult s th ev).getRet c' := by
    rw [exec_end]
    exact getRet_of_calls ((cqAll fuel).dt [] _ t ((endResult_ninv hn th ev).setTh t _))
  have hE := endResult_eq s th ev
  refine ⟨fun c hc => ⟨fun ho => ?_, fun ho => ?_, fun c' hne => ?_⟩, fun hc c' => ?_⟩
  · rw [hget, hE]
    simp only [hc, ho]
    cases endValue th ev <;> exact getRet_setRet_self s c _ (by rw [ho]; nofun)
  · rw [hget, hE]
    simp only [hc, ho]
    cases endValue th ev <;> exact getRet_setRet_self s c _ (by rw [ho]; nofun)
  · rw [hget, hE]
    simp only [hc]
    split <;> first | exact getRet_setRet_ne s c c' _ hne | rfl
  · rw [hget, hE]
    simp only [hc]

/-- **The result arrives exactly at the thread's `end`, machine level.**  Both directions, for every
    reachable state `s` (no fuel condition) and every frame `hostExecute s` (host events, timer resumptions,
    every nested execution and cascade of the frame):
    * (*only then*) if the content of slot `c` changed during the frame, then before the frame exactly one
      thread record was linked to `c`, after the frame that thread is not linked to `c` any more (it executed
      `end`, the only instruction that drops the link), and the slot went from undecided (`open` / `pending`) to
      decided (a value, `nil`, or nothing: `Written`) — it is never rewritten;
    * (*while suspended*) if the thread linked to `c` is still linked after the frame (it is suspended, or
      was not touched), the slot is unchanged;
    * (*then indeed*) `C05_machine_end_writes_slot`: the `end v` of the linked thread writes exactly `v`
      (nothing / `nil` for a plain `end`) into exactly that slot.
    Killed threads: `C05_machine_killed_leaves_slot`. -/
theorem C05_machine_result_at_end {s : State} (h : Reachable s) (c : Nat) :
    ((hostExecute s).getRet c ≠ s.getRet c →
      ∃ t th, s.th? t = some th ∧ th.call = some c ∧
        (∀ t' th', s.th? t' = some th' → th'.call = some c → t' = t) ∧
        (∀ th', (hostExecute s).th? t = some th' → th'.call ≠ some c) ∧
        Written (s.getRet c) ((hostExecute s).getRet c)) ∧
    (∀ t th th', s.th? t = some th → th.call = some c → (hostExecute s).th? t = some th' → th'.call = some c →
      (hostExecute s).getRet c = s.getRet c) := by
  have r := hostExecute_sr s
  have lk := reachable_lk h
  refine ⟨fun hne => ?_, fun t th th' hf hc hf' hc' => Classical.byContradiction fun hne => ?_⟩
  · obtain ⟨t, th, hf, hc, hun, hw⟩ := r.sl c hne
    exact ⟨t, th, hf, hc, fun t' th' hf' hc' => lk.uniq t' t th' th c hf' hf hc' hc, hun, hw⟩
  · obtain ⟨t1, th1, hf1, hc1, hun, _⟩ := r.sl c hne
    cases lk.uniq t1 t th1 th c hf1 hf hc1 hc
    exact hun th' hf' hc'

/-- **Links are never shared.**  In every reachable state (no fuel condition) a link points to a slot that has been
    handed out, and no two thread records are linked to the same slot: scripts create no link, a host call links its
    fresh slot to its fresh thread (`reachable_lk`).  This is what `C05_machine_result_at_end` uses for "exactly one
    thread"; through a `Reset()` no slot is written at all (`C05_machine_reset_leaves_slots`), and inside a host call
    only the `end` of a linked thread writes (`hostCall_sr`). -/
theorem C05_machine_links_unique {s : State} (h : Reachable s) :
    (∀ t th c, s.th? t = some th → th.call = some c → c < s.nextCall) ∧
    (∀ t t' th th' c, s.th? t = some th → s.th? t' = some th' → th.call = some c → th'.call = some c → t = t') :=
  ⟨(reachable_lk h).lt, (reachable_lk h).uniq⟩

/-! non-vacuity: synchronous result, pending result -/
example : ((hostCall (hostScript {} [[.end_ (.lit 7)]] [0]) 0 []).1.getRet 1) = .val (.int 7) := by decide +kernel
example : ((hostCall (hostScript {} [[.wait 5, .end_ (.lit 7)]] [0]) 0 []).1.getRet 1) = .pending := by decide +kernel
/-- … and the value arrives in the same slot when the thread ends after its wait; a thread killed by `Reset()`
    leaves the slot pending -/
example : (runOps {} [.script [[.wait 5, .end_ (.lit 7)]] [0], .call 0 [], .step 5]).getRet 1 = .val (.int 7) := by
  decide +kernel
example : (runOps {} [.script [[.wait 5, .end_ (.lit 7)]] [0], .call 0 [], .resetDirector]).getRet 1 = .pending := by
  decide +kernel

end Morfuse.Sched

namespace Morfuse.PtrCell
open Morfuse.Sched (Tbl)

/-- **No write to a dead cell.**  In every reachable state every address a holder lists is a live
    variable that really shares that holder. -/
theorem C05_pointer_cells_live {s : State} (h : Reachable s) (hd c : Nat) (hc : c ∈ listOf s hd) :
    s.live.get c = 1 ∧ s.kind.get c = 2 ∧ s.val.get c = hd :=
  (reachable_inv h).listed hd c hc

/-- every live Pointer variable is known to its holder (so it will receive the result) -/
theorem C05_every_sharer_listed {s : State} (h : Reachable s) (c : Nat) (hl : s.live.get c = 1)
    (hk : s.kind.get c = 2) : c ∈ listOf s (s.val.get c) :=
  (reachable_inv h).member c hl hk

theorem hf_mixed (a v : Nat) : ∀ (s : State) (c : Nat),
    ((fun s c => if c = a then writeNone s c else writeInt s c v) s c).live = s.live ∧
    ((fun s c => if c = a then writeNone s c else writeInt s c v) s c).hl = s.hl ∧
    ((fun s c => if c = a then writeNone s c else writeInt s c v) s c).nextH = s.nextH ∧
    (∀ x, x ≠ c → ((fun s c => if c = a then writeNone s c else writeInt s c v) s c).kind.get x = s.kind.get x ∧
      ((fun s c => if c = a then writeNone s c else writeInt s c v) s c).val.get x = s.val.get x) ∧
    ((fun s c => if c = a then writeNone s c else writeInt s c v) s c).kind.get c ≠ 2 :=
  plainWrite_endRef a v

theorem foldl_vals (f : State → Nat → State) (a v : Nat) (hf : PlainWrite f)
    (hfv : ∀ s c, c ≠ a → (f s c).kind.get c = 1 ∧ (f s c).val.get c = v)
    (l : List Nat) (s : State) (x : Nat) (hx : x ∈ l) (hxa : x ≠ a) :
    (l.foldl f s).kind.get x = 1 ∧ (l.foldl f s).val.get x = v := by
  obtain ⟨t, e1, e2⟩ := (foldl_write_spec f hf l s).2.2.2.2 x hx
  rw [e1, e2]; exact hfv t x hxa

/-- `end v` on the sharers (the other cells: `step_frame`); both shapes of the loop of `setValueRef` are folds of writes -/
theorem step_endRef_cells {s s' : State} {a v : Nat} (hs : step s (.endRef a v) = some s') :
    s'.live = s.live ∧
    (∀ x, x ∈ listOf s (s.val.get a) → x ≠ a → s'.kind.get x = 1 ∧ s'.val.get x = v) := by
  simp only [step] at hs
  split at hs
  · cases hs
    split
    · have hf := plainWrite_endRef a v
      exact ⟨(foldl_write_spec _ hf _ s).1, foldl_vals _ a v hf (by intro s c hc'; simp [hc', writeInt]) _ s⟩
    · exact ⟨(foldl_write_spec _ (plainWrite_writeInt v) _ s).1,
        foldl_vals _ a v (plainWrite_writeInt v) (by intro s c _; simp [writeInt]) _ s⟩
  · cases hs

/-- **Result out.**  `end v` (whenever it happens — inside the host call or after any number of waits)
    gives every other variable sharing the cell the value `v`; all of them are live. -/
theorem C05_result_reaches_every_sharer {s s' : State} {a v : Nat} (h : Reachable s)
    (hs : step s (.endRef a v) = some s') :
    ∀ c, c ∈ listOf s (s.val.get a) → c ≠ a →
      s.live.get c = 1 ∧ s'.live.get c = 1 ∧ s'.kind.get c = 1 ∧ s'.val.get c = v := by
  obtain ⟨hl, hv⟩ := step_endRef_cells hs
  intro c hc hca
  have hlive := ((reachable_inv h).listed _ c hc).1
  exact ⟨hlive, by rw [hl]; exact hlive, hv c hc hca⟩

/-- `end v` touches nothing but the sharers of that cell -/
theorem C05_result_frame {s s' : State} {a v : Nat} (hs : step s (.endRef a v) = some s') :
    ∀ x, x ∉ listOf s (s.val.get a) → s'.kind.get x = s.kind.get x ∧ s'.val.get x = s.val.get x :=
  fun x hx => (step_frame hs x hx).2

/-- a plain `end` leaves every sharer None (the host sees "no result") and writes nowhere else -/
theorem C05_plain_end_clears {s s' : State} {a : Nat} (h : Reachable s)
    (hs : step s (.endPlain a) = some s') :
    (∀ c, c ∈ listOf s (s.val.get a) → s'.kind.get c ≠ 2 ∧ s.live.get c = 1) ∧
    (∀ x, x ∉ listOf s (s.val.get a) → s'.kind.get x = s.kind.get x ∧ s'.val.get x = s.val.get x) := by
  refine ⟨fun c hc => ⟨?_, ((reachable_inv h).listed _ c hc).1⟩, fun x hx => (step_frame hs x hx).2⟩
  simp only [step, Option.ite_none_right_eq_some, Option.some.injEq] at hs
  obtain ⟨-, rfl⟩ := hs
  obtain ⟨t, e, _⟩ := (foldl_write_spec _ plainWrite_writeNone (listOf s (s.val.get a)) s).2.2.2.2 c hc
  rw [show (_ : State).kind.get c = _ from e]; exact (plainWrite_writeNone t c).2.2.2.2

/-- **Never (thread killed).**  Destroying one sharer — the VM's own result variable when its thread
    is killed — leaves every other sharer pointing at the same, still valid, holder. -/
theorem C05_killed_leaves_pending {s s' : State} {a c : Nat} (h : Reachable s)
    (hs : step s (.destroy a) = some s') (hk : s.kind.get a = 2)
    (hc : c ∈ listOf s (s.val.get a)) (hca : c ≠ a) :
    s'.live.get c = 1 ∧ s'.kind.get c = 2 ∧ s'.val.get c = s.val.get a ∧ c ∈ listOf s' (s.val.get a) := by
  have hi := reachable_inv h
  have hcl := hi.listed _ c hc
  obtain ⟨f1, f2, f3⟩ := step_frame hs c (by simpa [footprint] using hca)
  have hm := (step_inv hi hs).member c (f1.trans hcl.1) (f2.trans hcl.2.1)
  rw [f3, hcl.2.2] at hm
  exact ⟨f1.trans hcl.1, f2.trans hcl.2.1, f3.trans hcl.2.2, hm⟩

/-! ### non-vacuity: the host protocol itself (returnValue = 1, VM copy = 2, Event slot = 3) -/
def demoOps : List Op := [.newCell 1, .newPointer 1, .newCell 2, .assign 1 2, .moveTo 1 3]

example : ∃ s, run init demoOps = some s ∧ listOf s 1 = [2, 3] ∧
    (∃ s', step s (.endRef 2 7) = some s' ∧ s'.kind.get 3 = 1 ∧ s'.val.get 3 = 7) := by
  simp [demoOps, run, step, init, setData, clearInternal, writeNone, writeInt, isPtr, holderRemove, listOf,
    Tbl.push, Tbl.removeAll, Tbl.find, Tbl.getD, Tbl.removeKey, Mem.get_set]

end Morfuse.PtrCell

namespace Morfuse.CallRec
open Morfuse.PtrCell (Op)

/-- **Missing arguments are NIL, whatever was there.**  The parameter list of a label (`bindAll`: what the
    thread executes when it starts at, or falls into, the label) with the VM's argument buffer `fast` and
    index `fastIndex`: every declared parameter `i` for which no argument is left
    (`fast.length ≤ fastIndex + i`) names, afterwards, a variable that reads NIL — for parameters of every
    scope (`local`, `level`, `game`, `parm`, `group`), for every previous content of that variable (a value set
    by an earlier call, by the code in front of the label, a pending result), also when the same variable is
    declared twice.  (`stuck = false`: every statement was a legal step of the cell model; the driver reports
    a stuck run, none occurs in the correspondence.) -/
theorem C05_bind_overwrites_stale (ps : List Tgt) (s : State) (th : Th)
    (hns : (bindAll s th ps).1.stuck = false) (i : Nat) (hi : i < ps.length)
    (hex : th.fast.length ≤ th.fastIndex + i) :
    ∃ c, lookup (bindAll s th ps).1 th (ps.getD i default) = some c ∧ (bindAll s th ps).1.cells.kind.get c = 0 := by
  induction ps generalizing s th i with
  | nil => simp at hi
  | cons p ps ih =>
    have ix := bindOne_index s th p
    have h1 := bindAll_ok ps hns
    simp only [bindAll] at hns ⊢
    cases i with
    | zero =>
      -- parameter `p` itself: bound NIL now, and every later `STORE_PARAM` finds the arguments exhausted too
      have hex0 : th.fast.length ≤ th.fastIndex := by simpa using hex
      obtain ⟨c, hc, hk⟩ := (bindOne_exhausted hex0 h1).1
      rw [ix.2.2.2.2.2 hex0] at hns ⊢
      have k := bindAll_keeps_nil ps _ th hex0 hns p c hc hk
      exact ⟨c, by simpa using k.2.1, k.2.2⟩
    | succ j =>
      have hex' : (bindOne s th p).2.fast.length ≤ (bindOne s th p).2.fastIndex + j := by
        rw [ix.1]
        by_cases hlt : th.fastIndex < th.fast.length
        · rw [bindOne_index_succ s th p hlt]; omega
        · have := ix.2.2.2.1; omega
      obtain ⟨c, hc, hk⟩ := ih _ _ hns j (by simpa using hi) hex'
      rw [lookup_th_congr _ _ ix.2.1 ix.2.2.1] at hc
      exact ⟨c, by simpa using hc, hk⟩

/-- **Arguments stay in the host's record.**  `SetFastData(view)` (`copyCells`) gives the thread copies: every
    variable that existed before — every slot of every call record, a still-pending result of an earlier call
    made with the same record included — has the kind and value it had. -/
theorem C05_setfast_keeps_record (s : State) (l : List Nat) (x : Nat) (hx : x < s.nextCell) :
    (copyCells s l).2.cells.kind.get x = s.cells.kind.get x ∧ (copyCells s l).2.cells.val.get x = s.cells.val.get x := by
  -- every round takes a cell that did not exist and writes only that one
  refine (List.foldlRecOn (motive := fun (acc : List Nat × State) => s.nextCell ≤ acc.2.nextCell ∧
    (acc.2.cells.kind.get x = s.cells.kind.get x ∧ acc.2.cells.val.get x = s.cells.val.get x)) l _
    ⟨Nat.le_refl _, rfl, rfl⟩ fun acc ⟨hn, hk⟩ a _ => ⟨?_, ?_⟩).2
  · simp only [fresh]; rw [(ap_frame _ _).2.1]; exact Nat.le_succ_of_le hn
  · exact ap_keeps (P := fun c => c.kind.get x = s.cells.kind.get x ∧ c.val.get x = s.cells.val.get x) hk fun c hs => by
      have f := PtrCell.step_frame hs x (by simp [PtrCell.footprint, fresh]; omega)
      rw [f.2.1, f.2.2]; exact hk

/-- **`end <pending result>` inside the call.**  The started thread ends while only the host's `returnValue`
    (`r`) and the VM's `m_ReturnValue` (`a`) share its result cell, with a value `tmp` that is itself a pending
    result (kind Pointer: the result cell of a helper thread that still waits).  Afterwards `returnValue` *is*
    that pending result — kind Pointer, the helper's holder — so it is not None and `Execute(Event&)` appends it
    to the record; being a live Pointer variable it is listed by the helper's holder (`C05_every_sharer_listed`)
    and receives the helper's value when the helper ends (`C05_result_reaches_every_sharer`). -/
theorem C05_end_pending_result_handed_over {s : State} {a tmp r : Nat} (hp : PtrCell.isPtr s.cells a = true)
    (hk : s.cells.kind.get tmp = 2) (hl : PtrCell.listOf s.cells (s.cells.val.get a) = [r, a])
    (hra : r ≠ a) (hrt : r ≠ tmp) (hrn : r ≠ s.nextCell) (hns : (endFrom s a tmp).stuck = false) :
    (endFrom s a tmp).cells.kind.get r = 2 ∧ (endFrom s a tmp).cells.val.get r = s.cells.val.get tmp := by
  rw [endFrom_two_pending hp hk hl hra hrt] at hns ⊢
  obtain ⟨_, c1, e1, r1⟩ := ap_ok (setNil_ok hns)
  -- clearing `a` leaves `r` as the assignment made it
  have f := (setNil_spec hns).2.2.2 r hra (by rw [(ap_frame _ _).2.1]; exact hrn)
  rw [f.1, f.2, r1]
  have a1 := step_assign_copy e1
  exact ⟨by simp only []; rw [a1.1, hk], by simp only []; rw [a1.2]⟩

/-! non-vacuity: `level.v0` holds 7 from an earlier call; a call without arguments binds `level.v0` -/
def demoTh : Th := { tid := 100, inst := 1, sec := 1, ret := 9 }
def staleState : State := setLit (getOrCreate {} demoTh ⟨1, 0⟩).2 1 (some 7)

example : lookup staleState demoTh ⟨1, 0⟩ = some 1 ∧ staleState.cells.kind.get 1 = 1 ∧ staleState.cells.val.get 1 = 7 := by
  simp [staleState, setLit, getOrCreate, lookup, key, ap, PtrCell.step, PtrCell.writeInt, PtrCell.clearInternal,
    PtrCell.isPtr]

example : (bindAll staleState demoTh [⟨1, 0⟩]).1.stuck = false ∧
    (bindAll staleState demoTh [⟨1, 0⟩]).1.cells.kind.get 1 = 0 := by
  simp [bindAll, bindOne, setNil, staleState, setLit, getOrCreate, lookup, key, ap, PtrCell.step, PtrCell.writeInt,
    PtrCell.writeNone, PtrCell.setData, PtrCell.clearInternal, PtrCell.isPtr, Mem.get_set, demoTh]

/-! non-vacuity: returnValue = 1 and m_ReturnValue = 2 share holder 1, cell 3 is the pending result of a helper -/
def handOver : State :=
  ap (ap (ap (ap (ap (ap { nextCell := 4 } (.newCell 1)) (.newPointer 1)) (.newCell 2)) (.assign 1 2)) (.newCell 3)) (.newPointer 3)

example : PtrCell.isPtr handOver.cells 2 = true ∧ handOver.cells.kind.get 3 = 2 ∧
    PtrCell.listOf handOver.cells (handOver.cells.val.get 2) = [1, 2] ∧ handOver.nextCell = 4 ∧
    (endFrom handOver 2 3).stuck = false ∧ (endFrom handOver 2 3).cells.kind.get 1 = 2 ∧
    (endFrom handOver 2 3).cells.val.get 1 = 2 := by
  simp [handOver, endFrom, setNil, ap, PtrCell.step, PtrCell.isPtr, PtrCell.listOf, PtrCell.setData, PtrCell.writeNone,
    PtrCell.clearInternal, PtrCell.holderRemove, Morfuse.Sched.Tbl.push, Morfuse.Sched.Tbl.removeAll,
    Morfuse.Sched.Tbl.find, Morfuse.Sched.Tbl.getD, Morfuse.Sched.Tbl.removeKey, Mem.get_set]

end Morfuse.CallRec
