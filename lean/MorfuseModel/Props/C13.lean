import MorfuseModel.Sched.Machine
import MorfuseModel.Sched.MachineHostProps
import MorfuseModel.Sched.MachineInstHost
import MorfuseModel.Sched.MachineIdleHost
import MorfuseModel.Sched.MachineHostSLTrace
/-!
# C13 — nothing outlives its script: idle means empty, reset means clean

What is proved here is the bookkeeping that makes "idle" mean "empty" in the model:

* `ScriptClass::RemoveThread` (`removeFromInst`): a script instance disappears exactly when its last
  thread is removed, otherwise it loses exactly that thread, and no other instance is touched
  (any number of instances, any chain length);
* `ScriptClass::~ScriptClass` / `FreeAll` at the level of the instance list: destroying an instance
  removes exactly that instance from the director's list before its threads are killed;
* the engine's idle test is "no posted event and no live script instance" — so idle ⇔ the instance
  list is empty.

The "each destroyed exactly once, also when destructors free other pool objects" clause of `Reset` is
property C19's theorem `C19_freeall_each_once` (pool level, `lean/MorfuseModel/Props/C19.lean`).

The first part of this file is that bookkeeping layer.  The later sections prove the machine-level
statements: the thread / timer / table invariant, the instance-list invariant (every thread with a VM is in
the chain of its listed instance), "every record is a complete idle thread between host operations", the
idle-flag clauses, Reset and recompile, and the creation / destruction ledgers - all for states reachable by
host operations (no save/load), programs of class `ProgOK`, modulo the machine's fuel.  Compared with the
real engine on every run by tools/props/c13.py (pool counts, idle flag, marker order after every command,
trace monitor "idle => every pool, the timer and the queue are empty; a live thread => not idle"): that the
engine performs exactly the machine's steps.
-/
namespace Morfuse.Sched

/-- the chain of instance `i`, `[]` when the instance does not exist -/
def chainOf (s : State) (i : Nat) : List Nat := ((s.insts.find? (·.1 == i)).map (·.2)).getD []

def hasInst (s : State) (i : Nat) : Bool := s.insts.any (·.1 == i)

theorem find_filter_ne (l : List (Nat × List Nat)) (i j : Nat) (h : j ≠ i) :
    (l.filter (fun e => !(e.1 == i))).find? (·.1 == j) = l.find? (·.1 == j) :=
  (Assoc.find?_filter (fun k => !(k == i)) l j).trans (if_pos (by simpa using h))

theorem find_map_ne (l : List (Nat × List Nat)) (i j : Nat) (c : List Nat) (h : j ≠ i) :
    (l.map (fun e => if e.1 == i then (i, c) else e)).find? (·.1 == j) = l.find? (·.1 == j) := by
  rw [Assoc.find?_map_keep (fun e => by split <;> simp_all)]
  refine (Option.map_congr fun e he => if_neg ?_).trans Option.map_id'
  have hj : e.1 = j := by simpa using List.find?_some he
  simpa [hj] using h

theorem find_map_self (l : List (Nat × List Nat)) (i : Nat) (c c0 : List Nat)
    (h : l.find? (·.1 == i) = some (i, c0)) :
    (l.map (fun e => if e.1 == i then (i, c) else e)).find? (·.1 == i) = some (i, c) := by
  rw [Assoc.find?_map_keep (fun e => by split <;> simp_all), h]; simp

theorem find_filter_self (l : List (Nat × List Nat)) (i : Nat) :
    (l.filter (fun e => !(e.1 == i))).find? (·.1 == i) = none :=
  (Assoc.find?_filter (fun k => !(k == i)) l i).trans (if_neg (by simp))

/-- **Other instances are untouched** by a thread leaving instance `i`. -/
theorem C13_removeThread_frame (s : State) (t i j : Nat) (h : j ≠ i) :
    chainOf (removeFromInst s t i) j = chainOf s j := by
  show instChain (removeFromInst s t i).insts j = instChain s.insts j
  rw [removeFromInst_insts]
  exact instChain_riInsts_ne _ t i j h

/-- destroying an instance unlinks exactly that instance before any thread is killed
    (`LL::SafeRemoveRoot` in `~ScriptClass`) -/
theorem C13_killInst_unlinks (s : State) (i : Nat) :
    (s.insts.filter (fun e => !(e.1 == i))).find? (·.1 == i) = none :=
  find_filter_self s.insts i

/-- **The instance dies with its last thread, and only then.**  If `t` is the head of the chain and
    the only member, the instance is gone; in every other case the instance stays and its chain is
    the old one without `t`. -/
theorem C13_removeThread_spec (s : State) (t i : Nat) (chain : List Nat)
    (hf : s.insts.find? (·.1 == i) = some (i, chain)) (hc : chain ≠ []) :
    (chain = [t] → chainOf (removeFromInst s t i) i = [] ∧ hasInst (removeFromInst s t i) i = false) ∧
    (chain ≠ [t] → chainOf (removeFromInst s t i) i = chain.erase t) := by
  have he : chainOf (removeFromInst s t i) i = chain.erase t := by
    show instChain (removeFromInst s t i).insts i = _
    rw [removeFromInst_insts, instChain_riInsts_self, instChain, hf]; rfl
  refine ⟨?_, fun _ => he⟩
  rintro rfl
  refine ⟨he.trans (List.erase_cons_head ..), ?_⟩
  rw [hasInst, removeFromInst_insts, riInsts, hf]
  simp [List.any_filter]

example : chainOf (removeFromInst { insts := [(1, [100, 101]), (2, [102])] } 100 1) 1 = [101] ∧
    hasInst (removeFromInst { insts := [(1, [100, 101]), (2, [102])] } 102 2) 2 = false := by decide

/-! ## Machine level: quiescence of the whole scheduler machine, in every reachable state

`Reachable s` (`Sched/MachineHost.lean`): produced from the initial state by any list of host operations
of the driver (compile/recompile a `ProgOK` program, host calls, `advance`, `execute`, `step`,
`reset-director`, `reset`, reading the output), **without `save`/`load`**; modulo running out of fuel.
The statements rest on `iAll` (`Sched/MachineInvAll.lean`), which does not speak about the *instance list*.
The engine's idle flag is "no listed instance and no posted event" (`idleFlag` below), so in this section the
two clauses that mention the flag are stated for the pools `iAll` does speak about (thread records, VMs,
timer, listener tables) and carry the suffix `_partial`; the full clauses, with the instance-list invariant,
are `C13_machine_quiescent_means_idle` and `C13_machine_suspended_not_idle` below. -/

/-- the engine's `IsIdle()` as the driver prints it: no live script instance and no posted event -/
def idleFlag (s : State) : Bool := s.insts.isEmpty && s.events.isEmpty

/-- **Quiescent means empty, machine level (partial).**  In every reachable state in which no thread
    record is live (every record, if any, is a dead thread whose VM is still unwinding) the timer is
    empty and both listener tables are empty: no timed wait, no registration, no weak reference to a
    thread survives the last thread.
    The full clause (instance list and event queue empty too, `idleFlag` up): `C13_machine_quiescent_means_idle`. -/
theorem C13_machine_quiescent_means_empty_partial {s : State} (h : Reachable s) :
    s.outOfFuel = true ∨
      ((∀ t th, s.th? t = some th → th.dead = true) →
        s.timer.elems = [] ∧ s.notify = [] ∧ s.waitFor = []) :=
  (reachable_hinv h).map (fun hi hq => hi.inv.quiescent_empty hq)

/-- **Suspended is not quiescent, machine level (partial).**  In every reachable state a thread that is
    `timing` or `waiting` is a live thread (record present, not dead) with a live VM (present, not
    destroyed), and it holds what will resume it: a timer element resp. a wait-for entry — so the thread
    and VM pools and the timer / tables are not empty while a script is suspended.
    The full clause (its script instance is listed, `idleFlag` down): `C13_machine_suspended_not_idle`. -/
theorem C13_machine_suspended_not_quiescent_partial {s : State} (h : Reachable s) :
    s.outOfFuel = true ∨
      ∀ t th, s.th? t = some th → (th.ts = .timing ∨ th.ts = .waiting) →
        th.hasVM = true ∧ th.dead = false ∧ th.vm ≠ .destroyed ∧
        (th.ts = .timing → t ∈ s.timer.elems.map (·.1)) ∧
        (th.ts = .waiting → Tbl.hasOwner s.waitFor t = true) :=
  (reachable_hinv h).map (fun hi _ _ hf hs => hi.inv.suspended_live hf hs)

/-- **Between host operations nothing is executing, machine level.**  In every reachable state there is
    no current thread and the native execution stack is empty (so the next `ExecuteRunning` is not
    blocked), whatever ran nested inside the operations before. -/
theorem C13_machine_nothing_running_between_ops {s : State} (h : Reachable s) :
    s.outOfFuel = true ∨ (s.cur = none ∧ s.depth = 0) :=
  (reachable_hinv h).map (fun hi => ⟨hi.cur, hi.depth⟩)

/-- **`Reset()` keeps the machine consistent, machine level.**  After `director.Reset()` in a reachable
    state (unless out of fuel) the machine invariant holds again with no program compiled: the state
    is one from which compiling and calling behave as the theorems above say. -/
theorem C13_machine_reset_consistent {s : State} (h : Reachable s) :
    (hostReset s).outOfFuel = true ∨ (HInv (hostReset s) ∧ (hostReset s).prog = []) :=
  (reachable_hinv (.step .resetDirector h trivial)).map (fun hi => ⟨hi, rfl⟩)

/-- two threads: 100 waits 5 ms, 101 waits on `level`; then the frame at clock 5 resumes 100, which
    notifies 101; both end -/
def demoQuiesce : List HostOp :=
  [.script [[.thread 1, .wait 5, .notify 50 7], [.waittill 50 [7], .mark 2]] [0, 0], .call 0 [], .takeOut]

theorem demoQuiesce_reachable (ops : List HostOp) (h : ∀ op ∈ ops, op.ok) : Reachable (runOps {} (demoQuiesce ++ ops)) :=
  (reachable_iff _).2 ⟨_, fun op hop =>
    (List.mem_append.1 hop).elim ((by decide : ∀ op ∈ demoQuiesce, op.ok) op) (h op), rfl⟩

/-- suspended: a timing and a waiting thread, the flag is down -/
example : (runOps {} demoQuiesce).outOfFuel = false ∧
    ((runOps {} demoQuiesce).threads.map (fun e => (e.1, e.2.ts))) = [(100, .timing), (101, .waiting)] ∧
    idleFlag (runOps {} demoQuiesce) = false := by decide +kernel

/-- quiescent after the frame: no thread record at all, everything empty, the flag is up -/
example : (runOps {} (demoQuiesce ++ [.step 5])).outOfFuel = false ∧
    (runOps {} (demoQuiesce ++ [.step 5])).threads = [] ∧
    (runOps {} (demoQuiesce ++ [.step 5])).timer.elems = [] ∧
    (runOps {} (demoQuiesce ++ [.step 5])).notify = [] ∧
    idleFlag (runOps {} (demoQuiesce ++ [.step 5])) = true := by decide +kernel

/-- `Reset()` in the suspended state destroys both threads -/
example : (hostReset (runOps {} demoQuiesce)).outOfFuel = false ∧ (hostReset (runOps {} demoQuiesce)).threads = [] ∧
    idleFlag (hostReset (runOps {} demoQuiesce)) = true := by decide +kernel

/-! ## Machine level, with the instance list: the idle flag itself

`reachable_hinv2` (`Sched/MachineInstHost.lean`): in every reachable state (same `Reachable` as above, modulo
fuel) the instance-list invariant `J []` holds — every thread record that still has its VM is in the chain
of the *listed* script instance `th.inst`; every listed instance has a non-empty, duplicate-free chain of
live records (not dead, VM not destroyed, attached) of that instance.  Proved through every function of the
machine (`jqAll`: destruction cascades, under the structural invariant alone; `jAll`: instructions,
`Process`, `ScriptVM::Execute`, the timer loop, `ScriptExecuteInternal`, together with `Inv`: an instance of
`execAll`) and through `~ScriptClass` / `Reset` / recompile with the instance being destroyed exempt. -/

/-- `chainOf` of this file is the `instChain` of the invariant -/
theorem chainOf_eq_instChain (s : State) (i : Nat) : chainOf s i = instChain s.insts i := rfl

theorem HInv2.in_chain {s : State} (hi : HInv2 s) {t : Nat} {th : Th} (hf : s.th? t = some th)
    (hv : th.hasVM = true) : t ∈ chainOf s th.inst :=
  (hi.j.a t th hf hv).resolve_left List.not_mem_nil

/-- **Suspended is not idle, machine level.**  In every reachable state, while some thread is `timing` or
    `waiting` its script instance is in the director's list with that thread in its chain, so the engine's
    idle flag is down. -/
theorem C13_machine_suspended_not_idle {s : State} (h : Reachable s) :
    s.outOfFuel = true ∨
      ∀ t th, s.th? t = some th → (th.ts = .timing ∨ th.ts = .waiting) →
        t ∈ chainOf s th.inst ∧ hasInst s th.inst = true ∧ idleFlag s = false := by
  refine (reachable_hinv2 h).map (fun hi t th hf hs => ?_)
  have hm := hi.in_chain hf (hi.h.inv.suspended_live hf hs).1
  obtain ⟨e, he, hk, _⟩ := instChain_mem hm
  refine ⟨hm, List.any_eq_true.2 ⟨e, he, by simpa using hk⟩, ?_⟩
  rw [idleFlag, List.isEmpty_eq_false_iff.2 (List.ne_nil_of_mem he)]
  rfl

/-- **Quiescent means idle, machine level.**  In every reachable state in which no thread record is live
    the director's instance list, the event queue, the timer and both listener tables are empty and the
    engine's idle flag is up.  (The queue: every queued event belongs to a thread whose VM is not destroyed —
    clause `e` of the instance-list invariant.) -/
theorem C13_machine_quiescent_means_idle {s : State} (h : Reachable s) :
    s.outOfFuel = true ∨
      ((∀ t th, s.th? t = some th → th.dead = true) →
        idleFlag s = true ∧ s.insts = [] ∧ s.events = [] ∧ s.timer.elems = [] ∧ s.notify = [] ∧ s.waitFor = []) := by
  refine (reachable_hinv2 h).map (fun hi hq => ?_)
  have hev : s.events = [] := List.eq_nil_iff_forall_not_mem.2 fun ev he => by
    obtain ⟨th, h1, h2⟩ := hi.j.e ev he
    exact h2 ((hi.h.inv.th ev.1 th h1).f2 (hq ev.1 th h1)).2
  -- a listed instance has a member, and members are not dead
  have hI : s.insts = [] := List.eq_nil_iff_forall_not_mem.2 fun e he => by
    obtain ⟨b1, _, b3⟩ := hi.j.b e he
    obtain ⟨u, hu⟩ := List.exists_mem_of_ne_nil _ b1
    obtain ⟨th, h1, h2, _⟩ := b3 u hu
    rw [hq u th h1] at h2; cases h2
  exact ⟨by rw [idleFlag, hI, hev]; rfl, hI, hev, hi.h.inv.quiescent_empty hq⟩

/-- **Every listed instance is alive, machine level**: in every reachable state each instance in the
    director's list has a non-empty chain without duplicates, every member is a live thread record of that
    instance whose VM exists; and every thread that has its VM is in exactly that chain. -/
theorem C13_machine_instances_consistent {s : State} (h : Reachable s) :
    s.outOfFuel = true ∨
      ((∀ e ∈ s.insts, e.2 ≠ [] ∧ e.2.Nodup ∧ ∀ t ∈ e.2, ∃ th, s.th? t = some th ∧ th.dead = false ∧
          th.vm ≠ .destroyed ∧ th.inst = e.1) ∧
       (∀ t th, s.th? t = some th → th.hasVM = true → t ∈ chainOf s th.inst)) := by
  refine (reachable_hinv2 h).map (fun hi => ⟨fun e he => ?_, fun t th hf hv => ?_⟩)
  · obtain ⟨b1, b2, b3⟩ := hi.j.b e he
    exact ⟨b1, b2, fun t ht => by
      obtain ⟨th, k1, k2, k3, k4, _⟩ := b3 t ht
      exact ⟨th, k1, k2, k3, k4⟩⟩
  · exact hi.in_chain hf hv

/-- the suspended demo state: both threads are in the chain of instance 1 -/
example : (runOps {} demoQuiesce).insts = [(1, [101, 100])] ∧ idleFlag (runOps {} demoQuiesce) = false := by
  decide +kernel

/-- two instances (the second from `waitthread`), three suspended threads -/
example : (runOps {} [.script [[.waitthread 1, .mark 1], [.thread 2, .wait 5], [.wait 9]] [0, 0, 0], .call 0 []]).insts =
    [(2, [102, 101]), (1, [100])] := by decide +kernel

/-- **Between host operations every thread is complete and idle, machine level.**  In every reachable
    state every thread record has its VM and the VM is `idling`: no destructor and no `ScriptVM::Execute` is
    in progress, no dead record is waiting for its VM to unwind — so the thread pool and the VM pool count
    the same objects (`thr = vm` in the driver's trailer). -/
theorem C13_machine_all_idle_between_ops {s : State} (h : Reachable s) :
    s.outOfFuel = true ∨ ∀ t th, s.th? t = some th → th.hasVM = true ∧ th.vm = .idling ∧ th.dead = false := by
  refine (reachable_hinv3 h).map (fun hi t th hf => ?_)
  obtain ⟨c1, c2⟩ := (hi.w t th hf).resolve_right List.not_mem_nil
  exact ⟨c1, c2, Bool.eq_false_iff.2 fun hd => nomatch c1.symm.trans ((hi.inv.th t th hf).f2 hd).1⟩

/-- **`Reset()` is clean, machine level.**  After `director.Reset()` in any reachable state (unless out of
    fuel) the scheduler's bookkeeping is that of the initial state: no thread record, no script instance, no
    queued event, empty timer, empty listener tables, no program, no current thread, empty execution stack,
    the idle flag up — and every invariant holds again, so compiling and calling afterwards behave as the
    theorems say.  (Host-owned state survives by design: the clock, the host's objects with their `endon`
    lists, the host's result slots — see `C05_machine_reset_leaves_slots`.) -/
theorem C13_machine_reset_clean {s : State} (h : Reachable s) :
    (hostReset s).outOfFuel = true ∨
      ((hostReset s).threads = [] ∧ (hostReset s).insts = [] ∧ (hostReset s).events = [] ∧
       (hostReset s).timer.elems = [] ∧ (hostReset s).notify = [] ∧ (hostReset s).waitFor = [] ∧
       (hostReset s).prog = [] ∧ (hostReset s).cur = none ∧ (hostReset s).depth = 0 ∧
       idleFlag (hostReset s) = true ∧ HInv3 (hostReset s)) := by
  refine (hostReset_clean (reachable_hinv3 h)).map ?_
  rintro ⟨⟨p0, p1, p2, p3, p4, p5⟩, q⟩
  exact ⟨p0, p1, p2, p3, p4, p5, rfl, q.h.cur, q.h.depth, by rw [idleFlag, p1, p2]; rfl, q⟩

/-- **Recompiling destroys every instance of the old program, machine level.**  `GetProgramScript(…,
    recompile)` while a program is loaded (the machine has one program per context): afterwards (unless out
    of fuel) no instance and no thread of the old version is left, no event is queued, the timer is empty;
    the new program is installed and every invariant holds. -/
theorem C13_machine_recompile_kills_old_instances {s : State} (h : Reachable s) (p : List (List Instr))
    (ps : List Nat) (hp : ProgOK p) (hold : s.prog.isEmpty = false) :
    (hostScript s p ps).outOfFuel = true ∨
      ((hostScript s p ps).insts = [] ∧ (hostScript s p ps).threads = [] ∧ (hostScript s p ps).events = [] ∧
       (hostScript s p ps).timer.elems = [] ∧ (hostScript s p ps).prog = p ∧ HInv3 (hostScript s p ps)) := by
  have h2 : Ok (hostScript s p ps) (HInv3 (hostScript s p ps)) := reachable_hinv3 (.step (.script p ps) h hp)
  have he : hostScript s p ps = { killAllInsts s with prog := p, progParams := ps } := by
    unfold hostScript; simp [hold]
  refine (reachable_hinv3 h).bind' (HostOp.apply_oof (.script p ps) nofun) (fun hi => ?_)
  rw [he] at h2 ⊢
  have hk : Ok ({ killAllInsts s with prog := p, progParams := ps } : State) _ := killAllInsts_empty hi
  exact (hk.and h2).map fun ⟨⟨p0, p1, p2, p3, _, _⟩, q⟩ => ⟨p1, p0, p2, p3, rfl, q⟩

/-- `Reset()` in the suspended demo state -/
example : (hostReset (runOps {} demoQuiesce)).outOfFuel = false ∧ (hostReset (runOps {} demoQuiesce)).insts = [] ∧
    (hostReset (runOps {} demoQuiesce)).threads = [] := by
  decide +kernel

/-! ## Trace level: every thread and every script instance is destroyed exactly once

The **ghost ledgers** of creations and destructions (`reachable_traced`, from `llAll`: every function of the
machine changes the list of thread records only by appending a record with the id `nextTid` (`new`) or removing the
record of an id that is present (`del t`: the end of `~ScriptThread` once the VM is freed, or `ScriptVM::Execute`'s
epilogue freeing a destroyed VM together with the record), and the instance list only by listing the id `nextInst`
or unlinking a listed id).  Existentially quantified histories, `PoolLedger.lean` for what every such history
satisfies; no fuel condition for the ledger facts.  `Reachable` = without `save`/`load`. -/

/-- the thread ledger and the instance ledger of a state -/
def IsLifeLedger (s : State) (opsT opsI : List POp) : Prop :=
  pRun pool0T opsT = some (absT s) ∧ pRun pool0I opsI = some (absI s)

theorem Traced.life {s : State} (h : Traced s) : ∃ opsT opsI, IsLifeLedger s opsT opsI :=
  let ⟨opsT, hT⟩ := h.threads
  let ⟨opsI, hI⟩ := h.insts
  ⟨opsT, opsI, hT, hI⟩

theorem C13_trace_ledger_exists {s : State} (h : Reachable s) : ∃ opsT opsI, IsLifeLedger s opsT opsI :=
  (reachable_traced h).life

theorem IsLifeLedger.at_most_once {s : State} {opsT opsI : List POp} (hl : IsLifeLedger s opsT opsI) :
    (created pool0T opsT).Nodup ∧ (created pool0I opsI).Nodup ∧
    (∀ t, opsT.count (POp.del t) ≤ 1) ∧ (∀ i, opsI.count (POp.del i) ≤ 1) ∧
    (∀ t, (∃ th, s.th? t = some th) ↔ t ∈ created pool0T opsT ∧ POp.del t ∉ opsT) ∧
    (∀ i, hasInst s i = true ↔ i ∈ created pool0I opsI ∧ POp.del i ∉ opsI) := by
  refine ⟨created_nodup _ _, created_nodup _ _, fun t => del_count_le_one opsT t pool0T_good hl.1,
    fun i => del_count_le_one opsI i pool0I_good hl.2, fun t => ?_, fun i => ?_⟩
  · rw [State.th?_eq, ← mem_absT_ids, mem_after opsT t pool0T_good hl.1]
    simp [pool0T]
  · rw [hasInst, ← mem_absI_ids, mem_after opsI i pool0I_good hl.2]
    simp [pool0I]

/-- **Never reused, destroyed at most once, trace level.**  In the ledgers of any reachable state: the thread ids
    (instance ids) handed out are pairwise distinct and fresh; no id has two destruction records; and the records
    (listed instances) present now are exactly the created ones without a destruction record. -/
theorem C13_trace_destroyed_at_most_once {s : State} (h : Reachable s) :
    ∃ opsT opsI, IsLifeLedger s opsT opsI ∧
      (created pool0T opsT).Nodup ∧ (created pool0I opsI).Nodup ∧
      (∀ t, opsT.count (POp.del t) ≤ 1) ∧ (∀ i, opsI.count (POp.del i) ≤ 1) ∧
      (∀ t, (∃ th, s.th? t = some th) ↔ t ∈ created pool0T opsT ∧ POp.del t ∉ opsT) ∧
      (∀ i, hasInst s i = true ↔ i ∈ created pool0I opsI ∧ POp.del i ∉ opsI) :=
  let ⟨opsT, opsI, hl⟩ := C13_trace_ledger_exists h
  ⟨opsT, opsI, hl, hl.at_most_once⟩

theorem IsLifeLedger.all_freed {s : State} {opsT opsI : List POp} (hl : IsLifeLedger s opsT opsI)
    (ht : s.threads = []) (hi : s.insts = []) :
    (∀ t ∈ created pool0T opsT, opsT.count (POp.del t) = 1) ∧
    (∀ i ∈ created pool0I opsI, opsI.count (POp.del i) = 1) :=
  ⟨fun t hc => all_freed_exactly_once pool0T_good hl.1 (congrArg (List.map Prod.fst) ht) t (Or.inr hc),
   fun i hc => all_freed_exactly_once pool0I_good hl.2 (congrArg (fun l => (l.map Prod.fst).reverse) hi) i (Or.inr hc)⟩

/-- **All destroyed exactly once, trace level.**  After `director.Reset()` in any reachable state, and in any
    reachable state without a live thread (either unless out of fuel), every thread id and every instance id ever
    created in this context has exactly one destruction record in the ledger. -/
theorem C13_trace_destroyed_exactly_once {s : State} (h : Reachable s) :
    ((hostReset s).outOfFuel = true ∨
      ∃ opsT opsI, IsLifeLedger (hostReset s) opsT opsI ∧
        (∀ t ∈ created pool0T opsT, opsT.count (POp.del t) = 1) ∧
        (∀ i ∈ created pool0I opsI, opsI.count (POp.del i) = 1)) ∧
    (s.outOfFuel = true ∨ ((∀ t th, s.th? t = some th → th.dead = true) →
      ∃ opsT opsI, IsLifeLedger s opsT opsI ∧
        (∀ t ∈ created pool0T opsT, opsT.count (POp.del t) = 1) ∧
        (∀ i ∈ created pool0I opsI, opsI.count (POp.del i) = 1))) := by
  constructor
  · refine Ok.map (C13_machine_reset_clean h) fun ⟨p0, p1, _⟩ => ?_
    obtain ⟨opsT, opsI, hl⟩ := C13_trace_ledger_exists (.step .resetDirector h trivial)
    exact ⟨opsT, opsI, hl, hl.all_freed p0 p1⟩
  · refine (Ok.and (reachable_hinv3 h) (C13_machine_quiescent_means_idle h)).map ?_
    intro ⟨hi, hq⟩ hdead
    obtain ⟨opsT, opsI, hl⟩ := C13_trace_ledger_exists h
    have hI : s.insts = [] := (hq hdead).2.1
    exact ⟨opsT, opsI, hl, hl.all_freed (hi.empty hI).1 hI⟩

/-! ### non-vacuity, trace level: the ledgers of the two-thread demo, suspended and after its last frame -/
example : pRun pool0T [.new, .new] = some (absT (runOps {} demoQuiesce)) ∧
    pRun pool0T [.new, .new, .del 100, .del 101] = some (absT (runOps {} (demoQuiesce ++ [.step 5]))) ∧
    pRun pool0I [.new, .del 1] = some (absI (runOps {} (demoQuiesce ++ [.step 5]))) := by decide +kernel

end Morfuse.Sched
