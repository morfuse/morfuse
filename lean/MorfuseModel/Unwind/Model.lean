import MorfuseModel.Sched.Timer
/-!
# Unwind model — the exception paths of the interpreter, frame by frame (property C14)

A small-step machine whose state carries the **native call stack** of the C++ activations that are
live while a host call runs:

```
host call ─ ScriptThread::Execute(Event&)            Frame.thrExec   try{…} catch(Abort&){throw;} catch(ScriptException&){}
          └ ScriptThread::ScriptExecuteInternal      Frame.sei       saves/sets/restores m_CurrentThread, m_PreviousThread (try/catch(...))
            └ ScriptVM::Execute (+ Process)           Frame.vm        ScriptExecutionStack object, deadline, cmdTime, catch clauses
              └ Listener::Unregister (notify loop)    Frame.notify    no handler
                └ ScriptThread::Execute() → …         thrExec, sei, vm …
ScriptContext::Execute                                Frame.ctxExec
          └ ScriptMaster::ExecuteRunning              Frame.execRunning  while((cur = next())) try{Resume()} catch(...){cur = null; throw;}
            └ ScriptVM::Execute                       Frame.vm
```

`St.exc = some e` means: an exception `e` is in flight; one `step` then runs the handler of the top
frame exactly as transcribed (catch / rethrow / restore / destructor of the frame's locals) and pops
it, or — where the C++ handler swallows the exception — resumes normal execution in that frame.

Sources (as of /repo HEAD, after fixes 62e9d65 e689d04 56147d9 415a6d2 3effa49 c597775):
* src/Script/ScriptVMOperation.cpp `ScriptVM::Execute` (469–572), `ScriptVM::Process` (574–1610)
* src/Script/ScriptVM.cpp `HandleScriptException` / `HandleScriptExceptionAbort` (383–415),
  `ScriptExecutionStack` (662–674), `NotifyDelete`
* src/Script/ScriptThread.cpp `Execute` (3199–3242), `ScriptExecuteInternal` (3325–3363),
  `StoppedWaitFor`, `StartTiming`, `Stop`, `Wait`, `Resume`, `~ScriptThread`
* src/Script/ScriptMaster.cpp `ExecuteRunning` (332–358), `ExecuteThread`, `AddTiming`, `Reset`
* src/Script/Context.cpp `ScriptContext::Execute`; src/Common/Time.cpp (hook H1)
* src/Script/Listener.cpp `Register`, `Unregister(name)`, `WaitTill`, `WaitExecuteThreadInternal`

Programs are at opcode granularity (the time guard reads the clock once per opcode): every opcode
that neither yields nor nests is `nop`; the renderer `tools/props/c14.py` knows how many opcodes each
script statement compiles to.
-/
namespace Morfuse.Unwind
open Morfuse.Sched

abbrev Tid := Nat

/-- abstract opcodes -/
inductive Op
  | nop                                   -- arithmetic / load / store / conditional jump not taken
  | jmp (pc : Nat)                        -- OP_JUMP4 / OP_JUMP_BACK4 / `goto`
  | setc (k : Nat)                        -- loop counter := k
  | loopTest (exit : Nat)                 -- counter = 0 → jump `exit`, else counter -= 1
  | spawn (label : Nat) (wait : Bool)     -- `thread l` / `waitthread l`
  | notify (name : Nat)                   -- `level notify "n"`
  | waittill (name : Nat)                 -- `level waittill "n"`
  | wait (ms : Nat)                       -- `wait`
  | print (m : Nat)                       -- `println "m<m>"`
  | raise (abort : Bool)                  -- `error "x"` (ScriptException) / `error "x" 1` (ScriptAbortException)
  | done                                  -- `end` / OP_DONE
  deriving Repr, DecidableEq, Inhabited

abbrev Prog := List (List Op)

/-- exceptions that travel through the frames.  `overflow`, `depth`, `abort` derive from
    `ScriptAbortExceptionBase`; `scriptError` is `ScriptException` (a `ScriptExceptionBase`) -/
inductive Exc | overflow | depth | abort | scriptError
  deriving Repr, DecidableEq, Inhabited

def Exc.isAbort : Exc → Bool
  | .scriptError => false
  | _ => true

inductive TState | running | timing | waiting
  deriving Repr, DecidableEq, Inhabited
inductive VState | running | suspended | idling
  deriving Repr, DecidableEq, Inhabited

structure Thr where
  label : Nat
  /-- the `ScriptClass` (group) the thread belongs to: `thread l` stays in the caller's group,
      a host call and `waitthread l` create a new one -/
  grp : Nat := 0
  pc : Nat := 0
  cnt : Nat := 0
  ts : TState := .running
  vs : VState := .running
  /-- the thread registered on this one under name 0 (`waitthread` caller) -/
  joinedBy : Option Tid := none
  deriving Repr, DecidableEq, Inhabited

inductive Frame
  /-- `ScriptThread::Execute()` / `Execute(Event&)` -/
  | thrExec
  /-- `ScriptThread::ScriptExecuteInternal` of thread `tid`; `saved` = local `currentThread` -/
  | sei (tid : Tid) (saved : Option Tid)
  /-- `ScriptVM::Execute` of thread `tid`'s VM, inside `Process`: `dl` = `nextTime`, `ct` = `cmdTime`,
      `post` = the instruction body has run and the time check is next, `n` = instructions executed
      since `dl` was set (ghost) -/
  | vm (tid : Tid) (dl ct : Nat) (post : Bool) (n : Nat)
  /-- `Listener::Unregister(name)`: loop over `stoppedListeners` -/
  | notify (pending : List Tid)
  /-- `ScriptMaster::ExecuteRunning`: inside the `while`, `Resume()` in progress -/
  | execRunning
  /-- `ScriptContext::Execute` -/
  | ctxExec
  deriving Repr, DecidableEq, Inhabited

structure Cfg where
  prot : Bool := false          -- ThreadExecutionProtection::loopProtection
  maxExec : Nat := 5000         -- maxExecutionTime (0 = no limit)
  maxDepth : Nat := 20          -- ScriptExecutionStack::maxStackDepth
  sOut : Bool := true           -- which OutputInfo streams are attached
  sWarn : Bool := true
  sDbg : Bool := true
  sErr : Bool := true
  sVerb : Bool := false
  dev : Bool := true            -- developer mode: source map exists, PrintSourcePos prints
  deriving Repr, DecidableEq, Inhabited

inductive Diag
  | dbgUpdate                   -- Debug: "Update of script position - This is not an error."
  | errPos                      -- Error: source position of an aborted VM
  | verbFrame (depth : Nat)     -- Verbose: "----FRAME: <depth>"
  | warn                        -- Warn: "^~^~^ Script Warning"
  | out (m : Nat)               -- Output: println marker
  deriving Repr, DecidableEq, Inhabited

structure St where
  stack : List Frame := []
  exc : Option Exc := none
  ub : Bool := false
  cur : Option Tid := none
  prev : Option Tid := none
  depth : Nat := 0
  now : Nat := 0                 -- value the next clock read returns
  reads : Nat := 0
  start : Nat := 0               -- TimeManager::verifStart
  last : Nat := 0                -- TimeManager::verifLast
  scaled : Nat := 0              -- TimeManager::scaledTime
  threads : List (Tid × Thr) := []
  nextTid : Nat := 1
  timer : Timer := {}
  lvl : List (Nat × Tid) := []   -- level's notify table: (name, waiter) in registration order
  deriving Repr, DecidableEq, Inhabited

/-- what a step may read besides the state -/
structure Env where
  cfg : Cfg
  prog : Prog
  /-- how much the injected clock advances at its k-th reading -/
  inc : Nat → Nat

/-! ### thread table -/
def find (l : List (Tid × Thr)) (t : Tid) : Option Thr := (l.find? (fun p => p.1 == t)).map (·.2)
def upd (l : List (Tid × Thr)) (t : Tid) (f : Thr → Thr) : List (Tid × Thr) :=
  l.map (fun p => if p.1 == t then (p.1, f p.2) else p)
def del (l : List (Tid × Thr)) (t : Tid) : List (Tid × Thr) := l.filter (fun p => p.1 != t)

def alive (s : St) (t : Tid) : Bool := (find s.threads t).isSome
/-- a `SafePtr<ScriptThread>` read: null once the thread is gone -/
def safe (s : St) (o : Option Tid) : Option Tid := o.filter (alive s)
def vmRunning (s : St) (t : Tid) : Bool :=
  match find s.threads t with
  | some th => th.vs == .running
  | none => false

/-- one clock reading has been taken (`verif::now_ms`) -/
def tick (E : Env) (s : St) : St := { s with now := s.now + E.inc s.reads, reads := s.reads + 1 }

/-- undefined behaviour reached (null `m_CurrentThread` dereferenced, dangling timer element): the
    machine stops where it is -/
def setUb (s : St) : St := { s with ub := true }

/-- `ScriptThread::Stop()` -/
def stopThread (s : St) (t : Tid) : St :=
  match find s.threads t with
  | some th =>
    match th.ts with
    | .timing => { s with threads := upd s.threads t (fun th => { th with ts := .running }), timer := s.timer.remove t }
    | .waiting =>
      -- CancelWaitingAll: leave every table the thread is registered in
      { s with threads := (upd s.threads t (fun th => { th with ts := .running })).map
                 (fun p => if p.2.joinedBy == some t then (p.1, { p.2 with joinedBy := none }) else p),
               lvl := s.lvl.filter (fun p => p.2 != t) }
    | .running => s
  | none => s

/-- first target registration of thread `c`: `StartedWaitFor` = `Stop(); StartWaiting(); vm->Suspend()` -/
def startedWaitFor (s : St) (c : Tid) : St :=
  let s := stopThread s c
  { s with threads := upd s.threads c (fun th =>
      { th with ts := .waiting, vs := if th.vs == .running then .suspended else th.vs }) }

/-- entry of `ScriptVM::Execute`: `state = Idling; ScriptExecutionStack executionStack; state = Running;
    nextTime = maxExecTime ? GetTime() + maxExecTime : 0;` then the first line of `Process` -/
def enterVM (E : Env) (s : St) (t : Tid) : St :=
  if s.depth > E.cfg.maxDepth then
    -- the constructor throws before the increment; no destructor will run; outside Execute's try
    { s with threads := upd s.threads t (fun th => { th with vs := .idling }), exc := some .depth }
  else
    let s := { s with depth := s.depth + 1, threads := upd s.threads t (fun th => { th with vs := .running }) }
    if E.cfg.maxExec ≠ 0 then
      let dl := s.now + E.cfg.maxExec
      let s := tick E s
      let ct := s.now
      let s := tick E s
      { s with stack := .vm t dl ct false 0 :: s.stack }
    else
      let ct := s.now
      let s := tick E s
      { s with stack := .vm t 0 ct false 0 :: s.stack }

/-- body of `ScriptExecuteInternal` up to and including the call of `vm->Execute` -/
def enterSei (E : Env) (s : St) (t : Tid) : St :=
  let saved := s.cur
  let s := { s with prev := s.cur, cur := some t }
  let s := stopThread s t
  enterVM E { s with stack := .sei t saved :: s.stack } t

/-- `new ScriptThread` at `label` -/
def newThread (s : St) (label : Nat) (grp : Option Nat) (joinedBy : Option Tid) : Tid × St :=
  (s.nextTid, { s with threads := s.threads ++ [(s.nextTid, { label := label, grp := grp.getD s.nextTid, joinedBy := joinedBy })],
                       nextTid := s.nextTid + 1 })

/-- `delete thread` from inside its own `end`: `~ScriptThread`, `NotifyDelete`, `~Listener`
    (`Unregister(0)` re-times the `waitthread` caller), and every `SafePtr` to it becomes null -/
def endThread (s : St) (t : Tid) : St :=
  match find s.threads t with
  | none => s
  | some th =>
    let s := stopThread s t
    let s := { s with threads := del s.threads t,
                      cur := if s.cur == some t then none else s.cur,
                      prev := if s.prev == some t then none else s.prev }
    match th.joinedBy with
    | some p =>
      match find s.threads p with
      | some pt =>
        if pt.ts == .waiting then
          -- StoppedWaitFor(0) → StartTiming(): Stop(); Timing; AddTiming(this, 0)
          let s := stopThread s p
          { s with threads := upd s.threads p (fun x => { x with ts := .timing }),
                   timer := s.timer.add p s.scaled }
        else s
      | none => s
    | none => s

/-- `HandleScriptExceptionAbort(info); throw;` followed by `~ScriptExecutionStack`
    (what it writes to the Verbose / Error streams: `diagOf`) -/
def vmAbort (s : St) (t : Tid) (rest : List Frame) : St :=
  { s with threads := upd s.threads t (fun th => { th with vs := .idling }),
           depth := s.depth - 1, stack := rest }

/-- `catch (CommandOverflow&)` with protection off: log (`diagOf`), new deadline, `Process` again -/
def vmExtend (E : Env) (s : St) (t : Tid) (rest : List Frame) : St :=
  let dl := s.now + E.cfg.maxExec
  let s := tick E s
  let ct := s.now
  let s := tick E s
  { s with exc := none, stack := .vm t dl ct false 0 :: rest }

/-- leaving `ScriptVM::Execute` normally: `Suspended → Idling`, `Destroyed → delete this`,
    then `~ScriptExecutionStack` -/
def exitVM (s : St) (t : Tid) (rest : List Frame) : St :=
  { s with threads := upd s.threads t (fun th => { th with vs := if th.vs == .suspended then .idling else th.vs }),
           depth := s.depth - 1, stack := rest }

/-- `ScriptMaster::ExecuteRunning` as a tail of the frame list `rest` -/
def execRunningCall (s : St) (rest : List Frame) : St :=
  if s.cur.isSome || s.depth > 0 then { s with stack := rest }
  else if s.timer.dirty then { s with stack := .execRunning :: rest }
  else { s with stack := rest }

/-- the handler of the top frame `f` for the in-flight exception `e` -/
def unwindFrame (E : Env) (s : St) (e : Exc) (f : Frame) (rest : List Frame) : St :=
  match f with
  | .vm t dl _ _ n =>
    match e with
    | .overflow => if E.cfg.prot then vmAbort s t rest else vmExtend E s t rest
    | .scriptError =>
      -- catch (ScriptExceptionBase&) { HandleScriptException } ; while (!doneProcessing) → Process again
      let ct := s.now
      let s := tick E s
      { s with exc := none, stack := .vm t dl ct false n :: rest }
    | _ => vmAbort s t rest
  | .sei t saved =>
    -- catch (...) { m_CurrentThread = currentThread; m_PreviousThread = previousThread; throw; }
    { s with cur := safe s saved, prev := safe s (some t), stack := rest }
  | .thrExec =>
    -- catch (ScriptAbortExceptionBase&) { throw; } catch (ScriptException&) {}
    if e.isAbort then { s with stack := rest } else { s with exc := none, stack := rest }
  | .notify _ => { s with stack := rest }
  | .execRunning =>
    -- catch (...) { m_CurrentThread = nullptr; throw; }
    { s with cur := none, stack := rest }
  | .ctxExec => { s with stack := rest }

/-- one opcode of thread `t` (record `th`), whose VM frame is `vm t dl ct false n` above `rest` -/
def execOp (E : Env) (s : St) (t : Tid) (th : Thr) (dl ct n : Nat) (rest : List Frame) (op : Op) : St :=
  let me : Frame := .vm t dl ct true (n + 1)
  let adv (s : St) : St := { s with threads := upd s.threads t (fun x => { x with pc := th.pc + 1 }) }
  match op with
  | .nop => { adv s with stack := me :: rest }
  | .jmp pc => { s with threads := upd s.threads t (fun x => { x with pc := pc }), stack := me :: rest }
  | .setc k => { s with threads := upd s.threads t (fun x => { x with pc := th.pc + 1, cnt := k }), stack := me :: rest }
  | .loopTest ex =>
    if th.cnt = 0 then { s with threads := upd s.threads t (fun x => { x with pc := ex }), stack := me :: rest }
    else { s with threads := upd s.threads t (fun x => { x with pc := th.pc + 1, cnt := th.cnt - 1 }), stack := me :: rest }
  | .print _ => { adv s with stack := me :: rest }
  | .raise ab => { adv s with stack := me :: rest, exc := some (if ab then .abort else .scriptError) }
  | .done => { endThread s t with stack := me :: rest }
  | .wait ms =>
    -- Wait: StartTiming(ms) = Stop(); Timing; AddTiming; then vm->Suspend()
    let s := stopThread (adv s) t
    { s with threads := upd s.threads t (fun x => { x with ts := .timing, vs := .suspended }),
             timer := s.timer.add t (s.scaled + ms), stack := me :: rest }
  | .waittill name =>
    -- Listener::WaitTill: Register(name, Director.CurrentThread())
    match s.cur with
    | none => setUb s
    | some c =>
      let s := adv s
      let s := { s with lvl := s.lvl ++ [(name, c)] }
      { startedWaitFor s c with stack := me :: rest }
  | .notify name =>
    -- Listener::Unregister(name): waiters leave the tables first, then are resumed in registration order
    let ws := (s.lvl.filter (fun p => p.1 == name)).map (·.2)
    let s := adv s
    { s with lvl := s.lvl.filter (fun p => p.1 != name), stack := .notify ws :: me :: rest }
  | .spawn label w =>
    -- CreateThreadInternal dereferences Director.CurrentThread()
    match s.cur with
    | none => setUb s
    | some c =>
      if label < E.prog.length then
        let s := adv s
        -- `thread`: ScriptClass::CreateThreadInternal (same group); `waitthread`: Listener::CreateThreadInternal (new ScriptClass)
        let (child, s) := newThread s label (if w then none else some th.grp) (if w then some c else none)
        let s := if w then startedWaitFor s c else s
        enterSei E { s with stack := me :: rest } child
      else
        -- LabelNotFound is a ScriptException
        { adv s with stack := me :: rest, exc := some .scriptError }

/-- normal execution of the top frame `f` -/
def runFrame (E : Env) (s : St) (f : Frame) (rest : List Frame) : St :=
  match f with
  | .vm t dl ct post n =>
    if post then
      -- `if (interruptTime && cmdTime >= interruptTime && state == Running) throw CommandOverflow();`
      if dl ≠ 0 ∧ ct ≥ dl ∧ vmRunning s t = true then { s with exc := some .overflow }
      else
        -- `cmdTime = GetTime();`
        let ct' := s.now
        let s := tick E s
        { s with stack := .vm t dl ct' false n :: rest }
    else
      match find s.threads t with
      | none => exitVM s t rest
      | some th =>
        if th.vs ≠ .running then exitVM s t rest
        else execOp E s t th dl ct n rest (((E.prog.getD th.label []).getD th.pc .done))
  | .sei t saved =>
    -- restore, then `Director.ExecuteRunning()`
    let s := { s with cur := safe s saved, prev := safe s (some t) }
    execRunningCall s rest
  | .thrExec => { s with stack := rest }
  | .notify pending =>
    match pending with
    | [] => { s with stack := rest }
    | w :: ws =>
      let s := { s with stack := .notify ws :: rest }
      match find s.threads w with
      | none => s                       -- weak reference already cleared
      | some wt =>
        -- StoppedWaitFor(name ≠ 0, false)
        if wt.ts == .waiting then
          if wt.vs == .idling then enterSei E { s with stack := .thrExec :: s.stack } w
          else { s with threads := upd s.threads w (fun x => { x with vs := if x.vs == .suspended then .running else x.vs }) }
        else s
  | .execRunning =>
    -- `while ((m_CurrentThread = timerList.GetNextElement(i))) { try { Resume(); } … }`
    match s.timer.next with
    | (none, tm) => { s with cur := none, timer := tm, stack := rest }
    | (some (t, _), tm) =>
      if alive s t then
        let s := { s with cur := some t, timer := tm, threads := upd s.threads t (fun x => { x with ts := .running }) }
        enterVM E s t
      else setUb s                      -- a timer element is a raw pointer
  | .ctxExec => { s with stack := rest }

/-- What the step taken from `s` writes to the streams.  Every write in the transcribed code has the
    form `if (stream) *stream << …` (after fixes e689d04, 56147d9) and no other effect, so the
    transition function `step` below does not read the stream flags at all; the guards are here.
    * `HandleScriptExceptionAbort`: Verbose "----FRAME: <depth>", Error source position (developer mode)
    * `catch (CommandOverflow&)` with protection off: Debug "Update of script position"
    * `HandleScriptException`: Warn "^~^~^ Script Warning"
    * `println`: Output -/
def diagOf (E : Env) (s : St) : List Diag :=
  if s.ub then [] else
  match s.stack, s.exc with
  | .vm _ _ _ _ _ :: _, some .overflow =>
    if E.cfg.prot then
      (if E.cfg.sVerb then [.verbFrame s.depth] else []) ++ (if E.cfg.sErr && E.cfg.dev then [.errPos] else [])
    else (if E.cfg.sDbg then [.dbgUpdate] else [])
  | .vm _ _ _ _ _ :: _, some .scriptError => if E.cfg.sWarn then [.warn] else []
  | .vm _ _ _ _ _ :: _, some _ =>
    (if E.cfg.sVerb then [.verbFrame s.depth] else []) ++ (if E.cfg.sErr && E.cfg.dev then [.errPos] else [])
  | .vm t _ _ false _ :: _, none =>
    match find s.threads t with
    | some th =>
      if th.vs == .running then
        match (E.prog.getD th.label []).getD th.pc .done with
        | .print m => if E.cfg.sOut then [.out m] else []
        | _ => []
      else []
    | none => []
  | _, _ => []

def step (E : Env) (s : St) : St :=
  if s.ub then s else
  match s.stack with
  | [] => s
  | f :: rest =>
    match s.exc with
    | some e => unwindFrame E s e f rest
    | none => runFrame E s f rest

def run (E : Env) : Nat → St → St
  | 0, s => s
  | k + 1, s => run E k (step E s)

def halted (s : St) : Bool := s.stack.isEmpty || s.ub

/-- the machine together with what it has written to the streams -/
def stepD (E : Env) (x : St × List Diag) : St × List Diag := (step E x.1, x.2 ++ diagOf E x.1)

def runD (E : Env) : Nat → St × List Diag → St × List Diag
  | 0, x => x
  | k + 1, x => runD E k (stepD E x)

/-! ### host operations (each starts in a halted state and pushes the outermost frames) -/

/-- `ScriptMaster::ExecuteThread(script, Event, label)`: `CreateScriptThread`, then `thread->Execute(parms)` -/
def startCall (E : Env) (s : St) (label : Nat) : St :=
  let s := { s with exc := none }
  let (t, s) := newThread s label none none
  enterSei E { s with stack := [.thrExec] } t

/-- `ScriptContext::Execute()`: `Frame()`, `SetTime(GetTime())`, `ProcessPendingEvents()`, `ExecuteRunning()` -/
def startExecute (E : Env) (s : St) : St :=
  let s := { s with exc := none }
  let r1 := s.now
  let s := tick E s
  let s := { s with scaled := s.scaled + (r1 - s.last), last := r1 }
  let r2 := s.now
  let s := tick E s
  let s := { s with timer := s.timer.setTime (r2 - s.start) }
  let s := tick E s            -- ProcessPendingEvents reads the clock; the queue is empty in this class
  execRunningCall s [.ctxExec]

/-- `ScriptMaster::Reset()`: every instance, thread and VM is destroyed; the `SafePtr`s become null;
    `ScriptExecutionStack::stackDepth` is a thread_local static and is *not* touched -/
def resetDirector (s : St) : St :=
  { s with exc := none, threads := [], timer := { s.timer with elems := [] }, lvl := [], cur := none, prev := none }

/-- a fresh `ScriptContext` (harness `c14reset`): new director, new `TimeManager` (reads the clock) -/
def fresh (E : Env) (s : St) : St :=
  let s' : St := { depth := s.depth, now := s.now, reads := s.reads, start := s.now, last := s.now }
  tick E s'

/-- run to completion with fuel; `none` = still running (the host call did not return) -/
def runToHalt (E : Env) : Nat → St × List Diag → Option (St × List Diag)
  | 0, x => if halted x.1 then some x else none
  | k + 1, x => if halted x.1 then some x else runToHalt E k (stepD E x)

end Morfuse.Unwind
