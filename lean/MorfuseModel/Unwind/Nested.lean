import MorfuseModel.Unwind.Lemmas
import MorfuseModel.Common.Assoc
/-!
# Unwind model — the class of programs that nest (thread chains, mutual recursion) and its invariant `GoodS`

Class `Nest prog` (decidable, syntactic): every opcode is `nop`, a jump, a counter opcode, `println`, `end`,
`error "x" 1` (abort), `thread l` with a valid label or `wait d` (its delay is constrained by `WaitOK`:
not due before the next frame) — no `waitthread`, `waittill`, `notify`
(nothing that re-times a thread or wakes another one), no recoverable `error "x"`.
-/
namespace Morfuse.Unwind

def GOp (nlabels : Nat) : Op → Bool
  | .nop => true
  | .jmp _ => true
  | .setc _ => true
  | .loopTest _ => true
  | .print _ => true
  | .done => true
  | .wait _ => true
  | .raise ab => ab
  | .spawn l w => !w && decide (l < nlabels)
  | _ => false

def Nest (prog : Prog) : Bool := prog.all (fun code => code.all (GOp prog.length))

/-- past the end of a label, or at a label that does not exist, the fetch yields `end`: hence `hd` -/
theorem fetch_all {p : Op → Bool} {prog : Prog} (h : prog.all (fun code => code.all p) = true) (hd : p .done = true)
    (l pc : Nat) : p ((prog.getD l []).getD pc .done) = true := by
  have hmem : ∀ (c : List Op), (∀ op ∈ c, p op = true) → p (c.getD pc .done) = true := by
    intro c hc
    rw [List.getD_eq_getElem?_getD]
    cases hx : c[pc]? with
    | none => exact hd
    | some op => exact hc op (List.mem_of_getElem? hx)
  apply hmem
  rw [List.getD_eq_getElem?_getD]
  cases hx : prog[l]? with
  | none => simp
  | some c => exact List.all_eq_true.1 (List.all_eq_true.1 h c (List.mem_of_getElem? hx))

theorem nest_op {prog : Prog} (h : Nest prog = true) (l pc : Nat) :
    GOp prog.length ((prog.getD l []).getD pc .done) = true :=
  fetch_all h rfl l pc

def NoJoin (l : List (Tid × Thr)) : Prop := ∀ p ∈ l, p.2.joinedBy = none

theorem nojoin_upd {l : List (Tid × Thr)} (h : NoJoin l) (t : Tid) (f : Thr → Thr)
    (hf : ∀ x, (f x).joinedBy = x.joinedBy) : NoJoin (upd l t f) := by
  intro p hp
  unfold upd at hp
  obtain ⟨q, hq, rfl⟩ := List.mem_map.mp hp
  split
  · exact (hf _).trans (h q hq)
  · exact h q hq

theorem nojoin_del {l : List (Tid × Thr)} (h : NoJoin l) (t : Tid) : NoJoin (del l t) := by
  intro p hp
  exact h p (List.mem_filter.mp hp).1

theorem nojoin_append {l : List (Tid × Thr)} (h : NoJoin l) (t : Tid) (th : Thr) (ht : th.joinedBy = none) :
    NoJoin (l ++ [(t, th)]) := by
  intro p hp
  rcases List.mem_append.mp hp with hp | hp
  · exact h p hp
  · simp at hp; subst hp; exact ht

theorem stopThread_nojoin {s : St} (h : NoJoin s.threads) (t : Tid) : NoJoin (stopThread s t).threads := by
  unfold stopThread
  split
  · split
    · dsimp only; exact nojoin_upd h _ _ fun _ => rfl
    · intro p hp
      simp only at hp
      obtain ⟨q, hq, rfl⟩ := List.mem_map.mp hp
      have := nojoin_upd h t (fun th => { th with ts := TState.running }) (fun _ => rfl) q hq
      split
      · rfl
      · exact this
    · exact h
  · exact h

theorem Enters.nojoin {E : Env} {s s' : St} {t : Tid} (h : Enters E s t s') (hj : NoJoin s.threads) : NoJoin s'.threads := by
  cases h <;> (dsimp only; exact nojoin_upd hj _ _ fun _ => rfl)

theorem enterSei_nojoin (E : Env) {s : St} (h : NoJoin s.threads) (t : Tid) : NoJoin (enterSei E s t).threads :=
  (enters_enterSei E s t).nojoin (stopThread_nojoin (s := { s with prev := s.cur, cur := some t }) h t)

theorem endThread_nojoin {s : St} (h : NoJoin s.threads) (t : Tid) : NoJoin (endThread s t).threads := by
  unfold endThread
  split
  · exact h
  · rename_i th hth
    have ha := Assoc.mem_of_find hth
    have hj : th.joinedBy = none := h _ ha
    simp only [hj]
    exact nojoin_del (stopThread_nojoin h t) t

theorem stopThread_timer_eq (s : St) (t : Tid) :
    (stopThread s t).timer = s.timer ∨ (stopThread s t).timer = s.timer.remove t := by
  unfold stopThread
  split <;> (try split) <;> first | exact .inl rfl | exact .inr rfl

theorem stopThread_timer (s : St) (t : Tid) : (stopThread s t).timer.elems.length ≤ s.timer.elems.length := by
  rcases stopThread_timer_eq s t with e | e <;> rw [e]
  · exact Nat.le_refl _
  · simp only [Sched.Timer.remove]
    split
    · simp [List.length_eraseIdx]; split <;> omega
    · exact Nat.le_refl _

/-- with no `waitthread` caller registered, `delete thread` re-times nobody -/
theorem endThread_timer_eq {s : St} (h : NoJoin s.threads) (t : Tid) :
    (endThread s t).timer = s.timer ∨ (endThread s t).timer = (stopThread s t).timer := by
  unfold endThread
  split
  · exact .inl rfl
  · rename_i th hth
    have ha := Assoc.mem_of_find hth
    have hj : th.joinedBy = none := h _ ha
    simp only [hj, or_true]

theorem endThread_timer {s : St} (h : NoJoin s.threads) (t : Tid) :
    (endThread s t).timer.elems.length ≤ s.timer.elems.length := by
  rcases endThread_timer_eq h t with e | e <;> rw [e]
  · exact Nat.le_refl _
  · exact stopThread_timer s t

/-- below the top: no notify loop, every VM frame is in the middle of an instruction -/
def lowOK : List Frame → Prop
  | [] => True
  | .vm _ _ _ post _ :: r => post = true ∧ lowOK r
  | .notify _ :: _ => False
  | .thrExec :: r => lowOK r
  | .sei _ _ :: r => lowOK r
  | .execRunning :: r => lowOK r
  | .ctxExec :: r => lowOK r

def topOK : Frame → Prop
  | .notify _ => False
  | _ => True

def StackG : List Frame → Prop
  | [] => True
  | f :: r => topOK f ∧ lowOK r

theorem lowOK_stackG : ∀ {l : List Frame}, lowOK l → StackG l
  | [], _ => trivial
  | f :: _, h => by cases f <;> first | exact h.elim | exact ⟨trivial, h.2⟩ | exact ⟨trivial, h⟩

structure GoodS (s : St) : Prop where
  stack : StackG s.stack
  nojoin : NoJoin s.threads
  exc : ∀ e, s.exc = some e → e.isAbort = true

theorem Enters.good {E : Env} {s s' : St} {t : Tid} (h : Enters E s t s') (hl : lowOK s.stack) (hj : NoJoin s.threads)
    (he : s.exc = none) : GoodS s' := by
  refine ⟨?_, h.nojoin hj, ?_⟩ <;> cases h
  case refused => exact lowOK_stackG hl
  case refused => intro e he'; cases he'; rfl
  case limited | unlimited => exact ⟨trivial, hl⟩
  case limited | unlimited => intro e he'; rw [show s.exc = _ from he'] at he; cases he

theorem enterSei_good (E : Env) (s : St) (t : Tid) (hl : lowOK s.stack) (hj : NoJoin s.threads) (he : s.exc = none) :
    GoodS (enterSei E s t) :=
  (enters_enterSei E s t).good hl (stopThread_nojoin (s := { s with prev := s.cur, cur := some t }) hj t) he

theorem endThread_exc' (s : St) (t : Tid) : (endThread s t).exc = s.exc := endThread_exc s t

theorem Exec.good {E : Env} {s s' : St} {t : Tid} {th : Thr} {k : List Frame} {op : Op} (h : Exec E s t th k op s')
    (hop : GOp E.prog.length op = true) (hk : lowOK k) (hexc : s.exc = none) (hs : GoodS s) : GoodS s' := by
  have hme : StackG k := lowOK_stackG hk
  have adv : NoJoin (upd s.threads t fun x => { x with pc := th.pc + 1 }) := nojoin_upd hs.nojoin _ _ fun _ => rfl
  cases h
  case plain g hg => exact ⟨hme, nojoin_upd hs.nojoin _ g hg, hs.exc⟩
  case raise ab => cases show ab = true from hop; exact ⟨hme, adv, fun e he => by cases he; rfl⟩
  case done hD => subst hD; exact ⟨hme, endThread_nojoin hs.nojoin t, hs.exc⟩
  case wait hD =>
    subst hD
    refine ⟨hme, ?_, hs.exc⟩
    dsimp only; exact nojoin_upd (stopThread_nojoin (s := { s with threads := _ }) adv t) _ _ fun _ => rfl
  case thread => exact enterSei_good E _ _ hk (nojoin_append adv _ _ rfl) hexc
  case ub => exact ⟨hs.stack, hs.nojoin, hs.exc⟩
  case badLabel hl => simp [GOp, hl] at hop
  case waittill | notify | waitthread => cases hop

theorem step_good (E : Env) (hcls : Nest E.prog = true) (hp : E.cfg.prot = true) (s : St) (h : GoodS s) : GoodS (step E s) := by
  refine step_cases E s (fun _ => h) (fun e f rest s' _ hst he hu => ?_) (fun f rest s' _ hst hn hr => ?_)
  all_goals
    have hsg := h.stack
    rw [hst] at hsg
    have hlow : lowOK rest := hsg.2
    have hrest : StackG rest := lowOK_stackG hlow
  · have ha := h.exc e he
    cases hu
    case abort => exact ⟨hrest, by dsimp only [vmAbort]; exact nojoin_upd h.nojoin _ _ fun _ => rfl, h.exc⟩
    case sei | sched | pass => exact ⟨hrest, h.nojoin, h.exc⟩
    case extend hp' => rw [hp] at hp'; cases hp'
    case recover => cases ha
    case swallow ha' => rw [ha] at ha'; cases ha'
  · have hnone : ∀ e, (none : Option Exc) = some e → e.isAbort = true := nofun
    cases hr
    case fire => exact ⟨hst ▸ hsg, h.nojoin, fun e he => by cases he; rfl⟩
    case check | seiSched => exact ⟨⟨trivial, hlow⟩, h.nojoin, hn ▸ hnone⟩
    case exit => exact ⟨hrest, by dsimp only [exitVM]; exact nojoin_upd h.nojoin _ _ fun _ => rfl, hn ▸ hnone⟩
    case exec hx => exact hx.good (nest_op hcls _ _) ⟨rfl, hlow⟩ hn h
    case seiRet | ret | schedEmpty => exact ⟨hrest, h.nojoin, hn ▸ hnone⟩
    case notifySkip | notifyEnter | notifyResume => exact hsg.1.elim
    case schedResume =>
      exact (enters_enterVM ..).good (hst ▸ hlow) (by dsimp only; exact nojoin_upd h.nojoin _ _ fun _ => rfl) hn
    case dangling => exact ⟨hst ▸ hsg, h.nojoin, h.exc⟩

end Morfuse.Unwind
