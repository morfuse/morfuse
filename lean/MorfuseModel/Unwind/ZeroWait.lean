import MorfuseModel.Unwind.Start
/-!
# Unwind model — `l0: wait 0; goto l0` never returns to the host (cycle invariant)

One round of the loop passes through seven state shapes (`ZW`): the thread executes `wait 0` (it is re-timed
as due and its VM suspended), the time check after it is skipped (VM not running), `ScriptVM::Execute`
returns, `ScriptExecuteInternal` (first round) resp. the `ExecuteRunning` loop (later rounds) finds the timer
list dirty with the thread due, resumes it with a **fresh deadline**, the thread executes the jump, passes its
time check, and is back at `wait 0`.  The machine is not periodic (the clock differs in every round); the
invariant abstracts from the clock except for "the check after the jump passes", which needs one clock
increment to be smaller than the limit.
-/
namespace Morfuse.Unwind
open Morfuse.Sched

def zwCode : List Op := [.wait 0, .jmp 0]

def ThrIs (s : St) (t : Tid) (pc : Nat) (ts : TState) (vs : VState) : Prop :=
  ∃ th, find s.threads t = some th ∧ th.label = 0 ∧ th.pc = pc ∧ th.ts = ts ∧ th.vs = vs

def Base (t : Tid) (B : List Frame) : Prop := B = [.sei t none, .thrExec] ∨ B = [.execRunning, .thrExec]

theorem next_single (tm : Timer) (t d : Nat) (he : tm.elems = [(t, d)]) (hd : d ≤ tm.mtime) :
    tm.next = (some (t, d), { tm with elems := [] }) := by
  simp [Timer.next, Timer.indexed, Timer.scan, he, hd]

inductive ZW (t : Tid) : St → Prop
  | fetchWait (s : St) (dl ct n : Nat) (B : List Frame) (hu : s.ub = false) (he : s.exc = none)
      (hs : s.scaled ≤ s.timer.mtime) (hB : Base t B) (hst : s.stack = .vm t dl ct false n :: B)
      (hth : ThrIs s t 0 .running .running) (htm : s.timer.elems = []) (hd : s.depth = 1) : ZW t s
  | postWait (s : St) (dl ct n : Nat) (B : List Frame) (hu : s.ub = false) (he : s.exc = none)
      (hs : s.scaled ≤ s.timer.mtime) (hB : Base t B) (hst : s.stack = .vm t dl ct true n :: B)
      (hth : ThrIs s t 1 .timing .suspended) (htm : s.timer.elems = [(t, s.scaled)]) (hdy : s.timer.dirty = true)
      (hd : s.depth = 1) : ZW t s
  | fetchSusp (s : St) (dl ct n : Nat) (B : List Frame) (hu : s.ub = false) (he : s.exc = none)
      (hs : s.scaled ≤ s.timer.mtime) (hB : Base t B) (hst : s.stack = .vm t dl ct false n :: B)
      (hth : ThrIs s t 1 .timing .suspended) (htm : s.timer.elems = [(t, s.scaled)]) (hdy : s.timer.dirty = true)
      (hd : s.depth = 1) : ZW t s
  | seiRet (s : St) (hu : s.ub = false) (he : s.exc = none) (hs : s.scaled ≤ s.timer.mtime)
      (hst : s.stack = [.sei t none, .thrExec]) (hth : ThrIs s t 1 .timing .idling)
      (htm : s.timer.elems = [(t, s.scaled)]) (hdy : s.timer.dirty = true) (hd : s.depth = 0) : ZW t s
  | execLoop (s : St) (hu : s.ub = false) (he : s.exc = none) (hs : s.scaled ≤ s.timer.mtime)
      (hst : s.stack = [.execRunning, .thrExec]) (hth : ThrIs s t 1 .timing .idling)
      (htm : s.timer.elems = [(t, s.scaled)]) (hd : s.depth = 0) : ZW t s
  | fetchJmp (s : St) (dl ct n : Nat) (hu : s.ub = false) (he : s.exc = none) (hs : s.scaled ≤ s.timer.mtime)
      (hst : s.stack = [.vm t dl ct false n, .execRunning, .thrExec]) (hth : ThrIs s t 1 .running .running)
      (htm : s.timer.elems = []) (hd : s.depth = 1) (hok : dl = 0 ∨ ct < dl) : ZW t s
  | postJmp (s : St) (dl ct n : Nat) (hu : s.ub = false) (he : s.exc = none) (hs : s.scaled ≤ s.timer.mtime)
      (hst : s.stack = [.vm t dl ct true n, .execRunning, .thrExec]) (hth : ThrIs s t 0 .running .running)
      (htm : s.timer.elems = []) (hd : s.depth = 1) (hok : dl = 0 ∨ ct < dl) : ZW t s

theorem zw_not_halted {t : Tid} {s : St} (h : ZW t s) : halted s = false := by
  cases h <;> simp [halted, *]

theorem zw_step (E : Env) (hprog : E.prog.getD 0 [] = zwCode)
    (hsmall : ∀ i, E.cfg.maxExec = 0 ∨ E.inc i < E.cfg.maxExec) (t : Tid) (s : St) (h : ZW t s) :
    ZW t (step E s) := by
  cases h with
  | fetchWait dl ct n B hu he hs hB hst hth htm hd =>
    obtain ⟨th, h1, h2, h3, h4, h5⟩ := hth
    have hop : (E.prog.getD th.label []).getD th.pc Op.done = .wait 0 := by rw [h2, hprog, h3]; rfl
    have hf1 := find_upd_self s.threads t (fun x => { x with pc := th.pc + 1 }) th h1
    have hstop : stopThread { s with threads := upd s.threads t (fun x => { x with pc := th.pc + 1 }) } t =
        { s with threads := upd s.threads t (fun x => { x with pc := th.pc + 1 }) } :=
      stopThread_running _ t _ hf1 h4
    rw [step_exec hu hst he h1 h5, hop]
    simp only [execOp]
    rw [hstop]
    refine .postWait _ dl ct (n + 1) B hu he ?_ hB rfl ?_ ?_ ?_ hd
    · simpa [Timer.add] using hs
    · exact ⟨_, find_upd_self _ t (fun x => { x with ts := TState.timing, vs := VState.suspended }) _ hf1, h2, by simp [h3], rfl, rfl⟩
    · simp [Timer.add, htm]
    · simp [Timer.add, hs]
  | postWait dl ct n B hu he hs hB hst hth htm hdy hd =>
    obtain ⟨th, h1, h2, h3, h4, h5⟩ := hth
    rw [step_check hu hst he (by simp [vmRunning, h1, h5])]
    exact .fetchSusp _ dl s.now n B hu he hs hB rfl ⟨th, h1, h2, h3, h4, h5⟩ htm hdy hd
  | fetchSusp dl ct n B hu he hs hB hst hth htm hdy hd =>
    obtain ⟨th, h1, h2, h3, h4, h5⟩ := hth
    have hthr : ThrIs (exitVM s t B) t 1 .timing .idling :=
      ⟨_, find_upd_self s.threads t (fun x => { x with vs := if x.vs == VState.suspended then VState.idling else x.vs }) th h1, h2, h3, h4, by simp [h5]⟩
    rw [step_exit hu hst he (by simp [vmRunning, h1, h5])]
    rcases hB with hB | hB
    · subst hB
      exact .seiRet _ hu he hs rfl hthr htm hdy (by simp [exitVM, hd])
    · subst hB
      exact .execLoop _ hu he hs rfl hthr htm (by simp [exitVM, hd])
  | seiRet hu he hs hst hth htm hdy hd =>
    rw [step_seiSched hu hst he rfl hd hdy]
    exact .execLoop _ hu he hs rfl hth htm hd
  | execLoop hu he hs hst hth htm hd =>
    obtain ⟨th, h1, h2, h3, h4, h5⟩ := hth
    have hnext := next_single s.timer t s.scaled htm hs
    have hal : alive s t = true := by simp [alive, h1]
    have hnd : ¬ s.depth > E.cfg.maxDepth := by omega
    have hf1 := find_upd_self s.threads t (fun x => { x with ts := TState.running }) th h1
    rw [step_schedResume hu hst he hnext hal]
    unfold enterVM
    simp only [hnd, if_false]
    by_cases hL : E.cfg.maxExec ≠ 0
    · rw [if_pos hL]
      refine .fetchJmp _ (s.now + E.cfg.maxExec) (s.now + E.inc s.reads) 0 hu he (by simpa [tick] using hs) (by simp [tick, hst]) ?_ (by simp [tick]) (by simp [tick, hd]) ?_
      · exact ⟨_, find_upd_self _ t (fun x => { x with vs := VState.running }) _ hf1, h2, h3, rfl, rfl⟩
      · right
        rcases hsmall s.reads with h0 | h0
        · exact absurd h0 hL
        · omega
    · rw [if_neg hL]
      refine .fetchJmp _ 0 s.now 0 hu he (by simpa [tick] using hs) (by simp [tick, hst]) ?_ (by simp [tick]) (by simp [tick, hd]) (Or.inl rfl)
      exact ⟨_, find_upd_self _ t (fun x => { x with vs := VState.running }) _ hf1, h2, h3, rfl, rfl⟩
  | fetchJmp dl ct n hu he hs hst hth htm hd hok =>
    obtain ⟨th, h1, h2, h3, h4, h5⟩ := hth
    have hop : (E.prog.getD th.label []).getD th.pc Op.done = .jmp 0 := by rw [h2, hprog, h3]; rfl
    rw [step_exec hu hst he h1 h5, hop]
    simp only [execOp]
    exact .postJmp _ dl ct (n + 1) hu he hs rfl ⟨_, find_upd_self s.threads t (fun x => { x with pc := 0 }) th h1, h2, rfl, h4, h5⟩ htm hd hok
  | postJmp dl ct n hu he hs hst hth htm hd hok =>
    rw [step_check hu hst he fun c => by omega]
    exact .fetchWait _ dl s.now n [.execRunning, .thrExec] hu he hs (Or.inr rfl) rfl hth htm hd

theorem zw_run (E : Env) (hprog : E.prog.getD 0 [] = zwCode)
    (hsmall : ∀ i, E.cfg.maxExec = 0 ∨ E.inc i < E.cfg.maxExec) (t : Tid) :
    ∀ (k : Nat) (s : St), ZW t s → ZW t (run E k s) :=
  run_invariant E (zw_step E hprog hsmall t)

theorem zw_start (E : Env) (s0 : St) (hfresh : find s0.threads s0.nextTid = none) (hd : s0.depth = 0)
    (hub : s0.ub = false) (hc : s0.cur = none) (htm : s0.timer.elems = []) (hs : s0.scaled ≤ s0.timer.mtime) :
    ZW s0.nextTid (startCall E s0 0) := by
  obtain ⟨dl, ct, now', reads', h⟩ := startCall_eq E s0 0 hfresh (by omega)
  rw [h]
  exact .fetchWait _ dl ct 0 [.sei s0.nextTid none, .thrExec] hub rfl hs (.inl rfl) (by rw [hc])
    ⟨_, find_upd_self _ s0.nextTid (fun th => { th with vs := .running }) _
      (find_append_new s0.threads s0.nextTid _ hfresh), rfl, rfl, rfl, rfl⟩ htm (by simp [hd])

end Morfuse.Unwind
