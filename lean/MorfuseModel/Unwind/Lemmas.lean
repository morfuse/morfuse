import MorfuseModel.Unwind.Model
import MorfuseModel.Common.Assoc
/-!
# Unwind model — the machine as a table of rules, and what every step keeps

`unwindFrame`, `enterVM`, `execOp` and `runFrame` are each described once by an inductive relation: one rule per branch,
the successor state written as an update of `s` in the fields the branch writes (what `stopThread`, `endThread`,
`startedWaitFor` compute stays a name `D`), with the guards that proofs use as hypotheses.  What is proved about every
step is proved by cases on these rules; a field a rule does not name is unchanged by `rfl`.  Four rules apply `enterVM` /
`enterSei` to an updated state, so a fact about `Enters` is used relative to a base state: `R s s1 → R s (enterSei E s1 t)`.
-/
namespace Morfuse.Unwind

theorem find_upd_self (l : List (Tid × Thr)) (t : Tid) (f : Thr → Thr) (th : Thr) (h : find l t = some th) :
    find (upd l t f) t = some (f th) := by
  unfold find upd at *
  rw [Assoc.find_map_at l t (fun p => f p.2) t, if_pos rfl]
  cases hf : l.find? (fun p => p.1 == t) with
  | none => rw [hf] at h; cases h
  | some e => rw [hf] at h; cases h; rfl

theorem find_append_new (l : List (Tid × Thr)) (t : Tid) (th : Thr) (h : find l t = none) :
    find (l ++ [(t, th)]) t = some th := by
  unfold find at *; rw [Assoc.find_append, h, Assoc.find_cons]; simp

theorem stopThread_running (s : St) (t : Tid) (th : Thr) (h : find s.threads t = some th) (hr : th.ts = .running) :
    stopThread s t = s := by
  simp [stopThread, h, hr]

section fields
variable (E : Env) (s : St) (t : Tid)

@[simp] theorem tick_stack : (tick E s).stack = s.stack := rfl
@[simp] theorem tick_exc : (tick E s).exc = s.exc := rfl
@[simp] theorem tick_ub : (tick E s).ub = s.ub := rfl
@[simp] theorem tick_depth : (tick E s).depth = s.depth := rfl
@[simp] theorem tick_cur : (tick E s).cur = s.cur := rfl
@[simp] theorem tick_prev : (tick E s).prev = s.prev := rfl
@[simp] theorem tick_threads : (tick E s).threads = s.threads := rfl
@[simp] theorem tick_timer : (tick E s).timer = s.timer := rfl
@[simp] theorem tick_now : (tick E s).now = s.now + E.inc s.reads := rfl

theorem stopThread_eq : stopThread s t =
    { s with threads := (stopThread s t).threads, timer := (stopThread s t).timer, lvl := (stopThread s t).lvl } := by
  unfold stopThread; split <;> (try split) <;> rfl

@[simp] theorem stopThread_stack : (stopThread s t).stack = s.stack := by rw [stopThread_eq]
@[simp] theorem stopThread_exc : (stopThread s t).exc = s.exc := by rw [stopThread_eq]
@[simp] theorem stopThread_ub : (stopThread s t).ub = s.ub := by rw [stopThread_eq]
@[simp] theorem stopThread_depth : (stopThread s t).depth = s.depth := by rw [stopThread_eq]
@[simp] theorem stopThread_cur : (stopThread s t).cur = s.cur := by rw [stopThread_eq]
@[simp] theorem stopThread_now : (stopThread s t).now = s.now := by rw [stopThread_eq]
@[simp] theorem stopThread_reads : (stopThread s t).reads = s.reads := by rw [stopThread_eq]

theorem startedWaitFor_eq : startedWaitFor s t =
    { s with threads := (startedWaitFor s t).threads, timer := (startedWaitFor s t).timer, lvl := (startedWaitFor s t).lvl } := by
  unfold startedWaitFor; rw [stopThread_eq]

@[simp] theorem startedWaitFor_stack : (startedWaitFor s t).stack = s.stack := stopThread_stack s t
@[simp] theorem startedWaitFor_exc : (startedWaitFor s t).exc = s.exc := stopThread_exc s t
@[simp] theorem startedWaitFor_depth : (startedWaitFor s t).depth = s.depth := stopThread_depth s t
@[simp] theorem startedWaitFor_cur : (startedWaitFor s t).cur = s.cur := stopThread_cur s t
@[simp] theorem startedWaitFor_now : (startedWaitFor s t).now = s.now := stopThread_now s t

theorem endThread_writes : ∃ ths tm lv c p, (c = s.cur ∨ c = none) ∧
    endThread s t = { s with threads := ths, timer := tm, lvl := lv, cur := c, prev := p } := by
  unfold endThread
  split
  · exact ⟨s.threads, s.timer, s.lvl, s.cur, s.prev, .inl rfl, rfl⟩
  · rw [stopThread_eq]
    generalize (stopThread s t).threads = ths
    generalize (stopThread s t).timer = tm
    generalize (stopThread s t).lvl = lv
    have hc : (if s.cur == some t then none else s.cur) = s.cur ∨ (if s.cur == some t then none else s.cur) = none := by
      split
      · exact .inr rfl
      · exact .inl rfl
    dsimp only
    split
    · split
      · split
        · rw [stopThread_eq]
          exact ⟨_, _, _, _, _, hc, rfl⟩
        · exact ⟨_, _, _, _, _, hc, rfl⟩
      · exact ⟨_, _, _, _, _, hc, rfl⟩
    · exact ⟨_, _, _, _, _, hc, rfl⟩

theorem endThread_eq : endThread s t =
    { s with threads := (endThread s t).threads, timer := (endThread s t).timer, lvl := (endThread s t).lvl,
             cur := (endThread s t).cur, prev := (endThread s t).prev } := by
  obtain ⟨_, _, _, _, _, _, h⟩ := endThread_writes s t
  rw [h]

@[simp] theorem endThread_stack : (endThread s t).stack = s.stack := by rw [endThread_eq]
@[simp] theorem endThread_exc : (endThread s t).exc = s.exc := by rw [endThread_eq]
@[simp] theorem endThread_ub : (endThread s t).ub = s.ub := by rw [endThread_eq]
@[simp] theorem endThread_depth : (endThread s t).depth = s.depth := by rw [endThread_eq]
@[simp] theorem endThread_now : (endThread s t).now = s.now := by rw [endThread_eq]
theorem endThread_cur : (endThread s t).cur = s.cur ∨ (endThread s t).cur = none := by
  obtain ⟨_, _, _, _, _, hc, h⟩ := endThread_writes s t
  rw [h]; exact hc

end fields

inductive Unwinds (E : Env) (s : St) (rest : List Frame) : Exc → Frame → St → Prop
  | abort {e t dl ct p n} (ha : e ≠ .scriptError) (hp : e = .overflow → E.cfg.prot = true) :
      Unwinds E s rest e (.vm t dl ct p n) (vmAbort s t rest)
  | extend {t dl ct p n} (hp : E.cfg.prot = false) : Unwinds E s rest .overflow (.vm t dl ct p n) (vmExtend E s t rest)
  | recover {t dl ct p n} : Unwinds E s rest .scriptError (.vm t dl ct p n)
      { tick E s with exc := none, stack := .vm t dl s.now false n :: rest }
  | sei {e t saved} : Unwinds E s rest e (.sei t saved) { s with cur := safe s saved, prev := safe s (some t), stack := rest }
  | pass {e f} (hf : f = .thrExec ∧ e.isAbort = true ∨ (∃ p, f = .notify p) ∨ f = .ctxExec) :
      Unwinds E s rest e f { s with stack := rest }
  | swallow {e} (ha : e.isAbort = false) : Unwinds E s rest e .thrExec { s with exc := none, stack := rest }
  | sched {e} : Unwinds E s rest e .execRunning { s with cur := none, stack := rest }

theorem unwinds_unwindFrame (E : Env) (s : St) (e : Exc) (f : Frame) (rest : List Frame) :
    Unwinds E s rest e f (unwindFrame E s e f rest) := by
  cases f <;> simp only [unwindFrame]
  case vm =>
    cases e <;> dsimp only
    case overflow =>
      split
      · exact .abort nofun fun _ => ‹_›
      · exact .extend (Bool.eq_false_iff.2 ‹_›)
    case scriptError => exact .recover
    all_goals exact .abort nofun nofun
  case sei => exact .sei
  case thrExec =>
    split
    · exact .pass (.inl ⟨rfl, ‹_›⟩)
    · exact .swallow (Bool.eq_false_iff.2 ‹_›)
  case notify p => exact .pass (.inr (.inl ⟨p, rfl⟩))
  case execRunning => exact .sched
  case ctxExec => exact .pass (.inr (.inr rfl))

inductive Enters (E : Env) (s : St) (t : Tid) : St → Prop
  | refused (hd : s.depth > E.cfg.maxDepth) :
      Enters E s t { s with threads := upd s.threads t (fun th => { th with vs := .idling }), exc := some .depth }
  | limited (hd : ¬ s.depth > E.cfg.maxDepth) (hL : E.cfg.maxExec ≠ 0) :
      Enters E s t
        { s with depth := s.depth + 1, threads := upd s.threads t (fun th => { th with vs := .running }),
                 now := s.now + E.inc s.reads + E.inc (s.reads + 1), reads := s.reads + 2,
                 stack := .vm t (s.now + E.cfg.maxExec) (s.now + E.inc s.reads) false 0 :: s.stack }
  | unlimited (hd : ¬ s.depth > E.cfg.maxDepth) (hL : E.cfg.maxExec = 0) :
      Enters E s t
        { s with depth := s.depth + 1, threads := upd s.threads t (fun th => { th with vs := .running }),
                 now := s.now + E.inc s.reads, reads := s.reads + 1, stack := .vm t 0 s.now false 0 :: s.stack }

theorem enters_enterVM (E : Env) (s : St) (t : Tid) : Enters E s t (enterVM E s t) := by
  unfold enterVM
  split
  · exact .refused ‹_›
  · split
    · exact .limited ‹_› ‹_›
    · exact .unlimited ‹_› (Decidable.not_not.1 ‹_›)

theorem enters_enterSei (E : Env) (s : St) (t : Tid) :
    let D := stopThread { s with prev := s.cur, cur := some t } t
    Enters E { s with prev := s.cur, cur := some t, threads := D.threads, timer := D.timer, lvl := D.lvl,
                      stack := .sei t s.cur :: s.stack } t (enterSei E s t) := by
  have h : Enters E _ t (enterSei E s t) := enters_enterVM ..
  rwa [stopThread_eq] at h

/-- `k` is the native stack once the body has run: the thread's VM frame with the time check pending, on the frames
    below it -/
inductive Exec (E : Env) (s : St) (t : Tid) (th : Thr) (k : List Frame) : Op → St → Prop
  | plain {op} (g : Thr → Thr) (hg : ∀ x, (g x).joinedBy = x.joinedBy) :
      Exec E s t th k op { s with threads := upd s.threads t g, stack := k }
  | raise (ab : Bool) : Exec E s t th k (.raise ab)
      { s with threads := upd s.threads t (fun x => { x with pc := th.pc + 1 }), stack := k,
               exc := some (if ab then .abort else .scriptError) }
  | badLabel (l : Nat) (w : Bool) (hl : ¬ l < E.prog.length) : Exec E s t th k (.spawn l w)
      { s with threads := upd s.threads t (fun x => { x with pc := th.pc + 1 }), stack := k, exc := some .scriptError }
  | done (D : St) (hD : D = endThread s t) : Exec E s t th k .done
      { s with threads := D.threads, timer := D.timer, lvl := D.lvl, cur := D.cur, prev := D.prev, stack := k }
  | wait (ms : Nat) (D : St)
      (hD : D = stopThread { s with threads := upd s.threads t (fun x => { x with pc := th.pc + 1 }) } t) :
      Exec E s t th k (.wait ms)
        { s with threads := upd D.threads t (fun x => { x with ts := .timing, vs := .suspended }),
                 timer := D.timer.add t (s.scaled + ms), lvl := D.lvl, stack := k }
  | waittill (name : Nat) (c : Tid) (hc : s.cur = some c) (D : St)
      (hD : D = startedWaitFor { s with threads := upd s.threads t (fun x => { x with pc := th.pc + 1 }),
                                        lvl := s.lvl ++ [(name, c)] } c) :
      Exec E s t th k (.waittill name) { s with threads := D.threads, timer := D.timer, lvl := D.lvl, stack := k }
  | notify (name : Nat) : Exec E s t th k (.notify name)
      { s with threads := upd s.threads t (fun x => { x with pc := th.pc + 1 }),
               lvl := s.lvl.filter (fun p => p.1 != name),
               stack := .notify ((s.lvl.filter (fun p => p.1 == name)).map (·.2)) :: k }
  | thread (l : Nat) (c : Tid) (hc : s.cur = some c) (hl : l < E.prog.length) : Exec E s t th k (.spawn l false)
      (enterSei E { s with threads := upd s.threads t (fun x => { x with pc := th.pc + 1 }) ++
                             [(s.nextTid, { label := l, grp := th.grp })],
                           nextTid := s.nextTid + 1, stack := k } s.nextTid)
  | waitthread (l : Nat) (c : Tid) (hc : s.cur = some c) (hl : l < E.prog.length) (D : St)
      (hD : D = startedWaitFor { s with threads := upd s.threads t (fun x => { x with pc := th.pc + 1 }) ++
                                          [(s.nextTid, { label := l, grp := s.nextTid, joinedBy := some c })],
                                        nextTid := s.nextTid + 1 } c) :
      Exec E s t th k (.spawn l true)
        (enterSei E { s with threads := D.threads, timer := D.timer, lvl := D.lvl, nextTid := s.nextTid + 1, stack := k }
          s.nextTid)
  | ub {op} (hc : s.cur = none) : Exec E s t th k op (setUb s)

theorem exec_execOp (E : Env) (s : St) (t : Tid) (th : Thr) (dl ct n : Nat) (rest : List Frame) (op : Op) :
    Exec E s t th (.vm t dl ct true (n + 1) :: rest) op (execOp E s t th dl ct n rest op) := by
  cases op <;> simp only [execOp]
  case nop | jmp | setc | print => exact .plain _ fun _ => rfl
  case loopTest => split <;> exact .plain _ fun _ => rfl
  case raise ab => exact .raise ab
  case done => rw [endThread_eq]; exact .done (endThread s t) rfl
  case wait ms => rw [stopThread_eq]; exact .wait ms (stopThread _ t) rfl
  case waittill name =>
    split
    · exact .ub ‹_›
    · rw [startedWaitFor_eq]; exact .waittill name _ ‹_› (startedWaitFor _ _) rfl
  case notify name => exact .notify name
  case spawn l w =>
    split
    · exact .ub ‹_›
    · split
      · cases w
        · exact .thread l _ ‹_› ‹_›
        · simp only [newThread, if_true]; rw [startedWaitFor_eq]; exact .waitthread l _ ‹_› ‹_› (startedWaitFor _ _) rfl
      · exact .badLabel l w ‹_›

inductive Runs (E : Env) (s : St) (rest : List Frame) : Frame → St → Prop
  | fire {t dl ct n} (hdl : dl ≠ 0) (hct : ct ≥ dl) (hr : vmRunning s t = true) :
      Runs E s rest (.vm t dl ct true n) { s with exc := some .overflow }
  | check {t dl ct n} (h : ¬ (dl ≠ 0 ∧ ct ≥ dl ∧ vmRunning s t = true)) :
      Runs E s rest (.vm t dl ct true n) { tick E s with stack := .vm t dl s.now false n :: rest }
  | exit {t dl ct n} (hr : vmRunning s t = false) : Runs E s rest (.vm t dl ct false n) (exitVM s t rest)
  | exec {t dl ct n th s'} (hth : find s.threads t = some th) (hvs : th.vs = .running)
      (hx : Exec E s t th (.vm t dl ct true (n + 1) :: rest) ((E.prog.getD th.label []).getD th.pc .done) s') :
      Runs E s rest (.vm t dl ct false n) s'
  | seiRet {t saved} : Runs E s rest (.sei t saved) { s with cur := safe s saved, prev := safe s (some t), stack := rest }
  | seiSched {t saved} :
      Runs E s rest (.sei t saved) { s with cur := safe s saved, prev := safe s (some t), stack := .execRunning :: rest }
  | ret {f} (hf : f = .thrExec ∨ f = .ctxExec ∨ f = .notify []) : Runs E s rest f { s with stack := rest }
  | notifySkip {w ws} : Runs E s rest (.notify (w :: ws)) { s with stack := .notify ws :: rest }
  | notifyEnter {w ws} :
      Runs E s rest (.notify (w :: ws)) (enterSei E { s with stack := .thrExec :: .notify ws :: rest } w)
  | notifyResume {w ws} : Runs E s rest (.notify (w :: ws))
      { s with threads := upd s.threads w (fun x => { x with vs := if x.vs == .suspended then .running else x.vs }),
               stack := .notify ws :: rest }
  | schedEmpty {tm} (hn : s.timer.next = (none, tm)) :
      Runs E s rest .execRunning { s with cur := none, timer := tm, stack := rest }
  | schedResume {t d tm} (hn : s.timer.next = (some (t, d), tm)) : Runs E s rest .execRunning
      (enterVM E { s with cur := some t, timer := tm, threads := upd s.threads t (fun x => { x with ts := .running }) } t)
  | dangling : Runs E s rest .execRunning (setUb s)

theorem runs_runFrame (E : Env) (s : St) (f : Frame) (rest : List Frame) : Runs E s rest f (runFrame E s f rest) := by
  cases f <;> simp only [runFrame]
  case vm t dl ct post n =>
    cases post <;> simp only [Bool.false_eq_true, if_false, if_true]
    · split
      · exact .exit (by simp [vmRunning, *])
      · rename_i th hth
        split
        · exact .exit (by simpa [vmRunning, hth] using ‹¬ _›)
        · exact .exec hth (Decidable.not_not.1 ‹_›) (exec_execOp ..)
    · split
      · rename_i h; exact .fire h.1 h.2.1 h.2.2
      · exact .check ‹_›
  case sei =>
    simp only [execRunningCall]
    split
    · exact .seiRet
    · split
      · exact .seiSched
      · exact .seiRet
  case thrExec => exact .ret (.inl rfl)
  case ctxExec => exact .ret (.inr (.inl rfl))
  case notify =>
    split
    · exact .ret (.inr (.inr rfl))
    · split
      · exact .notifySkip
      · split
        · split
          · exact .notifyEnter
          · exact .notifyResume
        · exact .notifySkip
  case execRunning =>
    split
    · exact .schedEmpty ‹_›
    · split
      · exact .schedResume ‹_›
      · exact .dangling

theorem step_cases {P : St → Prop} (E : Env) (s : St) (halt : halted s = true → P s)
    (unwind : ∀ e f rest s', s.ub = false → s.stack = f :: rest → s.exc = some e → Unwinds E s rest e f s' → P s')
    (run : ∀ f rest s', s.ub = false → s.stack = f :: rest → s.exc = none → Runs E s rest f s' → P s') :
    P (step E s) := by
  unfold step
  split
  · exact halt (by simp [halted, *])
  rename_i hub
  split
  · exact halt (by simp [halted, *])
  rename_i f rest hst
  split
  · exact unwind _ f rest _ (by simpa using hub) hst ‹_› (unwinds_unwindFrame ..)
  · exact run f rest _ (by simpa using hub) hst ‹_› (runs_runFrame ..)

/-! The rules read forwards, for the proofs that follow one run (`Spin`, `ZeroWait`, `Props/C14`).  They are read off the
model and not off the relations, which keep only what the invariants need (`Exec.plain` forgets the update,
`Runs.seiSched` and `Runs.schedResume` their guards). -/

section forward
variable {E : Env} {s : St} {rest : List Frame} (hub : s.ub = false)
include hub

theorem step_run {f : Frame} (hst : s.stack = f :: rest) (hn : s.exc = none) : step E s = runFrame E s f rest := by
  simp [step, hub, hst, hn]

theorem step_unwind {e : Exc} {f : Frame} (hst : s.stack = f :: rest) (he : s.exc = some e) :
    step E s = unwindFrame E s e f rest := by
  simp [step, hub, hst, he]

variable {t : Tid} {dl ct n : Nat}

theorem step_fire (hst : s.stack = .vm t dl ct true n :: rest) (hn : s.exc = none) (hdl : dl ≠ 0) (hct : ct ≥ dl)
    (hr : vmRunning s t = true) : step E s = { s with exc := some .overflow } := by
  simp [step_run hub hst hn, runFrame, hdl, hct, hr]

theorem step_check (hst : s.stack = .vm t dl ct true n :: rest) (hn : s.exc = none)
    (h : ¬ (dl ≠ 0 ∧ ct ≥ dl ∧ vmRunning s t = true)) :
    step E s = { tick E s with stack := .vm t dl s.now false n :: rest } := by
  simp [step_run hub hst hn, runFrame, h]

theorem step_exit (hst : s.stack = .vm t dl ct false n :: rest) (hn : s.exc = none) (hr : vmRunning s t = false) :
    step E s = exitVM s t rest := by
  rw [step_run hub hst hn]
  unfold vmRunning at hr
  cases hth : find s.threads t with
  | none => simp [runFrame, hth]
  | some th => simpa [runFrame, hth] using fun hv => by simp [hth, hv] at hr

theorem step_exec {th : Thr} (hst : s.stack = .vm t dl ct false n :: rest) (hn : s.exc = none)
    (hth : find s.threads t = some th) (hvs : th.vs = .running) :
    step E s = execOp E s t th dl ct n rest ((E.prog.getD th.label []).getD th.pc .done) := by
  simp [step_run hub hst hn, runFrame, hth, hvs]

theorem step_seiSched {saved : Option Tid} (hst : s.stack = .sei t saved :: rest) (hn : s.exc = none)
    (hs : safe s saved = none) (hd : s.depth = 0) (hdy : s.timer.dirty = true) :
    step E s = { s with cur := safe s saved, prev := safe s (some t), stack := .execRunning :: rest } := by
  simp [step_run hub hst hn, runFrame, execRunningCall, hs, hd, hdy]

theorem step_schedResume {d : Nat} {tm : Sched.Timer} (hst : s.stack = .execRunning :: rest) (hn : s.exc = none)
    (hnext : s.timer.next = (some (t, d), tm)) (hal : alive s t = true) :
    step E s = enterVM E
      { s with cur := some t, timer := tm, threads := upd s.threads t (fun x => { x with ts := .running }) } t := by
  simp [step_run hub hst hn, runFrame, hnext, hal]

theorem step_extend {p : Bool} (hst : s.stack = .vm t dl ct p n :: rest) (he : s.exc = some .overflow)
    (hp : E.cfg.prot = false) : step E s = vmExtend E s t rest := by
  simp [step_unwind hub hst he, unwindFrame, hp]

theorem step_sei {e : Exc} {saved : Option Tid} (hst : s.stack = .sei t saved :: rest) (he : s.exc = some e) :
    step E s = { s with cur := safe s saved, prev := safe s (some t), stack := rest } := by
  simp [step_unwind hub hst he, unwindFrame]

end forward

theorem run_invariant {P : St → Prop} (E : Env) (hstep : ∀ s, P s → P (step E s)) : ∀ (k : Nat) (s : St), P s → P (run E k s)
  | 0, _, h => h
  | k + 1, s, h => run_invariant E hstep k _ (hstep s h)

theorem run_add (E : Env) : ∀ (a b : Nat) (s : St), run E (a + b) s = run E b (run E a s)
  | 0, b, s => by simp [run]
  | a + 1, b, s => by rw [Nat.add_right_comm]; simp only [run]; exact run_add E a b (step E s)

theorem run_succ (E : Env) (k : Nat) (s : St) : run E (k + 1) s = step E (run E k s) := run_add E k 1 s

theorem step_of_halted (E : Env) (s : St) (h : halted s = true) : step E s = s := by
  unfold step
  by_cases hu : s.ub = true
  · simp [hu]
  · have : s.stack = [] := by simpa [halted, hu] using h
    simp [hu, this]

theorem run_of_halted (E : Env) : ∀ (k : Nat) (s : St), halted s = true → run E k s = s
  | 0, _, _ => rfl
  | k + 1, s, h => by rw [run, step_of_halted E s h]; exact run_of_halted E k s h

theorem not_halted_of_later (E : Env) {k n : Nat} (hk : k ≤ n) {s : St} (h : halted (run E n s) = false) :
    halted (run E k s) = false := by
  cases hh : halted (run E k s) with
  | false => rfl
  | true =>
    have := run_of_halted E (n - k) _ hh
    rw [← run_add, show k + (n - k) = n by omega] at this
    rw [this, hh] at h
    cases h

def vmCount : List Frame → Nat
  | [] => 0
  | .vm _ _ _ _ _ :: r => vmCount r + 1
  | .thrExec :: r => vmCount r
  | .sei _ _ :: r => vmCount r
  | .notify _ :: r => vmCount r
  | .execRunning :: r => vmCount r
  | .ctxExec :: r => vmCount r

/-- `m_CurrentThread` will be null once every frame has been left (normally or by an exception):
    the outermost `ScriptExecuteInternal` frame restores null, or an `ExecuteRunning` frame clears it -/
def finalNone : List Frame → Option Tid → Prop
  | [], cur => cur = none
  | .sei _ saved :: r, _ => finalNone r saved
  | .execRunning :: r, _ => finalNone r none
  | .vm _ _ _ _ _ :: r, cur => finalNone r cur
  | .thrExec :: r, cur => finalNone r cur
  | .notify _ :: r, cur => finalNone r cur
  | .ctxExec :: r, cur => finalNone r cur

theorem finalNone_mono : ∀ (l : List Frame) (c : Option Tid), finalNone l c → finalNone l none
  | [], c, h => by simp [finalNone]
  | f :: r, c, h => by
    cases f <;> simp only [finalNone] at h ⊢ <;> first | exact h | exact finalNone_mono r c h

theorem finalNone_safe (l : List Frame) (s : St) (c : Option Tid) (h : finalNone l c) : finalNone l (safe s c) := by
  unfold safe
  cases c with
  | none => simpa using h
  | some x =>
    simp only [Option.filter]
    split
    · exact h
    · exact finalNone_mono l _ h

/-- the control invariant: the nesting counter counts the live `ScriptVM::Execute` frames, and
    the chain of saved `currentThread` values ends in null -/
structure Inv (d0 : Nat) (s : St) : Prop where
  depth : s.depth = d0 + vmCount s.stack
  cur : finalNone s.stack s.cur

theorem Enters.inv {E : Env} {s s' : St} {t : Tid} {d0 : Nat} (h : Enters E s t s') (hi : Inv d0 s) : Inv d0 s' := by
  cases h
  case refused => exact ⟨hi.depth, hi.cur⟩
  case limited | unlimited => exact ⟨show s.depth + 1 = d0 + (vmCount s.stack + 1) by rw [hi.depth]; rfl, hi.cur⟩

theorem enterSei_inv (E : Env) (s : St) (t : Tid) (d0 : Nat) (h : Inv d0 s) : Inv d0 (enterSei E s t) :=
  (enters_enterSei E s t).inv ⟨h.depth, h.cur⟩

theorem Exec.inv {E : Env} {s s' : St} {t : Tid} {th : Thr} {k : List Frame} {op : Op} {d0 : Nat}
    (h : Exec E s t th k op s') (hi : Inv d0 s) (hd : s.depth = d0 + vmCount k) (hc : finalNone k s.cur) : Inv d0 s' := by
  cases h
  case plain | raise | badLabel | notify | wait | waittill => exact ⟨hd, hc⟩
  case ub => exact ⟨hi.depth, hi.cur⟩
  case done hD =>
    subst hD
    refine ⟨hd, ?_⟩
    rcases endThread_cur s t with h1 | h1 <;> rw [show (_ : St).cur = _ from h1]
    · exact hc
    · exact finalNone_mono k _ hc
  case thread | waitthread => exact enterSei_inv E _ _ d0 ⟨hd, hc⟩

theorem step_inv (E : Env) (s : St) (d0 : Nat) (h : Inv d0 s) : Inv d0 (step E s) := by
  have hd := h.depth
  have hc := h.cur
  refine step_cases E s (fun _ => h) (fun e f rest s' _ hst _ hu => ?_) (fun f rest s' _ hst _ hr => ?_) <;> rw [hst] at hd hc
  · cases hu
    case abort => exact ⟨show s.depth - 1 = d0 + vmCount rest by simp only [vmCount] at hd; omega, hc⟩
    case extend | recover | swallow => exact ⟨hd, hc⟩
    case sei saved => exact ⟨hd, finalNone_safe rest s saved hc⟩
    case sched => exact ⟨hd, finalNone_mono rest _ hc⟩
    case pass hf => rcases hf with ⟨rfl, _⟩ | ⟨_, rfl⟩ | rfl <;> exact ⟨hd, hc⟩
  · cases hr
    case fire | dangling => exact ⟨h.depth, h.cur⟩
    case check | notifySkip | notifyResume => exact ⟨hd, hc⟩
    case exit => exact ⟨show s.depth - 1 = d0 + vmCount rest by simp only [vmCount] at hd; omega, hc⟩
    case exec hx => exact hx.inv h hd hc
    case seiRet saved => exact ⟨hd, finalNone_safe rest s saved hc⟩
    case seiSched saved => exact ⟨hd, finalNone_mono rest _ (finalNone_safe rest s saved hc)⟩
    case ret hf => rcases hf with rfl | rfl | rfl <;> exact ⟨hd, hc⟩
    case notifyEnter w _ => exact enterSei_inv E _ w d0 ⟨hd, hc⟩
    case schedEmpty => exact ⟨hd, finalNone_mono rest _ hc⟩
    case schedResume => exact (enters_enterVM ..).inv ⟨h.depth, hst ▸ finalNone_mono rest _ hc⟩

theorem run_inv (E : Env) (d0 : Nat) : ∀ (k : Nat) (s : St), Inv d0 s → Inv d0 (run E k s) :=
  run_invariant E fun s => step_inv E s d0

theorem inv_halted {d : Nat} {s : St} (h : Inv d s) (hs : s.stack = []) : s.depth = d ∧ s.cur = none := by
  have h1 := h.depth; have h2 := h.cur
  rw [hs] at h1 h2
  exact ⟨by simpa [vmCount] using h1, by simpa [finalNone] using h2⟩

/-- no frame swallows an abort in flight (a `CommandOverflow` only with protection on) -/
theorem Unwinds.pops {E : Env} {s s' : St} {e : Exc} {f : Frame} {rest : List Frame} (h : Unwinds E s rest e f s')
    (ha : e.isAbort = true) (hp : e = .overflow → E.cfg.prot = true) :
    s'.stack = rest ∧ s'.exc = s.exc ∧ s'.ub = s.ub := by
  cases h
  case abort | sei | pass | sched => exact ⟨rfl, rfl, rfl⟩
  case extend hp' => rw [hp rfl] at hp'; cases hp'
  case recover => cases ha
  case swallow ha' => rw [ha] at ha'; cases ha'

theorem unwind_step (E : Env) (s : St) (e : Exc) (f : Frame) (rest : List Frame)
    (hst : s.stack = f :: rest) (he : s.exc = some e) (ha : e.isAbort = true)
    (hp : e = .overflow → E.cfg.prot = true) (hub : s.ub = false) :
    (step E s).stack = rest ∧ (step E s).exc = some e ∧ (step E s).ub = false := by
  rw [step_unwind hub hst he]
  obtain ⟨h1, h2, h3⟩ := (unwinds_unwindFrame E s e f rest).pops ha hp
  exact ⟨h1, h2.trans he, h3.trans hub⟩

theorem unwind_run (E : Env) (e : Exc) (ha : e.isAbort = true) (hp : e = .overflow → E.cfg.prot = true) :
    ∀ (l : List Frame) (s : St), s.stack = l → s.exc = some e → s.ub = false →
      (run E l.length s).stack = [] ∧ (run E l.length s).exc = some e ∧ (run E l.length s).ub = false
  | [], s, hst, he, hub => by simp [run, hst, he, hub]
  | f :: rest, s, hst, he, hub => by
    obtain ⟨h1, h2, h3⟩ := unwind_step E s e f rest hst he ha hp hub
    simpa [run] using unwind_run E e ha hp rest (step E s) h1 h2 h3

theorem inv_restores (E : Env) {d : Nat} {s : St} (hinv : Inv d s) :
    (s.stack = [] → s.depth = d ∧ s.cur = none) ∧
    (∀ e, s.exc = some e → e.isAbort = true → (e = .overflow → E.cfg.prot = true) → s.ub = false →
      (run E s.stack.length s).stack = [] ∧ (run E s.stack.length s).exc = some e ∧
      (run E s.stack.length s).depth = d ∧ (run E s.stack.length s).cur = none) := by
  refine ⟨inv_halted hinv, fun e he ha hp hub => ?_⟩
  obtain ⟨h1, h2, _⟩ := unwind_run E e ha hp s.stack s rfl he hub
  exact ⟨h1, h2, inv_halted (run_inv E d _ s hinv) h1⟩

def DepthStep (E : Env) (d : Nat) (s' : St) : Prop := s'.depth ≤ d ∨ (s'.depth = d + 1 ∧ d ≤ E.cfg.maxDepth)

theorem Enters.depth {E : Env} {s s' : St} {t : Tid} (h : Enters E s t s') : DepthStep E s.depth s' := by
  cases h
  case refused => exact .inl (Nat.le_refl _)
  case limited hd _ | unlimited hd _ => exact .inr ⟨rfl, Nat.le_of_not_gt hd⟩

theorem enterSei_depth (E : Env) (s : St) (t : Tid) : DepthStep E s.depth (enterSei E s t) :=
  (enters_enterSei E s t).depth

theorem Exec.depth {E : Env} {s s' : St} {t : Tid} {th : Thr} {k : List Frame} {op : Op} (h : Exec E s t th k op s') :
    DepthStep E s.depth s' := by
  cases h
  case thread | waitthread => exact enterSei_depth E _ _
  all_goals exact .inl (Nat.le_refl _)

theorem step_depth (E : Env) (s : St) : DepthStep E s.depth (step E s) := by
  refine step_cases E s (fun _ => .inl (Nat.le_refl _)) (fun e f rest s' _ _ _ hu => ?_) (fun f rest s' _ _ _ hr => ?_)
  · cases hu
    case abort => exact .inl (Nat.sub_le _ _)
    all_goals exact .inl (Nat.le_refl _)
  · cases hr
    case exit => exact .inl (Nat.sub_le _ _)
    case notifyEnter => exact enterSei_depth E _ _
    case schedResume => exact (enters_enterVM ..).depth
    case exec hx => exact hx.depth
    all_goals exact .inl (Nat.le_refl _)

/-- nesting never exceeds `maxStackDepth + 1` live VM activations -/
theorem step_depth_bound (E : Env) (s : St) (h : s.depth ≤ E.cfg.maxDepth + 1) : (step E s).depth ≤ E.cfg.maxDepth + 1 := by
  rcases step_depth E s with h1 | ⟨h1, h2⟩ <;> omega

theorem run_depth_bound (E : Env) : ∀ (k : Nat) (s : St), s.depth ≤ E.cfg.maxDepth + 1 → (run E k s).depth ≤ E.cfg.maxDepth + 1 :=
  run_invariant E (step_depth_bound E)

/-- what a normal step can raise, and where -/
inductive Raised (E : Env) (s : St) (f : Frame) (rest : List Frame) (s' : St) : Prop
  | none (h : s'.exc = none)
  /-- the time check of `Process` after an instruction -/
  | overflow (t : Tid) (dl ct n : Nat) (hf : f = .vm t dl ct true n) (hs : s' = { s with exc := some .overflow })
      (hdl : dl ≠ 0) (hct : ct ≥ dl)
  /-- the `ScriptExecutionStack` constructor of a new activation -/
  | depth (h : s'.exc = some .depth) (hd : s.depth > E.cfg.maxDepth) (hd' : s'.depth = s.depth)
  /-- `error` inside an instruction -/
  | raise (t : Tid) (dl ct n : Nat) (hf : f = .vm t dl ct false n) (h : s'.exc = some .abort ∨ s'.exc = some .scriptError)
      (hst : s'.stack = .vm t dl ct true (n + 1) :: rest)

theorem Enters.raised {E : Env} {s s1 s' : St} {c : Tid} (h : Enters E s1 c s') (f : Frame) (rest : List Frame)
    (hx : s1.exc = none) (hd : s1.depth = s.depth) : Raised E s f rest s' := by
  cases h
  case refused hd' => exact .depth rfl (hd ▸ hd') hd
  case limited | unlimited => exact .none hx

theorem raised_of_enterSei (E : Env) (s : St) (f : Frame) (rest : List Frame) (s' : St) (c : Tid)
    (hx : s'.exc = none) (hd : s'.depth = s.depth) : Raised E s f rest (enterSei E s' c) :=
  (enters_enterSei E s' c).raised f rest hx hd

theorem Exec.raised {E : Env} {s s' : St} {t : Tid} {th : Thr} {dl ct n : Nat} {rest : List Frame} {op : Op}
    (h : Exec E s t th (.vm t dl ct true (n + 1) :: rest) op s') (hn : s.exc = none) :
    Raised E s (.vm t dl ct false n) rest s' := by
  cases h
  case raise ab => exact .raise t dl ct n rfl (by cases ab <;> simp) rfl
  case badLabel => exact .raise t dl ct n rfl (.inr rfl) rfl
  case thread => exact raised_of_enterSei E s _ rest _ _ hn rfl
  case waitthread => exact raised_of_enterSei E s _ rest _ _ hn rfl
  all_goals exact .none hn

theorem Runs.raised {E : Env} {s s' : St} {f : Frame} {rest : List Frame} (h : Runs E s rest f s') (hn : s.exc = none) :
    Raised E s f rest s' := by
  cases h
  case fire t dl ct n hdl hct _ => exact .overflow t dl ct n rfl rfl hdl hct
  case notifyEnter => exact raised_of_enterSei E s _ rest _ _ hn rfl
  case schedResume => exact (enters_enterVM ..).raised _ rest hn rfl
  case exec hx => exact hx.raised hn
  all_goals exact .none hn

/-- an in-flight `CommandOverflow` sits directly on the VM frame whose `catch` will see it -/
def OverflowLocal (s : St) : Prop :=
  s.exc = some .overflow → ∃ t dl ct p n rest, s.stack = .vm t dl ct p n :: rest

theorem step_overflow_local (E : Env) (s : St) (hp : E.cfg.prot = false) (h : OverflowLocal s) :
    OverflowLocal (step E s) := by
  refine step_cases E s (fun _ => h) (fun e f rest s' _ hst he hu => ?_) (fun f rest s' _ hst hn hr => ?_) <;> intro hov
  · exfalso
    -- a frame that passes an overflow on is no VM frame, on which the overflow sat
    have hvm : s.exc = some .overflow → ∃ t dl ct p n, f = .vm t dl ct p n := fun hx => by
      obtain ⟨t, dl, ct, p, n, _, h2⟩ := h hx
      rw [hst] at h2; cases h2; exact ⟨t, dl, ct, p, n, rfl⟩
    cases hu
    case abort hp' => rw [show s.exc = _ from hov] at he; cases he; rw [hp' rfl] at hp; cases hp
    case extend | recover | swallow => cases hov
    case sei | sched => obtain ⟨_, _, _, _, _, hf⟩ := hvm hov; cases hf
    case pass hf => obtain ⟨_, _, _, _, _, hf'⟩ := hvm hov; rcases hf with ⟨rfl, _⟩ | ⟨_, rfl⟩ | rfl <;> cases hf'
  · cases hr.raised hn with
    | overflow t dl ct n hf hs _ _ => exact ⟨t, dl, ct, true, n, rest, by rw [hs]; simpa [hf] using hst⟩
    | none h1 => rw [h1] at hov; cases hov
    | depth h1 _ _ => rw [h1] at hov; cases hov
    | raise t dl ct n hf h1 _ => rcases h1 with h1 | h1 <;> (rw [h1] at hov; cases hov)

theorem run_overflow_local (E : Env) (hp : E.cfg.prot = false) : ∀ (k : Nat) (s : St), OverflowLocal s → OverflowLocal (run E k s) :=
  run_invariant E fun s => step_overflow_local E s hp

end Morfuse.Unwind
