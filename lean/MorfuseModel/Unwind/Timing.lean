import MorfuseModel.Unwind.Start
/-!
# Unwind model — every activation has its own deadline (timing invariant, all programs)

For a limit `L ≠ 0` and a clock that advances by at least `δ` per reading, every `vm` frame on the native
stack satisfies `dl ≠ 0`, `ct + δ ≤ now` and `dl + n·δ (+ δ before the instruction) ≤ ct + L`, where `n`
counts the instructions executed since the deadline `dl` was taken.  Consequence (`FrameOK.budget`): a time
check that passes (`ct < dl`) has `n·δ < L`; an activation executes at most `L/δ + 1` checked instructions per
deadline.
-/
namespace Morfuse.Unwind

def FrameOK (δ L now : Nat) : Frame → Prop
  | .vm _ dl ct post n => dl ≠ 0 ∧ ct + δ ≤ now ∧ dl + n * δ + (if post then 0 else δ) ≤ ct + L
  | _ => True

def AllOK (δ L : Nat) (s : St) : Prop := ∀ f ∈ s.stack, FrameOK δ L s.now f

theorem FrameOK_mono {δ L now now' : Nat} {f : Frame} (h : FrameOK δ L now f) (hn : now ≤ now') : FrameOK δ L now' f := by
  cases f <;> simp only [FrameOK] at * <;> try trivial
  exact ⟨h.1, by omega, h.2.2⟩

theorem allOK_rest {δ L : Nat} {s : St} {f : Frame} {rest : List Frame} (h : AllOK δ L s) (hst : s.stack = f :: rest)
    {now' : Nat} (hn : s.now ≤ now') : ∀ g ∈ rest, FrameOK δ L now' g := by
  intro g hg
  exact FrameOK_mono (h g (by rw [hst]; exact List.mem_cons_of_mem _ hg)) hn

theorem frameOK_cons {δ L now : Nat} {f : Frame} {rest : List Frame} (hf : FrameOK δ L now f)
    (hr : ∀ g ∈ rest, FrameOK δ L now g) : ∀ g ∈ f :: rest, FrameOK δ L now g :=
  List.forall_mem_cons.2 ⟨hf, hr⟩

/-- a deadline just taken: `nextTime = GetTime() + maxExecTime`, then `cmdTime = GetTime()` -/
theorem frameOK_fresh {δ L now i1 i2 : Nat} (t : Tid) (hL : L ≠ 0) (h1 : i1 ≥ δ) (h2 : i2 ≥ δ) :
    FrameOK δ L (now + i1 + i2) (.vm t (now + L) (now + i1) false 0) :=
  ⟨by omega, by omega, by simp; omega⟩

section
variable (E : Env) (δ : Nat) (hL : E.cfg.maxExec ≠ 0) (hinc : ∀ i, E.inc i ≥ δ)
include hL hinc

theorem Enters.allOK {s s' : St} {t : Tid} (h : Enters E s t s')
    (hs : ∀ f ∈ s.stack, FrameOK δ E.cfg.maxExec s.now f) : AllOK δ E.cfg.maxExec s' := by
  cases h
  case refused => exact hs
  case unlimited h0 => exact absurd h0 hL
  case limited =>
    exact frameOK_cons (frameOK_fresh t hL (hinc _) (hinc _)) fun f hf =>
      FrameOK_mono (hs f hf) (Nat.le_trans (Nat.le_add_right _ _) (Nat.le_add_right _ _))

theorem enterSei_allOK (s : St) (t : Tid)
    (h : ∀ f ∈ s.stack, FrameOK δ E.cfg.maxExec s.now f) : AllOK δ E.cfg.maxExec (enterSei E s t) :=
  (enters_enterSei E s t).allOK E δ hL hinc (frameOK_cons trivial h)

omit hL hinc in
theorem frameOK_reread {δ L now inc dl ct n : Nat} {post : Bool} (t : Tid) (h : FrameOK δ L now (.vm t dl ct post n)) (hi : inc ≥ δ) :
    FrameOK δ L (now + inc) (.vm t dl now false n) := by
  simp only [FrameOK] at *
  obtain ⟨h1, h2, h3⟩ := h
  refine ⟨h1, by omega, ?_⟩
  cases post <;> simp at h3 ⊢ <;> omega

omit hL hinc in
theorem frameOK_exec {δ L now dl ct n : Nat} (t : Tid) (h : FrameOK δ L now (.vm t dl ct false n)) :
    FrameOK δ L now (.vm t dl ct true (n + 1)) := by
  simp only [FrameOK] at *
  obtain ⟨h1, h2, h3⟩ := h
  refine ⟨h1, h2, ?_⟩
  simp only [Bool.false_eq_true, if_false, if_true, Nat.add_mul, Nat.one_mul] at h3 ⊢
  omega

omit hL hinc in
/-- the budget of an activation: a check that passes has `n·δ < L`; a check after `L/δ + 1` instructions is late -/
theorem FrameOK.budget {δ L now : Nat} {t : Tid} {dl ct n : Nat} {post : Bool} (hδ : 0 < δ)
    (h : FrameOK δ L now (.vm t dl ct post n)) :
    dl ≠ 0 ∧ (ct < dl → n * δ < L ∧ n ≤ L / δ) ∧ (post = true → n ≥ L / δ + 1 → ct ≥ dl) := by
  obtain ⟨h1, _, h3⟩ := h
  have hle : dl + n * δ ≤ ct + L := Nat.le_trans (Nat.le_add_right _ _) h3
  refine ⟨h1, fun hlt => ?_, fun _ hn => ?_⟩
  · have hn : n * δ < L := by omega
    exact ⟨hn, (Nat.le_div_iff_mul_le hδ).mpr (Nat.le_of_lt hn)⟩
  · have h4 : L < (L / δ + 1) * δ := Nat.mul_comm δ _ ▸ Nat.lt_mul_div_succ L hδ
    have h5 : (L / δ + 1) * δ ≤ n * δ := Nat.mul_le_mul_right δ hn
    omega

theorem Exec.allOK {s s' : St} {t : Tid} {th : Thr} {k : List Frame} {op : Op} (h : Exec E s t th k op s')
    (hs : AllOK δ E.cfg.maxExec s) (hk : ∀ f ∈ k, FrameOK δ E.cfg.maxExec s.now f) : AllOK δ E.cfg.maxExec s' := by
  cases h
  case plain | raise | badLabel | done | wait | waittill => exact hk
  case ub => exact hs
  case notify => exact frameOK_cons trivial hk
  case thread | waitthread => exact enterSei_allOK E δ hL hinc _ _ hk

theorem step_allOK (s : St)
    (h : AllOK δ E.cfg.maxExec s) : AllOK δ E.cfg.maxExec (step E s) := by
  have i0 := hinc s.reads
  have i1 := hinc (s.reads + 1)
  refine step_cases E s (fun _ => h) (fun e f rest s' _ hst _ hu => ?_) (fun f rest s' _ hst _ hr => ?_)
  all_goals
    have hrest := allOK_rest h hst (Nat.le_refl s.now)
    have htop := h f (by rw [hst]; exact List.mem_cons_self)
  · cases hu
    case extend =>
      exact frameOK_cons (frameOK_fresh _ hL i0 i1)
        (allOK_rest h hst (Nat.le_trans (Nat.le_add_right _ _) (Nat.le_add_right _ _)))
    case recover => exact frameOK_cons (frameOK_reread _ htop i0) (allOK_rest h hst (Nat.le_add_right _ _))
    all_goals exact hrest
  · cases hr
    case fire | dangling => exact h
    case check => exact frameOK_cons (frameOK_reread _ htop i0) (allOK_rest h hst (Nat.le_add_right _ _))
    case exec hx => exact hx.allOK E δ hL hinc h (frameOK_cons (frameOK_exec _ htop) hrest)
    case seiSched | notifySkip | notifyResume => exact frameOK_cons trivial hrest
    case notifyEnter => exact enterSei_allOK E δ hL hinc _ _ (frameOK_cons trivial (frameOK_cons trivial hrest))
    case schedResume => exact (enters_enterVM ..).allOK E δ hL hinc h
    all_goals exact hrest

theorem run_allOK :
    ∀ (k : Nat) (s : St), AllOK δ E.cfg.maxExec s → AllOK δ E.cfg.maxExec (run E k s) :=
  run_invariant E (step_allOK E δ hL hinc)

theorem startCall_allOK (s0 : St) (l : Nat) :
    AllOK δ E.cfg.maxExec (startCall E s0 l) := by
  unfold startCall
  exact enterSei_allOK E δ hL hinc _ _ (frameOK_cons trivial (fun _ hf => nomatch hf))

end

theorem startExecute_allOK (E : Env) (δ : Nat) (s0 : St) : AllOK δ E.cfg.maxExec (startExecute E s0) := by
  unfold AllOK
  rw [(startExecute_fields E s0).2.2.2.2.2.2]
  split
  · exact frameOK_cons trivial (frameOK_cons trivial (fun _ hf => nomatch hf))
  · exact frameOK_cons trivial (fun _ hf => nomatch hf)

end Morfuse.Unwind
