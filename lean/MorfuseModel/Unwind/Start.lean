import MorfuseModel.Unwind.Lemmas
/-!
# Unwind model — the host operations

Their start states as record equations; `Quiescent`, what a returned host operation leaves and the next one starts from.
-/
namespace Morfuse.Unwind

section startCall
variable (E : Env) (s0 : St) (l : Nat) (hfresh : find s0.threads s0.nextTid = none)
include hfresh

/-- `ExecuteThread` has created the thread (`Stop()` finds nothing to stop in a new thread) and enters its VM -/
theorem enters_startCall :
    Enters E { s0 with exc := none, prev := s0.cur, cur := some s0.nextTid,
                       threads := s0.threads ++ [(s0.nextTid, { label := l, grp := s0.nextTid })],
                       nextTid := s0.nextTid + 1, stack := [.sei s0.nextTid s0.cur, .thrExec] }
      s0.nextTid (startCall E s0 l) := by
  have hf := find_append_new s0.threads s0.nextTid ({ label := l, grp := s0.nextTid } : Thr) hfresh
  have h : Enters E _ _ (startCall E s0 l) := enters_enterSei E _ s0.nextTid
  simp only [Option.getD_none] at h
  rwa [stopThread_running _ s0.nextTid _ (by simpa using hf) rfl] at h

variable (hd : s0.depth ≤ E.cfg.maxDepth)
include hd

theorem startCall_eq :
    ∃ dl ct now' reads', startCall E s0 l =
        { s0 with exc := none, prev := s0.cur, cur := some s0.nextTid, depth := s0.depth + 1, now := now', reads := reads',
                  threads := upd (s0.threads ++ [(s0.nextTid, { label := l, grp := s0.nextTid })]) s0.nextTid
                    (fun th => { th with vs := .running }),
                  nextTid := s0.nextTid + 1, stack := [.vm s0.nextTid dl ct false 0, .sei s0.nextTid s0.cur, .thrExec] } := by
  have h := enters_startCall E s0 l hfresh
  generalize startCall E s0 l = s' at h ⊢
  cases h
  case refused hd' => exact absurd hd' (Nat.not_lt.2 hd)
  case limited | unlimited => exact ⟨_, _, _, _, rfl⟩

theorem startCall_limited (hL : E.cfg.maxExec ≠ 0) :
    startCall E s0 l =
      { s0 with exc := none, prev := s0.cur, cur := some s0.nextTid, depth := s0.depth + 1,
                now := s0.now + E.inc s0.reads + E.inc (s0.reads + 1), reads := s0.reads + 2,
                threads := upd (s0.threads ++ [(s0.nextTid, { label := l, grp := s0.nextTid })]) s0.nextTid
                  (fun th => { th with vs := .running }),
                nextTid := s0.nextTid + 1,
                stack := [.vm s0.nextTid (s0.now + E.cfg.maxExec) (s0.now + E.inc s0.reads) false 0,
                          .sei s0.nextTid s0.cur, .thrExec] } := by
  have h := enters_startCall E s0 l hfresh
  generalize startCall E s0 l = s' at h ⊢
  cases h
  case refused hd' => exact absurd hd' (Nat.not_lt.2 hd)
  case limited => rfl
  case unlimited hL' => exact absurd hL' hL

end startCall

theorem startCall_inv (E : Env) (s0 : St) (label : Nat) (hc : s0.cur = none) :
    Inv s0.depth (startCall E s0 label) := by
  unfold startCall
  apply enterSei_inv
  exact ⟨by simp [vmCount], by simp [finalNone, hc]⟩

theorem startCall_exc (E : Env) (s0 : St) (label : Nat) :
    (startCall E s0 label).exc = none ∨ (startCall E s0 label).exc = some .depth := by
  cases raised_of_enterSei E s0 .thrExec []
    { (newThread { s0 with exc := none } label none none).2 with stack := [.thrExec] } s0.nextTid rfl rfl with
  | none h => exact .inl h
  | depth h _ _ => exact .inr h
  | overflow _ _ _ _ hf => cases hf
  | raise _ _ _ _ hf => cases hf

theorem startExecute_eq (E : Env) (s : St) :
    startExecute E s =
      { s with exc := none, now := s.now + E.inc s.reads + E.inc (s.reads + 1) + E.inc (s.reads + 2), reads := s.reads + 3,
               scaled := s.scaled + (s.now - s.last), last := s.now,
               timer := s.timer.setTime (s.now + E.inc s.reads - s.start),
               stack := if s.cur = none ∧ s.depth = 0 then [.execRunning, .ctxExec] else [.ctxExec] } := by
  simp only [startExecute, execRunningCall, tick, Sched.Timer.setTime]
  cases s.cur <;> cases s.depth <;> rfl

theorem startExecute_fields (E : Env) (s : St) :
    (startExecute E s).threads = s.threads ∧ (startExecute E s).exc = none ∧ (startExecute E s).ub = s.ub ∧
    (startExecute E s).depth = s.depth ∧ (startExecute E s).cur = s.cur ∧
    (startExecute E s).timer.elems = s.timer.elems ∧
    (startExecute E s).stack = if s.cur = none ∧ s.depth = 0 then [.execRunning, .ctxExec] else [.ctxExec] := by
  rw [startExecute_eq]; exact ⟨rfl, rfl, rfl, rfl, rfl, rfl, rfl⟩

theorem startExecute_inv (E : Env) (s0 : St) (hc : s0.cur = none) :
    Inv s0.depth (startExecute E s0) := by
  obtain ⟨_, _, _, hd, hcur, _, hst⟩ := startExecute_fields E s0
  refine ⟨?_, ?_⟩
  · rw [hd, hst]; split <;> simp [vmCount]
  · rw [hcur, hst, hc]; split <;> simp [finalNone]

/-- between host operations: nothing on the native stack, no current thread -/
structure Quiescent (d : Nat) (s : St) : Prop where
  stack : s.stack = []
  cur : s.cur = none
  depth : s.depth = d
  ub : s.ub = false

theorem Quiescent.reset {d : Nat} {s : St} (hq : Quiescent d s) : Quiescent d (resetDirector s) :=
  ⟨hq.stack, rfl, hq.depth, hq.ub⟩

theorem Quiescent.of_returned {d : Nat} {s s' : St} (hq : Quiescent d s)
    (hr : s'.stack = [] → s'.depth = s.depth ∧ s'.cur = none) (hs : s'.stack = []) (hub : s'.ub = false) :
    Quiescent d s' :=
  ⟨hs, (hr hs).2, (hr hs).1.trans hq.depth, hub⟩

/-- two environments that differ only in which streams are attached / the developer flag -/
structure SameCore (E E' : Env) : Prop where
  prog : E.prog = E'.prog
  inc : E.inc = E'.inc
  prot : E.cfg.prot = E'.cfg.prot
  maxExec : E.cfg.maxExec = E'.cfg.maxExec
  maxDepth : E.cfg.maxDepth = E'.cfg.maxDepth

/-- `step` projects nothing else out of the environment -/
theorem step_same {E E' : Env} (h : SameCore E E') (s : St) : step E s = step E' s := by
  obtain ⟨⟨_, _, _, _, _, _, _, _, _⟩, _, _⟩ := E
  obtain ⟨⟨_, _, _, _, _, _, _, _, _⟩, _, _⟩ := E'
  obtain ⟨h1, h2, h3, h4, h5⟩ := h
  simp only at h1 h2 h3 h4 h5
  subst h1 h2 h3 h4 h5
  rfl

theorem run_same {E E' : Env} (h : SameCore E E') : ∀ (k : Nat) (s : St), run E k s = run E' k s
  | 0, _ => rfl
  | k + 1, s => by simp [run, step_same h, run_same h k]

theorem runD_fst (E : Env) : ∀ (k : Nat) (x : St × List Diag), (runD E k x).1 = run E k x.1
  | 0, _ => rfl
  | k + 1, x => by simp [runD, run, stepD, runD_fst E k]

end Morfuse.Unwind
