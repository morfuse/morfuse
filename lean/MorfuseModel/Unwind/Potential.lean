import MorfuseModel.Unwind.Due
import MorfuseModel.Unwind.Timing
/-!
# Unwind model — the potential that every step lowers (class `Nest`, protection on)

Potential (`pot`, `phi`): a `ScriptVM::Execute` frame with `n` instructions executed, sitting at height
`h = maxStackDepth − (VM frames below it)`, weighs `(N − n)·W(h) + (2 after / 1 before the instruction body)`
with `N = L/δ + 1`; `ScriptExecuteInternal` weighs 2, every other frame 1; each due timer element one top-level
activation (`Cw`); an exception in flight the number of frames.  `Good`: the invariants under which every step of a
non-halted state lowers it.
-/
namespace Morfuse.Unwind

/-- weight of one instruction of an activation at height `h` (= nesting still available below the limit) -/
def W (N : Nat) : Nat → Nat
  | 0 => 3
  | h + 1 => N * W N h + 6

theorem W_ge3 (N : Nat) : ∀ h, 3 ≤ W N h
  | 0 => Nat.le_refl _
  | h + 1 => by simp only [W]; omega

theorem W_step_le (N : Nat) (hN : 1 ≤ N) (h : Nat) : W N h ≤ W N (h + 1) := by
  simp only [W]
  have : W N h ≤ N * W N h := Nat.le_mul_of_pos_left _ hN
  omega

theorem W_mono (N : Nat) (hN : 1 ≤ N) : ∀ {a b : Nat}, a ≤ b → W N a ≤ W N b := by
  intro a b hab
  induction b with
  | zero => have : a = 0 := by omega
            subst this; exact Nat.le_refl _
  | succ b ih =>
    by_cases h : a = b + 1
    · subst h; exact Nat.le_refl _
    · exact Nat.le_trans (ih (by omega)) (W_step_le N hN b)

def pot (N D : Nat) : List Frame → Nat
  | [] => 0
  | .vm _ _ _ post n :: r => (N - n) * W N (D - vmCount r) + (if post then 2 else 1) + pot N D r
  | .sei _ _ :: r => 2 + pot N D r
  | .thrExec :: r => 1 + pot N D r
  | .notify _ :: r => 1 + pot N D r
  | .execRunning :: r => 1 + pot N D r
  | .ctxExec :: r => 1 + pot N D r

theorem pot_ge_length (N D : Nat) : ∀ l : List Frame, l.length ≤ pot N D l
  | [] => Nat.le_refl _
  | f :: r => by
    have := pot_ge_length N D r
    cases f <;> simp only [pot, List.length_cons] <;> (try split) <;> omega

def Cw (N D : Nat) : Nat := N * W N D + 3

def phi (N D : Nat) (s : St) : Nat :=
  if s.ub then 0
  else if s.exc.isSome then s.stack.length
  else pot N D s.stack + dueCount s.timer * Cw N D

theorem phi_exc {N D : Nat} {s : St} {e : Exc} (hu : s.ub = false) (he : s.exc = some e) :
    phi N D s = s.stack.length := by simp [phi, hu, he]

theorem phi_norm {N D : Nat} {s : St} (hu : s.ub = false) (he : s.exc = none) :
    phi N D s = pot N D s.stack + dueCount s.timer * Cw N D := by simp [phi, hu, he]

theorem phi_le (N D : Nat) (s : St) :
    phi N D s ≤ if s.exc.isSome then s.stack.length else pot N D s.stack + dueCount s.timer * Cw N D := by
  unfold phi
  split
  · exact Nat.zero_le _
  · exact Nat.le_refl _

theorem pot_lt_cons (N D : Nat) (f : Frame) (r : List Frame) : pot N D r < pot N D (f :: r) := by
  cases f <;> simp only [pot] <;> (try split) <;> omega

/-- a VM in the fetch phase whose thread is still running has passed all its checks: `n·δ < L` -/
def TopFetch (δ L : Nat) (s : St) : Prop :=
  match s.stack with
  | .vm t _ _ false n :: _ => vmRunning s t = true → n * δ < L
  | _ => True

theorem topFetch_of_low {δ L : Nat} {s : St} (h : lowOK s.stack) : TopFetch δ L s := by
  unfold TopFetch
  split
  · rename_i hst; rw [hst] at h; simp [lowOK] at h
  · trivial

structure Ctx (E : Env) (δ : Nat) : Prop where
  cls : Nest E.prog = true
  prot : E.cfg.prot = true
  hL : E.cfg.maxExec ≠ 0
  hδ : 0 < δ
  inc : ∀ i, E.inc i ≥ δ

/-- every `wait d` of the program is not due before the next frame: `m_time < scaledTime + d` -/
def WaitOK (E : Env) (s : St) : Prop :=
  ∀ l pc ms, (E.prog.getD l []).getD pc .done = .wait ms → s.timer.mtime < s.scaled + ms

theorem WaitOK.of_clocks {E : Env} {s s' : St} (hc : clocks s' = clocks s) (h : WaitOK E s) : WaitOK E s' := by
  simp only [clocks, Prod.mk.injEq] at hc
  intro l pc ms hop
  rw [hc.1, hc.2]
  exact h l pc ms hop

structure Good (E : Env) (δ : Nat) (s : St) : Prop where
  inv : Inv 0 s
  ok : AllOK δ E.cfg.maxExec s
  gs : GoodS s
  tf : TopFetch δ E.cfg.maxExec s
  wok : WaitOK E s

def Dec (δ L N D : Nat) (s s' : St) : Prop := TopFetch δ L s' ∧ phi N D s' < phi N D s

section
variable {N D δ L : Nat} {s s' : St}

theorem dec_ub (htf : TopFetch δ L s) (hu : s.ub = false) (hne : s.stack ≠ []) : Dec δ L N D s (setUb s) := by
  refine ⟨htf, ?_⟩
  have h0 : phi N D (setUb s) = 0 := by simp [phi, setUb]
  have hl : 0 < s.stack.length := List.length_pos_iff.2 hne
  have := pot_ge_length N D s.stack
  rw [h0]; unfold phi; rw [hu]
  simp only [Bool.false_eq_true, if_false]
  split <;> omega

theorem dec_pop {f : Frame} {rest : List Frame} (hu : s.ub = false) (he : s.exc = none) (hst : s.stack = f :: rest)
    (hlow : lowOK rest) (h1 : s'.stack = rest) (h2 : s'.exc = none) (h3 : s'.ub = false)
    (h4 : dueCount s'.timer ≤ dueCount s.timer) : Dec δ L N D s s' := by
  refine ⟨topFetch_of_low (by rw [h1]; exact hlow), ?_⟩
  rw [phi_norm h3 h2, phi_norm hu he, h1, hst]
  have := pot_lt_cons N D f rest
  have := Nat.mul_le_mul_right (Cw N D) h4
  omega

end

/-- `ScriptVM::Execute` entered: refused (the exception meets the frames as they are), or on top with nothing executed -/
theorem Enters.phi {E : Env} {δ : Nat} (hL : E.cfg.maxExec ≠ 0) (N D : Nat) {s s' : St} {t : Tid} (h : Enters E s t s')
    (he : s.exc = none) (hlow : lowOK s.stack) :
    TopFetch δ E.cfg.maxExec s' ∧
    ((E.cfg.maxDepth < s.depth ∧ phi N D s' ≤ s.stack.length) ∨
     (s.depth ≤ E.cfg.maxDepth ∧ phi N D s' ≤
        N * W N (D - vmCount s.stack) + 1 + pot N D s.stack + dueCount s.timer * Cw N D)) := by
  have hle := phi_le N D s'
  cases h
  case refused hd => exact ⟨topFetch_of_low hlow, .inl ⟨hd, hle⟩⟩
  case limited hd _ | unlimited hd _ =>
    refine ⟨fun _ => by rw [Nat.zero_mul]; exact Nat.pos_of_ne_zero hL, .inr ⟨Nat.le_of_not_gt hd, ?_⟩⟩
    simpa [pot, he] using hle

theorem enterSei_phi {E : Env} {δ : Nat} (hL : E.cfg.maxExec ≠ 0) (N D : Nat) {s : St} (t : Tid)
    (he : s.exc = none) (hlow : lowOK s.stack) :
    TopFetch δ E.cfg.maxExec (enterSei E s t) ∧
    ((E.cfg.maxDepth < s.depth ∧ phi N D (enterSei E s t) ≤ s.stack.length + 1) ∨
     (s.depth ≤ E.cfg.maxDepth ∧ phi N D (enterSei E s t) ≤
        N * W N (D - vmCount s.stack) + 3 + pot N D s.stack + dueCount s.timer * Cw N D)) := by
  have ht : dueCount (stopThread { s with prev := s.cur, cur := some t } t).timer * Cw N D ≤ dueCount s.timer * Cw N D :=
    Nat.mul_le_mul_right _ (stopThread_due _ t)
  obtain ⟨h1, h2⟩ := (enters_enterSei E s t).phi (δ := δ) hL N D he hlow
  refine ⟨h1, ?_⟩
  rcases h2 with ⟨a, b⟩ | ⟨a, b⟩
  · exact Or.inl ⟨a, b⟩
  · refine Or.inr ⟨a, Nat.le_trans b ?_⟩
    simp only [vmCount, pot]
    omega

theorem startCall_phi {E : Env} {δ : Nat} (hL : E.cfg.maxExec ≠ 0) (N D : Nat) (s0 : St) (l : Nat) :
    TopFetch δ E.cfg.maxExec (startCall E s0 l) ∧
    phi N D (startCall E s0 l) ≤ N * W N D + 4 + dueCount s0.timer * Cw N D := by
  obtain ⟨h1, h2⟩ := enterSei_phi (δ := δ) hL N D
    (s := { (newThread { s0 with exc := none } l none none).2 with stack := [.thrExec] }) s0.nextTid rfl trivial
  refine ⟨h1, ?_⟩
  rcases h2 with ⟨_, b⟩ | ⟨_, b⟩ <;> refine Nat.le_trans b ?_ <;>
    simp only [newThread, List.length_cons, List.length_nil, vmCount, pot, Nat.sub_zero] <;> omega

section
variable {E : Env} {δ : Nat} (C : Ctx E δ) {s : St} (g : Good E δ s) {t : Tid} {dl ct n : Nat} {rest : List Frame}
  (hst : s.stack = .vm t dl ct false n :: rest) (hexc : s.exc = none) (hub : s.ub = false)
include C g hst hexc hub

theorem Exec.dec {th : Thr} {op : Op} {s' : St} (h : Exec E s t th (.vm t dl ct true (n + 1) :: rest) op s')
    (hop : GOp E.prog.length op = true) (hrun : vmRunning s t = true)
    (hw : ∀ ms, op = .wait ms → s.timer.mtime < s.scaled + ms) :
    Dec δ E.cfg.maxExec (E.cfg.maxExec / δ + 1) E.cfg.maxDepth s s' := by
  generalize hN : E.cfg.maxExec / δ + 1 = N
  generalize hD : E.cfg.maxDepth = D
  have hn : n < N := by
    have := g.tf
    unfold TopFetch at this
    rw [hst] at this
    have h2 : n ≤ E.cfg.maxExec / δ := (Nat.le_div_iff_mul_le C.hδ).mpr (Nat.le_of_lt (this hrun))
    omega
  have hlow : lowOK rest := by have := g.gs.stack; rw [hst] at this; exact this.2
  have ha3 := W_ge3 N (D - vmCount rest)
  have hsm : (N - n) * W N (D - vmCount rest) = (N - (n + 1)) * W N (D - vmCount rest) + W N (D - vmCount rest) := by
    rw [show N - n = (N - (n + 1)) + 1 by omega, Nat.add_mul, Nat.one_mul]
  have hpl := pot_ge_length N D rest
  have hold : phi N D s = (N - n) * W N (D - vmCount rest) + 1 + pot N D rest + dueCount s.timer * Cw N D := by
    rw [phi_norm hub hexc, hst]; simp [pot]
  have body : ∀ s' : St, s'.stack = .vm t dl ct true (n + 1) :: rest → s'.ub = false →
      (s'.exc = none ∧ dueCount s'.timer ≤ dueCount s.timer ∨ s'.exc = some .abort) →
      Dec δ E.cfg.maxExec N D s s' := by
    intro s' h1 h3 h2
    refine ⟨by unfold TopFetch; rw [h1]; trivial, ?_⟩
    rw [hold, hsm]
    rcases h2 with ⟨h2, h4⟩ | h2
    · rw [phi_norm h3 h2, h1]
      have := Nat.mul_le_mul_right (Cw N D) h4
      simp only [pot, if_true]
      omega
    · rw [phi_exc h3 h2, h1, List.length_cons]
      omega
  cases h
  case plain => exact body _ rfl hub (.inl ⟨hexc, Nat.le_refl _⟩)
  case done hD => subst hD; exact body _ rfl hub (.inl ⟨hexc, endThread_due g.gs.nojoin t⟩)
  case wait ms _ hD =>
    subst hD
    refine body _ rfl hub (.inl ⟨hexc, ?_⟩)
    dsimp only
    rw [dueCount_add_later _ _ _ (by rw [stopThread_mtime]; exact hw ms rfl)]
    exact stopThread_due _ t
  case raise ab => cases show ab = true from hop; exact body _ rfl hub (.inr rfl)
  case ub => exact dec_ub g.tf hub (by rw [hst]; exact List.cons_ne_nil _ _)
  case badLabel hl => simp [GOp, hl] at hop
  case waittill | notify | waitthread => cases hop
  case thread l c _ _ =>
    -- the child is entered on top of this thread's frame, one level higher
    have hdep : s.depth = vmCount rest + 1 := by have := g.inv.depth; rw [hst] at this; simpa [vmCount] using this
    obtain ⟨h1, h2⟩ := enterSei_phi (δ := δ) C.hL N D
      (s := { s with threads := _, nextTid := s.nextTid + 1, stack := .vm t dl ct true (n + 1) :: rest })
      s.nextTid hexc ⟨rfl, hlow⟩
    refine ⟨h1, ?_⟩
    simp only [List.length_cons, vmCount, pot, if_true] at h2
    rw [hold, hsm]
    rcases h2 with ⟨_, b⟩ | ⟨a, b⟩
    · omega
    · have hW : W N (D - vmCount rest) = N * W N (D - (vmCount rest + 1)) + 6 := by
        rw [show D - vmCount rest = (D - (vmCount rest + 1)) + 1 by omega]; rfl
      omega

end

theorem step_dec (E : Env) (δ : Nat) (C : Ctx E δ) (s : St) (g : Good E δ s) (hnh : halted s = false) :
    Dec δ E.cfg.maxExec (E.cfg.maxExec / δ + 1) E.cfg.maxDepth s (step E s) := by
  generalize hN : E.cfg.maxExec / δ + 1 = N
  generalize hD : E.cfg.maxDepth = D
  have hN1 : 1 ≤ N := hN ▸ Nat.succ_le_succ (Nat.zero_le _)
  refine step_cases E s (fun hh => by rw [hnh] at hh; cases hh) (fun e f rest s' hub hst hexc hu => ?_)
    (fun f rest s' hub hst hexc hr => ?_)
  all_goals
    have hsg := g.gs.stack
    rw [hst] at hsg
    have hlow : lowOK rest := hsg.2
    have hpl := pot_ge_length N D rest
  · obtain ⟨h1, h2, h3⟩ := hu.pops (g.gs.exc e hexc) (fun _ => C.prot)
    refine ⟨topFetch_of_low (by rw [h1]; exact hlow), ?_⟩
    rw [phi_exc (h3.trans hub) (h2.trans hexc), phi_exc hub hexc, h1, hst]
    exact Nat.lt_succ_self _
  · have hold := phi_norm (N := N) (D := D) hub hexc
    rw [hst] at hold
    have pop : ∀ s' : St, s'.stack = rest → s'.exc = none → s'.ub = false → dueCount s'.timer ≤ dueCount s.timer →
        Dec δ E.cfg.maxExec N D s s' := fun s' => dec_pop hub hexc hst hlow
    have hne : s.stack ≠ [] := by rw [hst]; exact List.cons_ne_nil _ _
    cases hr
    case notifySkip | notifyEnter | notifyResume => exact hsg.1.elim
    case ret | seiRet | exit => exact pop _ rfl hexc hub (Nat.le_refl _)
    case seiSched =>
      refine ⟨trivial, ?_⟩
      rw [phi_norm (by exact hub) (by exact hexc), hold]; simp [pot]
    case dangling => exact dec_ub g.tf hub hne
    case schedEmpty hn => exact pop _ rfl hexc hub (Nat.le_of_eq (dueCount_next_none hn))
    case schedResume t d tm hn =>
      -- Resume(): the thread's VM is entered at the top level, paid for by its timer element
      obtain ⟨h1, h2⟩ := (enters_enterVM E { s with cur := some t, timer := tm, threads := _ } t).phi (δ := δ) C.hL N D
        hexc (by rw [hst]; exact hlow)
      refine ⟨h1, ?_⟩
      have hlen : dueCount tm + 1 = dueCount s.timer := dueCount_next_some hn
      have hW := Nat.mul_le_mul_left N (W_mono N hN1 (Nat.sub_le D (vmCount rest)))
      rw [hold, ← hlen, Nat.add_mul, Nat.one_mul]
      simp only [hst, List.length_cons, vmCount, pot, Cw] at h2 ⊢
      rcases h2 with ⟨_, b⟩ | ⟨_, b⟩ <;> omega
    case fire =>
      refine ⟨by unfold TopFetch; rw [hst]; trivial, ?_⟩
      rw [phi_exc (e := Exc.overflow) (by exact hub) rfl, hst, hold]
      simp only [List.length_cons, pot, if_true]
      omega
    case check t dl ct n hnf =>
      have htop := (g.ok _ (by rw [hst]; exact List.mem_cons_self)).budget C.hδ
      refine ⟨?_, ?_⟩
      · intro hr'
        have hr : vmRunning s t = true := by simpa [vmRunning, tick] using hr'
        exact (htop.2.1 (Nat.lt_of_not_le fun hle => hnf ⟨htop.1, hle, hr⟩)).1
      · rw [phi_norm (by exact hub) (by exact hexc), hold]
        simp [pot, tick]
    case exec th hth hvs hx =>
      subst hN hD
      exact hx.dec C g hst hexc hub (nest_op C.cls _ _) (by simp [vmRunning, hth, hvs])
        (fun ms hms => g.wok th.label th.pc ms hms)

theorem good_step (E : Env) (δ : Nat) (C : Ctx E δ) (s : St) (g : Good E δ s) (hnh : halted s = false) :
    Good E δ (step E s) :=
  ⟨step_inv E s 0 g.inv, step_allOK E δ C.hL C.inc s g.ok, step_good E C.cls C.prot s g.gs, (step_dec E δ C s g hnh).1,
    g.wok.of_clocks (step_clocks E s)⟩

theorem halts_within (E : Env) (δ : Nat) (C : Ctx E δ) : ∀ (b : Nat) (s : St), Good E δ s →
    phi (E.cfg.maxExec / δ + 1) E.cfg.maxDepth s ≤ b → ∃ n, n ≤ b ∧ halted (run E n s) = true
  | 0, s, g, hb => by
    by_cases hh : halted s = true
    · exact ⟨0, Nat.le_refl _, hh⟩
    · have := (step_dec E δ C s g (by simpa using hh)).2
      omega
  | b + 1, s, g, hb => by
    by_cases hh : halted s = true
    · exact ⟨0, Nat.zero_le _, hh⟩
    · have hnh : halted s = false := by simpa using hh
      have hd := (step_dec E δ C s g hnh).2
      obtain ⟨n, hn, hr⟩ := halts_within E δ C b (step E s) (good_step E δ C s g hnh) (by omega)
      exact ⟨n + 1, by omega, hr⟩

end Morfuse.Unwind
