import MorfuseModel.Unwind.Nested
import MorfuseModel.Sched.TimerLemmas
/-!
# Unwind model — due timer elements, and the two clocks a host call never moves

`dueCount`: the number of timer elements `ExecuteRunning` would resume now (`due ≤ m_time`).  `scaledTime` and
`m_time` are only written by `ScriptContext::Execute` before it calls `ExecuteRunning`; no step changes them.
-/
namespace Morfuse.Unwind
open Morfuse.Sched

def dueCount (tm : Timer) : Nat := (tm.elems.filter (fun e => decide (e.2 ≤ tm.mtime))).length

theorem filter_eraseIdx_length {α : Type} (p : α → Bool) : ∀ (l : List α) (i : Nat) (x : α), l[i]? = some x → p x = true →
    ((l.eraseIdx i).filter p).length + 1 = (l.filter p).length
  | [], _, _, h, _ => by simp at h
  | a :: l, 0, x, h, hp => by
    simp at h; subst h; simp [hp]
  | a :: l, i + 1, x, h, hp => by
    have ih := filter_eraseIdx_length p l i x (by simpa using h) hp
    simp only [List.eraseIdx_cons_succ, List.filter_cons]
    by_cases hpa : p a = true
    · simp only [hpa, if_true, List.length_cons]; omega
    · simp only [hpa, Bool.false_eq_true, if_false]; exact ih

theorem dueCount_remove (tm : Timer) (t : Nat) : dueCount (tm.remove t) ≤ dueCount tm := by
  unfold Timer.remove
  split
  · exact ((List.eraseIdx_sublist _ _).filter _).length_le
  · exact Nat.le_refl _

theorem dueCount_add_later (tm : Timer) (t d : Nat) (h : tm.mtime < d) : dueCount (tm.add t d) = dueCount tm := by
  have : ¬ d ≤ tm.mtime := by omega
  simp [dueCount, Timer.add, List.filter_append, this]

theorem dueCount_next_some {tm tm' : Timer} {e d : Nat} (h : tm.next = (some (e, d), tm')) : dueCount tm' + 1 = dueCount tm := by
  obtain ⟨i, hi, hd, _, htm⟩ := Timer.next_some h
  rw [htm]
  exact filter_eraseIdx_length _ tm.elems i (e, d) hi (by simpa using hd)

theorem dueCount_next_none {tm tm' : Timer} (h : tm.next = (none, tm')) : dueCount tm' = dueCount tm := by
  obtain ⟨_, htm⟩ := Timer.next_none h
  rw [htm]; rfl

theorem stopThread_due (s : St) (t : Tid) : dueCount (stopThread s t).timer ≤ dueCount s.timer := by
  rcases stopThread_timer_eq s t with e | e <;> rw [e]
  · exact Nat.le_refl _
  · exact dueCount_remove _ _

theorem stopThread_mtime (s : St) (t : Tid) : (stopThread s t).timer.mtime = s.timer.mtime := by
  rcases stopThread_timer_eq s t with e | e <;> rw [e]
  exact Timer.remove_mtime _ _

@[simp] theorem stopThread_scaled (s : St) (t : Tid) : (stopThread s t).scaled = s.scaled := by rw [stopThread_eq]

theorem endThread_due {s : St} (h : NoJoin s.threads) (t : Tid) : dueCount (endThread s t).timer ≤ dueCount s.timer := by
  rcases endThread_timer_eq h t with e | e <;> rw [e]
  · exact Nat.le_refl _
  · exact stopThread_due s t

def clocks (s : St) : Nat × Nat := (s.scaled, s.timer.mtime)

theorem next_mtime {tm tm' : Timer} {o : Option (Nat × Nat)} (h : tm.next = (o, tm')) : tm'.mtime = tm.mtime := by
  have := Timer.next_mtime tm
  rwa [h] at this

theorem stopThread_clocks (s : St) (t : Tid) : clocks (stopThread s t) = clocks s := by
  simp [clocks, stopThread_mtime]

theorem startedWaitFor_clocks (s : St) (t : Tid) : clocks (startedWaitFor s t) = clocks s := stopThread_clocks s t

theorem endThread_clocks (s : St) (t : Tid) : clocks (endThread s t) = clocks s := by
  unfold endThread
  split
  · rfl
  · simp only
    split
    · split
      · split
        · simp [clocks, stopThread_mtime, Timer.add]
        · simp [clocks, stopThread_mtime]
      · simp [clocks, stopThread_mtime]
    · simp [clocks, stopThread_mtime]

theorem clocks_of_mtime {s s' : St} (hs : s'.scaled = s.scaled) (ht : s'.timer.mtime = s.timer.mtime) :
    clocks s' = clocks s := by
  simp [clocks, hs, ht]

theorem Enters.clocks {E : Env} {s s' : St} {t : Tid} (h : Enters E s t s') : clocks s' = clocks s := by
  cases h <;> rfl

theorem enterSei_clocks (E : Env) (s : St) (t : Tid) : clocks (enterSei E s t) = clocks s :=
  (enters_enterSei E s t).clocks.trans (clocks_of_mtime rfl (stopThread_mtime _ t))

theorem Exec.clocks {E : Env} {s s' : St} {t : Tid} {th : Thr} {k : List Frame} {op : Op} (h : Exec E s t th k op s') :
    clocks s' = clocks s := by
  cases h
  case done hD => subst hD; exact clocks_of_mtime rfl (congrArg Prod.snd (endThread_clocks s t))
  case wait hD => subst hD; exact clocks_of_mtime rfl (stopThread_mtime _ t)
  case waittill c _ _ hD => subst hD; exact clocks_of_mtime rfl (congrArg Prod.snd (startedWaitFor_clocks _ c))
  case thread => exact enterSei_clocks ..
  case waitthread c _ _ _ hD =>
    subst hD; exact (enterSei_clocks ..).trans (clocks_of_mtime rfl (congrArg Prod.snd (startedWaitFor_clocks _ c)))
  all_goals rfl

theorem step_clocks (E : Env) (s : St) : clocks (step E s) = clocks s := by
  refine step_cases (P := fun s' => clocks s' = clocks s) E s (fun _ => rfl) (fun e f rest s' _ _ _ hu => ?_)
    (fun f rest s' _ hst _ hr => ?_)
  · cases hu <;> rfl
  · cases hr
    case exec hx => exact hx.clocks
    case notifyEnter => exact enterSei_clocks ..
    case schedEmpty hn => exact clocks_of_mtime rfl (next_mtime hn)
    case schedResume hn => exact (enters_enterVM ..).clocks.trans (clocks_of_mtime rfl (next_mtime hn))
    all_goals rfl

end Morfuse.Unwind
