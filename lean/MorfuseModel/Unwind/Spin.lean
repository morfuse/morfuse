import MorfuseModel.Unwind.Start
/-!
# Unwind model — the plain runaway loop (`while (1) { … }` shape), step by step

`Spin code`: every opcode of the label is `nop` or a jump to a valid position and execution cannot fall
off the end: the thread never yields, nests, raises or ends.  For such a label the machine is followed
exactly: the stack stays `[vm, sei, thrExec]`, each instruction is two steps (body, time check + clock
read), and the k-th time check compares reading k of the clock with reading 0 + limit — the comparison of
`Sched.Guard.runLoop`.
-/
namespace Morfuse.Unwind

def Spin (code : List Op) : Prop :=
  ∀ pc, pc < code.length →
    (code.getD pc .done = .nop ∧ pc + 1 < code.length) ∨ (∃ k, code.getD pc .done = .jmp k ∧ k < code.length)

def ThrOK (code : List Op) (l : Nat) (s : St) (t : Tid) : Prop :=
  ∃ th, find s.threads t = some th ∧ th.label = l ∧ th.pc < code.length ∧ th.vs = .running

theorem vmRunning_of_ThrOK {code : List Op} {l : Nat} {s : St} {t : Tid} (h : ThrOK code l s t) : vmRunning s t = true := by
  obtain ⟨th, h1, _, _, h4⟩ := h
  simp [vmRunning, h1, h4]

/-- the loop is spinning: three frames, its thread alive and running inside its code, at most a
    `CommandOverflow` waiting for the handler of the frame that raised it -/
structure Spinning (code : List Op) (l : Nat) (t : Tid) (saved : Option Tid) (s : St) : Prop where
  ub : s.ub = false
  thr : ThrOK code l s t
  shape : ∃ dl ct post n, s.stack = [.vm t dl ct post n, .sei t saved, .thrExec] ∧
    (s.exc = none ∨ (s.exc = some .overflow ∧ post = true))

/-- number of deadline extensions among the next `k` steps -/
def extensions (E : Env) : Nat → St → Nat
  | 0, _ => 0
  | k + 1, s => (if s.exc = some .overflow then 1 else 0) + extensions E k (step E s)

/-- reading number `j` of the injected clock counted from a moment when it shows `now` and has been read
    `r` times -/
def clkAt (inc : Nat → Nat) (now r : Nat) : Nat → Nat
  | 0 => now
  | j + 1 => clkAt inc now r j + inc (r + j)

/-- after instruction `j` of the loop (time check next): the frame holds deadline = reading 0 + limit and
    `cmdTime` = reading `j`, exactly the data `Guard.runLoop` compares -/
structure PostJ (E : Env) (code : List Op) (l : Nat) (t : Tid) (saved : Option Tid) (now0 r : Nat) (j : Nat) (s : St) : Prop where
  ub : s.ub = false
  exc : s.exc = none
  thr : ThrOK code l s t
  stack : s.stack = [.vm t (now0 + E.cfg.maxExec) (clkAt E.inc now0 r j) true j, .sei t saved, .thrExec]
  now : s.now = clkAt E.inc now0 r (j + 1)
  reads : s.reads = r + j + 1

section
variable (E : Env) (code : List Op) (l : Nat)

theorem thrOK_start {s : St} {t : Tid} {ths : List (Tid × Thr)} (hne : 0 < code.length) (hfresh : find ths t = none)
    (hs : s.threads = upd (ths ++ [(t, { label := l, grp := t })]) t fun th => { th with vs := .running }) :
    ThrOK code l s t :=
  ⟨_, by rw [hs]; exact find_upd_self _ t _ _ (find_append_new ths t _ hfresh), rfl, hne, rfl⟩

variable (hcode : E.prog.getD l [] = code) (hspin : Spin code)
include hcode hspin

theorem spin_fetch {s : St} {t : Tid} {dl ct n : Nat} {rest : List Frame}
    (hst : s.stack = .vm t dl ct false n :: rest) (hexc : s.exc = none) (hub : s.ub = false) (hthr : ThrOK code l s t) :
    ∃ ths, step E s = { s with threads := ths, stack := .vm t dl ct true (n + 1) :: rest } ∧
      ThrOK code l { s with threads := ths } t := by
  obtain ⟨th, h1, h2, h3, h4⟩ := hthr
  rw [step_exec hub hst hexc h1 h4, h2, hcode]
  rcases hspin th.pc h3 with ⟨hop, hpc⟩ | ⟨k, hop, hk⟩ <;> rw [hop]
  · exact ⟨_, rfl, _, find_upd_self s.threads t (fun x => { x with pc := th.pc + 1 }) th h1, h2, hpc, h4⟩
  · exact ⟨_, rfl, _, find_upd_self s.threads t (fun x => { x with pc := k }) th h1, h2, hk, h4⟩

theorem spinning_step (hp : E.cfg.prot = false) (t : Tid) (saved : Option Tid) (s : St) (h : Spinning code l t saved s) :
    Spinning code l t saved (step E s) := by
  obtain ⟨dl, ct, post, n, hst, hexc⟩ := h.shape
  rcases hexc with hexc | ⟨hexc, rfl⟩
  · cases post with
    | false =>
      obtain ⟨ths, e, hthr⟩ := spin_fetch E code l hcode hspin hst hexc h.ub h.thr
      rw [e]
      exact ⟨h.ub, hthr, _, _, _, _, rfl, .inl hexc⟩
    | true =>
      by_cases hf : dl ≠ 0 ∧ ct ≥ dl
      · rw [step_fire h.ub hst hexc hf.1 hf.2 (vmRunning_of_ThrOK h.thr)]
        exact ⟨h.ub, h.thr, dl, ct, true, n, hst, .inr ⟨rfl, rfl⟩⟩
      · rw [step_check h.ub hst hexc fun c => hf ⟨c.1, c.2.1⟩]
        exact ⟨h.ub, h.thr, _, _, _, _, rfl, .inl hexc⟩
  · rw [step_extend h.ub hst hexc hp]
    exact ⟨h.ub, h.thr, _, _, false, 0, rfl, .inl rfl⟩

theorem spinning_run (hp : E.cfg.prot = false) (t : Tid) (saved : Option Tid) : ∀ (k : Nat) (s : St), Spinning code l t saved s →
    Spinning code l t saved (run E k s) :=
  run_invariant E (spinning_step E code l hcode hspin hp t saved)

omit hcode hspin in
theorem spinning_start (hne : 0 < code.length) (s0 : St) (hfresh : find s0.threads s0.nextTid = none)
    (hd : s0.depth ≤ E.cfg.maxDepth) (hub : s0.ub = false) : Spinning code l s0.nextTid s0.cur (startCall E s0 l) := by
  obtain ⟨dl, ct, now', reads', h⟩ := startCall_eq E s0 l hfresh hd
  rw [h]
  exact ⟨hub, thrOK_start code l hne hfresh rfl, dl, ct, false, 0, rfl, .inl rfl⟩

/-- what a spinning loop writes: one Debug block per deadline extension, nothing else -/
theorem spinning_diag (hp : E.cfg.prot = false) (t : Tid) (saved : Option Tid) (s : St) (h : Spinning code l t saved s) :
    diagOf E s = if s.exc = some .overflow ∧ E.cfg.sDbg = true then [.dbgUpdate] else [] := by
  obtain ⟨dl, ct, post, n, hst, hexc⟩ := h.shape
  obtain ⟨th, h1, h2, h3, h4⟩ := h.thr
  rcases hexc with hexc | ⟨hexc, hpost⟩
  · cases post with
    | false =>
      rcases hspin th.pc h3 with ⟨hop, _⟩ | ⟨k, hop, _⟩
      · have hop' : (E.prog.getD th.label []).getD th.pc .done = .nop := by rw [h2, hcode]; exact hop
        unfold diagOf
        simp only [h.ub, hst, hexc, h1, h4, hop']
        simp
      · have hop' : (E.prog.getD th.label []).getD th.pc .done = .jmp k := by rw [h2, hcode]; exact hop
        unfold diagOf
        simp only [h.ub, hst, hexc, h1, h4, hop']
        simp
    | true => simp [diagOf, h.ub, hst, hexc]
  · simp [diagOf, h.ub, hst, hexc, hp]

theorem spinning_diag_rate (hp : E.cfg.prot = false) (t : Tid) (saved : Option Tid) : ∀ (k : Nat) (s : St) (d : List Diag),
    Spinning code l t saved s →
    (runD E k (s, d)).2 = d ++ List.replicate (if E.cfg.sDbg = true then extensions E k s else 0) .dbgUpdate
  | 0, s, d, _ => by simp [runD, extensions]
  | k + 1, s, d, h => by
    have ih := spinning_diag_rate hp t saved k (step E s) (d ++ diagOf E s)
      (spinning_step E code l hcode hspin hp t saved s h)
    simp only [runD, stepD]
    rw [ih, spinning_diag E code l hcode hspin hp t saved s h]
    by_cases hd : E.cfg.sDbg = true
    · by_cases ho : s.exc = some .overflow
      · simp [hd, ho, extensions, Nat.add_comm 1, List.replicate_succ]
      · simp [hd, ho, extensions]
    · simp [hd]

theorem postJ_next (t : Tid) (saved : Option Tid) (now0 r j : Nat) (s : St) (h : PostJ E code l t saved now0 r j s)
    (hlt : clkAt E.inc now0 r j < now0 + E.cfg.maxExec) :
    PostJ E code l t saved now0 r (j + 1) (step E (step E s)) := by
  rw [step_check h.ub h.stack h.exc fun ⟨_, c, _⟩ => by omega]
  obtain ⟨ths, e, hthr⟩ := spin_fetch E code l hcode hspin (s := { tick E s with stack := _ }) rfl h.exc h.ub h.thr
  rw [e]
  refine ⟨h.ub, h.exc, hthr, ?_, ?_, ?_⟩
  · show [Frame.vm t _ s.now true (j + 1), _, _] = _
    rw [h.now]
  · show s.now + E.inc s.reads = _
    rw [h.now, h.reads]; simp only [clkAt, Nat.add_assoc]
  · show s.reads + 1 = _
    rw [h.reads]; omega

/-- as long as no earlier check fired, the state after `2j - 1` steps is `PostJ j` -/
theorem postJ_run (t : Tid) (saved : Option Tid) (now0 r : Nat) (s1 : St) (h1 : PostJ E code l t saved now0 r 1 s1) :
    ∀ (j : Nat), (∀ i, 1 ≤ i → i ≤ j → clkAt E.inc now0 r i < now0 + E.cfg.maxExec) →
      PostJ E code l t saved now0 r (j + 1) (run E (2 * j) s1)
  | 0, _ => h1
  | j + 1, hfirst => by
    have ih := postJ_run t saved now0 r s1 h1 j (fun i a b => hfirst i a (by omega))
    have := postJ_next E code l hcode hspin t saved now0 r (j + 1) _ ih (hfirst (j + 1) (by omega) (Nat.le_refl _))
    rw [show 2 * (j + 1) = 2 * j + 2 by omega, run_add]
    exact this

/-- `PostJ 1` one step after the host call has entered the VM -/
theorem postJ_one (hne : 0 < code.length) (s0 : St) (hfresh : find s0.threads s0.nextTid = none) (hd : s0.depth ≤ E.cfg.maxDepth)
    (hub : s0.ub = false) (hL : E.cfg.maxExec ≠ 0) :
    PostJ E code l s0.nextTid s0.cur s0.now s0.reads 1 (step E (startCall E s0 l)) := by
  have e0 := startCall_limited E s0 l hfresh hd hL
  obtain ⟨ths, e, hthr⟩ := spin_fetch E code l hcode hspin (s := startCall E s0 l) (n := 0) (by rw [e0]) (by rw [e0])
    (by rw [e0]; exact hub) (by rw [e0]; exact thrOK_start code l hne hfresh rfl)
  rw [e, e0]
  exact ⟨hub, rfl, hthr, rfl, rfl, rfl⟩

end

end Morfuse.Unwind
