import MorfuseModel.Dict.Model
import MorfuseModel.Dict.Spec
/-!
# Invariant of the arrayset / StringDictionary model and its preservation

`Inv hash s ks`: `ks` is the list of interned texts in id order (ghost; `texts s` in the end).  Entry `e`
(`1 ≤ e ≤ count`) holds the text with id `e`, `Spec.textOf ks e`.  `Buckets` is the part of the invariant about
the bucket chains; it is also the loop invariant of `resize`.  Every operation keeps `Inv` and refines the list
specification, for an arbitrary `hash`: `add_refines` (with the id handed out), `step_refines`, `run_refines`,
`reachable_inv`, and `idOf_spec` / `textOf_spec` for the two look-ups, at the end of the file.
-/
namespace Morfuse.Dict
set_option linter.unusedSectionVars false
variable {κ : Type} [DecidableEq κ]

/-- a null-terminated singly linked chain starting at `e` visits exactly `L` -/
def Chain (nx : Nat → Nat) : Nat → List Nat → Prop
  | e, [] => e = 0
  | e, a :: t => e = a ∧ a ≠ 0 ∧ Chain nx (nx a) t

theorem Chain.congr {nx nx' : Nat → Nat} : ∀ {L : List Nat} {e : Nat}, Chain nx e L →
    (∀ x ∈ L, nx' x = nx x) → Chain nx' e L
  | [], _, h, _ => h
  | a :: t, e, ⟨h1, h2, h3⟩, hx => by
    refine ⟨h1, h2, ?_⟩
    rw [hx a (by simp)]
    exact Chain.congr h3 (fun x hm => hx x (by simp [hm]))

theorem Chain.zero_not_mem {nx : Nat → Nat} : ∀ {L : List Nat} {e : Nat}, Chain nx e L → 0 ∉ L
  | [], _, _ => by simp
  | a :: t, e, ⟨_, h2, h3⟩ => by
    intro hm
    rcases List.mem_cons.1 hm with h | h
    · exact h2 h.symm
    · exact Chain.zero_not_mem h3 h

/-- the entries satisfying `M` hang, each once, on the chain of their home bucket
    (`nx` = `next` field, `tb` = bucket array of length `n`) -/
structure Buckets (nx tb : Nat → Nat) (n : Nat) (home : Nat → Nat) (M : Nat → Prop) (Bn : Nat → List Nat) :
    Prop where
  chain : ∀ b, b < n → Chain nx (tb b) (Bn b)
  nodup : ∀ b, b < n → (Bn b).Nodup
  mem : ∀ b, b < n → ∀ x, x ∈ Bn b ↔ M x ∧ home x = b

theorem Buckets.congr {nx tb home : Nat → Nat} {n : Nat} {M M' : Nat → Prop} {Bn : Nat → List Nat}
    (h : Buckets nx tb n home M Bn) (hM : ∀ x, M' x ↔ M x) : Buckets nx tb n home M' Bn :=
  ⟨h.chain, h.nodup, fun b hb x => by rw [h.mem b hb x, hM x]⟩

theorem Buckets.congr_home {nx tb home home' : Nat → Nat} {n : Nat} {M : Nat → Prop} {Bn : Nat → List Nat}
    (h : Buckets nx tb n home M Bn) (hh : ∀ x, M x → home' x = home x) : Buckets nx tb n home' M Bn :=
  ⟨h.chain, h.nodup, fun b hb x => by
    rw [h.mem b hb x]
    exact and_congr_right fun hx => by rw [hh x hx]⟩

theorem Buckets.push {nx tb nx' tb' home : Nat → Nat} {n i e : Nat} {M : Nat → Prop} {Bn : Nat → List Nat}
    (h : Buckets nx tb n home M Bn) (he : e ≠ 0) (hM : ¬ M e) (hi : home e = i)
    (hnx : ∀ x, nx' x = if x = e then tb i else nx x) (htb : ∀ b, b < n → tb' b = if b = i then e else tb b) :
    ∃ Bn', Buckets nx' tb' n home (fun x => M x ∨ x = e) Bn' := by
  have hfresh : ∀ b, b < n → e ∉ Bn b := fun b hb hx => hM ((h.mem b hb e).1 hx).1
  refine ⟨fun b => if b = i then e :: Bn b else Bn b, fun b hb => ?_, fun b hb => ?_, fun b hb x => ?_⟩
  · have hc : Chain nx' (tb b) (Bn b) :=
      Chain.congr (h.chain b hb) (fun x hx => by rw [hnx, if_neg (fun (hxe : x = e) => hfresh b hb (hxe ▸ hx))])
    rw [htb b hb]
    split
    · rename_i hbi
      exact ⟨rfl, he, by rw [hnx, if_pos rfl, ← hbi]; exact hc⟩
    · exact hc
  · split
    · exact List.nodup_cons.2 ⟨hfresh b hb, h.nodup b hb⟩
    · exact h.nodup b hb
  · subst hi
    by_cases hxe : x = e
    · subst hxe
      by_cases hbi : home x = b
      · simp [← hbi]
      · simp [hbi, Ne.symm hbi, hM, h.mem b hb]
    · split <;> simp [hxe, h.mem b hb]

theorem nodup_length_le : ∀ (n : Nat) (l : List Nat), l.Nodup → (∀ x ∈ l, 1 ≤ x ∧ x ≤ n) → l.length ≤ n :=
  fun n l hnd h => by
    have := hnd.length_le_of_subset (l₂ := List.range' 1 n) fun x hx => by
      have := h x hx
      simp only [List.mem_range'_1]; omega
    simpa using this

theorem Buckets.length_le {nx tb home : Nat → Nat} {n N b : Nat} {M : Nat → Prop} {Bn : Nat → List Nat}
    (h : Buckets nx tb n home M Bn) (hM : ∀ x, M x → 1 ≤ x ∧ x ≤ N) (hb : b < n) : (Bn b).length ≤ N :=
  nodup_length_le N _ (h.nodup b hb) fun x hx => hM x ((h.mem b hb x).1 hx).1

theorem spec_textOf_none {l : List κ} {i : Nat} (h : ¬ (1 ≤ i ∧ i ≤ l.length)) : Spec.textOf l i = none := by
  unfold Spec.textOf
  split
  · rfl
  · exact List.getElem?_eq_none (by omega)

theorem spec_textOf_range {l : List κ} {i : Nat} {t : κ} (h : Spec.textOf l i = some t) :
    1 ≤ i ∧ i ≤ l.length :=
  Decidable.byContradiction fun hn => by rw [spec_textOf_none hn] at h; cases h

theorem exists_spec_textOf {l : List κ} {i : Nat} (h1 : 1 ≤ i) (h2 : i ≤ l.length) :
    ∃ t, Spec.textOf l i = some t :=
  ⟨l[i - 1], by rw [Spec.textOf, if_neg (by omega), List.getElem?_eq_getElem]⟩

theorem spec_textOf_mem {l : List κ} {i : Nat} {t : κ} (h : Spec.textOf l i = some t) : t ∈ l := by
  unfold Spec.textOf at h
  split at h
  · cases h
  · exact List.mem_of_getElem? h

theorem spec_textOf_of_mem {l : List κ} {t : κ} (h : t ∈ l) : ∃ i, Spec.textOf l i = some t := by
  obtain ⟨i, hi, ht⟩ := List.getElem_of_mem h
  exact ⟨i + 1, by simp [Spec.textOf, List.getElem?_eq_getElem hi, ht]⟩

theorem spec_textOf_append_left {l r : List κ} {i : Nat} (h : i ≤ l.length) :
    Spec.textOf (l ++ r) i = Spec.textOf l i := by
  unfold Spec.textOf
  split
  · rfl
  · rw [List.getElem?_append_left (by omega)]

theorem spec_textOf_append {l r : List κ} {i : Nat} {t : κ} (h : Spec.textOf l i = some t) :
    Spec.textOf (l ++ r) i = some t := by
  rw [spec_textOf_append_left (spec_textOf_range h).2, h]

theorem spec_textOf_snoc {l : List κ} {t : κ} : Spec.textOf (l ++ [t]) (l.length + 1) = some t := by
  simp [Spec.textOf]

theorem spec_idOf_of_textOf {l : List κ} (hnd : l.Nodup) {i : Nat} {t : κ} (h : Spec.textOf l i = some t) :
    Spec.idOf l t = i := by
  have hr := spec_textOf_range h
  unfold Spec.textOf at h
  rw [if_neg (by omega)] at h
  obtain ⟨h1, h2⟩ := List.getElem?_eq_some_iff.1 h
  unfold Spec.idOf
  rw [if_pos (by rw [← h2]; exact List.getElem_mem h1)]
  have := List.Nodup.idxOf_getElem hnd (i - 1) h1
  rw [h2] at this
  omega

theorem spec_textOf_of_idOf {l : List κ} {t : κ} {i : Nat} (h : Spec.idOf l t = i) (hi : i ≠ 0) :
    Spec.textOf l i = some t := by
  unfold Spec.idOf at h
  split at h
  · rename_i hm
    have hlt := List.idxOf_lt_length_of_mem hm
    subst h
    simp only [Spec.textOf, Nat.add_sub_cancel, if_neg (Nat.succ_ne_zero _)]
    rw [List.getElem?_eq_getElem hlt, List.getElem_idxOf hlt]
  · exact absurd h.symm hi

theorem spec_textOf_iff {l : List κ} (hnd : l.Nodup) {i : Nat} {t : κ} :
    Spec.textOf l i = some t ↔ Spec.idOf l t = i ∧ i ≠ 0 :=
  ⟨fun h => ⟨spec_idOf_of_textOf hnd h, by have := spec_textOf_range h; omega⟩,
    fun h => spec_textOf_of_idOf h.1 h.2⟩

theorem spec_idOf_of_not_mem {l : List κ} {t : κ} (h : t ∉ l) : Spec.idOf l t = 0 := if_neg h

theorem spec_add_of_mem {l : List κ} {t : κ} (h : t ∈ l) : Spec.add l t = l := if_pos h

theorem spec_add_of_not_mem {l : List κ} {t : κ} (h : t ∉ l) : Spec.add l t = l ++ [t] := if_neg h

theorem spec_add_prefix (l : List κ) (t : κ) : ∃ r, Spec.add l t = l ++ r := by
  unfold Spec.add
  split
  · exact ⟨[], by simp⟩
  · exact ⟨[t], rfl⟩

theorem spec_mem_add {l : List κ} {t x : κ} : x ∈ Spec.add l t ↔ x ∈ l ∨ x = t := by
  by_cases hm : t ∈ l
  · rw [spec_add_of_mem hm]
    exact ⟨Or.inl, fun h => h.elim id (fun hx => hx ▸ hm)⟩
  · simp [spec_add_of_not_mem hm]

theorem spec_add_nodup {ks : List κ} (h : ks.Nodup) (t : κ) : (Spec.add ks t).Nodup := by
  unfold Spec.add
  split
  · exact h
  · rename_i hn
    rw [List.nodup_append]
    refine ⟨h, by simp, ?_⟩
    intro a ha b hb
    simp at hb; subst hb
    exact fun e => hn (e ▸ ha)

theorem spec_add_length_le (l : List κ) (t : κ) : (Spec.add l t).length ≤ l.length + 1 := by
  unfold Spec.add; split <;> simp

theorem spec_foldl_add_nodup : ∀ (P l : List κ), (l ++ P).Nodup → P.foldl Spec.add l = l ++ P
  | [], l, _ => by simp
  | t :: P, l, h => by
    have hnm : t ∉ l := by
      intro hm
      rw [List.nodup_append] at h
      exact h.2.2 t hm t (by simp) rfl
    rw [List.foldl_cons, spec_add_of_not_mem hnm, spec_foldl_add_nodup P (l ++ [t]) (by simpa using h)]
    simp

theorem spec_mem_foldl_add : ∀ (P l : List κ) (x : κ), x ∈ P.foldl Spec.add l ↔ x ∈ l ∨ x ∈ P
  | [], l, x => by simp
  | t :: P, l, x => by
    rw [List.foldl_cons, spec_mem_foldl_add P _ x, spec_mem_add, List.mem_cons, or_assoc]

def Op.isReset : Op κ → Bool
  | .reset => true
  | .resetMaster => true
  | _ => false

theorem spec_step_cases {P l l' : List κ} {op : Op κ} (h : Spec.step P l op = some l') :
    l' = l ∨ (∃ t, op = .add t ∧ l' = Spec.add l t) ∨
      (op.isReset = true ∧ (l' = [] ∨ l' = P.foldl Spec.add [])) := by
  cases op <;> simp only [Spec.step, Option.some.injEq] at h
  case str i => split at h <;> simp_all
  all_goals simp [← h, Op.isReset]

theorem spec_step_prefix {P l l' : List κ} {op : Op κ} (h : Spec.step P l op = some l')
    (hr : op.isReset = false) : ∃ r, l' = l ++ r := by
  rcases spec_step_cases h with rfl | ⟨t, _, rfl⟩ | ⟨hr', _⟩
  · exact ⟨[], by simp⟩
  · exact spec_add_prefix l t
  · rw [hr] at hr'; cases hr'

theorem spec_run_prefix {P : List κ} : ∀ (ops : List (Op κ)) {l l' : List κ}, Spec.run P l ops = some l' →
    (∀ op ∈ ops, op.isReset = false) → ∃ r, l' = l ++ r
  | [], l, l', h, _ => by
    simp only [Spec.run, Option.some.injEq] at h; subst h; exact ⟨[], by simp⟩
  | op :: ops, l, l', h, hr => by
    simp only [Spec.run, Option.bind_eq_some_iff] at h
    obtain ⟨l1, h1, h2⟩ := h
    obtain ⟨r1, e1⟩ := spec_step_prefix h1 (hr op (by simp))
    obtain ⟨r2, e2⟩ := spec_run_prefix ops h2 (fun o ho => hr o (by simp [ho]))
    exact ⟨r1 ++ r2, by rw [e2, e1, List.append_assoc]⟩

/-- a text enters the dictionary only through `add t` or the predefined list -/
theorem spec_run_not_mem {P : List κ} {t : κ} (hP : t ∉ P) : ∀ (ops : List (Op κ)) {l l' : List κ},
    Spec.run P l ops = some l' → t ∉ l → (∀ op ∈ ops, op ≠ Op.add t) → t ∉ l'
  | [], l, l', h, hl, _ => by
    simp only [Spec.run, Option.some.injEq] at h; subst h; exact hl
  | op :: ops, l, l', h, hl, hne => by
    simp only [Spec.run, Option.bind_eq_some_iff] at h
    obtain ⟨l1, h1, h2⟩ := h
    refine spec_run_not_mem hP ops h2 ?_ (fun o ho => hne o (by simp [ho]))
    rcases spec_step_cases h1 with rfl | ⟨u, rfl, rfl⟩ | ⟨_, rfl | rfl⟩
    · exact hl
    · rw [spec_mem_add]
      rintro (h | rfl)
      · exact hl h
      · exact hne _ (by simp) rfl
    · simp
    · simp [spec_mem_foldl_add, hP]

/-- the bucket of entry `e` in a table of `n` buckets: `Hash(e->Value()) % n` -/
def home (hash : κ → Nat) (ks : List κ) (n e : Nat) : Nat := (Spec.textOf ks e).elim 0 (hash · % n)

variable {hash : κ → Nat}

theorem home_of_textOf {ks : List κ} {n e : Nat} {k : κ} (h : Spec.textOf ks e = some k) :
    home hash ks n e = hash k % n := by
  rw [home, h]; rfl

theorem home_lt (hash : κ → Nat) (ks : List κ) {n : Nat} (hn : 0 < n) (e : Nat) : home hash ks n e < n := by
  unfold home
  cases Spec.textOf ks e with
  | none => exact hn
  | some k => exact Nat.mod_lt _ hn

structure Inv (hash : κ → Nat) (s : State κ) (ks : List κ) : Prop where
  count_eq : s.count = ks.length
  nodup : ks.Nodup
  key_eq : ∀ e, s.key.get? e = Spec.textOf ks e
  idx_eq : ∀ e, 1 ≤ e → e ≤ s.count → s.idx.get e = e
  rev_eq : ∀ i, 1 ≤ i → i ≤ s.count → revGet s i = i
  tl_pos : 0 < s.tableLength
  thr : s.threshold = s.tableLength
  le : s.count ≤ s.tableLength
  inl_tl : s.inl = true → s.tableLength = 1
  dflt : s.defaultEntry = 0 ↔ s.count = 0
  buckets : ∃ B, Buckets s.next.get (tableGet s) s.tableLength (home hash ks s.tableLength)
    (fun e => 1 ≤ e ∧ e ≤ ks.length) B

theorem Inv.chain {s : State κ} {ks : List κ} (h : Inv hash s ks) {b : Nat} (hb : b < s.tableLength) :
    ∃ L, Chain s.next.get (tableGet s b) L ∧ L.length ≤ s.count ∧
      ∀ e, e ∈ L ↔ (1 ≤ e ∧ e ≤ ks.length) ∧ home hash ks s.tableLength e = b := by
  obtain ⟨B, hB⟩ := h.buckets
  exact ⟨B b, hB.chain b hb, h.count_eq ▸ hB.length_le (fun _ hx => hx) hb, hB.mem b hb⟩

theorem init_inv (hash : κ → Nat) : Inv hash (init : State κ) [] where
  count_eq := rfl
  nodup := List.nodup_nil
  key_eq e := by simp [init, Spec.textOf]
  idx_eq e h1 h2 := by simp [init] at h2; omega
  rev_eq e h1 h2 := by simp [init] at h2; omega
  tl_pos := by simp [init]
  thr := rfl
  le := by simp [init]
  inl_tl := by simp [init]
  dflt := by simp [init]
  buckets := ⟨fun _ => [], fun b _ => by simp [init, tableGet, Chain], fun b _ => List.nodup_nil, fun b _ e => by simp; omega⟩

theorem findLoop_eq (s : State κ) (key : κ) : ∀ (L : List Nat) (fuel e : Nat),
    Chain s.next.get e L → L.length ≤ fuel →
    findLoop s key fuel e = (L.find? fun x => s.key.get? x = some key).getD 0
  | [], fuel, e, hc, _ => by
    obtain rfl : e = 0 := hc
    cases fuel <;> simp [findLoop]
  | a :: t, 0, e, _, hl => by simp at hl
  | a :: t, fuel + 1, e, ⟨h1, h2, h3⟩, hl => by
    subst h1
    rw [findLoop, if_neg h2, List.find?_cons]
    by_cases hk : s.key.get? e = some key
    · simp [hk]
    · simp only [hk, if_false, decide_false]
      exact findLoop_eq s key t fuel _ h3 (by simpa using hl)

theorem findKeyEntry_spec {s : State κ} {ks : List κ} (h : Inv hash s ks) (key : κ) :
    (findKeyEntry hash s key ≠ 0 → Spec.textOf ks (findKeyEntry hash s key) = some key) ∧
    (findKeyEntry hash s key = 0 → key ∉ ks) := by
  obtain ⟨L, hc, hl, hL⟩ := h.chain (Nat.mod_lt (hash key) h.tl_pos)
  rw [findKeyEntry, findLoop_eq s key L _ _ hc (by omega)]
  cases hf : L.find? fun x => s.key.get? x = some key with
  | some e =>
    have he : Spec.textOf ks e = some key := by simpa [h.key_eq] using List.find?_some hf
    exact ⟨fun _ => he, fun h0 => by rw [show e = 0 from h0] at he; cases he⟩
  | none =>
    refine ⟨fun hne => absurd rfl hne, fun _ hm => ?_⟩
    obtain ⟨e, he⟩ := spec_textOf_of_mem hm
    have := List.find?_eq_none.1 hf e ((hL e).2 ⟨spec_textOf_range he, home_of_textOf he⟩)
    simp [h.key_eq, he] at this

theorem moveChain_eq (hash : κ → Nat) : ∀ (fuel e : Nat) (s : State κ),
    ∃ nx tb, moveChain hash fuel e s = { s with next := nx, table := tb }
  | 0, _, s => ⟨s.next, s.table, rfl⟩
  | fuel + 1, e, s => by
    unfold moveChain
    split
    · exact ⟨s.next, s.table, rfl⟩
    · split
      · exact ⟨s.next, s.table, rfl⟩
      · exact moveChain_eq hash fuel _ _

theorem moveChain_spec (hash : κ → Nat) (ks : List κ) (n : Nat) :
    ∀ (L : List Nat) (fuel e : Nat) (s : State κ) (M : Nat → Prop) (Bn : Nat → List Nat),
    L.length ≤ fuel → s.tableLength = n → (∀ x, s.key.get? x = Spec.textOf ks x) →
    Chain s.next.get e L → L.Nodup → (∀ x ∈ L, (1 ≤ x ∧ x ≤ ks.length) ∧ ¬ M x) →
    Buckets s.next.get s.table.get n (home hash ks n) M Bn →
    ∃ Bn', Buckets (moveChain hash fuel e s).next.get (moveChain hash fuel e s).table.get n (home hash ks n)
        (fun x => M x ∨ x ∈ L) Bn' ∧
      ∀ x, x ∉ L → (moveChain hash fuel e s).next.get x = s.next.get x
  | [], fuel, e, s, M, Bn, _, _, _, hc, _, _, hB => by
    have he : e = 0 := hc
    subst he
    have : moveChain hash fuel 0 s = s := by cases fuel <;> simp [moveChain]
    rw [this]
    exact ⟨Bn, hB.congr (by simp), fun _ _ => rfl⟩
  | a :: t, 0, _, _, _, _, hl, _, _, _, _, _, _ => by simp at hl
  | a :: t, fuel + 1, e, s, M, Bn, hl, htl, hkey, ⟨h1, h2, h3⟩, hnd, hL, hB => by
    subst h1
    obtain ⟨hat, htnd⟩ := List.nodup_cons.1 hnd
    obtain ⟨⟨hent, hM⟩, hLt⟩ := List.forall_mem_cons.1 hL
    obtain ⟨k, hk⟩ := exists_spec_textOf hent.1 hent.2
    let s' : State κ :=
      { s with next := s.next.set e (s.table.get (hash k % n)), table := s.table.set (hash k % n) e }
    have hstep : moveChain hash (fuel + 1) e s = moveChain hash fuel (s.next.get e) s' := by
      conv => lhs; unfold moveChain
      simp only [if_neg h2, hkey, hk, htl, s']
    rw [hstep]
    obtain ⟨Bn1, hB1⟩ := hB.push h2 hM (home_of_textOf hk) (fun x => Mem.get_set s.next e _ x)
      (fun b _ => Mem.get_set s.table _ e b)
    obtain ⟨Bn', hB', hnx⟩ := moveChain_spec hash ks n t fuel (s.next.get e) s' _ Bn1 (by simpa using hl) htl hkey
      (Chain.congr h3 (fun x hx => Mem.get_set_ne _ _ _ _ (fun (hxe : x = e) => hat (hxe ▸ hx)))) htnd
      (fun x hx => ⟨(hLt x hx).1, fun hx' => hx'.elim (hLt x hx).2 (fun hxe => hat (hxe ▸ hx))⟩) hB1
    refine ⟨Bn', hB'.congr (fun x => by simp only [List.mem_cons, or_assoc]), fun x hx => ?_⟩
    rw [hnx x (fun h => hx (by simp [h]))]
    exact Mem.get_set_ne _ _ _ _ (fun h => hx (by simp [h]))

theorem resizeOuter_eq (hash : κ → Nat) (oldT oldR : Nat → Nat) : ∀ (i : Nat) (s : State κ),
    ∃ nx tb rv, resizeOuter hash oldT oldR i s = { s with next := nx, table := tb, rev := rv }
  | 0, s => ⟨s.next, s.table, s.rev, rfl⟩
  | i + 1, s => by
    unfold resizeOuter
    obtain ⟨nx, tb, hm⟩ := moveChain_eq hash (s.count + 1) (oldT i) s
    rw [hm]
    exact resizeOuter_eq hash oldT oldR i _

theorem resizeOuter_rev (hash : κ → Nat) (oldT oldR : Nat → Nat) : ∀ (i : Nat) (s : State κ) (j : Nat),
    (resizeOuter hash oldT oldR i s).rev.get j = if 1 ≤ j ∧ j ≤ i then oldR j else s.rev.get j
  | 0, s, j => by rw [if_neg (by omega)]; rfl
  | i + 1, s, j => by
    unfold resizeOuter
    obtain ⟨nx, tb, hm⟩ := moveChain_eq hash (s.count + 1) (oldT i) s
    rw [hm, resizeOuter_rev hash oldT oldR i _ j]
    by_cases hj : j = i + 1
    · subst hj; simp
    · have : (1 ≤ j ∧ j ≤ i + 1) ↔ (1 ≤ j ∧ j ≤ i) := by omega
      simp only [Mem.get_set, if_neg hj, this]

/-- buckets `i, i+1, …` of the old table (`Bo`) are already moved; those below `i` are still to come, their chains intact -/
theorem resizeOuter_spec (hash : κ → Nat) (ks : List κ) (n m : Nat) (oldT oldR : Nat → Nat) {nxOld : Nat → Nat}
    (Bo : Nat → List Nat) (hBo : Buckets nxOld oldT m (home hash ks m) (fun x => 1 ≤ x ∧ x ≤ ks.length) Bo) :
    ∀ (i : Nat) (s : State κ) (Bn : Nat → List Nat), i ≤ m → s.tableLength = n → s.count = ks.length →
    (∀ x, s.key.get? x = Spec.textOf ks x) →
    (∀ b, b < i → Chain s.next.get (oldT b) (Bo b)) →
    Buckets s.next.get s.table.get n (home hash ks n)
      (fun x => (1 ≤ x ∧ x ≤ ks.length) ∧ i ≤ home hash ks m x) Bn →
    ∃ Bn', Buckets (resizeOuter hash oldT oldR i s).next.get (resizeOuter hash oldT oldR i s).table.get n
      (home hash ks n) (fun x => 1 ≤ x ∧ x ≤ ks.length) Bn'
  | 0, s, Bn, _, _, _, _, _, hB => ⟨Bn, hB.congr (fun x => by omega)⟩
  | i + 1, s, Bn, him, htl, hcnt, hkey, hold, hB => by
    have hi : i < m := by omega
    obtain ⟨Bn1, hB1, hnx⟩ := moveChain_spec hash ks n (Bo i) (s.count + 1) (oldT i) s _ Bn
      (by have := hBo.length_le (fun _ hx => hx) hi; omega) htl hkey (hold i (by omega)) (hBo.nodup i hi)
      (fun x hx => by have := (hBo.mem i hi x).1 hx; omega) hB
    obtain ⟨nx, tb, hm⟩ := moveChain_eq hash (s.count + 1) (oldT i) s
    unfold resizeOuter
    rw [hm] at hB1 hnx ⊢
    refine resizeOuter_spec hash ks n m oldT oldR Bo hBo i _ Bn1 (by omega) htl hcnt hkey (fun b hb => ?_)
      (hB1.congr fun x => ?_)
    · refine Chain.congr (hold b (by omega)) (fun x hx => hnx x fun hxo => ?_)
      have := (hBo.mem b (by omega) x).1 hx
      have := (hBo.mem i hi x).1 hxo
      omega
    · rw [hBo.mem i hi x]
      omega

theorem resize_eq (hash : κ → Nat) (s : State κ) (n : Nat) : ∃ nx tb rv, resize hash s n =
    { s with tableLength := n, threshold := n, inl := false, next := nx, table := tb, rev := rv } := by
  unfold resize
  exact resizeOuter_eq hash _ _ _ _

theorem resize_tableLength (hash : κ → Nat) (s : State κ) (n : Nat) : (resize hash s n).tableLength = n := by
  obtain ⟨_, _, _, h⟩ := resize_eq hash s n
  rw [h]

theorem resize_count (hash : κ → Nat) (s : State κ) (n : Nat) : (resize hash s n).count = s.count := by
  obtain ⟨_, _, _, h⟩ := resize_eq hash s n
  rw [h]

/-- growing `resize` (the only kind a step that is defined performs) keeps every entry -/
theorem resize_inv {s : State κ} {ks : List κ} (h : Inv hash s ks) {n : Nat} (hge : s.tableLength ≤ n) :
    Inv hash (resize hash s n) ks := by
  obtain ⟨B, hB⟩ := h.buckets
  have hn : 0 < n := Nat.lt_of_lt_of_le h.tl_pos hge
  let s1 : State κ := { s with tableLength := n, threshold := n, table := .empty, rev := .empty, inl := false }
  have hres : resize hash s n = resizeOuter hash (tableGet s) (revGet s) s.tableLength s1 := by
    unfold resize; simp only [Nat.min_eq_left hge, s1]
  have hrev : ∀ j, (resize hash s n).rev.get j = if 1 ≤ j ∧ j ≤ s.tableLength then revGet s j else 0 := by
    intro j; rw [hres, resizeOuter_rev]; simp [s1]
  obtain ⟨B', hB'⟩ := resizeOuter_spec hash ks n s.tableLength (tableGet s) (revGet s) B hB
    s.tableLength s1 (fun _ => []) (Nat.le_refl _) rfl h.count_eq h.key_eq hB.chain
    ⟨fun b _ => by simp [Chain, s1], fun b _ => List.nodup_nil, fun b _ x => by
      have := home_lt hash ks h.tl_pos x
      simp only [List.not_mem_nil, false_iff]
      omega⟩
  rw [← hres] at hB'
  obtain ⟨nx, tb, rv, hr⟩ := resize_eq hash s n
  rw [hr] at hB' hrev ⊢
  exact {
    count_eq := h.count_eq, nodup := h.nodup, key_eq := h.key_eq, idx_eq := h.idx_eq
    rev_eq := fun i h1 (h2 : i ≤ s.count) => by
      show rv.get i = i
      rw [hrev i, if_pos ⟨h1, by have := h.le; omega⟩]
      exact h.rev_eq i h1 h2
    tl_pos := hn, thr := rfl, le := Nat.le_trans h.le hge, inl_tl := fun hc => (nomatch hc), dflt := h.dflt
    buckets := ⟨B', hB'⟩ }

theorem key_eq_append {m : OMem κ} {ks : List κ} (h : ∀ x, m.get? x = Spec.textOf ks x) (key : κ) :
    ∀ x, (m.set (ks.length + 1) key).get? x = Spec.textOf (ks ++ [key]) x := by
  intro x
  rw [OMem.get?_set]
  by_cases hx : x = ks.length + 1
  · subst hx; simp [spec_textOf_snoc]
  · rw [if_neg hx, h x]
    by_cases hle : x ≤ ks.length
    · rw [spec_textOf_append_left hle]
    · rw [spec_textOf_none (by omega), spec_textOf_none (by simp; omega)]

/-- read through `tableGet` / `revGet`, so that the inline table (a fresh set: one bucket, no entry) and the heap table
    are one case -/
theorem addNewCore_eq {s : State κ} {ks : List κ}
    (h : Inv hash s ks) (key : κ) {i : Nat} (hi : i < s.tableLength) (hlt : s.count < s.tableLength) :
    (addNewCore s key i).2 = s.count + 1 ∧
    (addNewCore s key i).1.count = s.count + 1 ∧
    (addNewCore s key i).1.tableLength = s.tableLength ∧
    (addNewCore s key i).1.threshold = s.threshold ∧
    (addNewCore s key i).1.inl = s.inl ∧
    (addNewCore s key i).1.key = s.key.set (s.count + 1) key ∧
    (addNewCore s key i).1.idx = s.idx.set (s.count + 1) (s.count + 1) ∧
    (∀ x, (addNewCore s key i).1.next.get x = if x = s.count + 1 then tableGet s i else s.next.get x) ∧
    (∀ b, b < s.tableLength → tableGet (addNewCore s key i).1 b = if b = i then s.count + 1 else tableGet s b) ∧
    (∀ j, 1 ≤ j → j ≤ s.count + 1 → revGet (addNewCore s key i).1 j = if j = s.count + 1 then s.count + 1 else revGet s j) ∧
    (addNewCore s key i).1.defaultEntry ≠ 0 := by
  have hd : s.defaultEntry = 0 → tableGet s i = 0 := fun hd0 => by
    obtain ⟨L, hc, hl, _⟩ := h.chain hi
    rw [h.dflt.1 hd0] at hl
    rwa [List.eq_nil_of_length_eq_zero (Nat.le_zero.1 hl)] at hc
  cases hinl : s.inl with
  | true =>
    have htl := h.inl_tl hinl
    have hc : s.count = 0 := by omega
    have hd0 := h.dflt.2 hc
    simp [addNewCore, tableSet, revSet, tableGet, revGet, hinl, hd0, hc, htl, Mem.get_set]
    exact ⟨by omega, fun j _ _ => by omega⟩
  | false =>
    by_cases h0 : s.defaultEntry = 0
    · have := hd h0
      simp [addNewCore, tableSet, revSet, tableGet, revGet, hinl, h0, Mem.get_set] at this ⊢
      intro x; split <;> simp [*]
    · simp [addNewCore, tableSet, revSet, tableGet, revGet, hinl, h0, Mem.get_set]
      intro x; split <;> rfl

theorem addNewCore_inv {s : State κ} {ks : List κ}
    (h : Inv hash s ks) {key : κ} (hk : key ∉ ks) (hlt : s.count < s.tableLength) :
    Inv hash (addNewCore s key (hash key % s.tableLength)).1 (ks ++ [key]) ∧
    (addNewCore s key (hash key % s.tableLength)).2 = s.count + 1 ∧
    (addNewCore s key (hash key % s.tableLength)).1.tableLength = s.tableLength := by
  have hidx : hash key % s.tableLength < s.tableLength := Nat.mod_lt _ h.tl_pos
  obtain ⟨g0, g1, g2, g3, g4, g5, g6, g7, g8, g9, g10⟩ := addNewCore_eq h key hidx hlt
  rw [h.count_eq] at g7 g8
  obtain ⟨B, hB⟩ := h.buckets
  obtain ⟨B', hB'⟩ := (hB.congr_home (home' := home hash (ks ++ [key]) s.tableLength)
      (fun x hx => by unfold home; rw [spec_textOf_append_left hx.2])).push
    (Nat.succ_ne_zero ks.length) (by omega) (home_of_textOf spec_textOf_snoc) g7 g8
  refine ⟨?_, g0, g2⟩
  exact {
    count_eq := by rw [g1, h.count_eq]; simp
    nodup := spec_add_of_not_mem hk ▸ spec_add_nodup h.nodup key
    key_eq := by rw [g5, h.count_eq]; exact key_eq_append h.key_eq key
    idx_eq := fun e h1 h2 => by
      rw [g1] at h2
      rw [g6, Mem.get_set]
      split
      · omega
      · exact h.idx_eq e h1 (by omega)
    rev_eq := fun j h1 h2 => by
      rw [g1] at h2
      rw [g9 j h1 h2]
      split
      · omega
      · exact h.rev_eq j h1 (by omega)
    tl_pos := by rw [g2]; exact h.tl_pos
    thr := by rw [g2, g3]; exact h.thr
    le := by rw [g1, g2]; omega
    inl_tl := by rw [g4, g2]; exact h.inl_tl
    dflt := by rw [g1]; exact ⟨fun h0 => absurd h0 g10, fun h0 => by omega⟩
    buckets := by
      rw [g2]
      exact ⟨B', hB'.congr (fun x => by simp only [List.length_append, List.length_singleton]; omega)⟩ }

theorem scanPrimes_found (tl : Nat) : ∀ (ps : List Nat) (i nl : Nat), (∃ p ∈ ps, tl < p) →
    ∃ p i', scanPrimes tl ps i nl = (p, some i') ∧ tl < p
  | [], _, _, h => by obtain ⟨p, hp, _⟩ := h; simp at hp
  | q :: ps, i, nl, h => by
    unfold scanPrimes
    by_cases hq : q > tl
    · exact ⟨q, i, by simp [hq], hq⟩
    · rw [if_neg hq]
      apply scanPrimes_found tl ps (i + 1) q
      obtain ⟨p, hp, hlt⟩ := h
      rcases List.mem_cons.1 hp with e | e
      · subst e; exact absurd hlt hq
      · exact ⟨p, e, hlt⟩

theorem Inv.set_tli {s : State κ} {ks : List κ}
    (h : Inv hash s ks) (i : Nat) : Inv hash { s with tableLengthIndex := i } ks :=
  ⟨h.count_eq, h.nodup, h.key_eq, h.idx_eq, h.rev_eq, h.tl_pos, h.thr, h.le, h.inl_tl, h.dflt, h.buckets⟩

theorem rehash_count (hash : κ → Nat) (primes : List Nat) (s : State κ) :
    (rehash hash primes s).count = s.count := by
  unfold rehash
  split <;> rw [resize_count]

theorem rehash_inv {primes : List Nat} {s : State κ} {ks : List κ}
    (h : Inv hash s ks) (hge : s.tableLength ≤ (rehash hash primes s).tableLength) :
    Inv hash (rehash hash primes s) ks := by
  unfold rehash at hge ⊢
  split at hge
  · rename_i newLen i _
    rw [resize_tableLength] at hge
    exact resize_inv (h.set_tli i) hge
  · rename_i newLen _
    rw [resize_tableLength] at hge
    exact resize_inv h hge

theorem rehash_grows {primes : List Nat} (s : State κ)
    (hp : ∃ p ∈ primes, s.tableLength < p) : s.tableLength < (rehash hash primes s).tableLength := by
  obtain ⟨p, i, he, hlt⟩ := scanPrimes_found s.tableLength primes 0 0 hp
  unfold rehash
  rw [he]
  simp only
  rw [resize_tableLength]
  exact hlt

theorem addNewKeyEntry_spec {primes : List Nat} {s s' : State κ} {ks : List κ} {t : κ} {e : Nat}
    (h : Inv hash s ks) (hnk : t ∉ ks)
    (ha : addNewKeyEntry hash primes s t (hash t % s.tableLength) = some (s', e)) :
    Inv hash s' (ks ++ [t]) ∧ e = ks.length + 1 ∧ s.tableLength ≤ s'.tableLength := by
  have hthr := h.thr
  unfold addNewKeyEntry at ha
  split at ha
  · -- full: `rehash` first; the guard says that the table has grown
    have hcnt := rehash_count hash primes s
    simp only at ha
    split at ha
    · cases ha
    · simp only [Option.some.injEq, Prod.ext_iff] at ha
      obtain ⟨rfl, rfl⟩ := ha
      have hg : s.tableLength ≤ (rehash hash primes s).tableLength := by omega
      have h1 := rehash_inv (primes := primes) h hg
      obtain ⟨hB', he, htl⟩ := addNewCore_inv h1 hnk (by omega)
      exact ⟨hB', by rw [he, hcnt, h.count_eq], by rw [htl]; exact hg⟩
  · simp only [Option.some.injEq, Prod.ext_iff] at ha
    obtain ⟨rfl, rfl⟩ := ha
    obtain ⟨hB', he, htl⟩ := addNewCore_inv h hnk (by omega)
    exact ⟨hB', by rw [he, h.count_eq], by rw [htl]; exact Nat.le_refl _⟩

theorem add_eq (hash : κ → Nat) (primes : List Nat) (s : State κ) (t : κ) : add hash primes s t =
    if findKeyEntry hash s t ≠ 0 then some (s, s.idx.get (findKeyEntry hash s t))
    else (addNewKeyEntry hash primes s t (hash t % s.tableLength)).map fun p => (p.1, p.1.idx.get p.2) := by
  unfold add addKeyIndex addKeyEntry findKeyEntry
  simp only
  by_cases hf : findLoop s t (s.count + 1) (tableGet s (hash t % s.tableLength)) ≠ 0
  · rw [if_pos hf, if_pos hf]
  · rw [if_neg hf, if_neg hf]
    cases addNewKeyEntry hash primes s t (hash t % s.tableLength) <;> rfl

theorem add_refines {primes : List Nat} {s s' : State κ} {ks : List κ}
    {t : κ} {i : Nat} (h : Inv hash s ks) (ha : add hash primes s t = some (s', i)) :
    Inv hash s' (Spec.add ks t) ∧ Spec.textOf (Spec.add ks t) i = some t ∧
    s.tableLength ≤ s'.tableLength ∧ (t ∈ ks → s' = s) := by
  have fk := findKeyEntry_spec h t
  rw [add_eq] at ha
  split at ha
  · rename_i hf
    simp only [Option.some.injEq, Prod.mk.injEq] at ha
    obtain ⟨rfl, rfl⟩ := ha
    have hkt := fk.1 hf
    have hr := spec_textOf_range hkt
    rw [h.idx_eq _ hr.1 (by rw [h.count_eq]; exact hr.2), spec_add_of_mem (spec_textOf_mem hkt)]
    exact ⟨h, hkt, Nat.le_refl _, fun _ => rfl⟩
  · rename_i hf
    have hnk : t ∉ ks := fk.2 (by simpa using hf)
    simp only [Option.map_eq_some_iff, Prod.mk.injEq] at ha
    obtain ⟨⟨s1, e⟩, hr, rfl, rfl⟩ := ha
    obtain ⟨hB', he, htl⟩ := addNewKeyEntry_spec h hnk hr
    rw [spec_add_of_not_mem hnk]
    refine ⟨hB', ?_, htl, fun hm => absurd hm hnk⟩
    rw [he, hB'.idx_eq _ (by omega) (by rw [hB'.count_eq]; simp)]
    exact spec_textOf_snoc

/-- `Add` is defined (no undefined behaviour) whenever the text is already interned, the table has
    room, or `set_primes` still holds a larger length -/
theorem add_defined {primes : List Nat} {s : State κ} {ks : List κ} (h : Inv hash s ks) (t : κ)
    (hp : t ∈ ks ∨ s.count < s.tableLength ∨ ∃ p ∈ primes, s.tableLength < p) :
    ∃ r, add hash primes s t = some r := by
  rw [add_eq]
  split
  · exact ⟨_, rfl⟩
  · rename_i hf
    have hnk : t ∉ ks := (findKeyEntry_spec h t).2 (by simpa using hf)
    unfold addNewKeyEntry
    split
    · rename_i hthr
      have hthr' : ¬ s.count < s.tableLength := by have := h.thr; omega
      rcases hp with hp | hp | hp
      · exact absurd hp hnk
      · exact absurd hp hthr'
      · have hg := rehash_grows (hash := hash) s hp
        have hcnt := rehash_count hash primes s
        have hle := h.le
        simp only
        rw [if_neg (by omega)]
        exact ⟨_, rfl⟩
    · exact ⟨_, rfl⟩

theorem allocateMoreString_inv {s : State κ} {ks : List κ} (h : Inv hash s ks) (n : Nat) :
    Inv hash (allocateMoreString hash s n) ks ∧
    s.count + n ≤ (allocateMoreString hash s n).tableLength ∧
    s.tableLength ≤ (allocateMoreString hash s n).tableLength := by
  unfold allocateMoreString
  split
  · rename_i hgt
    refine ⟨resize_inv h (by omega), ?_, ?_⟩
    · rw [resize_tableLength]; exact Nat.le_refl _
    · rw [resize_tableLength]; omega
  · exact ⟨h, by omega, Nat.le_refl _⟩

theorem addAll_refines {primes : List Nat} : ∀ (ts : List κ) {s s' : State κ} {ks : List κ}, Inv hash s ks → addAll hash primes s ts = some s' →
    Inv hash s' (ts.foldl Spec.add ks)
  | [], s, s', ks, h, ha => by
    simp only [addAll, Option.some.injEq] at ha
    subst ha
    exact h
  | t :: ts, s, s', ks, h, ha => by
    unfold addAll at ha
    cases hr : add hash primes s t with
    | none => rw [hr] at ha; cases ha
    | some p =>
      obtain ⟨s1, i⟩ := p
      rw [hr] at ha
      simp only at ha
      exact addAll_refines ts (add_refines h hr).1 ha

/-- with room for all of them, interning a list of texts never rehashes and never fails -/
theorem addAll_defined {primes : List Nat} : ∀ (ts : List κ) {s : State κ} {ks : List κ}, Inv hash s ks → s.count + ts.length ≤ s.tableLength →
    ∃ s', addAll hash primes s ts = some s'
  | [], s, _, _, _ => ⟨s, rfl⟩
  | t :: ts, s, ks, h, hroom => by
    simp only [List.length_cons] at hroom
    obtain ⟨⟨s1, i⟩, hr⟩ := add_defined (primes := primes) h t (Or.inr (Or.inl (by omega)))
    obtain ⟨h1, _, htl, _⟩ := add_refines h hr
    have hc : s1.count ≤ s.count + 1 := by
      rw [h1.count_eq, h.count_eq]; exact spec_add_length_le ks t
    obtain ⟨s', hs'⟩ := addAll_defined (primes := primes) ts h1 (by omega)
    exact ⟨s', by unfold addAll; rw [hr]; exact hs'⟩

theorem textOf_spec {s : State κ} {ks : List κ} (h : Inv hash s ks) (i : Nat) : textOf s i = Spec.textOf ks i := by
  unfold textOf
  split
  · rename_i hi
    rw [h.rev_eq i hi.1 hi.2, h.key_eq]
  · rename_i hi
    exact (spec_textOf_none (by rw [← h.count_eq]; exact hi)).symm

theorem idOf_spec {s : State κ} {ks : List κ} (h : Inv hash s ks) (t : κ) : idOf hash s t = Spec.idOf ks t := by
  have fk := findKeyEntry_spec h t
  unfold idOf findKeyIndex
  simp only
  split
  · rename_i hf
    have hk := fk.1 hf
    have hr := spec_textOf_range hk
    rw [h.idx_eq _ hr.1 (by rw [h.count_eq]; exact hr.2)]
    exact (spec_idOf_of_textOf h.nodup hk).symm
  · rename_i hf
    exact (spec_idOf_of_not_mem (fk.2 (by simpa using hf))).symm

theorem Inv.lookups {hash : κ → Nat} {s : State κ} {ks : List κ} {t : κ} {i : Nat} (h : Inv hash s ks)
    (hk : Spec.textOf ks i = some t) : textOf s i = some t ∧ idOf hash s t = i ∧ i ≠ 0 := by
  rw [textOf_spec h, idOf_spec h]
  exact ⟨hk, (spec_textOf_iff h.nodup).1 hk⟩

theorem filterMap_range_take (l : List κ) : ∀ n, n ≤ l.length →
    (List.range n).filterMap (fun i => l[i]?) = l.take n
  | 0, _ => by simp
  | n + 1, hn => by
    rw [List.range_succ, List.filterMap_append, filterMap_range_take l n (by omega), List.take_add_one]
    have : l[n]? = some l[n] := List.getElem?_eq_getElem (by omega)
    simp [this]

theorem texts_eq {s : State κ} {ks : List κ} (h : Inv hash s ks) : texts s = ks := by
  unfold texts
  have : (fun i => textOf s (i + 1)) = fun i => ks[i]? := by
    funext i
    rw [textOf_spec h]
    simp [Spec.textOf]
  rw [this, h.count_eq, filterMap_range_take ks ks.length (Nat.le_refl _), List.take_length]

theorem step_refines {primes : List Nat} {P : List κ} {s s' : State κ} {ks : List κ} {op : Op κ}
    (h : Inv hash s ks) (hs : step hash primes P s op = some s') :
    ∃ ks', Inv hash s' ks' ∧ Spec.step P ks op = some ks' ∧
      (op.isReset = false → s.tableLength ≤ s'.tableLength) := by
  cases op with
  | add t =>
    simp only [step, Option.map_eq_some_iff] at hs
    obtain ⟨⟨s1, i⟩, ha, hs1⟩ := hs
    simp only at hs1
    subst hs1
    obtain ⟨hB', _, htl, _⟩ := add_refines h ha
    exact ⟨_, hB', rfl, fun _ => htl⟩
  | get t =>
    simp only [step, Option.some.injEq] at hs
    subst hs
    exact ⟨ks, h, rfl, fun _ => Nat.le_refl _⟩
  | str i =>
    simp only [step] at hs
    split at hs
    · rename_i hsome
      simp only [Option.some.injEq] at hs
      subst hs
      refine ⟨ks, h, ?_, fun _ => Nat.le_refl _⟩
      rw [textOf_spec h] at hsome
      simp [Spec.step, hsome]
    · cases hs
  | more n =>
    simp only [step, Option.some.injEq] at hs
    subst hs
    obtain ⟨hB', _, htl⟩ := allocateMoreString_inv h n
    exact ⟨ks, hB', rfl, fun _ => htl⟩
  | reset =>
    simp only [step, Option.some.injEq, clear] at hs
    subst hs
    exact ⟨[], init_inv hash, rfl, fun hr => by cases hr⟩
  | resetMaster =>
    simp only [step, clear, initConstStrings] at hs
    exact ⟨_, addAll_refines P (allocateMoreString_inv (init_inv hash (κ := κ)) P.length).1 hs, rfl, fun hr => by cases hr⟩

theorem run_refines {primes : List Nat} {P : List κ} : ∀ (ops : List (Op κ)) {s s' : State κ} {ks : List κ},
    Inv hash s ks →
    run hash primes P s ops = some s' →
    ∃ ks', Inv hash s' ks' ∧ Spec.run P ks ops = some ks'
  | [], s, s', ks, h, hr => by
    simp only [run, Option.some.injEq] at hr
    subst hr
    exact ⟨ks, h, rfl⟩
  | op :: ops, s, s', ks, h, hr => by
    simp only [run, Option.bind_eq_some_iff] at hr
    obtain ⟨s1, hs1, hr1⟩ := hr
    obtain ⟨ks1, h1, hsp, _⟩ := step_refines h hs1
    obtain ⟨ks', h', hsp'⟩ := run_refines ops h1 hr1
    refine ⟨ks', h', ?_⟩
    simp [Spec.run, hsp, hsp']

theorem reachable_inv {primes : List Nat} {P : List κ} {s : State κ}
    (h : Reachable hash primes P s) : Inv hash s (texts s) := by
  obtain ⟨ops, hr⟩ := h
  obtain ⟨ks, hi, _⟩ := run_refines ops (init_inv hash) hr
  exact texts_eq hi ▸ hi

theorem run_textOf {primes : List Nat} {P : List κ} {s s' : State κ} {ks : List κ}
    {t : κ} {i : Nat} {ops : List (Op κ)} (h : Inv hash s ks) (hk : Spec.textOf ks i = some t)
    (hr : run hash primes P s ops = some s') (hnr : ∀ op ∈ ops, op.isReset = false) :
    ∃ ks', Inv hash s' ks' ∧ Spec.textOf ks' i = some t := by
  obtain ⟨ks', hi', hsp⟩ := run_refines ops h hr
  obtain ⟨r, hpre⟩ := spec_run_prefix ops hsp hnr
  exact ⟨ks', hi', by rw [hpre]; exact spec_textOf_append hk⟩

end Morfuse.Dict
