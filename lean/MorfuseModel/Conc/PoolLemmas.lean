import MorfuseModel.Conc.Pool
import MorfuseModel.Conc.Lemmas
import MorfuseModel.BlockAlloc.Lemmas
/-!
# C20 — invariant of the locked pool (mode = exclusive)

`Locked`: the mutex is the bookkeeping of who is inside a pool call — `MtxOk` of the lock model (`Conc/Lemmas.lean`)
with no reader and the contexts that hold a snapshot for writers, so at most one does — and that snapshot is the
current pool: the exit step of a call is a step of the *sequential* allocator on the current pool. `Owned`: the
pool is a state of the sequential allocator (C19's `Reachable`), every context holds live, pairwise different slots
whose values, like its output, are what `specRun` computes from the operations it has completed (`Own`), and no slot
is held by two contexts. A step rewrites one context: `Owned.set` reduces it to that context and to the step's frame
condition.
-/
namespace Morfuse.Conc.Pool
open Morfuse.BlockAlloc (Slot State alloc free liveOf Reachable alloc_spec free_spec reachable_inv)

theorem upd_same (f : Slot → Nat) (h : Slot) (v : Nat) : upd f h v h = v := if_pos rfl

theorem upd_ne (f : Slot → Nat) {h x : Slot} (v : Nat) (hx : x ≠ h) : upd f h v x = f x := if_neg hx

theorem map_upd_eq_set {l : List Slot} (hnd : l.Nodup) {k : Nat} {h : Slot} (hk : l[k]? = some h) (f : Slot → Nat)
    (v : Nat) : l.map (upd f h v) = (l.map f).set k v := by
  have hkl : k < l.length := (List.getElem?_eq_some_iff.mp hk).1
  apply List.ext_getElem?
  intro j
  rw [List.getElem?_set, List.length_map, List.getElem?_map, List.getElem?_map]
  by_cases e : k = j
  · subst e; rw [if_pos rfl, if_pos hkl, hk]; exact congrArg some (upd_same f h v)
  · rw [if_neg e]
    cases hj : l[j]? with
    | none => rfl
    | some x =>
      exact congrArg some (upd_ne f v fun ex => e ((List.getElem?_inj hkl hnd).1 (hk.trans (ex ▸ hj).symm)))

theorem specRun_snoc (d : List POp) (op : POp) : specRun (d ++ [op]) = specStep (specRun d) op := by
  simp [specRun, List.foldl_append]

theorem step_cases {bs : Nat} {mode : LockKind} {s s' : PSt} {i : Nat} (h : step bs mode s i = some s') :
    ∃ t op rest, s.thr[i]? = some t ∧ t.todo = op :: rest ∧
      ((((∃ v, op = .alloc v) ∨ ∃ k, op = .free k) ∧ t.snap = none ∧ s.mtx.canAcquire mode = true ∧
          s' = { s with mtx := s.mtx.acquire mode, thr := s.thr.set i { t with snap := some s.pool } }) ∨
       (∃ v p, op = .alloc v ∧ t.snap = some p ∧
          s' = { mtx := s.mtx.release mode, pool := (alloc bs p).1, heap := upd s.heap (alloc bs p).2 v,
                 thr := s.thr.set i { todo := rest, done := t.done ++ [.alloc v],
                                      handles := t.handles ++ [(alloc bs p).2], out := t.out, snap := none } }) ∨
       (∃ k p, op = .free k ∧ t.snap = some p ∧ t.handles[k]? = none ∧
          s' = { s with mtx := s.mtx.release mode,
                        thr := s.thr.set i { todo := rest, done := t.done ++ [.free k], handles := t.handles,
                                             out := t.out, snap := none } }) ∨
       (∃ k p h, op = .free k ∧ t.snap = some p ∧ t.handles[k]? = some h ∧
          s' = { mtx := s.mtx.release mode, pool := free bs p h, heap := s.heap,
                 thr := s.thr.set i { todo := rest, done := t.done ++ [.free k],
                                      handles := t.handles.eraseIdx k, out := t.out, snap := none } }) ∨
       (∃ k v, op = .put k v ∧
          s' = { s with heap := (match t.handles[k]? with | none => s.heap | some h => upd s.heap h v),
                        thr := s.thr.set i { t with todo := rest, done := t.done ++ [.put k v] } }) ∨
       (∃ k, op = .get k ∧
          s' = { s with thr := s.thr.set i { t with todo := rest, done := t.done ++ [.get k], out := t.out ++ [match t.handles[k]? with | none => 0 | some h => s.heap h] } })) := by
  unfold step at h
  cases ht : s.thr[i]? with
  | none => simp [ht] at h
  | some t =>
    simp only [ht] at h
    cases htd : t.todo with
    | nil => simp [htd] at h
    | cons op rest =>
      simp only [htd] at h
      refine ⟨t, op, rest, rfl, htd, ?_⟩
      cases op with
      | alloc v =>
        dsimp only at h
        cases hsn : t.snap with
        | none =>
          rw [hsn] at h; dsimp only at h; split at h
          · exact Or.inl ⟨Or.inl ⟨v, rfl⟩, rfl, ‹_›, by rw [htd]; exact (Option.some.inj h).symm⟩
          · cases h
        | some p => rw [hsn] at h; exact Or.inr (Or.inl ⟨v, p, rfl, rfl, (Option.some.inj h).symm⟩)
      | free k =>
        dsimp only at h
        cases hsn : t.snap with
        | none =>
          rw [hsn] at h; dsimp only at h; split at h
          · exact Or.inl ⟨Or.inr ⟨k, rfl⟩, rfl, ‹_›, by rw [htd]; exact (Option.some.inj h).symm⟩
          · cases h
        | some p =>
          rw [hsn] at h
          cases hk : t.handles[k]? with
          | none =>
            rw [hk] at h; exact Or.inr (Or.inr (Or.inl ⟨k, p, rfl, rfl, hk, (Option.some.inj h).symm⟩))
          | some x =>
            rw [hk] at h
            exact Or.inr (Or.inr (Or.inr (Or.inl ⟨k, p, x, rfl, rfl, hk, (Option.some.inj h).symm⟩)))
      | put k v => exact Or.inr (Or.inr (Or.inr (Or.inr (Or.inl ⟨k, v, rfl, (Option.some.inj h).symm⟩))))
      | get k => exact Or.inr (Or.inr (Or.inr (Or.inr (Or.inr ⟨k, rfl, (Option.some.inj h).symm⟩))))

structure Locked (s : PSt) : Prop where
  snapCur : ∀ (i : Nat) (t : PThread) (p : State), s.thr[i]? = some t → t.snap = some p → p = s.pool
  lock : MtxOk s.mtx 0 (s.thr.countP (·.snap.isSome))

theorem Locked.enter {s : PSt} (hl : Locked s) {i : Nat} {t tnew : PThread} {heap' : Slot → Nat}
    (ht : s.thr[i]? = some t) (hsn : t.snap = none) (hcan : s.mtx.canAcquire .exclusive = true)
    (hnew : tnew.snap = some s.pool) : Locked ⟨s.mtx.acquire .exclusive, s.pool, heap', s.thr.set i tnew⟩ := by
  refine ⟨fun j u p hu hp => ?_, ?_⟩
  · rcases get_set_cases (List.getElem?_eq_some_iff.mp ht).1 hu with ⟨_, rfl⟩ | ⟨_, hu'⟩
    · exact (Option.some.inj (hnew.symm.trans hp)).symm
    · exact hl.snapCur j u p hu' hp
  · have hc := countP_set_add (·.snap.isSome) s.thr i tnew t ht
    simp only [hsn, hnew, Option.isSome_none, Option.isSome_some, Bool.false_eq_true, if_false, if_true, Nat.add_zero] at hc
    rw [hc]
    exact hl.lock.acquire .exclusive hcan

/-- The context that leaves was the only one inside (`MtxOk.excl`), so the pool it writes invalidates no snapshot. -/
theorem Locked.exit {s : PSt} (hl : Locked s) {i : Nat} {t tnew : PThread} {p pool' : State} {heap' : Slot → Nat}
    (ht : s.thr[i]? = some t) (hsn : t.snap = some p) (hnew : tnew.snap = none) :
    Locked ⟨s.mtx.release .exclusive, pool', heap', s.thr.set i tnew⟩ := by
  have hc := countP_set_add (·.snap.isSome) s.thr i tnew t ht
  simp only [hsn, hnew, Option.isSome_none, Option.isSome_some, Bool.false_eq_true, if_false, if_true, Nat.add_zero] at hc
  have hl' := hl.lock
  rw [← hc] at hl'
  have h0 : (s.thr.set i tnew).countP (·.snap.isSome) = 0 := Nat.succ.inj (hl'.excl (Nat.succ_pos _)).1
  rw [h0] at hl'
  refine ⟨fun j u q hu hq => ?_, by rw [h0]; exact MtxOk.release .exclusive hl'⟩
  have := List.countP_eq_zero.1 h0 u (List.mem_of_getElem? hu)
  rw [hq] at this
  exact absurd rfl this

theorem Locked.local {s : PSt} (hl : Locked s) {i : Nat} {t tnew : PThread} {heap' : Slot → Nat}
    (ht : s.thr[i]? = some t) (hs : tnew.snap = t.snap) : Locked ⟨s.mtx, s.pool, heap', s.thr.set i tnew⟩ := by
  refine ⟨fun j u p hu hp => ?_, ?_⟩
  · rcases get_set_cases (List.getElem?_eq_some_iff.mp ht).1 hu with ⟨rfl, rfl⟩ | ⟨_, hu'⟩
    · exact hl.snapCur j t p ht (hs ▸ hp)
    · exact hl.snapCur j u p hu' hp
  · have hc := countP_set_add (·.snap.isSome) s.thr i tnew t ht
    rw [hs, Nat.add_right_cancel_iff] at hc
    rw [hc]
    exact hl.lock

structure Own (bs : Nat) (pool : State) (heap : Slot → Nat) (t : PThread) : Prop where
  live : ∀ h ∈ t.handles, h ∈ liveOf bs pool
  nodup : t.handles.Nodup
  out : t.out = (specRun t.done).out
  vals : t.handles.map heap = (specRun t.done).vals

theorem Own.frame {bs : Nat} {pool pool' : State} {heap heap' : Slot → Nat} {u : PThread} (o : Own bs pool heap u)
    (hx : ∀ x ∈ u.handles, x ∈ liveOf bs pool' ∧ heap' x = heap x) : Own bs pool' heap' u :=
  ⟨fun x hxu => (hx x hxu).1, o.nodup, o.out, (List.map_congr_left fun x hxu => (hx x hxu).2).trans o.vals⟩

structure Owned (bs : Nat) (s : PSt) : Prop where
  reach : Reachable bs s.pool
  own : ∀ (i : Nat) (t : PThread), s.thr[i]? = some t → Own bs s.pool s.heap t
  disj : ∀ (i j : Nat) (ti tj : PThread) (h : Slot), s.thr[i]? = some ti → s.thr[j]? = some tj →
    h ∈ ti.handles → h ∈ tj.handles → i = j

theorem Owned.inj {bs : Nat} {s : PSt} (ho : Owned bs s) {i j : Nat} {ti tj : PThread} {k k' : Nat} {h : Slot}
    (hi : s.thr[i]? = some ti) (hj : s.thr[j]? = some tj) (hk : ti.handles[k]? = some h)
    (hk' : tj.handles[k']? = some h) : i = j ∧ k = k' := by
  obtain rfl := ho.disj i j ti tj h hi hj (List.mem_of_getElem? hk) (List.mem_of_getElem? hk')
  obtain rfl := Option.some.inj (hi.symm.trans hj)
  exact ⟨rfl, (List.getElem?_inj (List.getElem?_eq_some_iff.mp hk).1 (ho.own i ti hi).nodup).1 (hk.trans hk'.symm)⟩

/-- Context `i` is rewritten.  If the slots it now holds are slots it held or slots that were not live (`hsrc`), and
    live slots it did not hold stay live and keep their value (`hfr`), only the new context is left to look at. -/
theorem Owned.set {bs : Nat} {s : PSt} (ho : Owned bs s) {i : Nat} {t tnew : PThread} (ht : s.thr[i]? = some t)
    {mtx' : Mtx} {pool' : State} {heap' : Slot → Nat} (hr : Reachable bs pool')
    (hsrc : ∀ h ∈ tnew.handles, h ∈ t.handles ∨ h ∉ liveOf bs s.pool)
    (hfr : ∀ x ∈ liveOf bs s.pool, x ∉ t.handles → x ∈ liveOf bs pool' ∧ heap' x = s.heap x)
    (hnew : Own bs pool' heap' tnew) : Owned bs ⟨mtx', pool', heap', s.thr.set i tnew⟩ := by
  have hi : i < s.thr.length := (List.getElem?_eq_some_iff.mp ht).1
  have hold : ∀ {b : Nat} {ub : PThread} {h : Slot}, s.thr[b]? = some ub → h ∈ tnew.handles → h ∈ ub.handles →
      h ∈ t.handles :=
    fun hub ha hb => (hsrc _ ha).resolve_right fun hn => hn ((ho.own _ _ hub).live _ hb)
  refine ⟨hr, fun j u hu => ?_, fun a b ua ub h hua hub ha hb => ?_⟩
  · rcases get_set_cases hi hu with ⟨_, rfl⟩ | ⟨hj, hu'⟩
    · exact hnew
    · have o := ho.own j u hu'
      exact o.frame fun x hx => hfr x (o.live x hx) fun hxt => hj (ho.disj j i u t x hu' ht hx hxt)
  · rcases get_set_cases hi hua with ⟨rfl, rfl⟩ | ⟨_, hua'⟩ <;> rcases get_set_cases hi hub with ⟨rfl, rfl⟩ | ⟨_, hub'⟩
    · rfl
    · exact ho.disj _ _ _ _ h ht hub' (hold hub' ha hb) hb
    · exact ho.disj _ _ _ _ h hua' ht ha (hold hua' hb ha)
    · exact ho.disj _ _ _ _ h hua' hub' ha hb

theorem Owned.same {bs : Nat} {s : PSt} (ho : Owned bs s) {i : Nat} {t tnew : PThread} {mtx' : Mtx}
    (ht : s.thr[i]? = some t) (hh : tnew.handles = t.handles) (hout : tnew.out = (specRun tnew.done).out)
    (hvals : (specRun tnew.done).vals = (specRun t.done).vals) :
    Owned bs ⟨mtx', s.pool, s.heap, s.thr.set i tnew⟩ :=
  have o := ho.own i t ht
  ho.set ht ho.reach (fun _ hx => Or.inl (hh ▸ hx)) (fun _ hx _ => ⟨hx, rfl⟩)
    ⟨hh ▸ o.live, hh ▸ o.nodup, hout, by rw [hh, hvals]; exact o.vals⟩

/-- exit of `Alloc`: the new slot is fresh (C19), so nobody held it -/
theorem Owned.exit_alloc {bs : Nat} (hbs : 2 ≤ bs) {s : PSt} (ho : Owned bs s) {i : Nat} {t : PThread} {v : Nat}
    {rest : List POp} {mtx' : Mtx} (ht : s.thr[i]? = some t) :
    Owned bs ⟨mtx', (alloc bs s.pool).1, upd s.heap (alloc bs s.pool).2 v,
      s.thr.set i { todo := rest, done := t.done ++ [.alloc v], handles := t.handles ++ [(alloc bs s.pool).2],
                    out := t.out, snap := none }⟩ := by
  have o := ho.own i t ht
  have ha := alloc_spec (reachable_inv hbs ho.reach)
  have hfresh := ha.fresh
  have hadd := fun x => ha.live.mem_iff (a := x)
  have hne : ∀ {x : Slot}, x ∈ liveOf bs s.pool → x ≠ (alloc bs s.pool).2 := fun hx e => hfresh (e ▸ hx)
  refine ho.set ht (ho.reach.step .alloc rfl) (fun x hx => ?_)
    (fun x hx _ => ⟨(hadd x).2 (List.mem_cons_of_mem _ hx), upd_ne _ v (hne hx)⟩) ⟨fun x hx => (hadd x).2 ?_, ?_, ?_, ?_⟩
  · exact (List.mem_append.1 hx).imp_right fun e => by rw [List.mem_singleton.1 e]; exact hfresh
  · rcases List.mem_append.1 hx with hx | hx
    · exact List.mem_cons_of_mem _ (o.live x hx)
    · exact List.mem_singleton.1 hx ▸ List.mem_cons_self
  · exact List.nodup_append.2 ⟨o.nodup, List.pairwise_singleton _ _,
      fun a ha b hb => List.mem_singleton.1 hb ▸ hne (o.live a ha)⟩
  · rw [specRun_snoc]; exact o.out
  · rw [specRun_snoc, List.map_append, List.map_congr_left fun x hx => upd_ne _ v (hne (o.live x hx)), o.vals]
    simp [specStep, upd_same]

/-- exit of `Free`: what leaves the live slots is the one slot the context gives up -/
theorem Owned.exit_free {bs : Nat} (hbs : 2 ≤ bs) {s : PSt} (ho : Owned bs s) {i : Nat} {t : PThread} {k : Nat} {h : Slot}
    {rest : List POp} {mtx' : Mtx} (ht : s.thr[i]? = some t) (hk : t.handles[k]? = some h) :
    Owned bs ⟨mtx', free bs s.pool h, s.heap,
      s.thr.set i { todo := rest, done := t.done ++ [.free k], handles := t.handles.eraseIdx k, out := t.out,
                    snap := none }⟩ := by
  have o := ho.own i t ht
  have hm : h ∈ t.handles := List.mem_of_getElem? hk
  have hlive := o.live h hm
  have hmem : ∀ x, x ∈ liveOf bs (free bs s.pool h) ↔ x ≠ h ∧ x ∈ liveOf bs s.pool := fun x => by
    have hk := reachable_inv hbs ho.reach
    rw [(free_spec hk hlive).live.mem_iff]; exact hk.live_nodup.mem_erase_iff
  exact ho.set ht (ho.reach.step (.free h) (by simp [Morfuse.BlockAlloc.step, hlive]))
    (fun _ hx => Or.inl (List.mem_of_mem_eraseIdx hx))
    (fun x hx hxt => ⟨(hmem x).2 ⟨fun e => hxt (e ▸ hm), hx⟩, rfl⟩)
    ⟨fun x hx => (hmem x).2 ⟨ne_of_mem_eraseIdx o.nodup hk hx, o.live x (List.mem_of_mem_eraseIdx hx)⟩,
      o.nodup.eraseIdx k, by rw [specRun_snoc]; exact o.out, by rw [specRun_snoc, map_eraseIdx, o.vals]; rfl⟩

/-- `put` (no lock): the slot written is one of the context's own -/
theorem Owned.put {bs : Nat} {s : PSt} (ho : Owned bs s) {i : Nat} {t : PThread} {k v : Nat} {h : Slot}
    {rest : List POp} {mtx' : Mtx} (ht : s.thr[i]? = some t) (hk : t.handles[k]? = some h) :
    Owned bs ⟨mtx', s.pool, upd s.heap h v, s.thr.set i { t with todo := rest, done := t.done ++ [.put k v] }⟩ :=
  have o := ho.own i t ht
  ho.set ht ho.reach (fun _ hx => Or.inl hx)
    (fun _ hx hxt => ⟨hx, upd_ne _ v fun e => hxt (e ▸ List.mem_of_getElem? hk)⟩)
    ⟨o.live, o.nodup, by rw [specRun_snoc]; exact o.out,
      by rw [specRun_snoc, map_upd_eq_set o.nodup hk, o.vals]; rfl⟩

structure PInv (bs : Nat) (s : PSt) : Prop extends Locked s, Owned bs s

theorem pinv_init (bs : Nat) (P : List (List POp)) : PInv bs (initSt P) := by
  have hth : ∀ (i : Nat) (t : PThread), (initSt P).thr[i]? = some t → ∃ ops, t = ⟨ops, [], [], [], none⟩ := by
    intro i t h
    simp only [initSt, List.getElem?_map, Option.map_eq_some_iff] at h
    obtain ⟨ops, _, rfl⟩ := h
    exact ⟨ops, rfl⟩
  refine ⟨⟨fun i t p ht hp => ?_, rfl, nofun, fun _ => List.countP_eq_zero.2 fun t ht => ?_⟩, ⟨[], rfl⟩, fun i t ht => ?_,
    fun i j ti tj h hi _ hm _ => ?_⟩
  · obtain ⟨_, rfl⟩ := hth i t ht; cases hp
  · obtain ⟨i, ht⟩ := List.getElem?_of_mem ht
    obtain ⟨_, rfl⟩ := hth i t ht; simp
  · obtain ⟨_, rfl⟩ := hth i t ht
    exact ⟨fun _ h => (nomatch h), .nil, rfl, rfl⟩
  · obtain ⟨_, rfl⟩ := hth i ti hi
    cases hm

/-- The exit of a pool call meets the two halves: by `snapCur` the snapshot it computes on is the current pool. -/
theorem pinv_step {bs : Nat} (hbs : 2 ≤ bs) {s s' : PSt} {i : Nat} (hinv : PInv bs s)
    (h : step bs .exclusive s i = some s') : PInv bs s' := by
  obtain ⟨t, op, rest, ht, _, hcase⟩ := step_cases h
  have o := hinv.own i t ht
  have hout : ∀ op, (specStep (specRun t.done) op).out = (specRun t.done).out →
      t.out = (specRun (t.done ++ [op])).out := fun op e => by rw [specRun_snoc, e]; exact o.out
  have hlen : (specRun t.done).vals.length = t.handles.length := by rw [← o.vals, List.length_map]
  rcases hcase with ⟨_, hsn, hc, rfl⟩ | ⟨v, p, _, hsn, rfl⟩ | ⟨k, p, _, hsn, hk, rfl⟩ | ⟨k, p, x, _, hsn, hk, rfl⟩ |
    ⟨k, v, _, rfl⟩ | ⟨k, _, rfl⟩
  · exact ⟨hinv.toLocked.enter ht hsn hc rfl, hinv.toOwned.same ht rfl o.out rfl⟩
  · obtain rfl := hinv.snapCur i t p ht hsn
    exact ⟨hinv.toLocked.exit ht hsn rfl, hinv.toOwned.exit_alloc hbs ht⟩
  · refine ⟨hinv.toLocked.exit ht hsn rfl, hinv.toOwned.same ht rfl (hout _ rfl) ?_⟩
    rw [specRun_snoc]
    exact List.eraseIdx_of_length_le (hlen ▸ List.getElem?_eq_none_iff.1 hk)
  · obtain rfl := hinv.snapCur i t p ht hsn
    exact ⟨hinv.toLocked.exit ht hsn rfl, hinv.toOwned.exit_free hbs ht hk⟩
  · cases hk : t.handles[k]? with
    | none =>
      refine ⟨hinv.toLocked.local ht rfl, hinv.toOwned.same ht rfl (hout _ rfl) ?_⟩
      rw [specRun_snoc]
      exact List.set_eq_of_length_le (hlen ▸ List.getElem?_eq_none_iff.1 hk)
    | some x => exact ⟨hinv.toLocked.local ht rfl, hinv.toOwned.put ht hk⟩
  · refine ⟨hinv.toLocked.local ht rfl, hinv.toOwned.same ht rfl ?_ (by rw [specRun_snoc]; rfl)⟩
    rw [specRun_snoc]
    show t.out ++ _ = (specRun t.done).out ++ [(specRun t.done).vals[k]?.getD 0]
    rw [o.out, ← o.vals, List.getElem?_map]
    cases t.handles[k]? <;> rfl

theorem pinv_run {bs : Nat} (hbs : 2 ≤ bs) {s : PSt} (hinv : PInv bs s) :
    ∀ sched, PInv bs (run bs .exclusive s sched) :=
  sched_invariant (fun _ _ _ => rfl) (fun _ => rfl) (pinv_step hbs) hinv

/-! ### progress bookkeeping: `done ++ todo` is the program -/

def Prog (P : List (List POp)) (s : PSt) : Prop :=
  ∀ (i : Nat) (t : PThread), s.thr[i]? = some t → P[i]? = some (t.done ++ t.todo)

theorem prog_init (P : List (List POp)) : Prog P (initSt P) := by
  intro i t h
  simp only [initSt, List.getElem?_map, Option.map_eq_some_iff] at h
  obtain ⟨ops, hp, rfl⟩ := h
  simpa using hp

theorem prog_step {bs : Nat} {mode : LockKind} {P : List (List POp)} {s s' : PSt} {i : Nat} (hp : Prog P s)
    (h : step bs mode s i = some s') : Prog P s' := by
  obtain ⟨t, op, rest, ht, htd, hcase⟩ := step_cases h
  have hi : i < s.thr.length := (List.getElem?_eq_some_iff.mp ht).1
  have key : ∀ tnew : PThread, (tnew.done ++ tnew.todo = t.done ++ t.todo) →
      ∀ (j : Nat) (u : PThread), (s.thr.set i tnew)[j]? = some u → P[j]? = some (u.done ++ u.todo) := by
    intro tnew he j u hu
    rcases get_set_cases hi hu with ⟨rfl, rfl⟩ | ⟨_, hu'⟩
    · rw [he]; exact hp j t ht
    · exact hp j u hu'
  rcases hcase with ⟨_, _, _, rfl⟩ | ⟨v, p, rfl, _, rfl⟩ | ⟨k, p, rfl, _, _, rfl⟩ | ⟨k, p, x, rfl, _, _, rfl⟩ |
    ⟨k, v, rfl, rfl⟩ | ⟨k, rfl, rfl⟩
  · exact key _ rfl
  all_goals exact key _ (by simp [htd])

theorem prog_run {bs : Nat} {mode : LockKind} {P : List (List POp)} {s : PSt} (hp : Prog P s) :
    ∀ sched, Prog P (run bs mode s sched) :=
  sched_invariant (fun _ _ _ => rfl) (fun _ => rfl) prog_step hp

end Morfuse.Conc.Pool
