import MorfuseModel.Container.Ops
/-!
# `con::Container`: every step of a history over two containers refines the list specification,
keeps the representation invariant and the lifetime ledger, and faults exactly under its guard
-/
namespace Morfuse.Container
variable {α : Type}

def abs (w : World α) : AW α := { a := contents w.a, b := contents w.b }

/-- invariant of a world: both containers well formed, and the ledger balanced:
    constructions = destructions + live elements -/
def WInv (w : World α) : Prop :=
  (∀ c, WF (w.get c) ((abs w).get c)) ∧
  w.a.led.ctor + w.b.led.ctor = w.a.led.dtor + w.b.led.dtor + w.a.num + w.b.num

/-- the guards under which the C++ has undefined behaviour -/
def UB (w : World α) : Op α → Prop
  | .setAt c i _ => i = 0 ∨ i > (w.get c).num
  | .objectAt c i => i = 0 ∨ i > (w.get c).num
  | .addAt _ i _ => i = 0
  | .addDup c i => i = 0 ∨ i > (w.get c).num ∨ (w.get c).num ≥ (w.get c).max
  | _ => False

@[simp] theorem get_put_same (w : World α) (c : Bool) (s : Cs α) : (w.put c s).get c = s := by
  cases c <;> simp [World.get, World.put]

theorem get_put_other (w : World α) (c d : Bool) (s : Cs α) (h : d ≠ c) : (w.put c s).get d = w.get d := by
  cases c <;> cases d <;> simp_all [World.get, World.put]

theorem abs_get (w : World α) (c : Bool) : (abs w).get c = contents (w.get c) := by
  cases c <;> simp [abs, AW.get, World.get]

theorem abs_put (w : World α) (c : Bool) (s : Cs α) : abs (w.put c s) = (abs w).put c (contents s) := by
  cases c <;> simp [abs, AW.put, World.put]

@[simp] theorem aw_get_put_same (w : AW α) (c : Bool) (l : List α) : (w.put c l).get c = l := by
  cases c <;> simp [AW.get, AW.put]

theorem aw_get_put_other (w : AW α) (c d : Bool) (l : List α) (h : d ≠ c) : (w.put c l).get d = w.get d := by
  cases c <;> cases d <;> simp_all [AW.get, AW.put]

theorem winv_put {w : World α} (hw : WInv w) (c : Bool) {s' : Cs α} {vs' : List α}
    (hs : WF s' vs') (hb : Bal (w.get c) s') :
    WInv (w.put c s') ∧ abs (w.put c s') = (abs w).put c vs' := by
  have e : abs (w.put c s') = (abs w).put c vs' := by rw [abs_put, hs.contents]
  refine ⟨⟨fun d => ?_, ?_⟩, e⟩
  · rw [e]
    by_cases hd : d = c
    · subst hd; simpa using hs
    · rw [get_put_other _ _ _ _ hd, aw_get_put_other _ _ _ _ hd]; exact hw.1 d
  · have h2 := hw.2
    cases c <;> simp [World.put, World.get, Bal] at hb ⊢ <;> omega

theorem wf_transplant {o : Cs α} {ws : List α} (h : WF o ws) (s : Cs α) :
    WF ({ s with objlist := o.objlist, num := o.num, max := o.max } : Cs α) ws := by
  rcases h with ⟨l, rfl, rfl⟩ | ⟨m, l, rfl, hle, hpos⟩
  · exact Or.inl ⟨s.led, rfl, rfl⟩
  · exact Or.inr ⟨m, s.led, rfl, hle, hpos⟩

theorem wf_reset (s : Cs α) : WF ({ s with objlist := none, num := 0, max := 0 } : Cs α) [] :=
  Or.inl ⟨s.led, rfl, rfl⟩

theorem put_put_comm (w : World α) (c d : Bool) (sc sd : Cs α) (h : c ≠ d) :
    (w.put c sc).put d sd = (w.put d sd).put c sc := by
  cases c <;> cases d <;> simp_all [World.put]

theorem put_put_same (w : World α) (c : Bool) (s s' : Cs α) : (w.put c s).put c s' = w.put c s' := by
  cases c <;> simp [World.put]

theorem winv_put2 {w : World α} (hw : WInv w) {c d : Bool} (hcd : c ≠ d) {sc sd : Cs α} {vc vd : List α}
    (hc : WF sc vc) (hd : WF sd vd)
    (hb : sc.led.ctor + sd.led.ctor + (w.get c).led.dtor + (w.get d).led.dtor + (w.get c).num + (w.get d).num
        = (w.get c).led.ctor + (w.get d).led.ctor + sc.led.dtor + sd.led.dtor + sc.num + sd.num) :
    WInv ((w.put d sd).put c sc) ∧ abs ((w.put d sd).put c sc) = ((abs w).put d vd).put c vc := by
  have h2 := hw.2
  have e : abs ((w.put d sd).put c sc) = ((abs w).put d vd).put c vc := by
    rw [abs_put, abs_put, hc.contents, hd.contents]
  refine ⟨⟨fun x => ?_, ?_⟩, e⟩
  · rw [e]
    by_cases hx : x = c
    · subst hx; simpa using hc
    · have hxd : x = d := by cases x <;> cases c <;> cases d <;> simp_all
      subst hxd
      rw [get_put_other _ _ _ _ hx, aw_get_put_other _ _ _ _ hx]; simpa using hd
  · cases c <;> cases d <;> simp_all [World.put, World.get] <;> omega

theorem put_get_self (w : World α) (c : Bool) : w.put c (w.get c) = w := by
  cases c <;> simp [World.put, World.get]

theorem aw_put_get_self (w : AW α) (c : Bool) : w.put c (w.get c) = w := by
  cases c <;> simp [AW.put, AW.get]

theorem winv_init : WInv ({} : World α) :=
  ⟨fun c => by cases c <;> exact wf_mk0 {}, rfl⟩

theorem abs_init : abs ({} : World α) = {} := by simp [abs, contents]

/-- `c` frees its elements and takes over the fields of `d`, which is reset (move assignment / construction) -/
theorem winv_steal {w : World α} (hw : WInv w) {c d : Bool} (hcd : c ≠ d) :
    let sc : Cs α := { (mk0 { (w.get c).led with dtor := (w.get c).led.dtor + ((abs w).get c).length } : Cs α) with
      objlist := (w.get d).objlist, num := (w.get d).num, max := (w.get d).max }
    let sd : Cs α := { w.get d with objlist := none, num := 0, max := 0 }
    WInv ((w.put d sd).put c sc) ∧ abs ((w.put d sd).put c sc) = ((abs w).put d []).put c ((abs w).get d) :=
  winv_put2 hw hcd (wf_transplant (hw.1 d) _) (wf_reset (w.get d)) (by simp [mk0, (hw.1 c).num]; omega)

variable [DecidableEq α] [Inhabited α]

theorem step_one {w : World α} (hw : WInv w) (c : Bool) {s' : Cs α} {vs' : List α} {r : Ret α}
    {op : Op α} (hstep : step w op = .ok (w.put c s', r)) (hs : WF s' vs')
    (hb : Bal (w.get c) s')
    (hspec : Spec.step (abs w) op = some ((abs w).put c vs', r)) :
    ∃ w' r, step w op = .ok (w', r) ∧ WInv w' ∧ Spec.step (abs w) op = some (abs w', r) := by
  obtain ⟨h1, h2⟩ := winv_put hw c hs hb
  exact ⟨_, r, hstep, h1, by rw [hspec, h2]⟩

/-- the usual case: the step runs one member function `res` on container `c`, stores its result and returns `r` -/
theorem step_unit {w : World α} (hw : WInv w) (c : Bool) {op : Op α} {res : R (Cs α)}
    {k : Cs α → R (World α × Ret α)} {vs' : List α} {r : Ret α} (hstep : step w op = res >>= k)
    (hres : ∃ s', res = .ok s' ∧ WF s' vs' ∧ Bal (w.get c) s')
    (hk : ∀ s', k s' = .ok (w.put c s', r))
    (hspec : Spec.step (abs w) op = some ((abs w).put c vs', r)) :
    ∃ w' r, step w op = .ok (w', r) ∧ WInv w' ∧ Spec.step (abs w) op = some (abs w', r) := by
  obtain ⟨s', e, hs, hb⟩ := hres
  exact step_one hw c (by rw [hstep, e, ok_bind, hk]) hs hb hspec

theorem step_pair {w : World α} (hw : WInv w) (c : Bool) {op : Op α} {β : Type} {res : R (Cs α × β)}
    {k : Cs α × β → R (World α × Ret α)} {vs' : List α} {b : β} {r : Ret α} (hstep : step w op = res >>= k)
    (hres : ∃ s', res = .ok (s', b) ∧ WF s' vs' ∧ Bal (w.get c) s')
    (hk : ∀ s', k (s', b) = .ok (w.put c s', r))
    (hspec : Spec.step (abs w) op = some ((abs w).put c vs', r)) :
    ∃ w' r, step w op = .ok (w', r) ∧ WInv w' ∧ Spec.step (abs w) op = some (abs w', r) := by
  obtain ⟨s', e, hs, hb⟩ := hres
  exact step_one hw c (by rw [hstep, e, ok_bind, hk]) hs hb hspec

theorem step_refines {w : World α} (hw : WInv w) (op : Op α) :
    (UB w op ∧ ∃ e, step w op = .error e) ∨
    (¬ UB w op ∧ ∃ w' r, step w op = .ok (w', r) ∧ WInv w' ∧ Spec.step (abs w) op = some (abs w', r)) := by
  have hn : ∀ c, (w.get c).num = ((abs w).get c).length := fun c => (hw.1 c).num
  cases op with
  | add c v =>
    exact Or.inr ⟨id, step_pair hw c rfl (addObject_wf (hw.1 c) v) (fun _ => rfl) rfl⟩
  | addDefault c =>
    exact Or.inr ⟨id, step_pair hw c rfl (addDefault_wf (hw.1 c)) (fun _ => rfl) rfl⟩
  | newIn c v =>
    exact Or.inr ⟨id, step_unit hw c rfl (newIn_wf (hw.1 c) v) (fun _ => rfl) rfl⟩
  | addUnique c v =>
    refine Or.inr ⟨id, step_pair hw c rfl (addUnique_wf (hw.1 c) v) (fun _ => rfl) ?_⟩
    simp only [Spec.step]
    split
    · rw [aw_put_get_self]
    · rfl
  | addAt c i v =>
    by_cases hi : i = 0
    · subst hi
      exact Or.inl ⟨rfl, .oob, by simp [step, addObjectAt_zero]⟩
    · exact Or.inr ⟨hi, step_unit hw c rfl (addObjectAt_wf (hw.1 c) i v (by omega)) (fun _ => rfl)
        (by simp [Spec.step, hi])⟩
  | insertAt c i v =>
    by_cases hi : i = 0 ∨ i > ((abs w).get c).length + 1
    · refine Or.inr ⟨id, step_unit hw c rfl
        ⟨_, insertObjectAt_noop (w.get c) i v (by rw [hn]; exact hi), hw.1 c, .refl _⟩ (fun _ => rfl) ?_⟩
      simp only [Spec.step, hi, if_true]; rw [aw_put_get_self]
    · exact Or.inr ⟨id, step_unit hw c rfl (insertObjectAt_ok (hw.1 c) i v (by omega) (by omega)) (fun _ => rfl)
        (by simp [Spec.step, hi])⟩
  | removeAt c i =>
    by_cases hi : i = 0 ∨ i > ((abs w).get c).length
    · refine Or.inr ⟨id, step_pair hw c rfl
        ⟨_, removeObjectAt_threw (w.get c) i (by rw [hn]; exact hi), hw.1 c, .refl _⟩ (fun _ => rfl) ?_⟩
      simp only [Spec.step, hi, if_true]; rw [aw_put_get_self]
    · exact Or.inr ⟨id, step_pair hw c rfl (removeObjectAt_ok (hw.1 c) i (by omega) (by omega)) (fun _ => rfl)
        (by simp [Spec.step, hi])⟩
  | remove c v =>
    exact Or.inr ⟨id, step_unit hw c rfl (removeObject_wf (hw.1 c) v) (fun _ => rfl) rfl⟩
  | removePtr c off =>
    exact Or.inr ⟨id, step_unit hw c rfl (removeObjectPtr_wf (hw.1 c) off) (fun _ => rfl) rfl⟩
  | setAt c i v =>
    by_cases hi : i = 0 ∨ i > ((abs w).get c).length
    · obtain ⟨e, he⟩ := setObjectAt_ub (hw.1 c) i v (by omega)
      exact Or.inl ⟨by simpa [UB, hn] using hi, e, by simp [step, he]⟩
    · exact Or.inr ⟨by simpa [UB, hn] using hi, step_unit hw c rfl (setObjectAt_ok (hw.1 c) i v (by omega) (by omega))
        (fun _ => rfl) (by simp [Spec.step, hi])⟩
  | objectAt c i =>
    by_cases hi : i = 0 ∨ i > ((abs w).get c).length
    · obtain ⟨e, he⟩ := objectAt_ub (hw.1 c) i (by omega)
      exact Or.inl ⟨by simpa [UB, hn] using hi, e, by simp [step, he]⟩
    · have hl : i - 1 < ((abs w).get c).length := by omega
      refine Or.inr ⟨by simpa [UB, hn] using hi, w, .val ((abs w).get c)[i - 1], ?_, hw, ?_⟩
      · simp [step, objectAt_ok (hw.1 c) i (by omega) (by omega)]
      · simp [Spec.step, List.getElem?_eq_getElem hl, show i ≠ 0 by omega]
  | indexOf c v =>
    exact Or.inr ⟨id, w, .nat (posOf ((abs w).get c) v), by simp [step, indexOf_wf (hw.1 c)], hw, rfl⟩
  | inList c v =>
    exact Or.inr ⟨id, w, .bool (decide (v ∈ (abs w).get c)), by simp [step, objectInList_wf (hw.1 c)], hw, rfl⟩
  | resize c n =>
    exact Or.inr ⟨id, step_unit hw c rfl (resize_any_wf (hw.1 c) n) (fun _ => rfl) rfl⟩
  | setNum c n =>
    exact Or.inr ⟨id, step_unit hw c rfl (setNumObjects_wf (hw.1 c) n) (fun _ => rfl) rfl⟩
  | shrink c =>
    refine Or.inr ⟨id, step_unit hw c rfl (shrink_wf (hw.1 c)) (fun _ => rfl) ?_⟩
    simp only [Spec.step]; rw [aw_put_get_self]
  | clear c =>
    exact Or.inr ⟨id, step_unit hw c rfl (clear_wf (hw.1 c)) (fun _ => rfl) rfl⟩
  | free c =>
    exact Or.inr ⟨id, step_unit hw c rfl ⟨_, free_wf (hw.1 c), wf_mk0 _, free_bal (hw.1 c)⟩ (fun _ => rfl) rfl⟩
  | copyAssign c d =>
    by_cases hcd : c = d
    · subst hcd
      exact Or.inr ⟨id, w, .unit, by simp [step], hw, by simp [Spec.step, aw_put_get_self]⟩
    · exact Or.inr ⟨id, step_unit hw c (if_neg hcd) (copyFrom_wf (hw.1 c) (hw.1 d))
        (fun _ => rfl) rfl⟩
  | moveAssign c d =>
    refine Or.inr ⟨id, ?_⟩
    have hfree := free_wf (hw.1 c)
    by_cases hcd : c = d
    · subst hcd
      refine step_one hw c (r := .unit) ?_ (wf_mk0 _) (free_bal (hw.1 c)) ?_
      · simp only [step, hfree, ok_bind, get_put_same, steal, mk0]
        cases c <;> simp [World.put]
      · simp [Spec.step]
        cases c <;> simp [AW.put]
    · obtain ⟨h1, h2⟩ := winv_steal hw hcd
      refine ⟨_, .unit, ?_, h1, by simp [Spec.step, hcd, h2]⟩
      have hd : d ≠ c := fun e => hcd e.symm
      simp only [step, hfree, ok_bind, get_put_same, get_put_other _ _ _ _ hd, steal]
      rw [put_put_comm _ _ _ _ _ hcd, put_put_same]
  | copyCtor c d =>
    refine Or.inr ⟨id, ?_⟩
    by_cases hcd : c = d
    · subst hcd
      exact ⟨w, .unit, by simp [step], hw, by simp [Spec.step, aw_put_get_self]⟩
    · obtain ⟨s', e1, e2, e3⟩ := copyFrom_wf
        (wf_mk0 { (w.get c).led with dtor := (w.get c).led.dtor + ((abs w).get c).length }) (hw.1 d)
      refine step_one hw c (r := .unit) ?_ e2 ((free_bal (hw.1 c)).trans e3) rfl
      simp only [step, hcd, if_false, free_wf (hw.1 c), ok_bind]
      rw [show ∀ l : Led, ({ (mk0 l : Cs α) with objlist := none } : Cs α) = mk0 l from fun _ => rfl, e1]; rfl
  | moveCtor c d =>
    refine Or.inr ⟨id, ?_⟩
    by_cases hcd : c = d
    · subst hcd
      exact ⟨w, .unit, by simp [step], hw, by simp [Spec.step]⟩
    · obtain ⟨h1, h2⟩ := winv_steal hw hcd
      exact ⟨_, .unit, by simp only [step, hcd, if_false, free_wf (hw.1 c), ok_bind, steal], h1,
        by simp [Spec.step, hcd, h2]⟩
  | addDup c i =>
    by_cases hi : i = 0 ∨ ((abs w).get c).length < i ∨ (w.get c).max ≤ ((abs w).get c).length
    · obtain ⟨e, he⟩ := addDup_ub (hw.1 c) i hi
      exact Or.inl ⟨by simp only [UB, hn]; omega, e, by simp [step, he]⟩
    · have hl : i - 1 < ((abs w).get c).length := by omega
      exact Or.inr ⟨by simp only [UB, hn]; omega, step_pair hw c rfl
        (addDup_ok (hw.1 c) i (by omega) (by omega) (by omega)) (fun _ => rfl)
        (by simp [Spec.step, List.getElem?_eq_getElem hl, show i ≠ 0 by omega])⟩

theorem step_guarded {w : World α} (hw : WInv w) (op : Op α) :
    ((∃ e, step w op = .error e) ↔ UB w op) ∧
    ∀ p, step w op = .ok p → WInv p.1 ∧ Spec.step (abs w) op = some (abs p.1, p.2) :=
  Except.guarded ((step_refines hw op).imp_right fun ⟨u, w', r, h⟩ => ⟨u, (w', r), h⟩)

theorem step_ok {w w' : World α} (hw : WInv w) {op : Op α} {r : Ret α} (h : step w op = .ok (w', r)) :
    WInv w' ∧ Spec.step (abs w) op = some (abs w', r) :=
  (step_guarded hw op).2 (w', r) h

theorem step_error_iff {w : World α} (hw : WInv w) (op : Op α) : (∃ e, step w op = .error e) ↔ UB w op :=
  (step_guarded hw op).1

theorem runR_refines : ∀ (ops : List (Op α)) {w w' : World α} {rs : List (Ret α)}, WInv w →
    runR w ops = .ok (w', rs) → WInv w' ∧ Spec.runR (abs w) ops = some (abs w', rs) := by
  intro ops
  induction ops with
  | nil => intro w w' rs hw h; cases h; exact ⟨hw, rfl⟩
  | cons op ops ih =>
    intro w w' rs hw h
    obtain ⟨⟨w1, r⟩, h1, h⟩ := bind_eq_ok h
    obtain ⟨⟨w2, rs2⟩, h2, h⟩ := bind_eq_ok h
    cases h
    obtain ⟨hw1, hs1⟩ := step_ok hw h1
    obtain ⟨hw2, hs2⟩ := ih hw1 h2
    exact ⟨hw2, by simp [Spec.runR, hs1, hs2]⟩

theorem reachable_winv {w : World α} (h : Reachable w) : WInv w := by
  obtain ⟨ops, h⟩ := h
  obtain ⟨⟨w', rs⟩, h2, h⟩ := bind_eq_ok h
  cases h
  exact (runR_refines ops winv_init h2).1

end Morfuse.Container
