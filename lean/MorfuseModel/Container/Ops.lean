import MorfuseModel.Container.Lemmas
import MorfuseModel.Container.Spec
/-!
# Lemmas for the `con::Container` model: one lemma per member function

Under the representation invariant `WF s vs` a member function does not fault (except through its stated
guard), re-establishes `WF` for the obvious list, and moves the ledger by as many constructions /
destructions as the list grew / shrank (`Bal`).
-/
namespace Morfuse.Container
variable {α : Type}

theorem free_mk0 (l : Led) : freeObjectList (mk0 l : Cs α) = .ok (mk0 l) := rfl

theorem free_mk (vs : List α) (m : Nat) (l : Led) :
    freeObjectList (mk vs m l) = .ok (mk0 { l with dtor := l.dtor + vs.length }) := by
  have := destroyLoop_spec vs [] (raw (m - vs.length)) 0 l rfl
  simp only [List.nil_append] at this
  simp [freeObjectList, mk, bufOf, this, mk0]

theorem free_wf {s : Cs α} {vs : List α} (h : WF s vs) :
    freeObjectList s = .ok (mk0 { s.led with dtor := s.led.dtor + vs.length }) := by
  rcases h with ⟨l, rfl, rfl⟩ | ⟨m, l, rfl, _, _⟩
  · exact free_mk0 l
  · exact free_mk vs m l

theorem free_bal {s : Cs α} {vs : List α} (h : WF s vs) :
    Bal s (mk0 { s.led with dtor := s.led.dtor + vs.length }) := by
  simp [Bal, mk0, h.num, Nat.add_assoc]

theorem clear_mk0 (l : Led) : clearObjectList (mk0 l : Cs α) = .ok (mk0 l) := rfl

theorem clear_mk (vs : List α) (m : Nat) (l : Led) (h : vs.length ≤ m) :
    clearObjectList (mk vs m l) = .ok (mk [] m { l with dtor := l.dtor + vs.length }) := by
  have := destroyLoop_spec vs [] (raw (m - vs.length)) 0 l rfl
  simp only [List.nil_append] at this
  by_cases hv : vs = []
  · subst hv; simp [clearObjectList, mk]
  · have hl : vs.length ≠ 0 := by simpa using hv
    simp [clearObjectList, mk, bufOf, hl, this, ← raw_split vs.length h]

theorem clear_wf {s : Cs α} {vs : List α} (h : WF s vs) :
    ∃ s', clearObjectList s = .ok s' ∧ WF s' [] ∧ Bal s s' := by
  rcases h with ⟨l, rfl, rfl⟩ | ⟨m, l, rfl, hle, hpos⟩
  · exact ⟨_, clear_mk0 l, wf_mk0 l, rfl⟩
  · exact ⟨_, clear_mk vs m l hle, wf_mk _ _ _ (Nat.zero_le _) hpos, by simp [Bal]; omega⟩

theorem moveLoop_mk (vs : List α) (k m' : Nat) (l : Led) (h : vs.length ≤ m') :
    moveLoop 0 vs.length 0 (bufOf vs k) (raw m') l =
      .ok (raw vs.length ++ raw k, bufOf vs (m' - vs.length),
           { ctor := l.ctor + vs.length, dtor := l.dtor + vs.length }) := by
  have := moveLoop_spec 0 vs [] (raw k) [] (raw (m' - vs.length)) 0 l rfl rfl
  simp only [List.nil_append, ← raw_split vs.length h] at this
  exact this

theorem resize_zero (s : Cs α) : resize s 0 = freeObjectList s := by simp [resize]

theorem resize_mk0 (l : Led) (n : Nat) (hn : 0 < n) : resize (mk0 l : Cs α) n = .ok (mk [] n l) := by
  have : n ≠ 0 := by omega
  simp [resize, this, mk0, mk, bufOf]

theorem resize_mk (vs : List α) (m : Nat) (l : Led) (n : Nat) (hn : 0 < n) :
    resize (mk vs m l) n = .ok (mk vs (if n < vs.length then vs.length else n)
      { ctor := l.ctor + vs.length, dtor := l.dtor + vs.length }) := by
  have hn' : n ≠ 0 := by omega
  by_cases hlt : n < vs.length
  · simp [resize, hn', mk, hlt, moveLoop_mk vs _ vs.length l (Nat.le_refl _)]
  · simp [resize, hn', mk, hlt, moveLoop_mk vs _ n l (by omega)]

theorem resize_wf {s : Cs α} {vs : List α} (h : WF s vs) (n : Nat) (hn : 0 < n) :
    ∃ l', resize s n = .ok (mk vs (if n < vs.length then vs.length else n) l') ∧
      l'.ctor + s.led.dtor = s.led.ctor + l'.dtor := by
  rcases h with ⟨l, rfl, rfl⟩ | ⟨m, l, rfl, hle, hpos⟩
  · exact ⟨l, by simpa using resize_mk0 (α := α) l n hn, rfl⟩
  · exact ⟨_, resize_mk vs m l n hn, by simp; omega⟩

theorem shrink_mk0 (l : Led) : shrink (mk0 l : Cs α) = .ok (mk0 l) := rfl

theorem shrink_mk (vs : List α) (m : Nat) (l : Led) (hv : vs ≠ []) :
    shrink (mk vs m l) = .ok (mk vs vs.length { ctor := l.ctor + vs.length, dtor := l.dtor + vs.length }) := by
  have hl : vs.length ≠ 0 := by simpa using hv
  simp [shrink, mk, hl, moveLoop_mk vs _ _ l (Nat.le_refl _)]

theorem shrink_mk_nil (m : Nat) (l : Led) : shrink (mk ([] : List α) m l) = .ok (mk [] m l) := by
  simp [shrink, mk]

theorem shrink_wf {s : Cs α} {vs : List α} (h : WF s vs) :
    ∃ s', shrink s = .ok s' ∧ WF s' vs ∧ Bal s s' := by
  rcases h with ⟨l, rfl, rfl⟩ | ⟨m, l, rfl, hle, hpos⟩
  · exact ⟨_, shrink_mk0 l, wf_mk0 l, rfl⟩
  · by_cases hv : vs = []
    · subst hv; exact ⟨_, shrink_mk_nil m l, wf_mk _ _ _ (Nat.zero_le _) hpos, rfl⟩
    · exact ⟨_, shrink_mk vs m l hv, wf_mk _ _ _ (Nat.le_refl _) (List.length_pos_iff.mpr hv), by simp [Bal]; omega⟩

/-- `if c then Resize(n)`, the growth step in front of every append (`c` fails only for a container that has a buffer) -/
theorem reserve_wf {s : Cs α} {vs : List α} (h : WF s vs) (c : Prop) [Decidable c] (n : Nat) (hc : c → 0 < n)
    (hnc : ¬ c → 0 < s.max) :
    ∃ m l, (if c then resize s n else .ok s) = .ok (mk vs m l) ∧ vs.length ≤ m ∧ 0 < m ∧ (c → n ≤ m) ∧
      (¬ c → m = s.max) ∧ l.ctor + s.led.dtor = s.led.ctor + l.dtor := by
  by_cases hcc : c
  · obtain ⟨l', h1, h2⟩ := resize_wf h n (hc hcc)
    have := hc hcc
    exact ⟨_, l', by rw [if_pos hcc, h1], by split <;> omega, by split <;> omega, fun _ => by split <;> omega,
      fun h => absurd hcc h, h2⟩
  · rcases h with ⟨l, rfl, rfl⟩ | ⟨m, l, rfl, hle, hpos⟩
    · exact absurd (hnc hcc) (Nat.lt_irrefl 0)
    · exact ⟨m, l, if_neg hcc, hle, hpos, fun h => absurd h hcc, fun _ => rfl, rfl⟩

/-- the shape `do` notation gives to `let s ← if c then a else .ok s; k s` -/
theorem ite_bind_ok {β γ : Type} (c : Prop) [Decidable c] (a : R β) (b : β) (k : β → R γ) :
    (if c then a >>= k else Except.ok b >>= k) = (if c then a else .ok b) >>= k := by
  split <;> rfl

/-- what `AddObject(v)` does to the capacity -/
def addCap (n m : Nat) : Nat := if n ≥ m then (n + 1) * 2 else m

theorem addObject_wf {s : Cs α} {vs : List α} (h : WF s vs) (v : α) :
    ∃ s', addObject s v = .ok (s', vs.length + 1) ∧ WF s' (vs ++ [v]) ∧ Bal s s' := by
  obtain ⟨m, l, e, _, hpos, hc, hnc, hb⟩ :=
    reserve_wf h (s.num ≥ s.max) ((s.num + 1) * 2) (fun _ => by omega) (fun hc => by omega)
  have hn := h.num
  have hlt : vs.length < m := by
    by_cases hcc : s.num ≥ s.max
    · have := hc hcc; omega
    · have := hnc hcc; omega
  refine ⟨mk (vs ++ [v]) m { l with ctor := l.ctor + 1 }, ?_, wf_mk _ _ _ (by simp; omega) hpos, by simp [Bal]; omega⟩
  simp only [addObject]
  rw [ite_bind_ok, e]
  simp [onBuf, construct_mk vs v m l hlt, mk]

theorem WF.max_pos {s : Cs α} {vs : List α} (h : WF s vs) (hb : ¬ s.objlist.isNone = true) : 0 < s.max := by
  rcases h with ⟨l, rfl, rfl⟩ | ⟨m, l, rfl, _, hpos⟩
  · exact absurd rfl hb
  · exact hpos

/-- `AddObjectUninitialized()` leaves `numobjects` one past the constructed elements -/
theorem addUninit_wf {s : Cs α} {vs : List α} (h : WF s vs) :
    ∃ m l, addObjectUninitialized s = .ok ({ mk vs m l with num := vs.length + 1 }, vs.length + 1) ∧
      vs.length < m ∧ l.ctor + s.led.dtor = s.led.ctor + l.dtor := by
  obtain ⟨m1, l1, e1, hle1, hpos1, _, _, hb1⟩ :=
    reserve_wf h (s.objlist.isNone = true) 10 (fun _ => by omega) h.max_pos
  obtain ⟨m2, l2, e2, _, _, hc, hnc, hb2⟩ :=
    reserve_wf (wf_mk vs m1 l1 hle1 hpos1) ((mk vs m1 l1).num ≥ (mk vs m1 l1).max) ((mk vs m1 l1).num * 2)
      (fun hc => by simp at hc; simp; omega) (fun _ => hpos1)
  refine ⟨m2, l2, ?_, ?_, by simp at hb2; omega⟩
  · simp only [addObjectUninitialized]
    rw [ite_bind_ok, e1, ok_bind, ite_bind_ok, e2]
    rfl
  · by_cases hcc : (mk vs m1 l1).num ≥ (mk vs m1 l1).max
    · have := hc hcc; simp at hcc this; omega
    · have := hnc hcc; simp at hcc this; omega

theorem addDefault_wf [Inhabited α] {s : Cs α} {vs : List α} (h : WF s vs) :
    ∃ s', addDefault s = .ok (s', vs.length) ∧ WF s' (vs ++ [default]) ∧ Bal s s' := by
  obtain ⟨m, l, e, hlt, hb⟩ := addUninit_wf h
  have hn := h.num
  refine ⟨mk (vs ++ [default]) m { l with ctor := l.ctor + 1 }, ?_, wf_mk _ _ _ (by simp; omega) (by omega),
    by simp [Bal]; omega⟩
  simp [addDefault, e, onBuf, mk, construct_mk vs default m l hlt]

theorem newIn_wf {s : Cs α} {vs : List α} (h : WF s vs) (v : α) :
    ∃ s', newIn s v = .ok s' ∧ WF s' (vs ++ [v]) ∧ Bal s s' := by
  obtain ⟨m, l, e, hlt, hb⟩ := addUninit_wf h
  have hn := h.num
  refine ⟨mk (vs ++ [v]) m { l with ctor := l.ctor + 1 }, ?_, wf_mk _ _ _ (by simp; omega) (by omega),
    by simp [Bal]; omega⟩
  simp [newIn, e, onBuf, mk, construct_mk vs v m l hlt]

theorem indexOf_wf [DecidableEq α] {s : Cs α} {vs : List α} (h : WF s vs) (v : α) :
    indexOfObject s v = .ok (posOf vs v) := by
  rcases h with ⟨l, rfl, rfl⟩ | ⟨m, l, rfl, hle, hpos⟩
  · simp [indexOfObject, mk0, posOf]
  · have := findLoop_spec v vs [] (raw (m - vs.length)) 0 rfl
    simp only [List.nil_append, Nat.zero_add] at this
    simp [indexOfObject, mk, bufOf, this, posOf]

theorem objectInList_wf [DecidableEq α] {s : Cs α} {vs : List α} (h : WF s vs) (v : α) :
    objectInList s v = .ok (decide (v ∈ vs)) := by
  by_cases hv : v ∈ vs <;> simp [objectInList, indexOf_wf h, posOf, hv]

theorem bufOf_get_lt (vs : List α) (k i : Nat) (h : i < vs.length) :
    (bufOf vs k)[i]? = some (some vs[i]) := by
  simp [bufOf, List.getElem?_append_left, h]

theorem bufOf_get_ge (vs : List α) (k i : Nat) (h : vs.length ≤ i) :
    (bufOf vs k)[i]? = some none ∨ (bufOf vs k)[i]? = none := by
  rw [bufOf, List.getElem?_append_right (by simpa using h), raw, List.getElem?_replicate]
  split <;> simp

theorem objectAt_ok {s : Cs α} {vs : List α} (h : WF s vs) (i : Nat) (h1 : 0 < i) (h2 : i ≤ vs.length) :
    objectAt s i = .ok (vs[i - 1]'(by omega)) := by
  rcases h with ⟨l, rfl, rfl⟩ | ⟨m, l, rfl, hle, hpos⟩
  · simp at h2; omega
  · have hi : i ≠ 0 := by omega
    simp [objectAt, hi, onBuf_mk, bRead, bufOf_get_lt vs _ (i - 1) (by omega)]

theorem objectAt_ub {s : Cs α} {vs : List α} (h : WF s vs) (i : Nat) (hi : i = 0 ∨ vs.length < i) :
    ∃ f, objectAt s i = .error f := by
  by_cases h0 : i = 0
  · exact ⟨.oob, by simp [objectAt, h0]⟩
  rcases h with ⟨l, rfl, rfl⟩ | ⟨m, l, rfl, _, _⟩
  · exact ⟨.oob, by simp [objectAt, h0, onBuf, mk0]⟩
  · rcases bufOf_get_ge vs (m - vs.length) (i - 1) (by omega) with e | e
    · exact ⟨.rawRead, by simp [objectAt, h0, onBuf_mk, bRead, e]⟩
    · exact ⟨.oob, by simp [objectAt, h0, onBuf_mk, bRead, e]⟩

theorem setObjectAt_ok {s : Cs α} {vs : List α} (h : WF s vs) (i : Nat) (v : α) (h1 : 0 < i) (h2 : i ≤ vs.length) :
    ∃ s', setObjectAt s i v = .ok s' ∧ WF s' (vs.set (i - 1) v) ∧ Bal s s' := by
  rcases h with ⟨l, rfl, rfl⟩ | ⟨m, l, rfl, hle, hpos⟩
  · simp at h2; omega
  · have hi : i ≠ 0 := by omega
    refine ⟨mk (vs.set (i - 1) v) m l, ?_, wf_mk _ _ _ (by simpa using hle) hpos, by simp [Bal]⟩
    have hg := bufOf_get_lt vs (m - vs.length) (i - 1) (by omega)
    simp only [setObjectAt, hi, if_false, onBuf_mk, ok_bind, bAssign, hg]
    simp only [mk, List.length_set, bufOf]
    congr 2
    rw [List.set_append_left _ _ (by simp; omega), List.map_set]

theorem setObjectAt_ub {s : Cs α} {vs : List α} (h : WF s vs) (i : Nat) (v : α) (hi : i = 0 ∨ vs.length < i) :
    ∃ f, setObjectAt s i v = .error f := by
  by_cases h0 : i = 0
  · exact ⟨.oob, by simp [setObjectAt, h0]⟩
  rcases h with ⟨l, rfl, rfl⟩ | ⟨m, l, rfl, _, _⟩
  · exact ⟨.oob, by simp [setObjectAt, h0, onBuf, mk0]⟩
  · rcases bufOf_get_ge vs (m - vs.length) (i - 1) (by omega) with e | e
    · exact ⟨.rawAssign, by simp [setObjectAt, h0, onBuf_mk, bAssign, e]⟩
    · exact ⟨.oob, by simp [setObjectAt, h0, onBuf_mk, bAssign, e]⟩

theorem addUnique_wf [DecidableEq α] {s : Cs α} {vs : List α} (h : WF s vs) (v : α) :
    ∃ s', addUniqueObject s v = .ok (s', if v ∈ vs then posOf vs v else vs.length + 1) ∧
      WF s' (if v ∈ vs then vs else vs ++ [v]) ∧ Bal s s' := by
  by_cases hv : v ∈ vs
  · refine ⟨s, ?_, by simpa [hv] using h, .refl s⟩
    have hp : posOf vs v ≠ 0 := by simp [posOf, hv]
    simp [addUniqueObject, indexOf_wf h, hv, hp]
  · obtain ⟨s', h1, h2, h3⟩ := addObject_wf h v
    have hp : posOf vs v = 0 := by simp [posOf, hv]
    exact ⟨s', by simp [addUniqueObject, indexOf_wf h, hv, hp, h1], by simpa [hv] using h2, h3⟩

theorem growTo_wf {s : Cs α} {vs : List α} (h : WF s vs) (n : Nat) :
    ∃ s', growTo s n = .ok s' ∧ WF s' vs ∧ n ≤ s'.max ∧ Bal s s' := by
  by_cases hgt : n > s.max
  · obtain ⟨l', h1, h2⟩ := resize_wf h n (by omega)
    have := h.le
    have := h.num
    exact ⟨_, by simpa [growTo, hgt] using h1, wf_mk _ _ _ (by split <;> omega) (by split <;> omega),
      by simp only [mk_max]; split <;> omega, by simp [Bal]; omega⟩
  · exact ⟨s, by simp [growTo, hgt], h, by omega, .refl s⟩

theorem defaultLoop_mk [Inhabited α] (vs : List α) (m k : Nat) (l : Led) (h : vs.length + k ≤ m) :
    defaultLoop k vs.length (bufOf vs (m - vs.length)) l =
      .ok (bufOf (vs ++ List.replicate k default) (m - (vs.length + k)), { l with ctor := l.ctor + k }) := by
  rw [bufOf, raw_split k (by omega), defaultLoop_spec k _ _ _ l (by simp)]
  simp [bufOf, Nat.sub_add_eq]

theorem fillTo_mk [Inhabited α] (vs : List α) (m : Nat) (l : Led) (index : Nat) (hi : index ≤ m) :
    fillTo (mk vs m l) index =
      .ok (mk (vs ++ List.replicate (index - vs.length) default) m { l with ctor := l.ctor + (index - vs.length) }) := by
  by_cases hgt : index > vs.length
  · simp only [fillTo, mk_num, mk_led, hgt, if_true, onBuf_mk, ok_bind, defaultLoop_mk vs m (index - vs.length) l (by omega)]
    simp only [mk, List.length_append, List.length_replicate]
    congr 3 <;> omega
  · simp [fillTo, hgt, show index - vs.length = 0 by omega]

theorem fillTo_wf [Inhabited α] {s : Cs α} {vs : List α} (h : WF s vs) (index : Nat) (hi : index ≤ s.max) :
    ∃ s', fillTo s index = .ok s' ∧ WF s' (vs ++ List.replicate (index - vs.length) default) ∧ Bal s s' := by
  rcases h with ⟨l, rfl, rfl⟩ | ⟨m, l, rfl, hle, hpos⟩
  · obtain rfl : index = 0 := Nat.le_zero.mp hi
    exact ⟨_, rfl, by simpa using wf_mk0 l, rfl⟩
  · have hi : index ≤ m := hi
    exact ⟨_, fillTo_mk vs m l index hi, wf_mk _ _ _ (by simp; omega) hpos, by simp [Bal]; omega⟩

theorem destroyLoop_mk (vs : List α) (m n : Nat) (l : Led) (hn : n ≤ vs.length) (hm : vs.length ≤ m) :
    destroyLoop (vs.length - n) n (bufOf vs (m - vs.length)) l =
      .ok (bufOf (vs.take n) (m - (vs.take n).length), { l with dtor := l.dtor + (vs.length - n) }) := by
  have e : bufOf vs (m - vs.length) = (vs.take n).map some ++ ((vs.drop n).map some ++ raw (m - vs.length)) := by
    rw [← List.append_assoc, ← List.map_append, List.take_append_drop]; rfl
  have := destroyLoop_spec (vs.drop n) ((vs.take n).map some) (raw (m - vs.length)) n l (by simp; omega)
  rw [List.length_drop] at this
  rw [e, this, ← raw_add]
  simp only [bufOf, List.length_take]
  congr 4; omega

theorem cutTo_mk (vs : List α) (m : Nat) (l : Led) (n : Nat) (hm : vs.length ≤ m) :
    cutTo (mk vs m l) n = .ok (mk (vs.take n) m { l with dtor := l.dtor + (vs.length - n) }) := by
  by_cases hlt : n < vs.length
  · simp only [cutTo, mk_num, mk_led, hlt, if_true, onBuf_mk, ok_bind, destroyLoop_mk vs m n l (by omega) hm]
    simp only [mk, List.length_take]
    congr 2; omega
  · simp [cutTo, hlt, show vs.length - n = 0 by omega, List.take_of_length_le (by omega : vs.length ≤ n)]

theorem cutTo_wf {s : Cs α} {vs : List α} (h : WF s vs) (n : Nat) :
    ∃ s', cutTo s n = .ok s' ∧ WF s' (vs.take n) ∧ s'.max = s.max ∧ Bal s s' := by
  rcases h with ⟨l, rfl, rfl⟩ | ⟨m, l, rfl, hle, hpos⟩
  · exact ⟨_, rfl, by simpa using wf_mk0 l, rfl, .refl _⟩
  · exact ⟨_, cutTo_mk vs m l n hle, wf_mk _ _ _ (by simp; omega) hpos, rfl, by simp [Bal]; omega⟩

theorem addObjectAt_wf [Inhabited α] {s : Cs α} {vs : List α} (h : WF s vs) (index : Nat) (v : α) (hi : 0 < index) :
    ∃ s', addObjectAt s index v = .ok s' ∧
      WF s' ((vs ++ List.replicate (index - vs.length) default).set (index - 1) v) ∧ Bal s s' := by
  obtain ⟨s1, e1, w1, hm1, b1⟩ := growTo_wf h index
  obtain ⟨s2, e2, w2, b2⟩ := fillTo_wf w1 index hm1
  obtain ⟨s3, e3, w3, b3⟩ := setObjectAt_ok w2 index v hi (by simp; omega)
  exact ⟨s3, by simp [addObjectAt, e1, e2, e3], w3, (b1.trans b2).trans b3⟩

/-- `AddObjectAt(0, _)` grows nothing, fills nothing and assigns through `objlist[-1]` -/
theorem addObjectAt_zero [Inhabited α] (s : Cs α) (v : α) : addObjectAt s 0 v = .error .oob := by
  simp [addObjectAt, growTo, fillTo, setObjectAt]

theorem setNumObjects_wf [Inhabited α] {s : Cs α} {vs : List α} (h : WF s vs) (n : Nat) :
    ∃ s', setNumObjects s n = .ok s' ∧ WF s' (vs.take n ++ List.replicate (n - vs.length) default) ∧ Bal s s' := by
  obtain ⟨s1, e1, w1, hm1, b1⟩ := growTo_wf h n
  obtain ⟨s2, e2, w2, hm2, b2⟩ := cutTo_wf w1 n
  obtain ⟨s3, e3, w3, b3⟩ := fillTo_wf w2 n (by omega)
  rw [show n - (vs.take n).length = n - vs.length by simp; omega] at w3
  exact ⟨s3, by simp [setNumObjects, e1, e2, e3], w3, (b1.trans b2).trans b3⟩

theorem exists_split {vs : List α} {j : Nat} (h : j < vs.length) :
    ∃ pre x post, vs = pre ++ x :: post ∧ pre.length = j :=
  ⟨vs.take j, vs[j], vs.drop (j + 1), by rw [← List.drop_eq_getElem_cons h, List.take_append_drop],
    by simp; omega⟩

theorem removeObjectAt_threw (s : Cs α) (i : Nat) (h : i = 0 ∨ i > s.num) :
    removeObjectAt s i = .ok (s, true) := by
  simp [removeObjectAt, h]

theorem removeObjectAt_mk (pre : List α) (x : α) (xs : List α) (m : Nat) (l : Led)
    (hm : (pre ++ x :: xs).length ≤ m) :
    removeObjectAt (mk (pre ++ x :: xs) m l) (pre.length + 1) =
      .ok (mk (pre ++ xs) m { l with dtor := l.dtor + 1 }, false) := by
  have hg : ¬ (pre.length + 1 = 0 ∨ pre.length + 1 > (pre ++ x :: xs).length) := by simp
  have ek : (pre ++ x :: xs).length - 1 - (pre.length + 1 - 1) = xs.length := by simp
  have eb : ∀ k, bufOf (pre ++ x :: xs) k = pre.map some ++ some x :: (xs.map some ++ raw k) := by simp [bufOf]
  simp only [removeObjectAt, mk_num, mk_led, hg, if_false, onBuf_mk, ok_bind]
  rw [ek, Nat.add_sub_cancel, eb, shiftDown_spec xs x _ _ _ (by simp), ok_bind, ← List.append_assoc,
    bDestroy_mid _ _ _ _ _ (by simp), ok_bind]
  simp only [mk, bufOf, List.map_append, List.length_append, List.length_cons, ← raw_succ] at hm ⊢
  rw [show m - (pre.length + (xs.length + 1)) + 1 = m - (pre.length + xs.length) by omega,
    show pre.length + (xs.length + 1) - 1 = pre.length + xs.length by omega]

theorem removeObjectAt_ok {s : Cs α} {vs : List α} (h : WF s vs) (i : Nat) (h1 : 0 < i) (h2 : i ≤ vs.length) :
    ∃ s', removeObjectAt s i = .ok (s', false) ∧ WF s' (vs.eraseIdx (i - 1)) ∧ Bal s s' := by
  rcases h with ⟨l, rfl, rfl⟩ | ⟨m, l, rfl, hle, hpos⟩
  · simp at h2; omega
  · obtain ⟨pre, x, xs, rfl, hpl⟩ := exists_split (show i - 1 < vs.length by omega)
    obtain rfl : i = pre.length + 1 := by omega
    rw [Nat.add_sub_cancel, List.eraseIdx_append_of_length_le (Nat.le_refl _), Nat.sub_self, List.eraseIdx_cons_zero]
    refine ⟨_, removeObjectAt_mk pre x xs m l hle, ?_, by simp [Bal]; omega⟩
    simpa using wf_mk (pre ++ xs) m { l with dtor := l.dtor + 1 } (by simp at hle ⊢; omega) hpos

theorem removeObject_wf [DecidableEq α] {s : Cs α} {vs : List α} (h : WF s vs) (v : α) :
    ∃ s', removeObject s v = .ok s' ∧ WF s' (vs.erase v) ∧ Bal s s' := by
  by_cases hv : v ∈ vs
  · have hp : posOf vs v = vs.idxOf v + 1 := by simp [posOf, hv]
    have hlt : vs.idxOf v < vs.length := List.idxOf_lt_length_iff.mpr hv
    obtain ⟨s', h1, h2, h3⟩ := removeObjectAt_ok h (vs.idxOf v + 1) (by omega) (by omega)
    rw [Nat.add_sub_cancel, ← List.erase_eq_eraseIdx_of_idxOf rfl] at h2
    exact ⟨s', by simp [removeObject, indexOf_wf h, hp, h1], h2, h3⟩
  · have hp : posOf vs v = 0 := by simp [posOf, hv]
    rw [List.erase_of_not_mem hv]
    exact ⟨s, by simp [removeObject, indexOf_wf h, hp], h, .refl s⟩

theorem removeObjectPtr_wf {s : Cs α} {vs : List α} (h : WF s vs) (off : Nat) :
    ∃ s', removeObjectPtr s off = .ok s' ∧ WF s' (vs.eraseIdx off) ∧ Bal s s' := by
  by_cases ho : off ≥ vs.length
  · rw [List.eraseIdx_of_length_le ho]
    exact ⟨s, by simp [removeObjectPtr, h.num, ho], h, .refl s⟩
  · obtain ⟨s', h1, h2, h3⟩ := removeObjectAt_ok h (off + 1) (by omega) (by omega)
    have : ¬ off ≥ s.num := by rw [h.num]; exact ho
    exact ⟨s', by simp [removeObjectPtr, this, h1], by simpa using h2, h3⟩

theorem insertObjectAt_noop (s : Cs α) (i : Nat) (v : α) (h : i = 0 ∨ i > s.num + 1) :
    insertObjectAt s i v = .ok s := by
  simp [insertObjectAt, h]

theorem insertRealloc_spec (pre post : List α) (v : α) (l : Led) :
    insertRealloc (mk (pre ++ post) (pre ++ post).length l) (bufOf (pre ++ post) 0) pre.length v =
      .ok (mk (pre ++ v :: post) ((pre ++ post).length + 1)
        { ctor := l.ctor + (pre ++ post).length + 1, dtor := l.dtor + (pre ++ post).length }) := by
  have m1 := moveLoop_spec 0 pre [] (post.map some) [] (raw (post.length + 1)) 0 l rfl rfl
  have m2 := moveLoop_spec 1 post (raw pre.length) [] (pre.map some ++ [some v]) [] pre.length
    { ctor := l.ctor + pre.length + 1, dtor := l.dtor + pre.length } (by simp) (by simp)
  simp only [List.nil_append, List.append_nil, List.append_assoc, List.cons_append, raw_succ, Nat.add_assoc] at m1 m2
  have eb : bufOf (pre ++ post) 0 = pre.map some ++ post.map some := by simp [bufOf]
  simp only [insertRealloc, mk_num, mk_led, eb, List.length_append, Nat.add_assoc, raw_add, raw_succ, m1, ok_bind,
    bConstruct_mid _ _ _ _ _ (List.length_map some).symm, Nat.add_sub_cancel_left, m2]
  simp [mk, bufOf, Nat.add_comm 1]

theorem insertShift_spec (pre us : List α) (z v : α) (m : Nat) (l : Led)
    (hm : (pre ++ (us ++ [z])).length + 1 ≤ m) :
    insertShift (mk (pre ++ (us ++ [z])) m l) (bufOf (pre ++ (us ++ [z])) (m - (pre ++ (us ++ [z])).length))
        pre.length v =
      .ok (mk (pre ++ v :: (us ++ [z])) m { l with ctor := l.ctor + 1 }) := by
  obtain ⟨k, hk⟩ : ∃ k, m - (pre ++ (us ++ [z])).length = k + 1 := ⟨m - (pre ++ (us ++ [z])).length - 1, by omega⟩
  have su := shiftUp_spec us.reverse z (pre.map some) (some z :: raw k) pre.length (by simp)
  simp only [List.reverse_reverse, List.length_reverse] at su
  have eb : bufOf (pre ++ (us ++ [z])) (k + 1) = (pre ++ us).map some ++ some z :: none :: raw k := by
    simp [bufOf, raw_succ]
  simp only [insertShift, mk_num, mk_led, hk, eb]
  rw [bRead_mid _ _ _ _ (by simp), ok_bind, List.append_cons, bConstruct_mid _ _ _ _ _ (by simp), ok_bind]
  have ek : (pre ++ (us ++ [z])).length - 1 - pre.length = us.length := by simp
  have e2 : List.map some (pre ++ us) ++ [some z] ++ some z :: raw k
      = List.map some pre ++ (List.map some (us ++ [z]) ++ some z :: raw k) := by simp
  simp only [ek, e2, su, ok_bind, bAssign_mid _ _ _ _ _ (List.length_map some).symm, mk_max]
  have : m - (pre.length + (us.length + 1 + 1)) = k := by simp at hk; omega
  simp [mk, bufOf, this, Nat.add_assoc]

theorem insertObjectAt_ok {s : Cs α} {vs : List α} (h : WF s vs) (i : Nat) (v : α) (h1 : 0 < i) (h2 : i ≤ vs.length + 1) :
    ∃ s', insertObjectAt s i v = .ok s' ∧ WF s' (vs.take (i - 1) ++ v :: vs.drop (i - 1)) ∧ Bal s s' := by
  rcases h with ⟨l, rfl, rfl⟩ | ⟨m, l, rfl, hle, hpos⟩
  · obtain rfl : i = 1 := by simp at h2; omega
    refine ⟨mk [v] 1 { l with ctor := l.ctor + 1 }, ?_, by simpa using wf_mk [v] 1 _ (by simp) (by omega),
      by simp [Bal, mk0]; omega⟩
    have hc := bConstruct_mid ([] : Buf α) v [] 0 l rfl
    simp only [List.nil_append] at hc
    simp [insertObjectAt, mk0, raw_succ, hc, mk, bufOf]
  · obtain ⟨pre, post, rfl, hpl⟩ : ∃ pre post, vs = pre ++ post ∧ pre.length = i - 1 :=
      ⟨vs.take (i - 1), vs.drop (i - 1), (List.take_append_drop _ _).symm, by simp; omega⟩
    obtain rfl : i = pre.length + 1 := by omega
    rw [Nat.add_sub_cancel, List.take_left' rfl, List.drop_left' rfl]
    have hg : ¬ (pre.length + 1 = 0 ∨ pre.length + 1 > (pre ++ post).length + 1) := by simp
    simp only [insertObjectAt, mk_num, mk_max, mk_led, mk_objlist, hg, if_false, Nat.add_sub_cancel, onBuf_mk, ok_bind]
    by_cases hgrow : (pre ++ post).length + 1 > m
    · obtain rfl : m = (pre ++ post).length := by omega
      rw [if_pos hgrow, Nat.sub_self]
      exact ⟨_, insertRealloc_spec pre post v l, wf_mk _ _ _ (by simp; omega) (by omega), by simp [Bal]; omega⟩
    · rw [if_neg hgrow]
      rcases List.eq_nil_or_concat post with rfl | ⟨us, z, rfl⟩
      · have hlt : pre.length < m := by simp at hgrow; omega
        simp only [List.append_nil, if_true, construct_mk pre v m l hlt, ok_bind]
        exact ⟨mk (pre ++ [v]) m { l with ctor := l.ctor + 1 }, by simp [mk], wf_mk _ _ _ (by simp; omega) hpos,
          by simp [Bal]; omega⟩
      · rw [List.concat_eq_append] at hle hgrow ⊢
        rw [if_neg (by simp)]
        exact ⟨_, insertShift_spec pre us z v m l (by omega), wf_mk _ _ _ (by simp at hgrow ⊢; omega) hpos,
          by simp [Bal]; omega⟩

/-- `Resize(n)` for any `n`: `Resize(0)` frees -/
theorem resize_any_wf {s : Cs α} {vs : List α} (h : WF s vs) (n : Nat) :
    ∃ s', resize s n = .ok s' ∧ WF s' (if n = 0 then [] else vs) ∧ Bal s s' := by
  by_cases hn : n = 0
  · subst hn
    exact ⟨_, by rw [resize_zero]; exact free_wf h, by simpa using wf_mk0 _, free_bal h⟩
  · obtain ⟨l', h1, h2⟩ := resize_wf h n (by omega)
    have hle := h.le
    have hnum := h.num
    exact ⟨_, h1, by simpa [hn] using wf_mk vs _ l' (by split <;> omega) (by split <;> omega),
      by simp only [Bal, mk_led, mk_num]; omega⟩

theorem copyFrom_wf {s o : Cs α} {vs ws : List α} (h : WF s vs) (ho : WF o ws) :
    ∃ s', copyFrom s o = .ok s' ∧ WF s' ws ∧ Bal s s' := by
  have hn := h.num
  unfold copyFrom
  rw [free_wf h, ok_bind]
  rcases ho with ⟨lo, rfl, rfl⟩ | ⟨m, lo, rfl, hle, hpos⟩
  · exact ⟨mk0 { s.led with dtor := s.led.dtor + vs.length }, by simp [mk0], wf_mk0 _, by simp [Bal, mk0]; omega⟩
  · have hm : m ≠ 0 := by omega
    -- `Resize(maxobjects)` with a null objlist allocates `m` raw slots and leaves numobjects alone
    have hr : ∀ (k : Nat) (l : Led), resize ({ objlist := none, num := k, max := m, led := l } : Cs α) m
        = .ok { objlist := some (raw m), num := k, max := m, led := l } := by
      intro k l; simp [resize, hm]
    simp only [mk_objlist, mk_max, mk_num, hm, if_false, mk0, hr, ok_bind]
    by_cases hw : ws = []
    · subst hw
      exact ⟨mk [] m { s.led with dtor := s.led.dtor + vs.length }, by simp [mk, bufOf], wf_mk _ _ _ hle hpos,
        by simp [Bal]; omega⟩
    · have hc := copyLoop_spec ws [] (raw (m - ws.length)) [] (raw (m - ws.length)) 0
        { s.led with dtor := s.led.dtor + vs.length } rfl rfl
      simp only [List.nil_append, ← raw_split ws.length hle] at hc
      exact ⟨mk ws m { ctor := s.led.ctor + ws.length, dtor := s.led.dtor + vs.length },
        by simp [hw, onBuf, bufOf, hc, mk], wf_mk _ _ _ hle hpos, by simp [Bal]; omega⟩

theorem addDup_ok {s : Cs α} {vs : List α} (h : WF s vs) (i : Nat) (h1 : 0 < i) (h2 : i ≤ vs.length)
    (h3 : vs.length < s.max) :
    ∃ s', addDup s i = .ok (s', vs.length + 1) ∧ WF s' (vs ++ [vs[i - 1]'(by omega)]) ∧ Bal s s' := by
  obtain ⟨s', e1, e2, e3⟩ := addObject_wf h (vs[i - 1]'(by omega))
  have : ¬ s.num ≥ s.max := by rw [h.num]; omega
  exact ⟨s', by simp [addDup, objectAt_ok h i h1 h2, this, e1], e2, e3⟩

theorem addDup_ub {s : Cs α} {vs : List α} (h : WF s vs) (i : Nat)
    (hg : i = 0 ∨ vs.length < i ∨ s.max ≤ vs.length) : ∃ f, addDup s i = .error f := by
  by_cases hi : i = 0 ∨ vs.length < i
  · obtain ⟨f, hf⟩ := objectAt_ub h i hi
    exact ⟨f, by simp [addDup, hf]⟩
  · have h3 : s.num ≥ s.max := by rw [h.num]; omega
    exact ⟨.alias, by simp [addDup, objectAt_ok h i (by omega) (by omega), h3]⟩

end Morfuse.Container
