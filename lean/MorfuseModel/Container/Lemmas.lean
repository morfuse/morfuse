import MorfuseModel.Container.Model
import MorfuseModel.Common.Except
/-!
# Lemmas for the `con::Container` model: buffers and loops

Closed forms of the primitives and loops on buffers of the shape `pre ++ (xs.map some ++ post)`, by
induction on the elements `xs` the loop walks over (the index is that of the first of them, the length of
`pre`).  `bufOf vs k = vs.map some ++ raw k` is the buffer of a well-formed container, `mk vs m l` the
container with that buffer, `WF s vs` the representation invariant.
-/
namespace Morfuse.Container
variable {α : Type}

@[simp] theorem ok_bind {β γ : Type} (a : β) (f : β → R γ) : (Except.ok a >>= f) = f a := Except.ok_bind a f
@[simp] theorem error_bind {β γ : Type} (e : Fault) (f : β → R γ) : ((Except.error e : R β) >>= f) = .error e :=
  Except.error_bind e f

theorem getElem?_mid (pre : Buf α) (x : Option α) (post : Buf α) (i : Nat) (h : i = pre.length) :
    (pre ++ x :: post)[i]? = some x := by
  subst h; simp

theorem set_mid (pre : Buf α) (x y : Option α) (post : Buf α) (i : Nat) (h : i = pre.length) :
    (pre ++ x :: post).set i y = pre ++ y :: post := by
  subst h; simp

theorem bRead_mid (pre : Buf α) (v : α) (post : Buf α) (i : Nat) (h : i = pre.length) :
    bRead (pre ++ some v :: post) i = .ok v := by
  simp [bRead, getElem?_mid _ _ _ _ h]

theorem bConstruct_mid (pre : Buf α) (v : α) (post : Buf α) (i : Nat) (l : Led) (h : i = pre.length) :
    bConstruct (pre ++ none :: post) i v l = .ok (pre ++ some v :: post, { l with ctor := l.ctor + 1 }) := by
  simp [bConstruct, getElem?_mid _ _ _ _ h, set_mid _ _ _ _ _ h]

theorem bDestroy_mid (pre : Buf α) (v : α) (post : Buf α) (i : Nat) (l : Led) (h : i = pre.length) :
    bDestroy (pre ++ some v :: post) i l = .ok (pre ++ none :: post, { l with dtor := l.dtor + 1 }) := by
  simp [bDestroy, getElem?_mid _ _ _ _ h, set_mid _ _ _ _ _ h]

theorem bAssign_mid (pre : Buf α) (x v : α) (post : Buf α) (i : Nat) (h : i = pre.length) :
    bAssign (pre ++ some x :: post) i v = .ok (pre ++ some v :: post) := by
  simp [bAssign, getElem?_mid _ _ _ _ h, set_mid _ _ _ _ _ h]

theorem raw_succ (n : Nat) : (raw (n + 1) : Buf α) = none :: raw n := by
  simp [raw, List.replicate_succ]

theorem raw_add (m n : Nat) : (raw (m + n) : Buf α) = raw m ++ raw n := by
  simp [raw, List.replicate_append_replicate]

theorem raw_split {k : Nat} (j : Nat) (h : j ≤ k) : (raw k : Buf α) = raw j ++ raw (k - j) := by
  rw [← raw_add, Nat.add_sub_cancel' h]

theorem raw_succ' (n : Nat) : (raw (n + 1) : Buf α) = raw n ++ [none] := by
  rw [raw_add]; simp [raw]

@[simp] theorem raw_zero : (raw 0 : Buf α) = [] := rfl
@[simp] theorem length_raw (n : Nat) : (raw n : Buf α).length = n := by simp [raw]

theorem destroyLoop_spec (xs : List α) : ∀ (pre post : Buf α) (i : Nat) (l : Led), i = pre.length →
    destroyLoop xs.length i (pre ++ (xs.map some ++ post)) l =
      .ok (pre ++ (raw xs.length ++ post), { l with dtor := l.dtor + xs.length }) := by
  induction xs with
  | nil => intro pre post i l _; simp [destroyLoop]
  | cons x xs ih =>
    intro pre post i l h
    simp only [List.length_cons, destroyLoop, List.map_cons, List.cons_append]
    rw [bDestroy_mid _ _ _ _ _ h, ok_bind, List.append_cons, ih _ _ _ _ (by simp [h])]
    simp [raw_succ, Nat.add_assoc, Nat.add_comm 1]

theorem defaultLoop_spec [Inhabited α] : ∀ (k : Nat) (pre post : Buf α) (i : Nat) (l : Led), i = pre.length →
    defaultLoop k i (pre ++ (raw k ++ post)) l =
      .ok (pre ++ ((List.replicate k (default : α)).map some ++ post), { l with ctor := l.ctor + k }) := by
  intro k
  induction k with
  | zero => intro pre post i l _; simp [defaultLoop]
  | succ k ih =>
    intro pre post i l h
    simp only [defaultLoop, raw_succ, List.cons_append]
    rw [bConstruct_mid _ _ _ _ _ h, ok_bind, List.append_cons, ih _ _ _ _ (by simp [h])]
    simp [List.replicate_succ, Nat.add_assoc, Nat.add_comm 1]

theorem moveLoop_spec (off : Nat) (xs : List α) : ∀ (pre post pre' post' : Buf α) (i : Nat) (l : Led),
    i = pre.length → i + off = pre'.length →
    moveLoop off xs.length i (pre ++ (xs.map some ++ post)) (pre' ++ (raw xs.length ++ post')) l =
      .ok (pre ++ (raw xs.length ++ post), pre' ++ (xs.map some ++ post'),
           { ctor := l.ctor + xs.length, dtor := l.dtor + xs.length }) := by
  induction xs with
  | nil => intro pre post pre' post' i l _ _; simp [moveLoop]
  | cons x xs ih =>
    intro pre post pre' post' i l h h'
    simp only [List.length_cons, moveLoop, List.map_cons, List.cons_append, raw_succ]
    rw [bRead_mid _ _ _ _ h, ok_bind, bConstruct_mid _ _ _ _ _ h', ok_bind, bDestroy_mid _ _ _ _ _ h, ok_bind,
      List.append_cons pre, List.append_cons pre', ih _ _ _ _ _ _ (by simp [h]) (by simp [← h']; omega)]
    simp [Nat.add_assoc, Nat.add_comm 1]

theorem copyLoop_spec (xs : List α) : ∀ (pre post pre' post' : Buf α) (i : Nat) (l : Led),
    i = pre.length → i = pre'.length →
    copyLoop xs.length i (pre ++ (xs.map some ++ post)) (pre' ++ (raw xs.length ++ post')) l =
      .ok (pre' ++ (xs.map some ++ post'), { l with ctor := l.ctor + xs.length }) := by
  induction xs with
  | nil => intro pre post pre' post' i l _ _; simp [copyLoop]
  | cons x xs ih =>
    intro pre post pre' post' i l h h'
    simp only [List.length_cons, copyLoop, List.map_cons, List.cons_append, raw_succ]
    rw [bRead_mid _ _ _ _ h, ok_bind, bConstruct_mid _ _ _ _ _ h', ok_bind,
      List.append_cons pre, List.append_cons pre', ih _ _ _ _ _ _ (by simp [h]) (by simp [h'])]
    simp [Nat.add_assoc, Nat.add_comm 1]

theorem shiftDown_spec (ys : List α) : ∀ (y : α) (pre post : Buf α) (i : Nat), i = pre.length →
    shiftDown ys.length i (pre ++ some y :: (ys.map some ++ post)) =
      .ok (pre ++ (ys.map some ++ some ((y :: ys).getLast (List.cons_ne_nil _ _)) :: post)) := by
  induction ys with
  | nil => intro y pre post i _; simp [shiftDown]
  | cons z zs ih =>
    intro y pre post i h
    simp only [List.length_cons, shiftDown, List.map_cons, List.cons_append]
    rw [List.append_cons pre (some y), bRead_mid _ _ _ _ (by simp [h]), ok_bind, ← List.append_cons,
      bAssign_mid _ _ _ _ _ h, ok_bind, List.append_cons pre (some z), ih z _ _ _ (by simp [h])]
    simp [List.getLast_cons]

/-- the loop runs from the top slot down, so the elements it moves are listed in reverse (`r`) and the induction
    takes them off at the top -/
theorem shiftUp_spec (r : List α) : ∀ (z : α) (pre post : Buf α) (lo : Nat), lo = pre.length →
    shiftUp r.length lo (pre ++ ((r.reverse ++ [z]).map some ++ post)) =
      .ok (pre ++ some ((r.reverse ++ [z]).head (by simp)) :: (r.reverse.map some ++ post)) := by
  induction r with
  | nil => intro z pre post lo _; simp [shiftUp]
  | cons u r ih =>
    intro z pre post lo h
    have := ih u pre (some u :: post) lo h
    simp only [List.map_append, List.map_cons, List.map_nil, List.append_assoc, List.cons_append,
      List.nil_append] at this
    simp only [List.length_cons, shiftUp, List.reverse_cons, List.map_append, List.map_cons, List.map_nil,
      List.append_assoc, List.cons_append, List.nil_append]
    rw [← List.append_assoc, bRead_mid _ _ _ _ (by simp [h]), ok_bind, List.append_cons,
      bAssign_mid _ _ _ _ _ (by simp [h]; omega), ok_bind]
    simp only [List.append_assoc, List.cons_append, List.nil_append]
    rw [this]
    simp [List.head_append]

theorem findLoop_spec [DecidableEq α] (v : α) (xs : List α) : ∀ (pre post : Buf α) (i : Nat), i = pre.length →
    findLoop (pre ++ (xs.map some ++ post)) v xs.length i =
      .ok (if v ∈ xs then i + xs.idxOf v + 1 else 0) := by
  induction xs with
  | nil => intro pre post i _; simp [findLoop]
  | cons x xs ih =>
    intro pre post i h
    simp only [List.length_cons, findLoop, List.map_cons, List.cons_append]
    rw [bRead_mid _ _ _ _ h, ok_bind]
    by_cases hx : x = v
    · subst hx; simp
    · rw [if_neg hx, List.append_cons, ih _ _ _ (by simp [h])]
      have hv : v ≠ x := fun e => hx e.symm
      have hb : (x == v) = false := by simp [hx]
      simp only [List.mem_cons, hv, false_or, List.idxOf_cons, hb, cond_false]
      split
      · simp; omega
      · rfl

def bufOf (vs : List α) (k : Nat) : Buf α := vs.map some ++ raw k

def mk (vs : List α) (m : Nat) (l : Led) : Cs α :=
  { objlist := some (bufOf vs (m - vs.length)), num := vs.length, max := m, led := l }

def mk0 (l : Led) : Cs α := { objlist := none, num := 0, max := 0, led := l }

def WF (s : Cs α) (vs : List α) : Prop :=
  (∃ l, s = mk0 l ∧ vs = []) ∨ (∃ m l, s = mk vs m l ∧ vs.length ≤ m ∧ 0 < m)

/-- the live objects in the container's storage, in storage order -/
def contents (s : Cs α) : List α := (s.objlist.getD []).filterMap id

/-- ledger balance between two states of one container object: from `s` to `s'` there were as many more
    constructions than destructions as `numobjects` grew -/
def Bal (s s' : Cs α) : Prop :=
  s'.led.ctor + s.led.dtor + s.num = s.led.ctor + s'.led.dtor + s'.num

theorem Bal.refl (s : Cs α) : Bal s s := rfl

theorem Bal.trans {s s' s'' : Cs α} (h : Bal s s') (h' : Bal s' s'') : Bal s s'' := by
  simp only [Bal] at *; omega

@[simp] theorem mk_objlist (vs : List α) (m : Nat) (l : Led) :
    (mk vs m l).objlist = some (bufOf vs (m - vs.length)) := rfl
@[simp] theorem mk_num (vs : List α) (m : Nat) (l : Led) : (mk vs m l).num = vs.length := rfl
@[simp] theorem mk_max (vs : List α) (m : Nat) (l : Led) : (mk vs m l).max = m := rfl
@[simp] theorem mk_led (vs : List α) (m : Nat) (l : Led) : (mk vs m l).led = l := rfl

theorem contents_bufOf (vs : List α) (k : Nat) : (bufOf vs k).filterMap id = vs := by
  simp [bufOf, raw, List.filterMap_append]

theorem WF.contents {s : Cs α} {vs : List α} (h : WF s vs) : contents s = vs := by
  rcases h with ⟨l, rfl, rfl⟩ | ⟨m, l, rfl, _, _⟩
  · simp [Morfuse.Container.contents, mk0]
  · simp [Morfuse.Container.contents, mk, contents_bufOf]

theorem WF.num {s : Cs α} {vs : List α} (h : WF s vs) : s.num = vs.length := by
  rcases h with ⟨l, rfl, rfl⟩ | ⟨m, l, rfl, _, _⟩ <;> rfl

theorem WF.le {s : Cs α} {vs : List α} (h : WF s vs) : s.num ≤ s.max := by
  rcases h with ⟨l, rfl, rfl⟩ | ⟨m, l, rfl, hle, _⟩
  · exact Nat.le_refl 0
  · exact hle

theorem WF.objlist {s : Cs α} {vs : List α} (h : WF s vs) :
    (∀ b, s.objlist = some b → b = vs.map some ++ raw (s.max - vs.length) ∧ 0 < s.max) ∧
    (s.objlist = none → s.num = 0 ∧ s.max = 0) := by
  rcases h with ⟨l, rfl, rfl⟩ | ⟨m, l, rfl, _, hpos⟩
  · exact ⟨fun b hb => (nomatch hb), fun _ => ⟨rfl, rfl⟩⟩
  · refine ⟨fun b hb => ?_, fun hb => (nomatch hb)⟩
    cases hb
    exact ⟨rfl, hpos⟩

theorem wf_mk0 (l : Led) : WF (mk0 l : Cs α) [] := Or.inl ⟨l, rfl, rfl⟩
theorem wf_mk (vs : List α) (m : Nat) (l : Led) (h : vs.length ≤ m) (hm : 0 < m) : WF (mk vs m l) vs :=
  Or.inr ⟨m, l, rfl, h, hm⟩

theorem onBuf_mk (vs : List α) (m : Nat) (l : Led) : onBuf (mk vs m l) = .ok (bufOf vs (m - vs.length)) := rfl

theorem construct_mk (vs : List α) (v : α) (m : Nat) (l : Led) (h : vs.length < m) :
    bConstruct (bufOf vs (m - vs.length)) vs.length v l =
      .ok (bufOf (vs ++ [v]) (m - (vs ++ [v]).length), { l with ctor := l.ctor + 1 }) := by
  rw [bufOf, raw_split 1 (by omega), raw_succ, raw_zero, List.singleton_append, bConstruct_mid _ _ _ _ _ (by simp)]
  simp [bufOf, Nat.sub_add_eq]

end Morfuse.Container
