import MorfuseModel.Common.Mem
import MorfuseModel.Common.Ring
import MorfuseModel.Common.Mem2
import MorfuseModel.Common.StrCode
import MorfuseModel.Common.Assoc
import MorfuseModel.Common.Lists
import MorfuseModel.Common.Except
import MorfuseModel.SafePtr.Model
import MorfuseModel.SafePtr.Lemmas
import MorfuseModel.Props.C12
import MorfuseModel.Sched.Timer
import MorfuseModel.Sched.Tables
import MorfuseModel.Sched.Machine
import MorfuseModel.Sched.Snapshot
import MorfuseModel.Sched.TimerLemmas
import MorfuseModel.Sched.TablesLemmas
import MorfuseModel.Sched.TablesPurge
import MorfuseModel.Sched.MachineEq
import MorfuseModel.Sched.MachineInvBasic
import MorfuseModel.Sched.MachineInvTables
import MorfuseModel.Sched.MachineSteps
import MorfuseModel.Sched.NotifyLemmas
import MorfuseModel.Sched.NotifyRun
import MorfuseModel.Sched.MachineInvPres
import MorfuseModel.Sched.MachineInvStruct
import MorfuseModel.Sched.MachineQuiet
import MorfuseModel.Sched.MachineInvQuiet
import MorfuseModel.Sched.MachineInvDefs
import MorfuseModel.Sched.MachineInvPrim
import MorfuseModel.Sched.MachineInvUpd
import MorfuseModel.Sched.MachineInvRider
import MorfuseModel.Sched.MachineInvCascade
import MorfuseModel.Sched.MachineInvNotify
import MorfuseModel.Sched.MachineInvExecPrim
import MorfuseModel.Sched.MachineInvExec
import MorfuseModel.Sched.MachineInvInstr
import MorfuseModel.Sched.MachineInvMain
import MorfuseModel.Sched.MachineInvAll
import MorfuseModel.Sched.MachineQuietDelete
import MorfuseModel.Sched.HostOps
import MorfuseModel.Sched.MachineStepsHost
import MorfuseModel.Sched.MachineHostFrame
import MorfuseModel.Sched.MachineHost
import MorfuseModel.Sched.MachineHostProps
import MorfuseModel.Sched.MachineInst
import MorfuseModel.Sched.MachineInstQuiet
import MorfuseModel.Sched.MachineInstAll
import MorfuseModel.Sched.MachineInstHost
import MorfuseModel.Sched.MachineInstKeys
import MorfuseModel.Sched.MachineInstReset
import MorfuseModel.Sched.MachineInstUnreached
import MorfuseModel.Sched.MachineIdleQuiet
import MorfuseModel.Sched.MachineIdleAll
import MorfuseModel.Sched.MachineIdleHost
import MorfuseModel.Sched.MachineHostSL
import MorfuseModel.Sched.MachineSlots
import MorfuseModel.Sched.MachineSlotsHost
import MorfuseModel.Sched.TimerRun
import MorfuseModel.Sched.MachineTimerTrace
import MorfuseModel.Sched.MachineTimerTraceHost
import MorfuseModel.Sched.MachineNotifyTrace
import MorfuseModel.Sched.MachineNotifyTraceHost
import MorfuseModel.Sched.PoolLedger
import MorfuseModel.Sched.MachineLifeTrace
import MorfuseModel.Sched.MachineLifeTraceHost
import MorfuseModel.Sched.MachineNoVMBack
import MorfuseModel.Sched.MachineCalls
import MorfuseModel.Sched.TimerOrder
import MorfuseModel.Sched.MachineHostSLTrace
import MorfuseModel.Sched.MachineWaitthread
import MorfuseModel.Sched.MachineWaitthreadHost
import MorfuseModel.Sched.MachineFuelMono
import MorfuseModel.Props.C06
import MorfuseModel.Props.C07
import MorfuseModel.Props.C13
import MorfuseModel.Props.C09
import MorfuseModel.Sched.Guard
import MorfuseModel.Unwind.Model
import MorfuseModel.Unwind.Lemmas
import MorfuseModel.Unwind.Start
import MorfuseModel.Unwind.Spin
import MorfuseModel.Unwind.Timing
import MorfuseModel.Unwind.Nested
import MorfuseModel.Unwind.Due
import MorfuseModel.Unwind.Potential
import MorfuseModel.Unwind.ZeroWait
import MorfuseModel.Props.C14
import MorfuseModel.Gen.Primes
import MorfuseModel.Gen.Predefined
import MorfuseModel.Dict.Model
import MorfuseModel.Dict.Spec
import MorfuseModel.Dict.Lemmas
import MorfuseModel.Props.C17
import MorfuseModel.PtrCell.Model
import MorfuseModel.PtrCell.Call
import MorfuseModel.BlockAlloc.Model
import MorfuseModel.BlockAlloc.RingLemmas
import MorfuseModel.BlockAlloc.ListLemmas
import MorfuseModel.BlockAlloc.BlockLemmas
import MorfuseModel.BlockAlloc.Inv
import MorfuseModel.BlockAlloc.StepLemmas
import MorfuseModel.BlockAlloc.AllocLemmas
import MorfuseModel.BlockAlloc.FreeLemmas
import MorfuseModel.BlockAlloc.Lemmas
import MorfuseModel.Props.C19
import MorfuseModel.PtrCell.Lemmas
import MorfuseModel.PtrCell.CallLemmas
import MorfuseModel.Props.C05
import MorfuseModel.EventQueue.Model
import MorfuseModel.EventQueue.LinkList
import MorfuseModel.EventQueue.Spec
import MorfuseModel.EventQueue.Lemmas
import MorfuseModel.EventQueue.Refine
import MorfuseModel.EventQueue.Original
import MorfuseModel.Gen.EventQueueCfg
import MorfuseModel.Props.C08
import MorfuseModel.Gen.DispatchGen
import MorfuseModel.Dispatch.Model
import MorfuseModel.Dispatch.Spec
import MorfuseModel.Dispatch.Lemmas
import MorfuseModel.Props.C16
import MorfuseModel.Gen.ArchiveTable
import MorfuseModel.Archive.Model
import MorfuseModel.Archive.Lemmas
import MorfuseModel.Archive.RoundTrip
import MorfuseModel.Archive.Sample
import MorfuseModel.Archive.Eq
import MorfuseModel.Archive.Walk
import MorfuseModel.Archive.Safety
import MorfuseModel.Archive.Damage
import MorfuseModel.Archive.Robust
import MorfuseModel.Archive.Honest
import MorfuseModel.Archive.Trunc
import MorfuseModel.Archive.DamageAll
import MorfuseModel.Archive.Tables
import MorfuseModel.Archive.Value
import MorfuseModel.Archive.SetHeader
import MorfuseModel.Archive.ValueDefs
import MorfuseModel.Archive.ValueCases
import MorfuseModel.Archive.ValueArrays
import MorfuseModel.Archive.ValueLemmas
import MorfuseModel.Archive.TablesLemmas
import MorfuseModel.Archive.ValueRoundTrip
import MorfuseModel.Archive.EqW
import MorfuseModel.Archive.Dict
import MorfuseModel.Archive.TablesSafety
import MorfuseModel.Props.C10
import MorfuseModel.Props.C11
import MorfuseModel.Container.Model
import MorfuseModel.HashSet.Model
import MorfuseModel.Str.Model
import MorfuseModel.Container.Spec
import MorfuseModel.Container.Lemmas
import MorfuseModel.Container.Ops
import MorfuseModel.Container.Refine
import MorfuseModel.HashSet.Lemmas
import MorfuseModel.HashSet.Ops
import MorfuseModel.HashSet.Refine
import MorfuseModel.HashSet.Enum
import MorfuseModel.Str.Inv
import MorfuseModel.Str.Ops
import MorfuseModel.Str.Refine
import MorfuseModel.Props.C18
import MorfuseModel.Target.Model
import MorfuseModel.Target.Spec
import MorfuseModel.Target.Lemmas
import MorfuseModel.Target.FanLemmas
import MorfuseModel.Target.SafeLemmas
import MorfuseModel.Props.C15
import MorfuseModel.Conc.Table
import MorfuseModel.Gen.ConcGen
import MorfuseModel.Conc.Model
import MorfuseModel.Conc.Lemmas
import MorfuseModel.Conc.Pool
import MorfuseModel.Conc.PoolLemmas
import MorfuseModel.Props.C20
import MorfuseModel.Gen.OpcodeTable
import MorfuseModel.Bytecode.VmModel
import MorfuseModel.Bytecode.Model
import MorfuseModel.Gen.VmCases
import MorfuseModel.Bytecode.VmErrors
import MorfuseModel.Bytecode.Lemmas
import MorfuseModel.Props.C02
import MorfuseModel.Gen.EmitConsts
import MorfuseModel.Emit.Model
import MorfuseModel.Emit.Syn
import MorfuseModel.Emit.Check
import MorfuseModel.Emit.Master
import MorfuseModel.Emit.MasterLemmas
import MorfuseModel.Emit.Wp
import MorfuseModel.Emit.Window
import MorfuseModel.Emit.CodeStep
import MorfuseModel.Emit.Hoare
import MorfuseModel.Emit.ArenaStep
import MorfuseModel.Emit.Fixup
import MorfuseModel.Emit.Arena
import MorfuseModel.Emit.ArenaProg
import MorfuseModel.Emit.ArenaFits
import MorfuseModel.Emit.Mono
import MorfuseModel.Emit.Sim
import MorfuseModel.Emit.Fuse
import MorfuseModel.Emit.WinOk
import MorfuseModel.Emit.TopNL
import MorfuseModel.Emit.SimEmit
import MorfuseModel.Emit.NoCO
import MorfuseModel.Emit.SimNest
import MorfuseModel.Emit.Bytes
import MorfuseModel.Emit.SimNeg
import MorfuseModel.Emit.SimWalk
import MorfuseModel.Emit.SimFits
import MorfuseModel.Props.C01
import MorfuseModel.Lang.Syntax
import MorfuseModel.Lang.Value
import MorfuseModel.Lang.Sem
import MorfuseModel.Gen.IntEnc
import MorfuseModel.Gen.Precedence
import MorfuseModel.Lang.IntEnc
import MorfuseModel.Lang.IntEncLemmas
import MorfuseModel.Lang.Prec
import MorfuseModel.Lang.PrecLemmas
import MorfuseModel.Lang.PrecTable
import MorfuseModel.Lang.PrecCongr
import MorfuseModel.Lang.SemLemmas
import MorfuseModel.Lang.Runs
import MorfuseModel.Lang.Desugar
import MorfuseModel.Lang.NoCont
import MorfuseModel.Lang.ForWhile
import MorfuseModel.Props.C03
import MorfuseModel.VMOps.Float
import MorfuseModel.VMOps.Value
import MorfuseModel.VMOps.Ops
import MorfuseModel.VMOps.Index
import MorfuseModel.VMOps.Step
import MorfuseModel.Gen.OpAccept
import MorfuseModel.VMOps.VM
import MorfuseModel.VMOps.Tables
import MorfuseModel.VMOps.Lemmas
import MorfuseModel.VMOps.Total
import MorfuseModel.Props.C04
import MorfuseModel.XLinks.Lemmas
import MorfuseModel.Props.XLinks
